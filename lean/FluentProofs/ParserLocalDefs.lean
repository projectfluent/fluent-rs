import FluentProofs.ParserLines
/-!
# Locality of the parser (C03, containment sentence): shared definitions

The relations between two sources (or one source and a position in it) on which the families of lemmas are built, and the
maps `shSpan`, `shErr`, `shR`, `shPh`, `shSt`, `shEntry` that move every position in a span, an error, an outcome, a pattern
state, an entry by `d`.  What the leaf scanners do under them is proved once, in `ParserLocalWin.lean` (`Shift` and `Loc` are cases of its `Win`, `Bar`
gives its `Edge`); each family then has one joint induction over the eight mutually recursive functions and its entry level:

* `ParserLocalShift*.lean` — **shift**: under `Shift d s₁ s₂` every parser function started at `p + d` on `s₂` does exactly
  what it does at `p` on `s₁`, with every position of the result moved by `d` (and more fuel does not change a result that
  is not `fuel`).
* `ParserLocalBar*.lean` — **barrier**: no parser function started before the entry head of `Bar s n E` gets past its `=`:
  successful entry-level runs end at or before `n`, failing runs report a cursor `≤ E`; hence the entry loop, started
  anywhere `≤ n`, arrives at `n` exactly.
* `ParserLocalPre*.lean` — **prefix**: under `Pre n s₁ s₂` a successful entry-level run on `s₁` that no attribute-looking
  line follows is reproduced on `s₂`; hence an error-free run of the entry loop on `s₁` is a prefix of its run on `s₂`.
* `ParserLocalSim*.lean` (for C04) — **simulation**: `Sim N s₁ s₂`, defined there, is a `Loc`.

Each family states what it claims of one run (or of a pair of runs) as a predicate on outcomes — `UN` (barrier),
`ShR` (shift), `PreM` (prefix, `ParserLocalPreExpr.lean`), `SimR` — with one sequencing lemma over `R.bind`; a step of the
joint induction is then the one-step equation of the function (`ParserSteps.lean`) followed by a chain of `.bind`s with the
facts about the callees.

`attachC` / `attachO`, at the end, belong to the loop level (`ParserLocalLoop`, `ParserLocalTop`) and to the statements of C03.
-/
namespace FluentProofs.Parser
open FluentModel.Syntax

def shSpan (d : Nat) (sp : Span) : Span := ⟨sp.start + d, sp.stop + d⟩

/-- error kinds carry spans, too -/
def shEK (d : Nat) : EK → EK
  | .expectedMessageField id => .expectedMessageField (shSpan d id)
  | .expectedTermField id => .expectedTermField (shSpan d id)
  | .duplicatedNamedArgument nm => .duplicatedNamedArgument (shSpan d nm)
  | .invalidUnicodeEscapeSequence seq => .invalidUnicodeEscapeSequence (shSpan d seq)
  | .expectedToken b => .expectedToken b
  | .expectedCharRange r => .expectedCharRange r
  | .forbiddenCallee => .forbiddenCallee
  | .missingDefaultVariant => .missingDefaultVariant
  | .missingValue => .missingValue
  | .multipleDefaultVariants => .multipleDefaultVariants
  | .messageReferenceAsSelector => .messageReferenceAsSelector
  | .termReferenceAsSelector => .termReferenceAsSelector
  | .messageAttributeAsSelector => .messageAttributeAsSelector
  | .termAttributeAsPlaceable => .termAttributeAsPlaceable
  | .unterminatedStringLiteral => .unterminatedStringLiteral
  | .positionalArgumentFollowsNamed => .positionalArgumentFollowsNamed
  | .unknownEscapeSequence b => .unknownEscapeSequence b
  | .unbalancedClosingBrace => .unbalancedClosingBrace
  | .expectedInlineExpression => .expectedInlineExpression
  | .expectedSimpleExpressionAsSelector => .expectedSimpleExpressionAsSelector
  | .expectedLiteral => .expectedLiteral

def shErr (d : Nat) (e : PErr) : PErr :=
  ⟨e.posStart + d, e.posEnd + d, e.slice.map (fun ab => (ab.1 + d, ab.2 + d)), shEK d e.kind⟩

def shR {α β : Type} (f : α → β) (d : Nat) : R α → R β
  | .ok a p => .ok (f a) (p + d)
  | .err e p => .err (shErr d e) (p + d)
  | .panic m => .panic m
  | .fuel => .fuel

@[simp] theorem shR_ok {α β : Type} (f : α → β) (d : Nat) (a : α) (p : Nat) : shR f d (.ok a p) = .ok (f a) (p + d) := rfl
@[simp] theorem shR_err {α β : Type} (f : α → β) (d : Nat) (e : PErr) (p : Nat) :
    shR f d (.err e p : R α) = .err (shErr d e) (p + d) := rfl
@[simp] theorem shR_panic {α β : Type} (f : α → β) (d : Nat) (m : String) : shR f d (.panic m : R α) = .panic m := rfl
@[simp] theorem shR_fuel {α β : Type} (f : α → β) (d : Nat) : shR f d (.fuel : R α) = .fuel := rfl

theorem shErr_mkErr (d : Nat) (k : EK) (p : Nat) : shErr d (mkErr k p) = mkErr (shEK d k) (p + d) := by
  simp only [shErr, mkErr, Option.map_none, Nat.add_right_comm p 1 d]

theorem shEK_zero (k : EK) : shEK 0 k = k := by cases k <;> rfl

theorem shErr_zero (e : PErr) : shErr 0 e = e := by
  obtain ⟨a, b, sl, k⟩ := e
  cases sl <;> simp only [shErr, shEK_zero, Option.map_none, Option.map_some, Nat.add_zero]

theorem shR_zero {α : Type} {f : α → α} (hf : ∀ a, f a = a) (r : R α) : shR f 0 r = r := by
  cases r with
  | ok a q => exact congrArg (R.ok · q) (hf a)
  | err e q => exact congrArg (R.err · q) (shErr_zero e)
  | panic m => rfl
  | fuel => rfl

/-- the run `r₂` is the run `r₁` moved by `d`, provided `r₁` did not run out of fuel (`r₂` may have more fuel) -/
def ShR {α β : Type} (f : α → β) (d : Nat) (r₁ : R α) (r₂ : R β) : Prop := r₁ ≠ .fuel → r₂ = shR f d r₁

namespace ShR
variable {α β γ δ : Type} {f : α → β} {g : γ → δ} {d : Nat}

theorem of_eq {r₁ : R α} {r₂ : R β} (h : r₂ = shR f d r₁) : ShR f d r₁ r₂ := fun _ => h

theorem ok {a : α} {b : β} {q : Nat} (h : b = f a) : ShR f d (.ok a q) (.ok b (q + d)) := fun _ => by rw [h]; rfl

theorem err {e e' : PErr} {q : Nat} (h : e' = shErr d e) : ShR f d (.err e q) (.err e' (q + d)) := fun _ => by rw [h]; rfl

theorem mkErr {k k' : EK} {p : Nat} (h : shEK d k = k') : ShR f d (.err (mkErr k p) p) (.err (mkErr k' (p + d)) (p + d)) :=
  err (by rw [shErr_mkErr, h])

theorem _root_.FluentProofs.Parser.shR_bind {r : R α} {k₁ : α → Nat → R γ} {k₂ : β → Nat → R δ}
    (hk : ∀ a q, r = .ok a q → k₂ (f a) (q + d) = shR g d (k₁ a q)) : (shR f d r).bind k₂ = shR g d (r.bind k₁) := by
  cases r with
  | ok a q => exact hk a q rfl
  | err e q => rfl
  | panic m => rfl
  | fuel => rfl

theorem bind {r₁ : R α} {r₂ : R β} {k₁ : α → Nat → R γ} {k₂ : β → Nat → R δ} (H : ShR f d r₁ r₂)
    (hk : ∀ a q, r₁ = .ok a q → ShR g d (k₁ a q) (k₂ (f a) (q + d))) : ShR g d (r₁.bind k₁) (r₂.bind k₂) := by
  intro hne
  cases r₁ with
  | ok a q => rw [H (by nofun)]; exact hk a q rfl hne
  | err e q => rw [H (by nofun)]; rfl
  | panic m => rw [H (by nofun)]; rfl
  | fuel => exact absurd rfl hne

end ShR

/-- a pattern placeholder moved by `d` (`indent` is a length, not a position) -/
def shPh (d : Nat) : Placeholder → Placeholder
  | .placeable e => .placeable (e.mapS (shSpan d))
  | .text start stop indent role => .text (start + d) (stop + d) indent role

/-- the state of the pattern loop moved by `d` (indices into `elements` and indents are unchanged) -/
def shSt (d : Nat) (st : PatState) : PatState := { st with elements := st.elements.map (shPh d) }

abbrev shEntry (d : Nat) : Entry Span → Entry Span := Entry.mapS (shSpan d)

/-- `s₂` is `s₁` with `d` bytes in front.  `bnd`: the seam is a char boundary of `s₂` (automatic for `d = 0`;
for `d > 0` it holds when `s₁` is empty or starts with an ASCII byte); `nl`: the `d` bytes end with a line feed. -/
structure Shift (d : Nat) (s₁ s₂ : Src) : Prop where
  get : ∀ i, s₂[i + d]? = s₁[i]?
  size : s₂.size = s₁.size + d
  bnd : isBoundary s₂ d = true
  nl : d = 0 ∨ s₂[d - 1]? = some 10

/-- position `n` of `s` is a line start that holds an entry head: a letter or `-` at `n`, then only identifier
bytes (`[a-zA-Z0-9_-]`) and spaces, up to an `=` at `E`.  (`identifier blank_inline* "="` and
`"-" identifier blank_inline* "="` are of this form.) -/
structure Bar (s : Src) (n E : Nat) : Prop where
  ls : LS s n
  lt : n < E
  real : ∃ b, s[n]? = some b ∧ isReal b = true
  head : ∀ i, n ≤ i → i < E → ∃ b, s[i]? = some b ∧ (isIdentByte b = true ∨ b = 32)
  eq : s[E]? = some 61

/-- a byte that, at a line start right after a complete entry, ends that entry exactly as the end of input does -/
def stopByte (b : UInt8) : Bool :=
  b != 32 && b != 10 && b != 13 && b != 35 && b != 46 && b != 123 && (b &&& 0xC0) != 0x80

theorem isReal_lt {b : UInt8} (h : isReal b = true) : b < 128 := by
  simp only [isReal, Bool.or_eq_true, beq_iff_eq] at h
  rcases h with h | rfl
  · exact isAlpha_lt b h
  · decide

theorem stopByte_of_isReal (b : UInt8) (h : isReal b = true) : stopByte b = true := by
  have hne : ∀ c : UInt8, isReal c = false → (b != c) = true := fun c hc => by
    rw [bne_iff_ne]; rintro rfl; rw [hc] at h; cases h
  simp only [stopByte, hne 32 (by decide), hne 10 (by decide), hne 13 (by decide), hne 35 (by decide), hne 46 (by decide),
    hne 123 (by decide), ascii_not_cont b (isReal_lt h), Bool.and_self]

/-- `s₁` has size `n` and (unless empty) ends with a line feed; `s₂` agrees with `s₁` below `n` and has the end of
input or a `stopByte` (anything but a space, LF, CR, `#`, `.`, `{` or a UTF-8 continuation byte; in particular a
letter or `-`) at `n`. -/
structure Pre (n : Nat) (s₁ s₂ : Src) : Prop where
  size : s₁.size = n
  get : ∀ i, i < n → s₂[i]? = s₁[i]?
  ls : LS s₁ n
  stop : s₂.size = n ∨ ∃ b, s₂[n]? = some b ∧ stopByte b = true

def UN {α : Type} (n E : Nat) (r : R α) : Prop :=
  match r with
  | .ok _ q => q ≤ n
  | .err _ q => q ≤ E
  | .panic _ => True
  | .fuel => True

abbrev UE {α : Type} (E : Nat) (r : R α) : Prop := UN E E r

@[simp] theorem un_ok {α : Type} (n E : Nat) (a : α) (q : Nat) : UN n E (.ok a q : R α) ↔ q ≤ n := Iff.rfl
@[simp] theorem un_err {α : Type} (n E : Nat) (e : PErr) (q : Nat) : UN n E (.err e q : R α) ↔ q ≤ E := Iff.rfl
@[simp] theorem un_panic {α : Type} (n E : Nat) (m : String) : UN n E (.panic m : R α) ↔ True := Iff.rfl
@[simp] theorem un_fuel {α : Type} (n E : Nat) : UN n E (.fuel : R α) ↔ True := Iff.rfl

theorem UN.cases {α : Type} {n E : Nat} {r : R α} (h : UN n E r) :
    (∃ a q, r = .ok a q ∧ q ≤ n) ∨ (∃ e q, r = .err e q ∧ q ≤ E) ∨ (∃ m, r = .panic m) ∨ r = .fuel := by
  cases r with
  | ok a q => exact Or.inl ⟨a, q, rfl, h⟩
  | err e q => exact Or.inr (Or.inl ⟨e, q, rfl, h⟩)
  | panic m => exact Or.inr (Or.inr (Or.inl ⟨m, rfl⟩))
  | fuel => exact Or.inr (Or.inr (Or.inr rfl))

theorem UN.weaken {α : Type} {n E n' E' : Nat} {r : R α} (h : UN n E r) (h1 : n ≤ n') (h2 : E ≤ E') : UN n' E' r := by
  cases r <;> simp only [un_ok, un_err, un_panic, un_fuel] at h ⊢ <;> omega

theorem UN.ok {α : Type} {n E : Nat} {a : α} {q : Nat} (h : q ≤ n) : UN n E (.ok a q : R α) := h
theorem UN.err {α : Type} {n E : Nat} {e : PErr} {q : Nat} (h : q ≤ E) : UN n E (.err e q : R α) := h

theorem UN.bind {α β : Type} {m n E : Nat} {r : R α} {k : α → Nat → R β} (h : UN m E r)
    (hk : ∀ a q, r = .ok a q → q ≤ m → UN n E (k a q)) : UN n E (r.bind k) := by
  cases r with
  | ok a q => exact hk a q rfl h
  | err e q => exact h
  | panic m => trivial
  | fuel => trivial

/-- a byte the scanners inside an entry react to at a line start: blank, line break, `.`, `{`, or a UTF-8 continuation
byte; every byte that is neither a `stopByte` nor `#` -/
def leafByte (b : UInt8) : Bool := !stopByte b && b != 35

/-- `s₁` and `s₂` agree below the line start `n`, and neither has a `leafByte` at `n` (both may end there).  This is
all the scanners inside an entry need in order to do the same on both sources up to `n`; `Pre` is the case where `s₁`
ends at `n`. -/
structure Loc (n : Nat) (s₁ s₂ : Src) : Prop where
  get : ∀ i, i < n → s₂[i]? = s₁[i]?
  ls : LS s₁ n
  le₁ : n ≤ s₁.size
  le₂ : n ≤ s₂.size
  at₁ : ∀ c, leafByte c = true → s₁[n]? ≠ some c
  at₂ : ∀ c, leafByte c = true → s₂[n]? ≠ some c

theorem Loc.symm {n : Nat} {s₁ s₂ : Src} (h : Loc n s₁ s₂) : Loc n s₂ s₁ where
  get i hi := (h.get i hi).symm
  ls := by
    rcases h.ls with h0 | h0
    · exact Or.inl h0
    · by_cases hn : n = 0
      · exact Or.inl hn
      · exact Or.inr (by rw [h.get _ (by omega)]; exact h0)
  le₁ := h.le₂
  le₂ := h.le₁
  at₁ := h.at₂
  at₂ := h.at₁

theorem Pre.loc {n : Nat} {s₁ s₂ : Src} (h : Pre n s₁ s₂) : Loc n s₁ s₂ where
  get := h.get
  ls := h.ls
  le₁ := Nat.le_of_eq h.size.symm
  le₂ := by
    rcases h.stop with h1 | ⟨b, hb, _⟩
    · omega
    · exact Nat.le_of_lt (get_lt hb)
  at₁ c _ hc := by have := get_lt hc; have := h.size; omega
  at₂ c hl hc := by
    rcases h.stop with h1 | ⟨b, hb, hr⟩
    · have := get_lt hc; omega
    · rw [hc] at hb
      cases hb
      simp only [leafByte, hr, Bool.not_true, Bool.false_and] at hl
      cases hl

/-- what the first iteration of `parseLoop` does with a pending comment `c` when the entry it parses is not a
comment: attach it to the message / term (fewer than 2 blank lines in between), else put it in front -/
def attachC (c : List Span) (cnt : Nat) : List (Entry Span) → List (Entry Span)
  | .message m :: rest =>
    if cnt < 2 then .message { m with comment := some c } :: rest else .comment c :: .message m :: rest
  | .term t :: rest =>
    if cnt < 2 then .term { t with comment := some c } :: rest else .comment c :: .term t :: rest
  | l => .comment c :: l

def attachO (lc : Option (List Span)) (cnt : Nat) (l : List (Entry Span)) : List (Entry Span) :=
  match lc with
  | some c => attachC c cnt l
  | none => l

end FluentProofs.Parser

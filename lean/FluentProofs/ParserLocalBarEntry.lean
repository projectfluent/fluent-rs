import FluentProofs.ParserLocalBarExpr
/-!
# Barrier family (C03 locality), part 3: entries and the two entry loops

Entry-level parsers started before `n` succeed at or before `n` and fail at or before `E`; junk recovery then
lands at or before `n` (`Bar.iter_loc`: an iteration started before `n` ends at or before `n`, and the Junk and errors it
records lie in between).  A loop of such iterations, started at `p ≤ n`, arrives at the cursor `n` exactly, with what it
recorded on the way inside `[p, n]` (`runLoop_reach`); for the two entry loops this is `parseLoop_reach_loc` and
`parseRuntimeLoop_reach_loc` (`parseLoop_reach`, `parseRuntimeLoop_reach`: the same without the bounds).
-/
namespace FluentProofs.Parser
open FluentModel.Syntax

variable {s : Src} {n E : Nat}

theorem Bar.expectByte_bind_lt (hb : Bar s n E) {β : Type} {m p : Nat} {b : UInt8} {k : Unit → Nat → R β} (hp : p < n)
    (hne : b ≠ 10) (hk : ∀ q, q < n → UN m E (k () q)) : UN m E ((expectByte s p b).bind k) := by
  rcases expectByte_cases s p b with ⟨hx, hx'⟩ | ⟨hx, _⟩ <;> rw [hx]
  · exact hk _ (hb.ls.step hp hx' hne)
  · exact .err (by have := hb.lt; omega)

/-- the common head of attributes and messages -/
theorem Bar.head_bind (hb : Bar s n E) {β : Type} (F : Nat) {p : Nat} (hp : p < n)
    {k : Span → Option (Pattern Span) → Nat → R β} (hk : ∀ id o q, q ≤ n → UN n E (k id o q)) :
    UN n E ((getIdentifier s p).bind fun id q =>
      (expectByte s (skipBlankInline s q) 61).bind fun _ q2 => (getPattern s F q2).bind fun o q3 => k id o q3) := by
  have hlt := hb.lt
  refine (hb.getIdentifier_lt hp).bind fun id q _ h1 => ?_
  refine hb.expectByte_bind_lt (hb.edge.skipBlankInline_lt (p := q) (by omega)) (by decide) fun q2 h3 => ?_
  exact (hb.getPattern_lt F h3).bind fun o q3 _ h4 => hk id o q3 h4

theorem Bar.getAttribute_lt (hb : Bar s n E) (F : Nat) {p : Nat} (hp : p < n) : UN n E (getAttribute s F p) := by
  rw [getAttribute_eq]
  refine hb.head_bind F hp fun id o q3 h4 => ?_
  cases o with
  | some pat => exact .ok h4
  | none => exact .err (hb.le_E h4)

theorem Bar.getAttributesGo_le (hb : Bar s n E) (F k : Nat) (acc : List (Attribute Span)) {p : Nat} (hp : p ≤ n) :
    UN n E (getAttributesGo s F k acc p) := by
  induction k generalizing acc p with
  | zero => trivial
  | succ k ih =>
    rw [getAttributesGo_unfold]
    by_cases h46 : s[skipBlankInline s p]? = some 46
    · rw [if_pos h46]
      have h2 := hb.stop2 (hb.le_E (hb.edge.skipBlankInline_le hp)) h46
      rcases (hb.getAttribute_lt F h2).cases with ⟨a, q, hr, h3⟩ | ⟨e, q, hr, h3⟩ | ⟨m, hr⟩ | hr <;> rw [hr]
      · exact ih _ h3
      · exact .ok hp
      · trivial
      · trivial
    · rw [if_neg h46]
      exact .ok hp

theorem Bar.getAttributes_le (hb : Bar s n E) (F : Nat) {p : Nat} (hp : p ≤ n) : UN n E (getAttributes s F p) :=
  hb.getAttributesGo_le F _ [] hp

theorem Bar.getMessage_lt (hb : Bar s n E) (F es : Nat) {p : Nat} (hp : p < n) : UN n E (getMessage s F es p) := by
  rw [getMessage_eq]
  refine hb.head_bind F hp fun id o q3 h4 => ?_
  refine (hb.getAttributes_le F (hb.edge.skipBlankBlock_le h4)).bind fun attrs q5 _ h6 => ?_
  split
  · exact .err (hb.le_E h6)
  · exact .ok h6

theorem Bar.getTerm_lt (hb : Bar s n E) (F es : Nat) {p : Nat} (hp : p < n) : UN n E (getTerm s F es p) := by
  have hlt := hb.lt
  rw [getTerm_eq]
  refine hb.expectByte_bind_lt hp (by decide) fun p0 h0 => ?_
  refine (hb.getIdentifier_lt h0).bind fun id q _ h1 => ?_
  refine hb.expectByte_bind_lt (hb.edge.skipBlankInline_lt (p := q) (by omega)) (by decide) fun q2 h3 => ?_
  refine (hb.getPattern_lt F (hb.edge.skipBlankInline_lt h3)).bind fun o q3 _ h4 => ?_
  refine (hb.getAttributes_le F (hb.edge.skipBlankBlock_le h4)).bind fun attrs q5 _ h6 => ?_
  cases o with
  | some v => exact .ok h6
  | none => exact .err (hb.le_E h6)

theorem Bar.hash_lt (hb : Bar s n E) {p l : Nat} (hp : p ≤ n) (hl : getCommentLevel s p = (l, p + l)) (h1 : 1 ≤ l) :
    p + l < n := by
  obtain ⟨l', hl', hl0⟩ := hb.getCommentLevel_lt hp
  rw [hl] at hl'; cases hl'
  exact hl0.resolve_left (Nat.ne_of_gt h1)

theorem Bar.getCommentGo_le (hb : Bar s n E) (k level : Nat) (content : List Span) {p : Nat} (hp : p ≤ n) :
    UN n E (getCommentGo s k level content p) := by
  have hlt := hb.lt
  induction k generalizing level content p with
  | zero => trivial
  | succ k ih =>
    rw [getCommentGo_unfold]
    cases hst : commentStep s level content.isEmpty p with
    | line l sp p' =>
      obtain ⟨_, hL⟩ := commentStep_line hst
      have := hb.hash_lt hp hL.level hL.pos
      exact ih _ _ (hb.edge.commentLine_le hL (by omega)).2.2
    | stop lv q =>
      obtain ⟨hq, _, _⟩ := commentStep_stop hst
      exact .ok (by omega)
    | bad q =>
      obtain ⟨_, _, _, l, h1, _, rfl, hl, _⟩ := commentStep_bad hst
      have := hb.hash_lt hp hl h1
      exact .err (by omega)
    | panic m => trivial

theorem Bar.getComment_lt (hb : Bar s n E) {p : Nat} (hp : p < n) : UN n E (getComment s p) :=
  hb.getCommentGo_le _ 0 [] (Nat.le_of_lt hp)

theorem Bar.skipComment_le (hb : Bar s n E) {p : Nat} (hp : p < n) : skipComment s p ≤ n := by
  obtain ⟨q, hq, hf⟩ := skipComment_first s p
  rw [hq]
  -- the line feed in front of `n` is followed by a letter or `-`
  have hstop : CommentEnd s (n - 1) := by
    refine ⟨by rw [isEol, hb.nl hp]; rfl, ?_⟩
    obtain ⟨b, hb1, hb2⟩ := hb.real
    rw [show n - 1 + 1 = n by omega, hb1]
    intro h; cases h; revert hb2; decide
  have := hf.le_of_stop (by omega) hstop
  omega

theorem Bar.getEntry_lt (hb : Bar s n E) (F : Nat) {p : Nat} (hp : p < n) : UN n E (getEntry s F p) := by
  rw [getEntry_unfold]
  split
  · refine (hb.getComment_lt hp).bind fun cl q _ h1 => ?_
    unfold entryOfComment
    split
    · exact .ok h1
    · split
      · exact .ok h1
      · split
        · exact .ok h1
        · trivial
  · split
    · exact (hb.getTerm_lt F p hp).bind fun t q _ h1 => .ok h1
    · exact (hb.getMessage_lt F p hp).bind fun t q _ h1 => .ok h1

theorem Bar.getEntryRuntime_lt (hb : Bar s n E) (F : Nat) {p : Nat} (hp : p < n) : UN n E (getEntryRuntime s F p) := by
  rw [getEntryRuntime_unfold]
  split
  · exact .ok (hb.skipComment_le hp)
  · split
    · exact (hb.getTerm_lt F p hp).bind fun t q _ h1 => .ok h1
    · exact (hb.getMessage_lt F p hp).bind fun t q _ h1 => .ok h1

theorem Bar.entryStart (hb : Bar s n E) : EndsAtEntryStart s n := by
  obtain ⟨b, hb1, hb2⟩ := hb.real
  exact Or.inr ⟨b, hb1, isReal_entry hb2, hb.ls⟩

/-- after an error at or before the `=`, junk recovery starts to look at or before `n`: a line feed at or before `E` lies
before `n`, and if the error is behind `n` there is one (the one in front of `n`) -/
theorem Bar.junkFrom_le (hb : Bar s n E) {p q : Nat} (hp : p < n) (hq : q ≤ E) : junkFrom s p q ≤ n := by
  have hsz := hb.lt_size
  have hlt := hb.lt
  rcases junkFrom_cases s p q with ⟨hnone, e⟩ | ⟨nl, _, e, _, h2, h10⟩ <;> rw [e]
  · apply Classical.byContradiction
    intro hn
    exact rposNewline_eq_none.mp hnone (n - 1) (by omega) (by omega) (hb.nl hp)
  · exact hb.stop (x := nl) (by omega) h10

theorem Bar.skipToNextEntryStart_le (hb : Bar s n E) {p q q1 : Nat} (hp : p < n) (hq : q ≤ E)
    (h : skipToNextEntryStart s p q = some q1) : q1 ≤ n :=
  skipToNextEntryStart_le_of_start hb.entryStart (hb.junkFrom_le hp hq) h

theorem parseLoop_step_loc {s : Src} {F N : Nat} {body : List (Entry Span)} {errs : List PErr}
    {lc : Option (List Span)} {cnt p : Nat} {r : List (Entry Span) × List PErr} (hp : p < s.size)
    (h : parseLoop s F (N + 1) body errs lc cnt p = .done r) :
    ∃ mid em lc' cnt' p', parseLoop s F N (body ++ mid) (errs ++ em) lc' cnt' p' = .done r ∧
      StepCase s p (getEntry s F p) mid em p' := by
  rw [parseLoop_eq_run] at h
  obtain ⟨ab, ae, lc', cnt', p', hst, h'⟩ := runLoop_done_next hp h
  exact ⟨ab, ae, lc', cnt', p', by rw [parseLoop_eq_run]; exact h', loopStep_case hst⟩

theorem StepCase.app {α : Type} {s : Src} {p : Nat} {re : R α} {ab : List (Entry Span)} {ae : List PErr} {p' : Nat}
    (h : StepCase s p re ab ae p') :
    (∃ e q, re = .ok e q ∧ p' = (skipBlankBlock s q).1) ∨
    (∃ e q q1, re = .err e q ∧ skipToNextEntryStart s p q = some q1 ∧ p' = (skipBlankBlock s q1).1) := by
  rcases h with ⟨e, q, hr, hp', _, _⟩ | ⟨e, q, q1, _, hr, hq1, hp', _, _, _⟩
  · exact Or.inl ⟨e, q, hr, hp'⟩
  · exact Or.inr ⟨e, q, q1, hr, hq1, hp'⟩

theorem parseLoop_step_app {s : Src} {F N : Nat} {body : List (Entry Span)} {errs : List PErr}
    {lc : Option (List Span)} {cnt p : Nat} {r : List (Entry Span) × List PErr} (hp : p < s.size)
    (h : parseLoop s F (N + 1) body errs lc cnt p = .done r) :
    ∃ mid em lc' cnt' p', parseLoop s F N (body ++ mid) (errs ++ em) lc' cnt' p' = .done r ∧
      ((∃ e q, getEntry s F p = .ok e q ∧ p' = (skipBlankBlock s q).1) ∨
       (∃ e q q1, getEntry s F p = .err e q ∧ skipToNextEntryStart s p q = some q1 ∧
          p' = (skipBlankBlock s q1).1)) := by
  obtain ⟨mid, em, lc', cnt', p', hloop, hcase⟩ := parseLoop_step_loc hp h
  exact ⟨mid, em, lc', cnt', p', hloop, hcase.app⟩

theorem parseRuntimeLoop_step_loc {s : Src} {F N : Nat} {body : List (Entry Span)} {errs : List PErr}
    {p : Nat} {r : List (Entry Span) × List PErr} (hp : p < s.size)
    (h : parseRuntimeLoop s F (N + 1) body errs p = .done r) :
    ∃ mid em p', parseRuntimeLoop s F N (body ++ mid) (errs ++ em) p' = .done r ∧
      StepCase s p (getEntryRuntime s F p) mid em p' := by
  rw [parseRuntimeLoop_eq_run] at h
  obtain ⟨ab, ae, lc', cnt', p', hst, h'⟩ := runLoop_done_next hp h
  have hc := loopStepRt_case hst
  have hs := loopStepRt_state hst
  rw [hs.1, hs.2] at h'
  exact ⟨ab, ae, p', by rw [parseRuntimeLoop_eq_run]; exact h', hc⟩

theorem parseRuntimeLoop_step_app {s : Src} {F N : Nat} {body : List (Entry Span)} {errs : List PErr}
    {p : Nat} {r : List (Entry Span) × List PErr} (hp : p < s.size)
    (h : parseRuntimeLoop s F (N + 1) body errs p = .done r) :
    ∃ mid em p', parseRuntimeLoop s F N (body ++ mid) (errs ++ em) p' = .done r ∧
      ((∃ o q, getEntryRuntime s F p = .ok o q ∧ p' = (skipBlankBlock s q).1) ∨
       (∃ e q q1, getEntryRuntime s F p = .err e q ∧ skipToNextEntryStart s p q = some q1 ∧
          p' = (skipBlankBlock s q1).1)) := by
  obtain ⟨mid, em, p', hloop, hcase⟩ := parseRuntimeLoop_step_loc hp h
  exact ⟨mid, em, p', hloop, hcase.app⟩

theorem Bar.iter_loc {α : Type} (hb : Bar s n E) {p p' : Nat} {mid : List (Entry Span)} {em : List PErr}
    {noMT : α → Prop} {re : R α} (hlt : p < n) (hE : UN n E re) (hL : ELines s p noMT re) (hcase : StepCase s p re mid em p') :
    p ≤ p' ∧ p' ≤ n ∧ (∀ sp ∈ junkSpans mid, p ≤ sp.start ∧ sp.stop ≤ n) ∧
      (∀ e ∈ em, ∃ a b, e.slice = some (a, b) ∧ p ≤ a ∧ b ≤ n) := by
  rcases hcase with ⟨e, q, hr, rfl, hj, rfl⟩ | ⟨e, q, q1, content, hr, hq1, rfl, hsl, hj, rfl⟩
  · rw [hr] at hE hL
    have h1 := skipBlankBlock_le s q
    have h2 : p ≤ q := hL.1
    exact ⟨by omega, hb.edge.skipBlankBlock_le hE, by rw [hj]; simp, by simp⟩
  · rw [hr] at hE
    have hq1n := hb.skipToNextEntryStart_le hlt hE hq1
    have hge := skipToNextEntryStart_ge hq1
    have h1 := skipBlankBlock_le s q1
    have hc := slice_some_eq hsl
    refine ⟨by omega, hb.edge.skipBlankBlock_le hq1n, ?_, ?_⟩
    · rw [hj]
      intro sp hsp
      simp only [List.mem_singleton] at hsp
      subst hsp; subst hc
      exact ⟨Nat.le_refl _, hq1n⟩
    · intro e' he'
      simp only [List.mem_singleton] at he'
      subst he'
      exact ⟨p, q1, rfl, Nat.le_refl _, hq1n⟩

/-- `J`: what is known of the pending comment and the count all along (the runtime loop: none pending, count `0`) -/
theorem runLoop_reach {size n : Nat} {step : Option (List Span) → Nat → Nat → StepR} (hn : n ≤ size)
    (J : Option (List Span) → Nat → Prop)
    (hiter : ∀ lc cnt p ab ae lc' cnt' p', p < n → J lc cnt → step lc cnt p = .next ab ae lc' cnt' p' →
      J lc' cnt' ∧ p ≤ p' ∧ p' ≤ n ∧ (∀ sp ∈ junkSpans ab, p ≤ sp.start ∧ sp.stop ≤ n) ∧
        (∀ e ∈ ae, ∃ a b, e.slice = some (a, b) ∧ p ≤ a ∧ b ≤ n)) :
    ∀ (N : Nat) (body : List (Entry Span)) (errs : List PErr) (lc : Option (List Span)) (cnt p : Nat)
      (r : List (Entry Span) × List PErr), p ≤ n → J lc cnt →
      runLoop size step N body errs lc cnt p = .done r →
      ∃ N' mid errsMid lc' cnt', N' ≤ N ∧ J lc' cnt' ∧
        runLoop size step N' (body ++ mid) (errs ++ errsMid) lc' cnt' n = .done r ∧
        (∀ sp ∈ junkSpans mid, p ≤ sp.start ∧ sp.stop ≤ n) ∧
        (∀ e ∈ errsMid, ∃ a b, e.slice = some (a, b) ∧ p ≤ a ∧ b ≤ n) := by
  intro N
  induction N with
  | zero => intro body errs lc cnt p r _ _ h; cases h
  | succ N ih =>
    intro body errs lc cnt p r hp hJ h
    by_cases hpn : p = n
    · rw [hpn] at h
      exact ⟨N + 1, [], [], lc, cnt, Nat.le_refl _, hJ, by simpa using h, by simp [junkSpans], by simp⟩
    · have hlt : p < n := by omega
      obtain ⟨mid, em, lc', cnt', p', hst, hloop⟩ := runLoop_done_next (Nat.lt_of_lt_of_le hlt hn) h
      obtain ⟨hJ', hpp', hp'n, hj, he⟩ := hiter lc cnt p mid em lc' cnt' p' hlt hJ hst
      obtain ⟨N', mid', em', lc'', cnt'', hN, hJ'', hfin, hj', he'⟩ := ih _ _ _ _ _ _ hp'n hJ' hloop
      refine ⟨N', mid ++ mid', em ++ em', lc'', cnt'', by omega, hJ'', by
        rw [← List.append_assoc, ← List.append_assoc]; exact hfin, ?_, ?_⟩
      · intro sp hsp
        rw [junkSpans_append] at hsp
        rcases List.mem_append.mp hsp with h1 | h1
        · exact hj sp h1
        · have := hj' sp h1; exact ⟨by omega, this.2⟩
      · intro e hmem
        rcases List.mem_append.mp hmem with h1 | h1
        · exact he e h1
        · obtain ⟨a, b, h2, h3, h4⟩ := he' e h1
          exact ⟨a, b, h2, by omega, h4⟩

theorem parseLoop_reach_loc {s : Src} {n E : Nat} (hb : Bar s n E) (F : Nat)
    (N : Nat) (body : List (Entry Span)) (errs : List PErr) (lc : Option (List Span)) (cnt p : Nat)
    (r : List (Entry Span) × List PErr) (hp : p ≤ n) (h : parseLoop s F N body errs lc cnt p = .done r) :
    ∃ N' mid errsMid lc' cnt', N' ≤ N ∧
      parseLoop s F N' (body ++ mid) (errs ++ errsMid) lc' cnt' n = .done r ∧
      (∀ sp ∈ junkSpans mid, p ≤ sp.start ∧ sp.stop ≤ n) ∧
      (∀ e ∈ errsMid, ∃ a b, e.slice = some (a, b) ∧ p ≤ a ∧ b ≤ n) := by
  rw [parseLoop_eq_run] at h
  have hn : n ≤ s.size := by have := hb.lt_size; have := hb.lt; omega
  obtain ⟨N', mid, em, lc', cnt', hN, _, hfin, hj, he⟩ := runLoop_reach hn (fun _ _ => True)
    (fun lc cnt p ab ae lc' cnt' p' hlt _ hst =>
      ⟨trivial, hb.iter_loc hlt (hb.getEntry_lt F hlt) (getEntry_lines s F p) (loopStep_case hst)⟩)
    N body errs lc cnt p r hp trivial h
  exact ⟨N', mid, em, lc', cnt', hN, by rw [parseLoop_eq_run]; exact hfin, hj, he⟩

theorem parseLoop_reach {s : Src} {n E : Nat} (hb : Bar s n E) (F : Nat) :
    ∀ (N : Nat) (body : List (Entry Span)) (errs : List PErr) (lc : Option (List Span)) (cnt p : Nat)
      (r : List (Entry Span) × List PErr), p ≤ n →
      parseLoop s F N body errs lc cnt p = .done r →
      ∃ N' mid errsMid lc' cnt', N' ≤ N ∧
        parseLoop s F N' (body ++ mid) (errs ++ errsMid) lc' cnt' n = .done r := by
  intro N body errs lc cnt p r hp h
  obtain ⟨N', mid, em, lc', cnt', hN, hfin, _, _⟩ := parseLoop_reach_loc hb F N body errs lc cnt p r hp h
  exact ⟨N', mid, em, lc', cnt', hN, hfin⟩

theorem parseRuntimeLoop_reach_loc {s : Src} {n E : Nat} (hb : Bar s n E) (F : Nat)
    (N : Nat) (body : List (Entry Span)) (errs : List PErr) (p : Nat) (r : List (Entry Span) × List PErr) (hp : p ≤ n)
    (h : parseRuntimeLoop s F N body errs p = .done r) :
    ∃ N' mid errsMid, N' ≤ N ∧ parseRuntimeLoop s F N' (body ++ mid) (errs ++ errsMid) n = .done r ∧
      (∀ sp ∈ junkSpans mid, p ≤ sp.start ∧ sp.stop ≤ n) ∧
      (∀ e ∈ errsMid, ∃ a b, e.slice = some (a, b) ∧ p ≤ a ∧ b ≤ n) := by
  rw [parseRuntimeLoop_eq_run] at h
  have hn : n ≤ s.size := by have := hb.lt_size; have := hb.lt; omega
  obtain ⟨N', mid, em, lc', cnt', hN, ⟨rfl, rfl⟩, hfin, hj, he⟩ := runLoop_reach hn (fun lc cnt => lc = none ∧ cnt = 0)
    (fun _ _ p ab ae lc' cnt' p' hlt _ hst =>
      ⟨loopStepRt_state hst, hb.iter_loc hlt (hb.getEntryRuntime_lt F hlt) (getEntryRuntime_lines s F p) (loopStepRt_case hst)⟩)
    N body errs none 0 p r hp ⟨rfl, rfl⟩ h
  exact ⟨N', mid, em, hN, by rw [parseRuntimeLoop_eq_run]; exact hfin, hj, he⟩

theorem parseRuntimeLoop_reach {s : Src} {n E : Nat} (hb : Bar s n E) (F : Nat) :
    ∀ (N : Nat) (body : List (Entry Span)) (errs : List PErr) (p : Nat) (r : List (Entry Span) × List PErr), p ≤ n →
      parseRuntimeLoop s F N body errs p = .done r →
      ∃ N' mid errsMid, N' ≤ N ∧ parseRuntimeLoop s F N' (body ++ mid) (errs ++ errsMid) n = .done r := by
  intro N body errs p r hp h
  obtain ⟨N', mid, em, hN, hfin, _, _⟩ := parseRuntimeLoop_reach_loc hb F N body errs p r hp h
  exact ⟨N', mid, em, hN, hfin⟩

end FluentProofs.Parser

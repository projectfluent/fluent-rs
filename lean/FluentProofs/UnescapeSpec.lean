import FluentProofs.UnescapeChar
/-!
# C13 — character-level specification of string-literal unescaping

`decode` is written from the property text, by recursion on *characters* (no bytes, no cursor):

* a character other than `\` is copied;
* `\\` ↦ `\`, `\"` ↦ `"`;
* `\uXXXX` / `\UXXXXXX` with exactly 4 / 6 hex digits ↦ the scalar value with that hex value, U+FFFD when
  the value is a surrogate or above U+10FFFF;
* a malformed escape ↦ U+FFFD.  Its extent (the property leaves it open; this is what `unescape_unicode` in /repo
  does, with the repairs of findings F3 and F4 in): the backslash and the next character; for `\u`/`\U` additionally the following 4 / 6 *bytes'
  worth* of characters, rounded up to whole characters (or to the end of the input).

`go k` is "skip mode": `k` more bytes belong to the escape that was just decoded.

The second half reads the definition back on well-formed input: a list of tokens (`Tok`: plain character, `\\`,
`\"`, `\uXXXX`, `\UXXXXXX` with hex digits) decodes token by token to the tokens' values (`decode_tokens`).
-/
namespace FluentProofs.UnescapeSpec

def FFFD : Char := '�'

def isHex (c : Char) : Bool :=
  ('0' ≤ c && c ≤ '9') || ('a' ≤ c && c ≤ 'f') || ('A' ≤ c && c ≤ 'F')

def digitVal (c : Char) : Nat :=
  if '0' ≤ c && c ≤ '9' then c.toNat - 48
  else if 'a' ≤ c && c ≤ 'f' then c.toNat - 87
  else c.toNat - 55

def hexNum (cs : List Char) : Nat := cs.foldl (fun a c => a * 16 + digitVal c) 0

/-- the scalar value with code `n`, U+FFFD when `n` is not a scalar value -/
def scalarOr (n : Nat) : Char :=
  if n < 0xD800 ∨ (0xDFFF < n ∧ n < 0x110000) then Char.ofNat n else FFFD

/-- value of `\u`/`\U` followed by `rest`, `n` = 4 / 6 -/
def hexEscape (n : Nat) (rest : List Char) : Char :=
  if (rest.take n).length = n ∧ (rest.take n).all isHex then scalarOr (hexNum (rest.take n)) else FFFD

/-- the character an escape decodes to; `cs` = what follows the backslash -/
def escChar : List Char → Char
  | [] => FFFD
  | c :: rest =>
    if c = '\\' then '\\'
    else if c = '"' then '"'
    else if c = 'u' then hexEscape 4 rest
    else if c = 'U' then hexEscape 6 rest
    else FFFD

/-- number of bytes after the backslash that belong to the escape (before rounding up to a character) -/
def escLen : List Char → Nat
  | [] => 0
  | c :: _ => if c = 'u' then 5 else if c = 'U' then 7 else c.utf8Size

def go : Nat → List Char → List Char
  | _, [] => []
  | k + 1, c :: cs => go (k + 1 - c.utf8Size) cs
  | 0, c :: cs => if c = '\\' then escChar cs :: go (escLen cs) cs else c :: go 0 cs

/-- the specification: what unescaping a string (as a list of characters) yields -/
def decode (cs : List Char) : List Char := go 0 cs

/-- drop `k` bytes' worth of characters, rounded up to whole characters -/
def dropBytes : Nat → List Char → List Char
  | 0, cs => cs
  | _ + 1, [] => []
  | k + 1, c :: cs => dropBytes (k + 1 - c.utf8Size) cs

@[simp] theorem dropBytes_zero (cs : List Char) : dropBytes 0 cs = cs := by
  cases cs <;> simp [dropBytes]

theorem dropBytes_within (c : Char) (r : List Char) (k : Nat) (h0 : 0 < k) (hk : k ≤ c.utf8Size) :
    dropBytes k (c :: r) = r := by
  obtain ⟨j, rfl⟩ : ∃ j, k = j + 1 := ⟨k - 1, by omega⟩
  show dropBytes (j + 1 - c.utf8Size) r = r
  rw [Nat.sub_eq_zero_of_le hk, dropBytes_zero]

theorem go_eq_dropBytes (k : Nat) (cs : List Char) : go k cs = go 0 (dropBytes k cs) := by
  induction cs generalizing k with
  | nil => cases k <;> simp [go, dropBytes]
  | cons c cs ih =>
    cases k with
    | zero => simp [dropBytes]
    | succ k => simp only [go, dropBytes]; exact ih _

theorem decode_nil : decode [] = [] := rfl

theorem decode_cons_plain {c : Char} (h : c ≠ '\\') (cs : List Char) :
    decode (c :: cs) = c :: decode cs := by
  simp [decode, go, h]

theorem decode_backslash (cs : List Char) :
    decode ('\\' :: cs) = escChar cs :: decode (dropBytes (escLen cs) cs) := by
  simp only [decode, go]
  rw [go_eq_dropBytes]
  simp

/-- the tokens of a well-formed string literal body -/
inductive Tok where
  | plain (c : Char)            -- any character other than a backslash
  | bs                          -- `\\`
  | quote                       -- `\"`
  | u (ds : List Char)          -- `\uXXXX`
  | U (ds : List Char)          -- `\UXXXXXX`

def Tok.Valid : Tok → Prop
  | .plain c => c ≠ '\\'
  | .bs => True
  | .quote => True
  | .u ds => ds.length = 4 ∧ ds.all isHex = true
  | .U ds => ds.length = 6 ∧ ds.all isHex = true

/-- source text of a token -/
def Tok.text : Tok → List Char
  | .plain c => [c]
  | .bs => ['\\', '\\']
  | .quote => ['\\', '"']
  | .u ds => '\\' :: 'u' :: ds
  | .U ds => '\\' :: 'U' :: ds

/-- what the token denotes -/
def Tok.value : Tok → List Char
  | .plain c => [c]
  | .bs => ['\\']
  | .quote => ['"']
  | .u ds => [scalarOr (hexNum ds)]
  | .U ds => [scalarOr (hexNum ds)]

theorem isHex_iff (c : Char) : isHex c = true ↔
    (48 ≤ c.toNat ∧ c.toNat ≤ 57) ∨ (97 ≤ c.toNat ∧ c.toNat ≤ 102) ∨ (65 ≤ c.toNat ∧ c.toNat ≤ 70) := by
  simp [isHex, char_le_iff, or_assoc]

theorem isHex_utf8Size (c : Char) (h : isHex c = true) : c.utf8Size = 1 := by
  have := (isHex_iff c).1 h
  exact utf8Size_of_lt_128 c (by omega)

theorem dropBytes_hex (ds rest : List Char) (h : ds.all isHex = true) :
    dropBytes ds.length (ds ++ rest) = rest := by
  induction ds with
  | nil => simp
  | cons d ds ih =>
    simp only [List.all_cons, Bool.and_eq_true] at h
    have h1 := isHex_utf8Size d h.1
    show dropBytes (ds.length + 1 - d.utf8Size) (ds ++ rest) = rest
    rw [h1]
    exact ih h.2

theorem hexEscape_wf (n : Nat) (ds rest : List Char) (hl : ds.length = n) (hh : ds.all isHex = true) :
    hexEscape n (ds ++ rest) = scalarOr (hexNum ds) := by
  have : (ds ++ rest).take n = ds := by rw [← hl]; simp
  unfold hexEscape
  rw [this, if_pos ⟨hl, hh⟩]

theorem decode_simple (c : Char) (hc : c = '\\' ∨ c = '"') (rest : List Char) :
    decode ('\\' :: c :: rest) = c :: decode rest := by
  have e : dropBytes (escLen (c :: rest)) (c :: rest) = rest := by
    rcases hc with rfl | rfl <;> exact dropBytes_zero rest
  rw [decode_backslash, e]
  rcases hc with rfl | rfl <;> rfl

/-- `\uXXXX` (`m = 'u'`, `n = 4`) and `\UXXXXXX` (`m = 'U'`, `n = 6`) -/
theorem decode_hex (m : Char) (n : Nat) (hm : (m = 'u' ∧ n = 4) ∨ (m = 'U' ∧ n = 6)) (ds rest : List Char)
    (hl : ds.length = n) (hh : ds.all isHex = true) :
    decode ('\\' :: m :: (ds ++ rest)) = scalarOr (hexNum ds) :: decode rest := by
  have e1 : escChar (m :: (ds ++ rest)) = hexEscape n (ds ++ rest) := by
    rcases hm with ⟨rfl, rfl⟩ | ⟨rfl, rfl⟩ <;> rfl
  have e2 : dropBytes (escLen (m :: (ds ++ rest))) (m :: (ds ++ rest)) = dropBytes n (ds ++ rest) := by
    rcases hm with ⟨rfl, rfl⟩ | ⟨rfl, rfl⟩ <;> rfl
  rw [decode_backslash, e1, e2, hexEscape_wf n ds rest hl hh, ← hl, dropBytes_hex ds rest hh]

theorem decode_tok (t : Tok) (ht : t.Valid) (rest : List Char) :
    decode (t.text ++ rest) = t.value ++ decode rest := by
  cases t with
  | plain c => exact decode_cons_plain ht rest
  | bs => exact decode_simple '\\' (Or.inl rfl) rest
  | quote => exact decode_simple '"' (Or.inr rfl) rest
  | u ds => exact decode_hex 'u' 4 (Or.inl ⟨rfl, rfl⟩) ds rest ht.1 ht.2
  | U ds => exact decode_hex 'U' 6 (Or.inr ⟨rfl, rfl⟩) ds rest ht.1 ht.2

theorem decode_tokens (ts : List Tok) (h : ∀ t ∈ ts, t.Valid) :
    decode (ts.flatMap Tok.text) = ts.flatMap Tok.value := by
  induction ts with
  | nil => rfl
  | cons t ts ih =>
    simp only [List.flatMap_cons]
    rw [decode_tok t (h t (List.mem_cons_self)), ih (fun t' ht' => h t' (List.mem_cons_of_mem _ ht'))]

end FluentProofs.UnescapeSpec

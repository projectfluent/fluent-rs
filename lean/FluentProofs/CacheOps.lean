import FluentProofs.CacheLive
/-!
# Lemmas about the cache LTS: the task-level operations the driver runs

`pollNext` touches the source only when the request stands at the end of the cache, and then polls it once
(`pollNext_lazy`, `step_polls`).  `pollTask` (an executor polling a request until it answers or parks) and `opRun` are
runs of the fine-grained labels that `Cache`/`CacheLive` reason about, so `Safe` and `WakeInv` hold after them; the fuel
`pollTask` gives its loop suffices; the iterator variant is the stream variant on a source that never answers `Pending`
(`NoPend`); laziness at task level is `OpInv D`: the cache is no longer than `D`, the deepest request so far, and an
answer is the cached item at the request's depth.
-/
namespace FluentProofs.Cache
open FluentModel.Cache

variable {α : Type}

theorem pollNext_active (s : St α) (c t : Task) :
    (((pollNext s c).1).cons t).active = (s.cons t).active ∧
    (((pollNext s c).1).cons t).want = (s.cons t).want := by
  have hc := pollNext_cases s c
  generalize pollNext s c = r at hc
  by_cases ht : t = c
  · subst ht; cases hc <;> simp [wakeAll_cons]
  · cases hc <;> simp [ht, wakeAll_cons]

theorem pollNext_some {s s' : St α} {c : Task} {it : α} (h : pollNext s c = (s', .ready (some it))) :
    (s'.cons c).curr = (s.cons c).curr + 1 ∧ s'.items[(s.cons c).curr]? = some it := by
  have hc := pollNext_cases s c
  rw [h] at hc
  generalize hr : (s', PollRes.ready (some it)) = r at hc
  cases hc with
  | cached hlt =>
    simp only [Prod.mk.injEq, PollRes.ready.injEq] at hr
    obtain ⟨rfl, hit⟩ := hr
    simp [← hit]
  | pend src' _ _ => simp at hr
  | item src' it' hl hp =>
    simp only [Prod.mk.injEq, PollRes.ready.injEq, Option.some.injEq] at hr
    obtain ⟨rfl, rfl⟩ := hr
    simp [hl]
  | ended src' _ _ => simp at hr
  | over _ => simp at hr

theorem pollNext_lazy (s : St α) (c : Task) :
    ((s.cons c).curr ≠ s.items.length →
      (pollNext s c).1.items = s.items ∧ (pollNext s c).1.src = s.src) ∧
    ((s.cons c).curr = s.items.length →
      (pollNext s c).1.src.polls = s.src.polls + 1 ∧
      ((pollNext s c).1.items = s.items ∨
        ((pollNext s c).1.items.length = s.items.length + 1 ∧
         (((pollNext s c).1).cons c).curr = (pollNext s c).1.items.length))) := by
  have hc := pollNext_cases s c
  generalize pollNext s c = r at hc
  cases hc with
  | cached h => exact ⟨fun _ => ⟨rfl, rfl⟩, fun e => by omega⟩
  | over h => exact ⟨fun _ => ⟨rfl, rfl⟩, fun e => by omega⟩
  | pend src' h hp =>
    obtain ⟨_, rfl⟩ := poll_pending hp
    exact ⟨fun e => absurd h e, fun _ => ⟨rfl, Or.inl rfl⟩⟩
  | item src' it h hp =>
    obtain ⟨_, n, r, hr, rfl⟩ := poll_ready_some hp
    refine ⟨fun e => absurd h e, fun _ => ⟨by simp, Or.inr ⟨by simp, by simp [h]⟩⟩⟩
  | ended src' h hp =>
    obtain ⟨_, _, _, rfl⟩ := poll_ready_none hp
    exact ⟨fun e => absurd h e, fun _ => ⟨by simp, Or.inl (by simp)⟩⟩

theorem step_polls (s : St α) (l : Label) :
    (step s l).src.polls = s.src.polls ∨
    ∃ c fresh, l = .poll c fresh ∧ (s.cons c).active = true ∧ (s.cons c).curr = s.items.length ∧
      (step s l).src.polls = s.src.polls + 1 := by
  -- one `poll_next` from a state with the cursor, cache and source of `s`
  have polled : ∀ (s1 : St α) (c : Task),
      (s1.cons c).curr = (s.cons c).curr → s1.items = s.items → s1.src = s.src →
      (pollNext s1 c).1.src.polls = s.src.polls ∨
      ((s.cons c).curr = s.items.length ∧ (pollNext s1 c).1.src.polls = s.src.polls + 1) := by
    intro s1 c h1 h2 h3
    rw [← h3, ← h1, ← h2]
    by_cases he : (s1.cons c).curr = s1.items.length
    · exact Or.inr ⟨he, ((pollNext_lazy s1 c).2 he).1⟩
    · exact Or.inl (by rw [((pollNext_lazy s1 c).1 he).2])
  have hc := step_cases s l
  generalize step s l = s' at hc ⊢
  cases hc with
  | busy | start | waits | finish | asleep | ready => exact Or.inl rfl
  | fired _ _ _ _ _ _ hpo | firedWake _ _ _ _ _ _ _ hpo => exact Or.inl hpo
  | poll c ha => exact (polled s c rfl rfl rfl).imp id fun h => ⟨c, false, rfl, ha, h⟩
  | pollFresh c ha =>
    -- clearing the wake flag first changes neither cursor, cache nor source
    exact (polled (clearWoken s c) c (by simp [clearWoken]) rfl rfl).imp id fun h => ⟨c, true, rfl, ha, h⟩

theorem run_append (s : St α) (l₁ l₂ : List Label) : run s (l₁ ++ l₂) = run (run s l₁) l₂ := by
  simp [run, List.foldl_append]

theorem step_poll_false {s : St α} {c : Task} (h : (s.cons c).active = true) :
    step s (.poll c false) = (pollNext s c).1 := by
  simp [step, h]

theorem step_poll_true {s : St α} {c : Task} (h : (s.cons c).active = true) :
    step s (.poll c true) = (pollNext (clearWoken s c) c).1 := by
  simp [step, h]

/-- labels that follow the first `poll_next` in a task poll of `c` -/
def OwnLabel (c : Task) (l : Label) : Prop := l = .poll c false ∨ l = .finish c

theorem pollLoop_run (fuel : Nat) (s : St α) (c : Task) (h : (s.cons c).active = true) :
    ∃ rest, (∀ l ∈ rest, OwnLabel c l) ∧ (pollLoop (fuel + 1) s c).1 = run (pollNext s c).1 rest := by
  -- after its first poll the loop stops, with or without the request's `finish`, or goes on with less fuel
  have one : ∀ (fuel : Nat) (s : St α),
      (∃ rest, (∀ l ∈ rest, OwnLabel c l) ∧ (pollLoop (fuel + 1) s c).1 = run (pollNext s c).1 rest) ∨
      (pollLoop (fuel + 1) s c).1 = (pollLoop fuel (pollNext s c).1 c).1 := by
    intro fuel s
    rw [pollLoop]
    split
    · rename_i s' hq; exact Or.inl ⟨[], by simp, by simp [hq, run]⟩
    · rename_i s' hq; exact Or.inl ⟨[.finish c], by simp [OwnLabel], by simp [hq, run, step]⟩
    · rename_i s' it hq
      split
      · exact Or.inl ⟨[.finish c], by simp [OwnLabel], by simp [hq, run, step]⟩
      · exact Or.inr (by rw [hq])
  induction fuel generalizing s with
  | zero => exact (one 0 s).elim id fun e => ⟨[], by simp, by rw [e]; rfl⟩
  | succ fuel ih =>
    refine (one (fuel + 1) s).elim id fun e => ?_
    have ha : (((pollNext s c).1).cons c).active = true := by rw [(pollNext_active s c c).1]; exact h
    obtain ⟨rest, hr1, hr2⟩ := ih _ ha
    refine ⟨.poll c false :: rest, fun l hl => ?_, ?_⟩
    · rcases List.mem_cons.1 hl with rfl | hl
      · exact Or.inl rfl
      · exact hr1 l hl
    · rw [e, hr2]
      simp [run, List.foldl, step_poll_false ha]

theorem pollTask_run (s : St α) (c : Task) :
    ∃ ls, (∀ l ∈ ls, l = .poll c true ∨ OwnLabel c l) ∧ (pollTask s c).1 = run s ls := by
  unfold pollTask
  split
  · rename_i h
    have h' : ((clearWoken s c).cons c).active = true := by simpa [clearWoken] using h
    obtain ⟨rest, hr1, hr2⟩ := pollLoop_run (s.cons c).want (clearWoken s c) c h'
    refine ⟨.poll c true :: rest, ?_, ?_⟩
    · intro l hl
      rcases List.mem_cons.1 hl with rfl | hl
      · exact Or.inl rfl
      · exact Or.inr (hr1 l hl)
    · rw [hr2]; simp [run, List.foldl, step_poll_true h]
  · exact ⟨[], by simp, rfl⟩

theorem opStep_run (s : St α) (op : Op) : ∃ ls, opStep s op = run s ls := by
  cases op with
  | start c d => exact ⟨[.start c d], rfl⟩
  | poll c => obtain ⟨ls, _, h⟩ := pollTask_run s c; exact ⟨ls, h⟩
  | fire => exact ⟨[.fire], rfl⟩

theorem opRun_run (s : St α) (ops : List Op) : ∃ ls, opRun s ops = run s ls := by
  induction ops generalizing s with
  | nil => exact ⟨[], rfl⟩
  | cons op r ih =>
    obtain ⟨l₁, h₁⟩ := opStep_run s op
    obtain ⟨l₂, h₂⟩ := ih (opStep s op)
    exact ⟨l₁ ++ l₂, by rw [run_append, ← h₁, ← h₂]; rfl⟩

theorem opRun_grp (s : St α) (ops : List Op) : (opRun s ops).grp = s.grp := by
  obtain ⟨ls, h⟩ := opRun_run s ops
  rw [h, run_grp]

theorem pollTask_grp (s : St α) (c : Task) : (pollTask s c).1.grp = s.grp := by
  obtain ⟨ls, _, h⟩ := pollTask_run s c
  rw [h, run_grp]

theorem pollLoop_fuel (fuel : Nat) (s : St α) (c : Task)
    (h1 : 1 ≤ fuel) (h2 : (s.cons c).want < fuel + (s.cons c).curr) :
    (pollLoop fuel s c).2 ≠ .outOfFuel := by
  induction fuel generalizing s with
  | zero => omega
  | succ fuel ih =>
    unfold pollLoop
    split
    · simp
    · simp
    · rename_i s' it hq
      split
      · simp
      · rename_i hlt
        have hc := (pollNext_some hq).1
        have hw := (pollNext_active s c c).2; rw [hq] at hw
        simp only at hw
        apply ih s' <;> omega

theorem pollTask_fuel (s : St α) (c : Task) : (pollTask s c).2 ≠ .outOfFuel := by
  unfold pollTask
  split
  · apply pollLoop_fuel
    · omega
    · simp [clearWoken]; omega
  · simp


/-- the source never answers `Pending` and nobody is registered -/
def NoPend (s : St α) : Prop := (∀ p ∈ s.src.rest, p.1 = 0) ∧ s.src.endNeed = 0 ∧ s.pending = []

theorem poll_eq_next (src : Source α) (w : Task) (h0 : ∀ p ∈ src.rest, p.1 = 0) (he : src.endNeed = 0) :
    src.poll w = (src.next.1, .ready src.next.2) := by
  unfold Source.poll Source.next Source.need
  cases hr : src.rest with
  | nil => simp [he]
  | cons p r =>
    obtain ⟨n, it⟩ := p
    have : n = 0 := h0 (n, it) (by simp [hr])
    subst this
    simp

theorem next_rest (src : Source α) : (∀ p ∈ src.next.1.rest, p ∈ src.rest) ∧ src.next.1.endNeed = src.endNeed := by
  unfold Source.next
  cases hr : src.rest with
  | nil => simp
  | cons p r =>
    obtain ⟨n, it⟩ := p
    exact ⟨fun q hq => List.mem_cons_of_mem _ hq, rfl⟩

theorem pollNextItem_noPend {s : St α} (c : Task) (hs : NoPend s) :
    pollNextItem s c = ({ s with src := s.src.next.1 }, .ready s.src.next.2) := by
  obtain ⟨src, items, pending, cons, wakeLog, grp⟩ := s
  obtain ⟨h0, he, hp⟩ := hs
  simp only at hp; subst hp
  simp only [pollNextItem, poll_eq_next src (grp c) h0 he]
  rfl

theorem noPend_next {s : St α} (hs : NoPend s) (s' : St α) (hsrc : s'.src = s.src.next.1)
    (hp : s'.pending = s.pending) : NoPend s' := by
  obtain ⟨h0, he, hp0⟩ := hs
  have hn := next_rest s.src
  exact ⟨fun p hp' => h0 p (hn.1 p (hsrc ▸ hp')), by rw [hsrc, hn.2, he], by rw [hp, hp0]⟩

theorem pollNext_eq_syncNext {s : St α} (c : Task) (hs : NoPend s) :
    pollNext s c = ((syncNext s c).1, .ready (syncNext s c).2) ∧ NoPend (syncNext s c).1 := by
  unfold pollNext syncNext
  rw [pollNextItem_noPend c hs]
  simp only []
  split
  · exact ⟨rfl, hs⟩
  · split
    · cases hnx : s.src.next with
      | mk src' v =>
        have hn := noPend_next hs
        rw [hnx] at hn
        cases v with
        | some it => exact ⟨rfl, hn _ rfl rfl⟩
        | none => exact ⟨rfl, hn _ rfl rfl⟩
    · exact ⟨rfl, hs⟩

theorem noPend_finishReq {s : St α} (c : Task) (hs : NoPend s) : NoPend (finishReq s c) := by
  unfold finishReq; split <;> exact hs

theorem noPend_startReq {s : St α} (c : Task) (d : Nat) (hs : NoPend s) : NoPend (startReq s c d) := by
  unfold startReq; split <;> exact hs

theorem noPend_clearWoken {s : St α} (c : Task) (hs : NoPend s) : NoPend (clearWoken s c) := hs

theorem syncLoop_eq_pollLoop (fuel : Nat) {s : St α} (c : Task) (hs : NoPend s) :
    syncLoop fuel s c = pollLoop fuel s c ∧ NoPend (syncLoop fuel s c).1 := by
  induction fuel generalizing s with
  | zero => exact ⟨rfl, hs⟩
  | succ fuel ih =>
    obtain ⟨h1, h2⟩ := pollNext_eq_syncNext c hs
    unfold syncLoop pollLoop
    rw [h1]
    cases hq : syncNext s c with
    | mk s' v =>
      rw [hq] at h2
      cases v with
      | none => exact ⟨rfl, noPend_finishReq c h2⟩
      | some it =>
        simp only
        split
        · exact ⟨rfl, noPend_finishReq c h2⟩
        · exact ih h2

theorem syncTask_eq_pollTask {s : St α} (c : Task) (hs : NoPend s) :
    syncTask s c = pollTask s c ∧ NoPend (syncTask s c).1 := by
  unfold syncTask pollTask
  split
  · exact syncLoop_eq_pollLoop _ c (noPend_clearWoken c hs)
  · exact ⟨rfl, hs⟩

theorem syncOpStep_eq_opStep {s : St α} (op : Op) (hs : NoPend s) :
    syncOpStep s op = opStep s op ∧ NoPend (syncOpStep s op) := by
  cases op with
  | start c d => exact ⟨rfl, noPend_startReq c d hs⟩
  | poll c =>
    have := syncTask_eq_pollTask c hs
    exact ⟨by simp [syncOpStep, opStep, this.1], this.2⟩
  | fire =>
    refine ⟨?_, hs⟩
    have hn : s.src.need = 0 := by
      unfold Source.need
      cases hr : s.src.rest with
      | nil => simpa [hr] using hs.2.1
      | cons p r => obtain ⟨n, it⟩ := p; exact hs.1 (n, it) (by simp [hr])
    simp [syncOpStep, opStep, fireSrc, Source.fire, hn]


theorem pollNext_other (s : St α) (c t : Task) (ht : t ≠ c) :
    (((pollNext s c).1).cons t).curr = (s.cons t).curr := by
  have hc := pollNext_cases s c
  generalize pollNext s c = r at hc
  cases hc <;> simp [ht, wakeAll_cons]

theorem pollNext_self (s : St α) (c : Task) :
    match (pollNext s c).2 with
    | .pending => (((pollNext s c).1).cons c).curr = (s.cons c).curr
    | .ready _ => (((pollNext s c).1).cons c).waiting = false := by
  have hc := pollNext_cases s c
  generalize pollNext s c = r at hc
  cases hc <;> simp

/-- every request in flight still needs a bundle and is no deeper than `D`; the cache is no longer
than `D` -/
def OpInv (D : Nat) (s : St α) : Prop :=
  (∀ c, (s.cons c).active = true →
    (s.cons c).curr < max (s.cons c).want 1 ∧ max (s.cons c).want 1 ≤ D) ∧ s.items.length ≤ D

theorem opInv_init (script : List (Nat × α)) (e : Nat) (grp : Task → Task) : OpInv 0 (init script e grp) :=
  ⟨fun c hc => by simp [init] at hc, by simp [init]⟩

theorem opInv_mono {D D' : Nat} {s : St α} (h : OpInv D s) (hd : D ≤ D') : OpInv D' s :=
  ⟨fun c hc => ⟨(h.1 c hc).1, Nat.le_trans (h.1 c hc).2 hd⟩, Nat.le_trans h.2 hd⟩

theorem opInv_finishReq {D : Nat} {s : St α} (c : Task) (hw : (s.cons c).waiting = false)
    (h1 : ∀ t, t ≠ c → (s.cons t).active = true →
      (s.cons t).curr < max (s.cons t).want 1 ∧ max (s.cons t).want 1 ≤ D)
    (h2 : s.items.length ≤ D) : OpInv D (finishReq s c) := by
  unfold finishReq
  rw [if_neg (by simp [hw])]
  refine ⟨?_, h2⟩
  intro t hta
  by_cases ht : t = c
  · subst ht; simp at hta
  · simp only [modCons_cons, ht, if_false] at hta ⊢
    exact h1 t ht hta

@[simp] theorem finishReq_items (s : St α) (c : Task) : (finishReq s c).items = s.items := by
  unfold finishReq; split <;> rfl

theorem pollLoop_opInv {D : Nat} (fuel : Nat) (s : St α) (c : Task) (h : OpInv D s)
    (ha : (s.cons c).active = true) :
    OpInv D (pollLoop fuel s c).1 ∧
    ∀ it, (pollLoop fuel s c).2 = .done (some it) →
      (pollLoop fuel s c).1.items[max (s.cons c).want 1 - 1]? = some it := by
  induction fuel generalizing s with
  | zero => exact ⟨h, fun it hit => by simp [pollLoop] at hit⟩
  | succ fuel ih =>
    have hself := pollNext_self s c
    have hlazy := pollNext_lazy s c
    have hc := h.1 c ha
    -- the other consumers, and the cache bound, after the poll
    have hoth : ∀ t, t ≠ c → (((pollNext s c).1).cons t).active = true →
        (((pollNext s c).1).cons t).curr < max (((pollNext s c).1).cons t).want 1 ∧
        max (((pollNext s c).1).cons t).want 1 ≤ D := by
      intro t ht hta
      rw [(pollNext_active s c t).1] at hta
      rw [(pollNext_active s c t).2, pollNext_other s c t ht]
      exact h.1 t hta
    have hwant := (pollNext_active s c c).2
    have hitems : (pollNext s c).1.items.length ≤ D := by
      by_cases he : (s.cons c).curr = s.items.length
      · rcases (hlazy.2 he).2 with h1 | ⟨h1, _⟩
        · rw [h1]; exact h.2
        · omega
      · rw [(hlazy.1 he).1]; exact h.2
    unfold pollLoop
    split
    · -- `Pending`: the request parks where it stood
      rename_i s' hq
      rw [hq] at hself hoth hitems hwant
      simp only at hself hoth hitems hwant
      refine ⟨⟨?_, hitems⟩, fun it hit => by simp at hit⟩
      intro t hta
      by_cases ht : t = c
      · subst ht; rw [hself, hwant]; exact hc
      · exact hoth t ht hta
    · -- the stream has ended: the request finishes without an item
      rename_i s' hq
      rw [hq] at hself hoth hitems
      exact ⟨opInv_finishReq c hself hoth hitems, fun it hit => by simp at hit⟩
    · -- an item: the cursor moved by one; either it has reached `want`, and the item is the cached one at
      -- `want - 1`, or the loop goes on with the request still short of `want`
      rename_i s' it hq
      have hcur := pollNext_some hq
      rw [hq] at hself hoth hitems hwant
      simp only at hself hoth hitems hwant
      split
      · rename_i hle
        refine ⟨opInv_finishReq c hself hoth hitems, ?_⟩
        intro it' hit
        simp only [TaskRes.done.injEq, Option.some.injEq] at hit
        subst hit
        rw [hwant, hcur.1] at hle
        have : max (s.cons c).want 1 - 1 = (s.cons c).curr := by omega
        rw [finishReq_items, this]
        exact hcur.2
      · rename_i hlt
        have ha' : (s'.cons c).active = true := by
          have := (pollNext_active s c c).1; rw [hq] at this; simpa [ha] using this
        have := ih s' (by
          refine ⟨?_, hitems⟩
          intro t hta
          by_cases ht : t = c
          · subst ht; rw [hwant] at hlt ⊢; omega
          · exact hoth t ht hta) ha'
        rw [hwant] at this
        exact this

theorem opInv_clearWoken {D : Nat} {s : St α} (c : Task) (h : OpInv D s) : OpInv D (clearWoken s c) := by
  refine ⟨?_, h.2⟩
  intro t hta
  by_cases ht : t = c
  · subst ht; simp [clearWoken] at hta ⊢; exact h.1 t hta
  · simp [clearWoken, ht] at hta ⊢; exact h.1 t hta

theorem pollTask_answer {D : Nat} {s : St α} (c : Task) (h : OpInv D s) (it : α)
    (hr : (pollTask s c).2 = .done (some it)) :
    (pollTask s c).1.items[max (s.cons c).want 1 - 1]? = some it := by
  unfold pollTask at hr ⊢
  split
  · rename_i ha
    rw [if_pos ha] at hr
    have := (pollLoop_opInv ((s.cons c).want + 1) _ c (opInv_clearWoken c h)
      (by simpa [clearWoken] using ha)).2 it hr
    simpa [clearWoken] using this
  · rename_i ha
    rw [if_neg ha] at hr
    simp at hr

/-- depth of the request an operation issues (0 if it issues none) -/
def opDepth (s : St α) : Op → Nat
  | .start c d => if (s.cons c).active then 0 else max d 1
  | _ => 0

/-- deepest request issued along a run of task-level operations -/
def deepest : St α → List Op → Nat
  | _, [] => 0
  | s, op :: r => max (opDepth s op) (deepest (opStep s op) r)

theorem opInv_opStep {D : Nat} {s : St α} (op : Op) (h : OpInv D s) :
    OpInv (max D (opDepth s op)) (opStep s op) := by
  cases op with
  | fire =>
    have hc := step_cases s .fire
    show OpInv (max D 0) (step s .fire)
    generalize step s .fire = s' at hc ⊢
    rw [Nat.max_zero]
    cases hc with
    | ready | fired => exact h
    | firedWake src' w =>
      refine ⟨fun c hc => ?_, h.2⟩
      by_cases hct : s.grp c = w <;> simp [hct] at hc ⊢ <;> exact h.1 c hc
  | poll c =>
    simp only [opStep, opDepth, Nat.max_zero]
    unfold pollTask
    split
    · rename_i ha
      refine (pollLoop_opInv _ _ c (opInv_clearWoken c h) ?_).1
      simpa [clearWoken] using ha
    · exact h
  | start c d =>
    have hc := step_cases s (.start c d)
    show OpInv (max D (if (s.cons c).active then 0 else max d 1)) (step s (.start c d))
    generalize step s (.start c d) = s' at hc ⊢
    cases hc with
    | busy _ _ ha => simpa [ha] using h
    | start _ _ ha =>
      rw [ha]
      refine ⟨fun t hta => ?_, Nat.le_trans h.2 (Nat.le_max_left _ _)⟩
      by_cases ht : t = c
      · subst ht; simp [begin]; omega
      · simp only [modCons_cons, ht, if_false] at hta ⊢
        have := h.1 t hta
        omega

theorem opInv_opRun {D : Nat} {s : St α} (ops : List Op) (h : OpInv D s) :
    OpInv (max D (deepest s ops)) (opRun s ops) := by
  induction ops generalizing s D with
  | nil => simpa [deepest, opRun] using h
  | cons op r ih =>
    have := ih (opInv_opStep op h)
    rw [Nat.max_assoc] at this
    exact this

end FluentProofs.Cache

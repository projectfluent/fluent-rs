import FluentProofs.SerializerOutShape2
import FluentProofs.SerializerOutShape4
/-!
# Serializer lemmas: every pattern `get_pattern` returns is in the class `mlPattern` (C04)

For every source, every fuel and every start position, the pattern returned by `get_pattern` (resolved to bytes), with every
text that does not end in `\n` joined to the text that follows it unless a `\r` would meet a `\n` (`joinTop`, the top level
of `nPat okSafe`), satisfies `mlPattern`.  For a source without the byte 13 nothing is joined.
-/
namespace FluentProofs.Ser
open FluentModel FluentModel.Syntax FluentModel.Syntax.Ser FluentProofs.Parser

theorem mlElems_mono (B : List (PatElem Bytes)) (h : mlElems true B = true) : mlElems false B = true := by
  cases B with
  | nil => rfl
  | cons e es =>
    cases e with
    | placeable x => rw [mlElems_pl] at h ⊢; exact h
    | text v =>
      rw [mlElems_text] at h ⊢
      simp only [Bool.and_eq_true] at h ⊢
      exact ⟨⟨h.1.1, by simp⟩, h.2⟩

theorem leadSpaces_cons32 (v : Bytes) : leadSpaces (32 :: v) = leadSpaces v + 1 := by
  simp [leadSpaces]

theorem leadSpaces_zero_head {v : Bytes} (h : leadSpaces v = 0) : v.head? ≠ some 32 := by
  cases v with
  | nil => simp
  | cons b v' =>
    intro h0
    simp only [List.head?_cons, Option.some.injEq] at h0
    subst h0
    rw [leadSpaces_cons32] at h; omega

theorem leadSpaces_of_head {b : UInt8} {v : Bytes} (h : b ≠ 32) : leadSpaces (b :: v) = 0 := by
  simp [leadSpaces, h]

theorem dropWhile_of_head {b : UInt8} {v : Bytes} (h : b ≠ 32) : (b :: v).dropWhile (fun x => x == 32) = b :: v := by
  simp [h]

theorem noDot_of_lineStart (v : Bytes) (es : List (PatElem Bytes)) (hv : mlTextOK v = true) (hne : v ≠ [10])
    (h : (v == [10] || lineStartOK v es) = true) : hasLeadingTextDot (.text v :: es) = false := by
  have hls : lineStartOK v es = true := by
    simp only [Bool.or_eq_true, beq_iff_eq] at h
    rcases h with h | h
    · exact absurd h hne
    · exact h
  cases v with
  | nil => exact absurd rfl (mlTextOK_ne hv)
  | cons b v' =>
    simp only [hasLeadingTextDot]
    by_cases hb : b = 32
    · subst hb; rfl
    · simp only [lineStartOK, dropWhile_of_head hb, contentStartOK, Bool.and_eq_true, bne_iff_ne, ne_eq] at hls
      simp [hls.1.1.2, hls.1.2, hls.2]

theorem endsNl_contains {v : Bytes} (h : v.contains 10 = false) : endsNl v = false := by
  simp only [endsNl, beq_eq_false_iff_ne, ne_eq]
  intro h0
  have := List.mem_of_getLast? h0
  simp at h
  exact h this

/-- `nl0` = the pattern started on a new line in the source.  `mlPattern` speaks of the pattern as the writer will lay it
out (`startsOnNewLine B`), which need not be how it stood in the source: the proof splits by `nl0` and `startsOnNewLine B`. -/
theorem mlPattern_of_strong (B : List (PatElem Bytes)) (nl0 : Bool) (hne : B ≠ [])
    (hml : mlElems nl0 B = true) (hlast : mlLastOK B = true)
    (hexc : excesses nl0 B = [] ∨ 0 ∈ excesses nl0 B)
    (hfI : nl0 = false → ∀ v es, B = .text v :: es → ∃ x, v.head? = some x ∧ x ≠ 32 ∧ x ≠ 10)
    (hfL : nl0 = true → ∀ v es, B = .text v :: es → v ≠ [10]) : mlPattern B = true := by
  have hcontains : ∀ (X : Prop) (l : List Nat), (l = [] ∨ 0 ∈ l) →
      (X ∨ l.isEmpty = true) ∨ l.contains 0 = true := by
    intro X l h
    rcases h with h | h
    · subst h; exact Or.inl (Or.inr rfl)
    · exact Or.inr (by simp [h])
  unfold mlPattern
  simp only [Bool.and_eq_true, Bool.or_eq_true, Bool.not_eq_true', List.isEmpty_eq_false_iff]
  cases nl0 with
  | true =>
    cases hsn : startsOnNewLine B with
    | true =>
      refine ⟨⟨⟨⟨hne, hml⟩, hlast⟩, ?_⟩, hcontains _ _ hexc⟩
      cases B with
      | nil => rfl
      | cons e es =>
        cases e with
        | placeable x => rfl
        | text v => simp only [mlFirstOK, hsn, if_true]; simpa using hfL rfl v es rfl
    | false =>
      cases B with
      | nil => exact absurd rfl hne
      | cons e es =>
        cases e with
        | placeable x =>
          refine ⟨⟨⟨⟨hne, mlElems_mono _ hml⟩, hlast⟩, rfl⟩, ?_⟩
          have : isMultiline (.placeable x :: es) = false := by
            simpa [startsOnNewLine, hasLeadingTextDot] using hsn
          exact Or.inl (Or.inl this)
        | text v =>
          have hv10 := hfL rfl v es rfl
          rw [mlElems_text] at hml
          simp only [Bool.and_eq_true, Bool.not_true, Bool.false_or] at hml
          have hnd := noDot_of_lineStart v es hml.1.1.1 hv10 hml.1.2
          have hmulti : isMultiline (.text v :: es) = false := by
            simpa [startsOnNewLine, hnd] using hsn
          have hmulti' := hmulti
          simp only [isMultiline, Bool.or_eq_false_iff] at hmulti'
          have hen := endsNl_contains hmulti'.1
          have hex : excesses true (.text v :: es) = [leadSpaces v] := by
            rw [excesses_text, hen, excesses_single es hmulti'.2]
            simp [hv10]
          rw [hex] at hexc
          have hl0 : leadSpaces v = 0 := by
            rcases hexc with h | h
            · cases h
            · have : 0 = leadSpaces v := by simpa using h
              exact this.symm
          refine ⟨⟨⟨⟨hne, ?_⟩, hlast⟩, ?_⟩, Or.inl (Or.inl hmulti)⟩
          · rw [mlElems_text]; simp [hml.1.1.1, hml.1.1.2, hml.2]
          · simp only [mlFirstOK, hsn, Bool.false_eq_true, if_false, Bool.and_eq_true, bne_iff_ne, ne_eq]
            refine ⟨leadSpaces_zero_head hl0, ?_⟩
            cases v with
            | nil => simp
            | cons b v' =>
              have hb : b ≠ 32 := by
                intro h0; subst h0; rw [leadSpaces_cons32] at hl0; omega
              have hls : lineStartOK (b :: v') es = true := by
                have := hml.1.2
                simp only [Bool.or_eq_true, beq_iff_eq] at this
                rcases this with h | h
                · exact absurd h hv10
                · exact h
              simp only [lineStartOK, dropWhile_of_head hb, contentStartOK, Bool.and_eq_true, bne_iff_ne, ne_eq] at hls
              simp [hls.1.1.1.2]
  | false =>
    cases hsn : startsOnNewLine B with
    | false =>
      refine ⟨⟨⟨⟨hne, hml⟩, hlast⟩, ?_⟩, hcontains _ _ hexc⟩
      cases B with
      | nil => rfl
      | cons e es =>
        cases e with
        | placeable x => rfl
        | text v =>
          obtain ⟨x, hx, h32, h10⟩ := hfI rfl v es rfl
          simp [mlFirstOK, hsn, hx, h32, h10]
    | true =>
      cases B with
      | nil => exact absurd rfl hne
      | cons e es =>
        cases e with
        | placeable x =>
          refine ⟨⟨⟨⟨hne, by rw [mlElems_pl] at hml ⊢; exact hml⟩, hlast⟩, rfl⟩, Or.inr ?_⟩
          rw [excesses_pl]; simp
        | text v =>
          obtain ⟨x, hx, h32, h10⟩ := hfI rfl v es rfl
          cases v with
          | nil => simp at hx
          | cons b v' =>
            simp only [List.head?_cons, Option.some.injEq] at hx
            subst hx
            have hnd : hasLeadingTextDot (.text (b :: v') :: es) = false := by
              simp only [startsOnNewLine, Bool.and_eq_true, Bool.not_eq_true'] at hsn; exact hsn.1
            simp only [hasLeadingTextDot, Bool.or_eq_false_iff, beq_eq_false_iff_ne] at hnd
            have hv10 : (b :: v') ≠ [10] := by intro h0; cases h0; exact h10 rfl
            have hls : lineStartOK (b :: v') es = true := by
              simp [lineStartOK, dropWhile_of_head h32, contentStartOK, h32, h10, hnd.1.1, hnd.1.2, hnd.2]
            rw [mlElems_text] at hml
            simp only [Bool.and_eq_true] at hml
            refine ⟨⟨⟨⟨hne, ?_⟩, hlast⟩, ?_⟩, Or.inr ?_⟩
            · rw [mlElems_text]; simp [hml.1.1.1, hml.1.1.2, hml.2, hls]
            · simp only [mlFirstOK, hsn, if_true]; simpa using hv10
            · rw [excesses_text]
              have : ((b :: v') != [10]) = true := by simpa using hv10
              simp [this, leadSpaces_of_head h32]

theorem finish_shape {s : Src} {r0 : TextPos} (hr0 : r0 = .lineStart ∨ r0 = .initialLineStart)
    {st : PatState} {p' : Nat} (hI : PInv s r0 st p') {lnb : Nat}
    (hl : st.lastNonBlank = some lnb) {els : List (PatElem Span)}
    (hf : finishElements s st.keptCommonIndent lnb 0 st.elements = some els) :
    mlPattern (joinTop (mapPat (spanBytes s) els)) = true ∧
      (NoCR s → joinTop (mapPat (spanBytes s) els) = mapPat (spanBytes s) els) := by
  obtain ⟨⟨ph, hph, hsv⟩, hk⟩ := hI.lnb lnb hl
  have hlt := (List.getElem?_eq_some_iff.mp hph).1
  obtain ⟨hF, hsame⟩ := fin_shape (s := s) st.keptCommonIndent lnb _ st.elements (Nat.le_refl _) 0 (.first r0) els
    hI.chk (Nat.zero_le _) (by omega) (fun x hx => by rw [Nat.sub_zero, hph] at hx; cases hx; exact hsv) hf
  rw [Nat.sub_zero] at hF
  refine ⟨?_, hsame⟩
  have hexc : excesses (nlOf (.first r0)) (joinTop (mapPat (spanBytes s) els)) = [] ∨
      0 ∈ excesses (nlOf (.first r0)) (joinTop (mapPat (spanBytes s) els)) := by
    rw [hF.exc, hk]
    generalize lineInds s (.first r0) (st.elements.take (lnb + 1)) = L
    cases hm : minL L with
    | none => left; rw [(minL_spec L).1.mp hm]; rfl
    | some c =>
      right
      have := ((minL_spec L).2 c hm).1
      rw [List.mem_map]
      exact ⟨c, this, by simp [eff]⟩
  refine mlPattern_of_strong _ (nlOf (.first r0)) hF.ne hF.ml hF.last hexc ?_ ?_
  · intro h0 v es hv
    rcases hr0 with h | h
    · subst h; cases h0
    · subst h; exact hF.firstI rfl v es hv
  · intro h0 v es hv
    rcases hr0 with h | h
    · subst h; exact hF.firstL rfl v es hv
    · subst h; cases h0

theorem getPattern_shape (s : Src) (n p : Nat) (els : List (PatElem Span)) (q : Nat)
    (h : getPattern s n p = .ok (some els) q) :
    mlPattern (joinTop (mapPat (spanBytes s) els)) = true ∧
      (NoCR s → joinTop (mapPat (spanBytes s) els) = mapPat (spanBytes s) els) := by
  cases n with
  | zero => simp [getPattern] at h
  | succ n =>
    obtain ⟨st, lnb, hloop, hl, hf⟩ := getPattern_some h
    have hinit : PInv s (patStart s p).1 ⟨[], none, none, (patStart s p).1, none⟩ (patStart s p).2 ∧
        ((patStart s p).1 = .lineStart ∨ (patStart s p).1 = .initialLineStart) := by
      unfold patStart
      cases hE : skipEol s (skipBlankInline s p) with
      | none => exact ⟨pinv_init_inline _ (skipBlankInline_first s p).stops hE, Or.inr rfl⟩
      | some q0 => exact ⟨pinv_init_block q0, Or.inl rfl⟩
    obtain ⟨p', hI⟩ := patternLoop_pinv _ n _ _ st q hinit.1 hloop
    exact finish_shape hinit.2 hI hl hf

theorem getPattern_mlPattern_joinAll (s : Src) (n p : Nat) (els : List (PatElem Span)) (q : Nat)
    (h : getPattern s n p = .ok (some els) q) : mlPattern (joinTop (mapPat (spanBytes s) els)) = true :=
  (getPattern_shape s n p els q h).1

theorem getPattern_mlPattern_join {s : Src} (_hcr : NoLoneCR s) (n p : Nat) (els : List (PatElem Span)) (q : Nat)
    (h : getPattern s n p = .ok (some els) q) : mlPattern (joinTop (mapPat (spanBytes s) els)) = true :=
  getPattern_mlPattern_joinAll s n p els q h

theorem getPattern_mlPattern {s : Src} (hcr : NoCR s) (n p : Nat) (els : List (PatElem Span)) (q : Nat)
    (h : getPattern s n p = .ok (some els) q) : mlPattern (mapPat (spanBytes s) els) = true := by
  have := getPattern_shape s n p els q h
  rw [← this.2 hcr]; exact this.1

end FluentProofs.Ser

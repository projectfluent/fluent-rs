import FluentProofs.SerializerCongr
import FluentProofs.SerializerOutDeep
import FluentProofs.ParserLineHead
import FluentProofs.SerializerOutSlice
/-!
# Serializer lemmas: the parser produces line-split trees (C04)

Every text element of every pattern in the tree returned by `parse` is a `lineText` (non-empty,
`\n` only as its last byte, no `\r\n`).  For one call of `get_pattern` this is an invariant of its loop on the
placeholders collected so far (`StInvOf`: a text placeholder `[a, b)` has no `\n` and no `\r\n` before its last byte, `LTR`,
which `TextBytes` of `SerializerOutSlice` gives for a text slice with the blanks in front of it; the element `last_non_blank`
points to survives `trim`) and what `finishElements` makes of such placeholders.  `parse_deep` carries it to every depth.
-/
namespace FluentProofs.Ser
open FluentModel FluentModel.Syntax FluentModel.Syntax.Ser FluentProofs.Parser

/-- `lineText` of the span `[a, b)`, said of the source (`lineText_span`) -/
def LTR (s : Src) (a b : Nat) : Prop :=
  (∀ j, a ≤ j → j + 1 < b → s[j]? ≠ some 10) ∧ (∀ j, a ≤ j → j + 1 < b → ¬(s[j]? = some 13 ∧ s[j + 1]? = some 10))

theorem LTR.sub {s : Src} {a b a' b' : Nat} (h : LTR s a b) (ha : a ≤ a') (hb : b' ≤ b) : LTR s a' b' :=
  ⟨fun j h1 h2 => h.1 j (by omega) (by omega), fun j h1 h2 => h.2 j (by omega) (by omega)⟩

theorem lineText_of_list (l : Bytes) (hne : l ≠ [])
    (h1 : ∀ j, j + 1 < l.length → l[j]? ≠ some 10)
    (h2 : ∀ j, j + 1 < l.length → ¬(l[j]? = some 13 ∧ l[j + 1]? = some 10)) : lineText l = true := by
  induction l with
  | nil => exact absurd rfl hne
  | cons x xs ih =>
    cases xs with
    | nil => rfl
    | cons y ys =>
      rw [lineText]
      have hx := h1 0 (by simp)
      have hxy := h2 0 (by simp)
      simp only [List.getElem?_cons_zero, List.getElem?_cons_succ, Nat.zero_add] at hx hxy
      have ih' := ih (by simp) (fun j hj => by have := h1 (j + 1) (by simpa using hj); simpa using this)
        (fun j hj => by have := h2 (j + 1) (by simpa using hj); simpa using this)
      simp only [ih', Bool.and_true, Bool.and_eq_true, bne_iff_ne, ne_eq, Bool.not_eq_true', Bool.and_eq_false_iff,
        beq_eq_false_iff_ne]
      refine ⟨by simpa using hx, ?_⟩
      by_cases hx13 : x = 13
      · right; intro hy; exact hxy ⟨by simp [hx13], by simp [hy]⟩
      · left; exact hx13

theorem lineText_span {s : Src} {a b : Nat} (h : LTR s a b) (hab : a < b) (hb : b ≤ s.size) :
    lineText (spanBytes s ⟨a, b⟩) = true := by
  have hlen := spanBytes_length s a b hb
  apply lineText_of_list
  · intro h0; rw [h0] at hlen; simp at hlen; omega
  · intro j hj
    rw [hlen] at hj
    rw [spanBytes_get' hb (by omega)]
    exact h.1 (a + j) (by omega) (by omega)
  · intro j hj
    rw [hlen] at hj
    rw [spanBytes_get' hb (by omega), spanBytes_get' hb (by omega)]
    have := h.2 (a + j) (by omega) (by omega)
    rwa [Nat.add_assoc] at this

theorem TextBytes.ltr {s : Src} {a b : Nat} (h : TextBytes s a b) : LTR s a b :=
  ⟨h.2.2.1, fun j h1 h2 h3 => h.2.2.2 j h1 h2 h3.1 h3.2⟩

abbrev LSI (s : Src) (i : Inline Span) : Prop := lsInline (i.mapS (spanBytes s))
abbrev LSE (s : Src) (e : Expr Span) : Prop := lsExpr (e.mapS (spanBytes s))
abbrev LSP (s : Src) (p : List (PatElem Span)) : Prop := lsPat (mapPat (spanBytes s) p)
abbrev LSInl (s : Src) (xs : List (Inline Span)) : Prop := lsInl (mapInl (spanBytes s) xs)
abbrev LSNamed (s : Src) (xs : List (Span × Inline Span)) : Prop := lsNamed (mapNamed (spanBytes s) xs)
abbrev LSVariants (s : Src) (vs : List (Variant Span)) : Prop := lsVariants (mapVariants (spanBytes s) vs)

def PhLS (s : Src) : Placeholder → Prop
  | .placeable e => LSE s e
  | .text a b _ _ => LTR s a b

structure StInv (s : Src) (st : PatState) : Prop where
  els : ∀ ph ∈ st.elements, PhLS s ph
  lnb : ∀ i, st.lastNonBlank = some i → ∃ ph, st.elements[i]? = some ph ∧ Surv s ph

/-- `PhLS`, `StInv` with any predicate `PE` on the placeables in place of `LSE s`: `PE := True` gives the fact about one call
of `get_pattern` before anything is known of the patterns nested in its placeables; `PE := LSE s` fills
`Specs2.patternLoop` once `parse_deep` has delivered `LSE` of every result of `get_placeable` -/
def PhLSOf (PE : Expr Span → Prop) (s : Src) : Placeholder → Prop
  | .placeable e => PE e
  | .text a b _ _ => LTR s a b

structure StInvOf (PE : Expr Span → Prop) (s : Src) (st : PatState) : Prop where
  els : ∀ ph ∈ st.elements, PhLSOf PE s ph
  lnb : ∀ i, st.lastNonBlank = some i → ∃ ph, st.elements[i]? = some ph ∧ Surv s ph

def ElLSOf (PE : Expr Span → Prop) (s : Src) : PatElem Span → Prop
  | .text sp => lineText (spanBytes s sp) = true
  | .placeable e => PE e

variable {PE : Expr Span → Prop} {s : Src}

theorem stInv_iff (st : PatState) : StInv s st ↔ StInvOf (LSE s) s st := by
  have : ∀ ph, PhLS s ph ↔ PhLSOf (LSE s) s ph := fun ph => by cases ph <;> exact Iff.rfl
  exact ⟨fun h => ⟨fun ph hph => (this ph).mp (h.els ph hph), h.lnb⟩,
    fun h => ⟨fun ph hph => (this ph).mpr (h.els ph hph), h.lnb⟩⟩

theorem finishElements_ls (ci : Option Nat) (lnb : Nat) :
    ∀ (l : List Placeholder) (i : Nat) (r : List (PatElem Span)), (∀ ph ∈ l, PhLSOf PE s ph) →
      (∀ k ph, l[k]? = some ph → i + k = lnb → Surv s ph) →
      finishElements s ci lnb i l = some r → ∀ el ∈ r, ElLSOf PE s el := by
  intro l
  induction l with
  | nil => intro i r _ _ h; simp only [finishElements] at h; cases h; intro el hel; cases hel
  | cons ph rest ih =>
    intro i r hel hsurv h
    have hrest : ∀ ph ∈ rest, PhLSOf PE s ph := fun x hx => hel x (List.mem_cons_of_mem _ hx)
    have hsurv' : ∀ k ph, rest[k]? = some ph → i + 1 + k = lnb → Surv s ph := fun k ph hk hi =>
      hsurv (k + 1) ph (by simpa using hk) (by omega)
    have hph := hel ph List.mem_cons_self
    by_cases hi : i > lnb
    · simp only [finishElements, hi, if_true] at h; cases h; intro el hel; cases hel
    · cases ph with
      | placeable e =>
        obtain ⟨r', h1, rfl⟩ := fe_placeable (Nat.le_of_not_lt hi) h
        intro el hel'
        rcases List.mem_cons.mp hel' with rfl | hel'
        · exact hph
        · exact ih (i + 1) r' hrest hsurv' h1 el hel'
      | text a b ind role =>
        obtain ⟨hs1, hs2⟩ := feStart_le ci a ind role
        rcases fe_text (Nat.le_of_not_lt hi) h with ⟨_, h1⟩ | ⟨hle, hb, r', h1, rfl⟩
        · exact ih (i + 1) r hrest hsurv' h1
        · generalize feStart ci a ind role = start' at hs1 hs2 hle ⊢
          have hltr : LTR s start' b := (show LTR s a b from hph).sub hs1 (Nat.le_refl _)
          intro el hel'
          rcases List.mem_cons.mp hel' with rfl | hel'
          · show lineText (spanBytes s _) = true
            split
            · -- the last element: trimmed, and something survives the trim
              rename_i hi'
              have hi' : lnb = i := by simpa using hi'
              obtain ⟨hab, hsv⟩ := (show Surv s (.text a b ind role) from hsurv 0 _ (by simp) (by omega))
              obtain ⟨e1, e2, e3⟩ := trimEnd_mono s (a + ind) start' b hs2 hab hsv
              have : trimEnd s ⟨start', b⟩ = ⟨start', (trimEnd s ⟨a + ind, b⟩).stop⟩ := by
                rw [← e1]; rfl
              rw [this]
              exact lineText_span (hltr.sub (Nat.le_refl _) e3) (by omega) (by omega)
            · exact lineText_span hltr (by omega) hb
          · exact ih (i + 1) r' hrest hsurv' h1 el hel'

theorem st2Of_stInv (st : PatState) (p indent start stop : Nat) (nb : Bool) (term : Termination) (st2 : PatState)
    (hinv : StInvOf PE s st) (hst : start = p + indent) (hltr : LTR s p stop)
    (h : st2Of s st p indent start stop nb term = some st2) : StInvOf PE s st2 := by
  rcases st2Of_cases s st p indent start stop nb term with ⟨ci, e⟩ | ⟨ci, _, _, e⟩
  · rw [e] at h; cases h; exact ⟨hinv.els, hinv.lnb⟩
  · rw [e] at h
    obtain ⟨el, hel, h⟩ := Option.bind_eq_some_iff.mp h
    obtain ⟨sv, hsv, rfl⟩ := Option.map_eq_some_iff.mp h
    have hpe : PhLSOf PE s el := by
      rcases elOf_some hel with rfl | ⟨_, _, rfl⟩
      · exact hltr
      · exact ⟨fun j h1 h2 => by omega, fun j h1 h2 => by omega⟩
    refine ⟨fun ph hph => ?_, fun i hi => ?_⟩
    · rcases List.mem_append.mp hph with hph | hph
      · exact hinv.els ph hph
      · rw [List.mem_singleton.mp hph]; exact hpe
    · simp only [patPush] at hi ⊢
      cases sv with
      | false =>
        obtain ⟨ph, h1, h2⟩ := hinv.lnb i (by simpa using hi)
        exact ⟨ph, getElem?_append_one_left h1, h2⟩
      | true =>
        -- the text survives the trim: it is not blank, so the element is the whole slice
        obtain rfl : st.elements.length = i := by simpa using hi
        refine ⟨el, List.getElem?_concat_length, ?_⟩
        rcases elOf_some hel with rfl | ⟨hc, _, _⟩
        · exact surv_of_survives hst hsv
        · simp only [Bool.and_eq_true, Bool.not_eq_true'] at hc
          rw [hc.1.2] at hsv
          cases hsv

theorem patPre_blanks {st : PatState} {p indent p1 : Nat} (hp : p < s.size) (h : patPre s st p = some (indent, p1)) :
    p + indent = p1 ∧ p1 ≤ s.size ∧ ∀ j, p ≤ j → j < p1 → s[j]? = some 32 := by
  rcases patPre_eq_some h with ⟨_, rfl, rfl⟩ | ⟨_, rfl, b, H, _⟩
  · exact ⟨rfl, by omega, fun j h1 h2 => by omega⟩
  · exact ⟨rfl, Nat.le_of_lt (get_lt H.byte), H.spaces⟩

theorem patternLoop_stInv (hpl : ∀ n p e q, getPlaceable s n p = .ok e q → PE e) (n : Nat) (st : PatState) (p : Nat)
    (hinv : StInvOf PE s st) : Post (getPatternLoop s n st p) (StInvOf PE s) := by
  intro st' q h
  refine patLoop_inv (fun st _ => StInvOf PE s st) (fun st _ => StInvOf PE s st) (fun _ _ h _ => h)
    (fun _ _ h _ _ _ => h) ?_ ?_ n st p st' q hinv h
  · intro n st p e q1 hinv _ _ he
    refine ⟨?_, ?_⟩
    · intro ph hph
      simp only [patPlaced, List.mem_append, List.mem_singleton] at hph
      rcases hph with hph | rfl
      · exact hinv.els ph hph
      · exact hpl n _ e q1 he
    · intro i hi
      simp only [patPlaced, Option.some.injEq] at hi
      subst hi
      exact ⟨.placeable e, List.getElem?_concat_length, trivial⟩
  · intro st p indent p1 start stop nb term q1 st2 hinv hp _ hpre hts hst2
    obtain ⟨f1, f2, f3⟩ := patPre_blanks hp hpre
    obtain ⟨hst, hS⟩ := getTextSlice_slice f2 hts
    have hinv2 := st2Of_stInv st p indent start stop nb term st2 hinv (by omega) (hS.textBytes f3).ltr hst2
    exact ⟨hinv2.els, hinv2.lnb⟩

theorem getPattern_els (hpl : ∀ n p e q, getPlaceable s n p = .ok e q → PE e) (n p : Nat) (els : List (PatElem Span))
    (q : Nat) (h : getPattern s n p = .ok (some els) q) : ∀ el ∈ els, ElLSOf PE s el := by
  cases n with
  | zero => simp [getPattern] at h
  | succ n =>
    obtain ⟨st, lnb, hloop, hlnb, hfin⟩ := getPattern_some h
    have hinv := patternLoop_stInv hpl n _ _ ⟨by simp, by simp⟩ st q hloop
    obtain ⟨ph, h1, h2⟩ := hinv.lnb lnb hlnb
    exact finishElements_ls _ lnb _ 0 _ hinv.els (fun k ph' hk hi => by
      have : k = lnb := by omega
      subst this; rw [h1] at hk; cases hk; exact h2) hfin

def lsTop (s : Src) (els : List (PatElem Span)) : Prop := ∀ sp, PatElem.text sp ∈ els → lineText (spanBytes s sp) = true

theorem getPattern_lsTop (s : Src) (n p : Nat) (els : List (PatElem Span)) (q : Nat)
    (h : getPattern s n p = .ok (some els) q) : lsTop s els :=
  fun _ hsp => getPattern_els (PE := fun _ => True) (fun _ _ _ _ _ => trivial) n p els q h _ hsp

abbrev nvAny : Inline Span → Prop := fun _ => True

mutual
theorem dInline_ls : ∀ (i : Inline Span), dInline (lsTop s) nvAny i ↔ LSI s i
  | .str _ => Iff.rfl
  | .num _ => Iff.rfl
  | .var _ => Iff.rfl
  | .msg _ _ => Iff.rfl
  | .term _ _ none => Iff.rfl
  | .term _ _ (some (pos, named)) => and_congr (dInl_ls pos) (dNamed_ls named)
  | .fn _ pos named => and_congr (dInl_ls pos) (dNamed_ls named)
  | .placeable e => dExpr_ls e
theorem dInl_ls : ∀ (xs : List (Inline Span)), dInl (lsTop s) nvAny xs ↔ LSInl s xs
  | [] => Iff.rfl
  | x :: xs => and_congr (dInline_ls x) (dInl_ls xs)
theorem dNamed_ls : ∀ (xs : List (Span × Inline Span)), dNamed (lsTop s) nvAny xs ↔ LSNamed s xs
  | [] => Iff.rfl
  | (_, x) :: xs => and_congr ((and_iff_right trivial).trans (dInline_ls x)) (dNamed_ls xs)
theorem dExpr_ls : ∀ (e : Expr Span), dExpr (lsTop s) nvAny e ↔ LSE s e
  | .inline i => dInline_ls i
  | .select sel vs => and_congr (dInline_ls sel) (dVariants_ls vs)
theorem dVariants_ls : ∀ (vs : List (Variant Span)), dVariants (lsTop s) nvAny vs ↔ LSVariants s vs
  | [] => Iff.rfl
  | .mk _ val _ :: vs => and_congr (dPat_ls val) (dVariants_ls vs)
theorem dPat_ls : ∀ (es : List (PatElem Span)), lsTop s es ∧ dElems (lsTop s) nvAny es ↔ LSP s es
  | [] => ⟨fun _ => trivial, fun _ => ⟨fun _ h => (nomatch h), trivial⟩⟩
  | .text v :: es =>
    ⟨fun h => ⟨h.1 v List.mem_cons_self, (dPat_ls es).mp ⟨fun sp hm => h.1 sp (List.mem_cons_of_mem _ hm), h.2.2⟩⟩,
     fun h => ⟨fun sp hm => (List.mem_cons.mp hm).elim (fun heq => by cases heq; exact h.1) (((dPat_ls es).mpr h.2).1 sp),
       trivial, ((dPat_ls es).mpr h.2).2⟩⟩
  | .placeable e :: es =>
    ⟨fun h => ⟨(dExpr_ls e).mp h.2.1, (dPat_ls es).mp ⟨fun sp hm => h.1 sp (List.mem_cons_of_mem _ hm), h.2.2⟩⟩,
     fun h => ⟨fun sp hm => (List.mem_cons.mp hm).elim (fun heq => by cases heq) (((dPat_ls es).mpr h.2).1 sp),
       (dExpr_ls e).mpr h.1, ((dPat_ls es).mpr h.2).2⟩⟩
end

theorem lift_lsTop (s : Src) : Lift s (lsTop s) nvAny := ⟨getPattern_lsTop s, fun _ _ _ _ _ => trivial⟩

theorem getPlaceable_ls (n p : Nat) (e : Expr Span) (q : Nat) (h : getPlaceable s n p = .ok e q) : LSE s e :=
  (dExpr_ls e).mp ((specsD_all (lift_lsTop s) n).placeable p e q h)

structure Specs2 (s : Src) (n : Nat) : Prop where
  patternLoop : ∀ st p, StInv s st → Post (getPatternLoop s n st p) (StInv s)
  pattern : ∀ p, Post (getPattern s n p) (fun o => ∀ els, o = some els → LSP s els)
  placeable : ∀ p, Post (getPlaceable s n p) (LSE s)
  expression : ∀ p, Post (getExpression s n p) (LSE s)
  inline : ∀ ol p, Post (getInline s n ol p) (LSI s)
  callArguments : ∀ p, Post (getCallArguments s n p)
    (fun o => ∀ pos named, o = some (pos, named) → LSInl s pos ∧ LSNamed s named)
  callArgsLoop : ∀ pos named p, LSInl s pos → LSNamed s named →
    Post (getCallArgsLoop s n pos named p) (fun r => LSInl s r.1 ∧ LSNamed s r.2)
  variants : ∀ hd acc p, LSVariants s acc → Post (getVariants s n hd acc p) (LSVariants s)

theorem specs2_all (s : Src) (n : Nat) : Specs2 s n :=
  have D := specsD_all (lift_lsTop s) n
  { patternLoop := fun st p h a q hr =>
      (stInv_iff a).mpr (patternLoop_stInv getPlaceable_ls n st p ((stInv_iff st).mp h) a q hr)
    pattern := fun p o q h els he => (dPat_ls els).mp (D.pattern p o q h els he)
    placeable := fun p e q h => (dExpr_ls e).mp (D.placeable p e q h)
    expression := fun p e q h => (dExpr_ls e).mp (D.expression p e q h)
    inline := fun ol p i q h => (dInline_ls i).mp (D.inline ol p i q h)
    callArguments := fun p o q h pos named he =>
      have := D.callArguments p o q h pos named he
      ⟨(dInl_ls pos).mp this.1, (dNamed_ls named).mp this.2⟩
    callArgsLoop := fun pos named p h1 h2 r q h =>
      have := D.callArgsLoop pos named p ((dInl_ls pos).mpr h1) ((dNamed_ls named).mpr h2) r q h
      ⟨(dInl_ls r.1).mp this.1, (dNamed_ls r.2).mp this.2⟩
    variants := fun hd acc p h1 vs q h => (dVariants_ls vs).mp (D.variants hd acc p ((dVariants_ls acc).mpr h1) vs q h) }

theorem dEntry_ls {e : Entry Span} (h : dEntry (lsTop s) nvAny e) : lsEntry (e.mapS (spanBytes s)) := by
  cases e with
  | message m =>
    refine ⟨fun v hv => ?_, fun a ha => ?_⟩
    · obtain ⟨v', hv', rfl⟩ := Option.map_eq_some_iff.mp hv
      exact (dPat_ls v').mp (h.1 v' hv')
    · obtain ⟨a', ha', rfl⟩ := List.mem_map.mp ha
      exact (dPat_ls a'.value).mp (h.2 a' ha')
  | term t =>
    refine ⟨(dPat_ls t.value).mp h.1, fun a ha => ?_⟩
    obtain ⟨a', ha', rfl⟩ := List.mem_map.mp ha
    exact (dPat_ls a'.value).mp (h.2 a' ha')
  | _ => trivial

/-- **The parser produces line-split trees.**  For every byte source: every text element of every
pattern (message/term values, attribute values, variant values, at any nesting depth) of the tree
returned by `parse` is non-empty, contains `\n` only as its last byte, and contains no `\r\n`. -/
theorem parse_lineSplit (s : Src) (t : Resource Span) (errs : List PErr) (h : parse s = .done (t, errs)) :
    LineSplit (resolve s t) := by
  intro e he
  obtain ⟨e', he', rfl⟩ := List.mem_map.mp he
  exact dEntry_ls (parse_deep s (lsTop s) nvAny (getPattern_lsTop s) (fun _ _ _ _ _ => trivial) t errs h e' he')

end FluentProofs.Ser

import FluentModel.Unescape
import FluentProofs.UnescapeSpec
/-! Lemmas for C13: the byte-cursor model `FluentModel.Unescape` against the character-level `decode`.

`enc cs` is the UTF-8 of a character list, `src cs` the same as a source array; most statements are about a cursor
at `(enc a).length` in `src (a ++ b)`.  In order: the shape of one encoded character (`enc_shape`, `enc_boundary`);
reads, boundaries and slices at such a cursor (`get_split`, `boundary_split`, `strIndex_split`); the skip to the next
boundary against `dropBytes` (`skip_spec`); hex digits as bytes and as characters (`fromStrRadix16_hex`,
`encodeUnicode_window`); one escape (`escape_spec`); the main loop (`main_loop`, with the plain run since the last
escape not yet copied).  The results are `unescape_spec`, `unescapeUnicodeToString_spec` and `unescapeUnicode_spec`;
`string_bytes` and `validUTF8_bytes` bring a `String` or any valid UTF-8 into the form `src cs`. -/
namespace FluentProofs.Unescape
open FluentModel FluentModel.Unescape FluentProofs.UnescapeSpec

/-- UTF-8 encoding of a list of characters (Lean core's `String.utf8EncodeChar` per character) -/
def enc (cs : List Char) : Bytes := cs.flatMap String.utf8EncodeChar

/-- the `&str` whose characters are `cs` -/
def src (cs : List Char) : Src := (enc cs).toArray

@[simp] theorem enc_nil : enc [] = [] := rfl
theorem enc_cons (c : Char) (cs : List Char) : enc (c :: cs) = String.utf8EncodeChar c ++ enc cs := by
  simp [enc]
theorem enc_append (a b : List Char) : enc (a ++ b) = enc a ++ enc b := by
  simp [enc]
theorem enc_singleton (c : Char) : enc [c] = String.utf8EncodeChar c := by simp [enc]

@[simp] theorem src_size (cs : List Char) : (src cs).size = (enc cs).length := by simp [src]
theorem src_get (cs : List Char) (i : Nat) : (src cs)[i]? = (enc cs)[i]? := by simp [src]

theorem byteIsCharBoundary_iff (b : UInt8) :
    byteIsCharBoundary b = true ↔ b.toNat < 128 ∨ 192 ≤ b.toNat := by
  simp [byteIsCharBoundary, UInt8.lt_iff_toNat_lt, UInt8.le_iff_toNat_le]

theorem toNat_ofNat_mod_add (x m k : Nat) (hm : 0 < m) (h : m + k ≤ 256) :
    (UInt8.ofNat (x % m + k)).toNat = x % m + k := by
  have := Nat.mod_lt x hm
  rw [UInt8.toNat_ofNat', Nat.mod_eq_of_lt (by omega)]

theorem enc_shape (c : Char) :
    ∃ b tl, String.utf8EncodeChar c = b :: tl ∧
      (∀ x ∈ tl, 128 ≤ x.toNat ∧ x.toNat < 192) ∧
      (c.toNat < 128 → tl = [] ∧ b = UInt8.ofNat c.toNat) ∧
      (128 ≤ c.toNat → 192 ≤ b.toNat) := by
  have cont : ∀ x, 128 ≤ (UInt8.ofNat (x % 64 + 128)).toNat ∧ (UInt8.ofNat (x % 64 + 128)).toNat < 192 := by
    intro x
    have := Nat.mod_lt x (show 0 < 64 by decide)
    rw [toNat_ofNat_mod_add x 64 128 (by decide) (by decide)]; omega
  have lead : ∀ x m k, 0 < m → m + k ≤ 256 → 192 ≤ k → 192 ≤ (UInt8.ofNat (x % m + k)).toNat := by
    intro x m k hm h hk
    rw [toNat_ofNat_mod_add x m k hm h]; omega
  unfold String.utf8EncodeChar
  simp only [Char.toNat]
  generalize c.val.toNat = v
  by_cases h1 : v ≤ 127
  · rw [if_pos h1]
    exact ⟨_, _, rfl, nofun, fun _ => ⟨rfl, rfl⟩, fun h => by omega⟩
  have hv : ¬ v < 128 := by omega
  rw [if_neg h1]
  by_cases h2 : v ≤ 2047
  · rw [if_pos h2]
    exact ⟨_, _, rfl, List.forall_mem_cons.2 ⟨cont _, nofun⟩, fun h => absurd h hv,
      fun _ => lead _ 32 192 (by decide) (by decide) (by decide)⟩
  rw [if_neg h2]
  by_cases h3 : v ≤ 65535
  · rw [if_pos h3]
    exact ⟨_, _, rfl, List.forall_mem_cons.2 ⟨cont _, List.forall_mem_cons.2 ⟨cont _, nofun⟩⟩,
      fun h => absurd h hv, fun _ => lead _ 16 224 (by decide) (by decide) (by decide)⟩
  · rw [if_neg h3]
    exact ⟨_, _, rfl,
      List.forall_mem_cons.2 ⟨cont _, List.forall_mem_cons.2 ⟨cont _, List.forall_mem_cons.2 ⟨cont _, nofun⟩⟩⟩,
      fun h => absurd h hv, fun _ => lead _ 8 240 (by decide) (by decide) (by decide)⟩

theorem enc_boundary (c : Char) :
    ∃ b tl, String.utf8EncodeChar c = b :: tl ∧ byteIsCharBoundary b = true ∧
      ∀ x ∈ tl, byteIsCharBoundary x = false := by
  obtain ⟨b, tl, h, htl, hascii, hhi⟩ := enc_shape c
  refine ⟨b, tl, h, (byteIsCharBoundary_iff b).2 ?_, fun x hx => ?_⟩
  · rcases Nat.lt_or_ge c.toNat 128 with hc | hc
    · left; rw [(hascii hc).2, UInt8.toNat_ofNat']; omega
    · exact Or.inr (hhi hc)
  · have := htl x hx
    rw [← Bool.not_eq_true, byteIsCharBoundary_iff]; omega

theorem enc_length_cons (c : Char) (cs : List Char) : (enc (c :: cs)).length = c.utf8Size + (enc cs).length := by
  simp [enc_cons]

theorem enc_length_snoc (a : List Char) (c : Char) : (enc (a ++ [c])).length = (enc a).length + c.utf8Size := by
  rw [enc_append, enc_singleton, List.length_append, String.length_utf8EncodeChar]

theorem get_split (a b : List Char) (j : Nat) : (src (a ++ b))[(enc a).length + j]? = (enc b)[j]? := by
  rw [src_get, enc_append, List.getElem?_append_right (by omega)]
  congr 1; omega

theorem get_split0 (a b : List Char) : (src (a ++ b))[(enc a).length]? = (enc b)[0]? := by
  have := get_split a b 0
  simpa using this

theorem boundary_split (a b : List Char) : isCharBoundary (src (a ++ b)) (enc a).length = true := by
  unfold isCharBoundary
  rw [get_split0]
  cases b with
  | nil => simp
  | cons c b =>
    obtain ⟨b0, tl, h, hb, -⟩ := enc_boundary c
    simp [enc_cons, h, hb]

theorem not_boundary_inside (a : List Char) (c : Char) (b : List Char) (j : Nat) (h0 : 0 < j)
    (hj : j < c.utf8Size) : isCharBoundary (src (a ++ c :: b)) ((enc a).length + j) = false := by
  unfold isCharBoundary
  rw [get_split]
  obtain ⟨b0, tl, h, -, htl⟩ := enc_boundary c
  have hl : (String.utf8EncodeChar c).length = c.utf8Size := String.length_utf8EncodeChar c
  rw [h] at hl
  simp only [List.length_cons] at hl
  obtain ⟨j', rfl⟩ : ∃ j', j = j' + 1 := ⟨j - 1, by omega⟩
  have hj' : j' < tl.length := by omega
  have : (enc (c :: b))[j' + 1]? = some tl[j'] := by
    rw [enc_cons, h]
    simp [List.getElem?_append_left, hj']
  rw [this]
  have hx := htl tl[j'] (List.getElem_mem hj')
  simp [hx]

theorem extract_split (a b c : List Char) :
    ((src (a ++ (b ++ c))).extract (enc a).length (enc (a ++ b)).length).toList = enc b := by
  simp [src, List.extract_eq_take_drop, enc_append]

theorem strGet_split (a b c : List Char) :
    strGet (src (a ++ (b ++ c))) (enc a).length (enc (a ++ b)).length = some (enc b) := by
  unfold strGet
  have h1 : isCharBoundary (src (a ++ (b ++ c))) (enc a).length = true := boundary_split a (b ++ c)
  have h2 : isCharBoundary (src (a ++ (b ++ c))) (enc (a ++ b)).length = true := by
    rw [← List.append_assoc]; exact boundary_split (a ++ b) c
  have h3 : (enc a).length ≤ (enc (a ++ b)).length := by simp [enc_append]
  rw [h1, h2, extract_split]
  simp [h3]

theorem strIndex_split (a b c : List Char) :
    strIndex (src (a ++ (b ++ c))) (enc a).length (enc (a ++ b)).length = .done (enc b) := by
  unfold strIndex
  rw [strGet_split]

theorem exists_add_one {a n : Nat} (h : a + 1 ≤ n) : ∃ f, n = f + 1 := ⟨n - 1, by omega⟩

theorem loop_scan (S : Src) (m : Nat) : ∀ (q f st : Nat) (out : Bytes),
    (∀ j, j < m → ∃ b, S[q + j]? = some b ∧ b ≠ 0x5C) →
    loop S (f + m) st q out = loop S f st (q + m) out := by
  induction m with
  | zero => intros; rfl
  | succ m ih =>
    intro q f st out h
    obtain ⟨b, hb, hne⟩ := h 0 (by omega)
    have : f + (m + 1) = (f + m) + 1 := by omega
    rw [this, loop]
    simp only [Nat.add_zero] at hb
    simp only [hb, bne_iff_ne, ne_eq, hne, not_false_eq_true, ↓reduceIte]
    rw [ih (q + 1) f st out]
    · congr 1; omega
    · intro j hj
      have := h (j + 1) (by omega)
      have e : q + 1 + j = q + (j + 1) := by omega
      rw [e]; exact this

theorem enc_char_no_backslash (c : Char) (hc : c ≠ '\\') : ∀ x ∈ String.utf8EncodeChar c, x ≠ 0x5C := by
  obtain ⟨b0, tl, h, htl, hascii, hhi⟩ := enc_shape c
  intro x hx e
  subst e
  rw [h] at hx
  rcases List.mem_cons.1 hx with rfl | hx
  · rcases Nat.lt_or_ge c.toNat 128 with hlt | hge
    · have h2 := congrArg UInt8.toNat (hascii hlt).2
      rw [UInt8.toNat_ofNat', Nat.mod_eq_of_lt (by omega)] at h2
      exact hc (char_eq_of_toNat h2.symm)
    · exact absurd (hhi hge) (by decide)
  · exact absurd (htl _ hx).1 (by decide)

theorem dropBytes_suffix (cs : List Char) : ∀ k, ∃ t, cs = t ++ dropBytes k cs := by
  induction cs with
  | nil => intro k; exact ⟨[], by cases k <;> simp [dropBytes]⟩
  | cons c cs ih =>
    intro k
    cases k with
    | zero => exact ⟨[], by simp [dropBytes]⟩
    | succ k =>
      obtain ⟨t, ht⟩ := ih (k + 1 - c.utf8Size)
      refine ⟨c :: t, ?_⟩
      simp only [dropBytes, List.cons_append]
      rw [← ht]

theorem skip_at_boundary (S : Src) (fuel p : Nat) (h : isCharBoundary S p = true) :
    skipToBoundary S (fuel + 1) p = .done p := by
  simp [skipToBoundary, h]

theorem skip_past_end (S : Src) (fuel p : Nat) (h : S.size ≤ p) :
    skipToBoundary S (fuel + 1) p = .done p := by
  have : ¬ p < S.size := by omega
  simp [skipToBoundary, this]

theorem skip_inside (a : List Char) (c : Char) (b : List Char) (d : Nat) : ∀ (j fuel : Nat),
    0 < j → j + d = c.utf8Size → d + 1 ≤ fuel →
    skipToBoundary (src (a ++ c :: b)) fuel ((enc a).length + j) = .done ((enc a).length + c.utf8Size) := by
  induction d with
  | zero =>
    intro j fuel _ hj hf
    obtain ⟨f, rfl⟩ := exists_add_one hf
    obtain rfl : j = c.utf8Size := hj
    have hb := boundary_split (a ++ [c]) b
    rw [List.append_assoc, List.singleton_append, enc_length_snoc] at hb
    exact skip_at_boundary _ _ _ hb
  | succ d ih =>
    intro j fuel hj0 hj hf
    obtain ⟨f, rfl⟩ := exists_add_one hf
    have hnb := not_boundary_inside a c b j hj0 (by omega)
    have hlt : (enc a).length + j < (src (a ++ c :: b)).size := by
      rw [src_size, enc_append, List.length_append, enc_length_cons]; omega
    rw [skipToBoundary, if_pos (by rw [hnb, decide_eq_true hlt]; rfl), Nat.add_assoc]
    exact ih (j + 1) f (by omega) (by omega) (by omega)

theorem skip_spec (cs : List Char) : ∀ (a : List Char) (k fuel : Nat),
    (enc (a ++ cs)).length + 1 ≤ fuel →
    ∃ p, skipToBoundary (src (a ++ cs)) fuel ((enc a).length + k) = .done p ∧
      (p + (enc (dropBytes k cs)).length = (enc (a ++ cs)).length ∨
        (dropBytes k cs = [] ∧ (enc (a ++ cs)).length ≤ p)) := by
  induction cs with
  | nil =>
    intro a k fuel hf
    obtain ⟨f, rfl⟩ := exists_add_one hf
    exact ⟨_, skip_past_end _ _ _ (by simp), Or.inr ⟨by cases k <;> rfl, by simp⟩⟩
  | cons c cs ih =>
    intro a k fuel hf
    have hlen : (enc (a ++ c :: cs)).length = (enc a).length + (c.utf8Size + (enc cs).length) := by
      rw [enc_append, List.length_append, enc_length_cons]
    cases k with
    | zero =>
      obtain ⟨f, rfl⟩ := exists_add_one hf
      exact ⟨_, skip_at_boundary _ _ _ (boundary_split a (c :: cs)), Or.inl (by rw [dropBytes_zero, hlen, enc_length_cons, Nat.add_zero])⟩
    | succ k =>
      by_cases hk : c.utf8Size ≤ k + 1
      · -- past `c`: continue in `cs`
        have e1 : a ++ c :: cs = (a ++ [c]) ++ cs := by rw [List.append_assoc, List.singleton_append]
        have := ih (a ++ [c]) (k + 1 - c.utf8Size) fuel (by rw [← e1]; exact hf)
        rwa [← e1, enc_length_snoc,
          show (enc a).length + c.utf8Size + (k + 1 - c.utf8Size) = (enc a).length + (k + 1) by omega] at this
      · -- inside `c`: the loop stops at the end of `c`
        have hd : dropBytes (k + 1) (c :: cs) = cs := dropBytes_within c cs _ (Nat.succ_pos k) (by omega)
        exact ⟨_, skip_inside a c cs (c.utf8Size - (k + 1)) (k + 1) fuel (Nat.succ_pos k) (by omega) (by omega),
          Or.inl (by rw [hd, hlen]; omega)⟩

def toByte (c : Char) : UInt8 := UInt8.ofNat c.toNat

theorem enc_ascii (c : Char) (h : c.toNat < 128) : String.utf8EncodeChar c = [toByte c] := by
  obtain ⟨b0, tl, he, -, hascii, -⟩ := enc_shape c
  obtain ⟨h1, h2⟩ := hascii h
  rw [he, h1, h2]; rfl

theorem utf8Size_ascii (c : Char) (h : c.toNat < 128) : c.utf8Size = 1 :=
  utf8Size_of_lt_128 c h

theorem toByte_toNat (c : Char) (h : c.toNat < 128) : (toByte c).toNat = c.toNat := by
  simp [toByte]; omega

theorem isAsciiHexDigit_iff (b : UInt8) : isAsciiHexDigit b = true ↔
    (48 ≤ b.toNat ∧ b.toNat ≤ 57) ∨ (65 ≤ b.toNat ∧ b.toNat ≤ 70) ∨ (97 ≤ b.toNat ∧ b.toNat ≤ 102) := by
  simp [isAsciiHexDigit, UInt8.le_iff_toNat_le, or_assoc]

theorem isAsciiHexDigit_toByte (c : Char) (h : isHex c = true) : isAsciiHexDigit (toByte c) = true := by
  have h' := (isHex_iff c).1 h
  rw [isAsciiHexDigit_iff, toByte_toNat c (by omega)]
  omega

theorem hexDigitValue_toByte (c : Char) (h : isHex c = true) : hexDigitValue (toByte c) = some (digitVal c) := by
  have h' := (isHex_iff c).1 h
  have hb := toByte_toNat c (by omega)
  simp only [hexDigitValue, digitVal, UInt8.le_iff_toNat_le, char_le_iff, hb, UInt8.reduceToNat, Char.reduceToNat,
    Bool.and_eq_true, decide_eq_true_eq]
  rcases h' with h' | h' | h'
  · rw [if_pos h', if_pos h']
  · rw [if_neg (by omega), if_neg (by omega), if_pos h', if_neg (by omega), if_pos h']
  · rw [if_neg (by omega), if_pos h', if_neg (by omega), if_neg (by omega)]

theorem digitVal_lt (c : Char) (h : isHex c = true) : digitVal c < 16 := by
  simp only [digitVal, char_le_iff, Char.reduceToNat, Bool.and_eq_true, decide_eq_true_eq]
  rcases (isHex_iff c).1 h with h' | h' | h'
  · rw [if_pos h']; omega
  · rw [if_neg (by omega), if_pos h']; omega
  · rw [if_neg (by omega), if_neg (by omega)]; omega

theorem enc_hex (w : List Char) (h : w.all isHex = true) : enc w = w.map toByte := by
  induction w with
  | nil => rfl
  | cons c w ih =>
    simp only [List.all_cons, Bool.and_eq_true] at h
    have h' := (isHex_iff c).1 h.1
    rw [enc_cons, enc_ascii c (by omega), ih h.2]; rfl

theorem isHex_of_head {c : Char} {b0 : UInt8} {tl : Bytes} (he : String.utf8EncodeChar c = b0 :: tl)
    (h : isAsciiHexDigit b0 = true) : tl = [] ∧ isHex c = true := by
  obtain ⟨b, tl', he', -, hascii, hhi⟩ := enc_shape c
  obtain ⟨rfl, rfl⟩ := List.cons.inj (he.symm.trans he')
  have hb0 := (isAsciiHexDigit_iff b0).1 h
  have hc : c.toNat < 128 := by
    rcases Nat.lt_or_ge c.toNat 128 with h | h
    · exact h
    · have := hhi h; omega
  obtain ⟨htl, hb⟩ := hascii hc
  rw [show b0.toNat = c.toNat by rw [hb]; exact toByte_toNat c hc] at hb0
  refine ⟨htl, (isHex_iff c).2 ?_⟩
  rcases hb0 with h | h | h
  · exact Or.inl h
  · exact Or.inr (Or.inr h)
  · exact Or.inr (Or.inl h)

theorem hex_bytes_chars : ∀ (n : Nat) (r : List Char), n ≤ (enc r).length →
    ((enc r).take n).all isAsciiHexDigit = true →
    (r.take n).length = n ∧ (r.take n).all isHex = true := by
  intro n
  induction n with
  | zero => intro r _ _; exact ⟨rfl, rfl⟩
  | succ n ih =>
    intro r hn hall
    cases r with
    | nil => cases hn
    | cons c r =>
      obtain ⟨b0, tl, he, -⟩ := enc_shape c
      rw [enc_cons, he, List.cons_append] at hall hn
      rw [List.take_succ_cons, List.all_cons, Bool.and_eq_true] at hall
      obtain ⟨rfl, hcx⟩ := isHex_of_head he hall.1
      have := ih r (Nat.le_of_succ_le_succ hn) hall.2
      rw [List.take_succ_cons, List.length_cons, List.all_cons, this.1, this.2, hcx]
      exact ⟨rfl, rfl⟩

theorem radix16_hex (w : List Char) : ∀ (acc m : Nat), w.all isHex = true → acc < 16 ^ m → m + w.length ≤ 8 →
    radix16Digits (w.map toByte) acc = some (w.foldl (fun a c => a * 16 + digitVal c) acc) := by
  induction w with
  | nil => intros; rfl
  | cons c w ih =>
    intro acc m h hacc hm
    simp only [List.all_cons, Bool.and_eq_true] at h
    have hv := digitVal_lt c h.1
    have hp : 16 ^ (m + 1) = 16 ^ m * 16 := by rw [Nat.pow_succ]
    have hle : 16 ^ (m + 1) ≤ 16 ^ 8 := Nat.pow_le_pow_right (by decide) (by simp at hm; omega)
    have h8 : 16 ^ 8 = 4294967296 := by decide
    have hnew : acc * 16 + digitVal c < 16 ^ (m + 1) := by omega
    simp only [List.map_cons, radix16Digits, hexDigitValue_toByte c h.1, List.foldl_cons]
    rw [if_pos (by omega)]
    exact ih _ (m + 1) h.2 hnew (by simp at hm ⊢; omega)

theorem fromStrRadix16_hex (w : List Char) (h : w.all isHex = true) (hne : w ≠ []) (hlen : w.length ≤ 8) :
    fromStrRadix16 (w.map toByte) = some (hexNum w) := by
  cases w with
  | nil => exact absurd rfl hne
  | cons c w =>
    have hc : isHex c = true := by simp only [List.all_cons, Bool.and_eq_true] at h; exact h.1
    have h' := (isHex_iff c).1 hc
    have hb := toByte_toNat c (by omega)
    have hne43 : toByte c ≠ 43 := by
      intro e; rw [e] at hb; simp at hb; omega
    have : fromStrRadix16 (List.map toByte (c :: w)) = radix16Digits (List.map toByte (c :: w)) 0 := by
      simp only [List.map_cons]
      unfold fromStrRadix16
      split
      · rename_i heq; cases heq
      · rename_i heq; simp only [List.cons.injEq] at heq; exact absurd heq.1 hne43
      · rename_i heq; simp only [List.cons.injEq] at heq; exact absurd heq.1 hne43
      · rfl
    rw [this]
    exact radix16_hex (c :: w) 0 0 h (by simp) (by simpa using hlen)

theorem unknownChar_eq : unknownChar = FFFD := by decide

theorem charFromU32_scalarOr (n : Nat) :
    (match charFromU32 n with | some c => c | none => unknownChar) = scalarOr n := by
  unfold charFromU32 scalarOr
  by_cases h : n < 0xD800 ∨ (0xDFFF < n ∧ n < 0x110000)
  · have : (decide (n < 0xD800) || (decide (0xDFFF < n) && decide (n < 0x110000))) = true := by
      simpa using h
    rw [if_pos this, if_pos h]
  · have : ¬ (decide (n < 0xD800) || (decide (0xDFFF < n) && decide (n < 0x110000))) = true := by
      simpa using h
    rw [if_neg this, if_neg h]; exact unknownChar_eq

theorem boundary_le_size (S : Src) (i : Nat) (h : isCharBoundary S i = true) : i ≤ S.size := by
  unfold isCharBoundary at h
  cases hg : S[i]? with
  | some b =>
    have := (Array.getElem?_eq_some_iff.1 hg).1
    omega
  | none =>
    rw [hg] at h
    simp at h
    omega

theorem encodeUnicode_window (a r : List Char) (n : Nat) (hn0 : 0 < n) (hn8 : n ≤ 8) :
    encodeUnicode (strGet (src (a ++ r)) (enc a).length ((enc a).length + n)) = hexEscape n r := by
  by_cases hw : (r.take n).length = n ∧ (r.take n).all isHex = true
  · -- well-formed: exactly n hex digits follow
    obtain ⟨hl, hh⟩ := hw
    have henc := enc_hex _ hh
    have hq : (enc a).length + n = (enc (a ++ r.take n)).length := by
      rw [enc_append, List.length_append, henc, List.length_map, hl]
    have hg : strGet (src (a ++ r)) (enc a).length ((enc a).length + n) = some (enc (r.take n)) := by
      rw [hq]
      have := strGet_split a (r.take n) (r.drop n)
      rw [List.take_append_drop] at this
      exact this
    have hallb : (enc (r.take n)).all isAsciiHexDigit = true := by
      rw [henc, List.all_map]
      rw [List.all_eq_true] at hh ⊢
      intro c hc; exact isAsciiHexDigit_toByte c (hh c hc)
    have hne : r.take n ≠ [] := by intro e; rw [e] at hl; simp at hl; omega
    unfold encodeUnicode hexEscape
    rw [hg, if_pos ⟨hl, hh⟩]
    simp only [Option.filter_some, hallb, ↓reduceIte]
    rw [henc, fromStrRadix16_hex _ hh hne (by omega)]
    simp only [Option.bind_some]
    exact charFromU32_scalarOr _
  · -- malformed: the model's window is `None`, or contains a non-hex byte
    have hspec : hexEscape n r = FFFD := by unfold hexEscape; rw [if_neg hw]
    rw [hspec]
    unfold encodeUnicode
    cases hg : strGet (src (a ++ r)) (enc a).length ((enc a).length + n) with
    | none => simp [unknownChar_eq]
    | some bs =>
      unfold strGet at hg
      split at hg
      · rename_i hc
        simp only [Bool.and_eq_true] at hc
        have hle := boundary_le_size _ _ hc.2
        simp only [src_size, enc_append, List.length_append] at hle
        have hbs : bs = (enc r).take n := by
          have := Option.some.inj hg
          rw [← this]
          simp [src, List.extract_eq_take_drop, enc_append]
        have hnot : bs.all isAsciiHexDigit = false := by
          rcases hb : bs.all isAsciiHexDigit with _ | _
          · rfl
          · exfalso; apply hw
            rw [hbs] at hb
            exact hex_bytes_chars n r (by omega) hb
        simp only [Option.filter_some, hnot, Bool.false_eq_true, ↓reduceIte]
        exact unknownChar_eq
      · cases hg

theorem toByte_inj {c d : Char} (hc : c.toNat < 128) (hd : d.toNat < 128) (h : toByte c = toByte d) : c = d := by
  apply char_eq_of_toNat
  rw [← toByte_toNat c hc, ← toByte_toNat d hd, h]

theorem head_enc_eq_ascii {c : Char} {b0 : UInt8} {tl : Bytes} (he : String.utf8EncodeChar c = b0 :: tl)
    (d : Char) (hd : d.toNat < 128) : (b0 == toByte d) = decide (c = d) := by
  rw [Bool.eq_iff_iff, beq_iff_eq, decide_eq_true_iff]
  constructor
  · intro hb
    obtain ⟨b, tl', he', -, hascii, hhi⟩ := enc_shape c
    obtain ⟨rfl, -⟩ := List.cons.inj (he.symm.trans he')
    rcases Nat.lt_or_ge c.toNat 128 with hc | hc
    · exact toByte_inj hc hd ((hascii hc).2.symm.trans hb)
    · have := hhi hc
      rw [hb, toByte_toNat d hd] at this; omega
  · rintro rfl
    rw [enc_ascii c hd] at he
    exact (List.cons.inj he).1.symm

/-- `escape` at the position after a backslash: the decoded character is the specification's `escChar`,
and the cursor advance `k` drops the same characters as the specification's `escLen` once rounded up -/
theorem escape_spec (a cs : List Char) :
    ∃ k, escape (src (a ++ cs)) (enc a).length = (escChar cs, (enc a).length + k) ∧
      dropBytes k cs = dropBytes (escLen cs) cs := by
  cases cs with
  | nil =>
    refine ⟨1, ?_, rfl⟩
    unfold escape
    rw [get_split0]
    simp [escChar, unknownChar_eq]
  | cons c r =>
    obtain ⟨b0, tl, he, -⟩ := enc_shape c
    have hget : (src (a ++ c :: r))[(enc a).length]? = some b0 := by
      rw [get_split0, enc_cons, he]; rfl
    -- the byte tests of `escape` are the character tests of `escChar`
    have h1 : (b0 == 0x5C) = decide (c = '\\') := head_enc_eq_ascii he '\\' (by decide)
    have h2 : (b0 == 0x22) = decide (c = '"') := head_enc_eq_ascii he '"' (by decide)
    have h3 : (b0 == 0x75) = decide (c = 'u') := head_enc_eq_ascii he 'u' (by decide)
    have h4 : (b0 == 0x55) = decide (c = 'U') := head_enc_eq_ascii he 'U' (by decide)
    -- the hex window after a one-byte `c`
    have hw : ∀ n, c.toNat < 128 → 0 < n → n ≤ 8 →
        encodeUnicode (strGet (src (a ++ c :: r)) ((enc a).length + 1) ((enc a).length + 1 + n)) =
          hexEscape n r := by
      intro n hc hn0 hn8
      have := encodeUnicode_window (a ++ [c]) r n hn0 hn8
      rwa [enc_append, enc_singleton, enc_ascii c hc, List.length_append, List.append_assoc] at this
    unfold escape escChar escLen
    rw [hget]
    simp only [h1, h2, h3, h4, Bool.or_eq_true, decide_eq_true_eq]
    by_cases hu : c = 'u'
    · subst hu
      exact ⟨5, by simp [hw 4 (by decide)], rfl⟩
    by_cases hU : c = 'U'
    · subst hU
      exact ⟨7, by simp [hw 6 (by decide)], rfl⟩
    · -- `\\`, `"` or an unknown escape: one character
      refine ⟨1, ?_, by
        rw [if_neg hu, if_neg hU, dropBytes_within c r 1 Nat.one_pos c.utf8Size_pos,
          dropBytes_within c r _ c.utf8Size_pos (Nat.le_refl _)]⟩
      simp only [hu, hU, or_self, if_false]
      split
      · rfl
      · split
        · rfl
        · rw [unknownChar_eq]

/-- the input contains a backslash -/
def hasBS (cs : List Char) : Bool := cs.any (fun c => c == '\\')

theorem hasBS_cons (c : Char) (cs : List Char) : hasBS (c :: cs) = (c == '\\' || hasBS cs) := by
  simp [hasBS]

theorem decode_plain_append (plain rest : List Char) (h : hasBS plain = false) :
    decode (plain ++ rest) = plain ++ decode rest := by
  induction plain with
  | nil => rfl
  | cons c cs ih =>
    rw [hasBS_cons] at h
    simp only [Bool.or_eq_false_iff, beq_eq_false_iff_ne, ne_eq] at h
    rw [List.cons_append, decode_cons_plain h.1, ih h.2, List.cons_append]

theorem decode_noBS (cs : List Char) (h : hasBS cs = false) : decode cs = cs := by
  have := decode_plain_append cs [] h
  rwa [List.append_nil, decode_nil, List.append_nil] at this

theorem loop_at_end (S : Src) (fuel st p : Nat) (out : Bytes) (h : S.size ≤ p) :
    loop S (fuel + 1) st p out = .done (st, p, out) := by
  have : S[p]? = none := Array.getElem?_eq_none_iff.2 h
  rw [loop]; simp [this]

theorem enc_backslash : String.utf8EncodeChar '\\' = [0x5C] := by decide

theorem enc_dropBytes_le (k : Nat) (cs : List Char) : (enc (dropBytes k cs)).length ≤ (enc cs).length := by
  obtain ⟨t, ht⟩ := dropBytes_suffix cs k
  conv => rhs; rw [ht]
  simp [enc_append]

theorem length_dropBytes_le (k : Nat) (cs : List Char) : (dropBytes k cs).length ≤ cs.length := by
  obtain ⟨t, ht⟩ := dropBytes_suffix cs k
  conv => rhs; rw [ht]
  simp

theorem chunk_split (pre plain rest : List Char) :
    (if ((enc pre).length != (enc (pre ++ plain)).length) = true
      then strIndex (src (pre ++ (plain ++ rest))) (enc pre).length (enc (pre ++ plain)).length
      else Outcome.done []) = Outcome.done (enc plain) := by
  by_cases hp : (enc pre).length = (enc (pre ++ plain)).length
  · have : enc plain = [] := by
      rw [enc_append, List.length_append] at hp
      exact List.eq_nil_of_length_eq_zero (by omega)
    simp [hp, this]
  · rw [if_pos (by simpa using hp), strIndex_split]

theorem finish_at_end (pre plain : List Char) (out : Bytes) (f : Nat) :
    finish (src (pre ++ (plain ++ [])))
        (loop (src (pre ++ (plain ++ []))) (f + 1) (enc pre).length (enc (pre ++ plain)).length out) =
      if (enc pre).length = 0 then .done (out, false) else .done (out ++ enc plain, true) := by
  rw [loop_at_end _ _ _ _ _ (by simp)]
  have hc := chunk_split pre plain []
  simp only [finish]
  by_cases h0 : (enc pre).length = 0
  · simp [h0]
  · rw [if_neg h0, if_neg (by simpa using h0)]
    split
    · rename_i hne
      rw [if_pos hne] at hc
      rw [hc]
    · rename_i hne
      rw [if_neg hne] at hc
      rw [← Outcome.done.inj hc, List.append_nil]

theorem loop_plain (pre plain : List Char) (c : Char) (cs : List Char) (hc : c ≠ '\\') (out : Bytes) (f : Nat) :
    loop (src (pre ++ (plain ++ c :: cs))) (f + c.utf8Size) (enc pre).length (enc (pre ++ plain)).length out =
      loop (src (pre ++ (plain ++ c :: cs))) f (enc pre).length (enc (pre ++ (plain ++ [c]))).length out := by
  rw [← List.append_assoc pre plain [c], enc_length_snoc]
  refine loop_scan _ c.utf8Size _ f _ out fun j hj => ?_
  have hj' : j < (String.utf8EncodeChar c).length := by rw [String.length_utf8EncodeChar]; exact hj
  rw [← List.append_assoc, get_split, enc_cons, List.getElem?_append_left hj']
  exact ⟨_, List.getElem?_eq_getElem hj', enc_char_no_backslash c hc _ (List.getElem_mem hj')⟩

theorem loop_escape (pre plain cs : List Char) (out : Bytes) (f : Nat) :
    ∃ p', loop (src (pre ++ (plain ++ '\\' :: cs))) (f + 1) (enc pre).length (enc (pre ++ plain)).length out =
        loop (src (pre ++ (plain ++ '\\' :: cs))) f p' p'
          (out ++ enc plain ++ String.utf8EncodeChar (escChar cs)) ∧
      ((∃ t, cs = t ++ dropBytes (escLen cs) cs ∧ p' = (enc (pre ++ plain ++ ['\\'] ++ t)).length) ∨
        (dropBytes (escLen cs) cs = [] ∧ (src (pre ++ (plain ++ '\\' :: cs))).size ≤ p')) := by
  have hchunk := chunk_split pre plain ('\\' :: cs)
  generalize hS : src (pre ++ (plain ++ '\\' :: cs)) = S at hchunk ⊢
  have hS1 : src ((pre ++ plain) ++ '\\' :: cs) = S := by rw [← hS]; simp
  have hS2 : src ((pre ++ plain ++ ['\\']) ++ cs) = S := by rw [← hS]; simp
  have hget : S[(enc (pre ++ plain)).length]? = some 0x5C := by
    rw [← hS1, get_split0, enc_cons, enc_backslash]; rfl
  have hq : (enc (pre ++ plain ++ ['\\'])).length = (enc (pre ++ plain)).length + 1 :=
    enc_length_snoc _ '\\'
  have htot : (enc (pre ++ plain ++ ['\\'] ++ cs)).length = S.size := by rw [← hS2, src_size]
  obtain ⟨k, hesc, hdrop⟩ := escape_spec (pre ++ plain ++ ['\\']) cs
  obtain ⟨p', hskip, hp'⟩ := skip_spec cs (pre ++ plain ++ ['\\']) k (S.size + 1) (by omega)
  rw [hS2, hq] at hesc hskip
  rw [htot, hdrop] at hp'
  refine ⟨p', ?_, ?_⟩
  · rw [loop]
    simp only [hget, bne_self_eq_false, Bool.false_eq_true, ↓reduceIte, hchunk, hesc, hskip]
  · rcases hp' with hp' | hp'
    · obtain ⟨t, ht⟩ := dropBytes_suffix cs (escLen cs)
      refine Or.inl ⟨t, ht, ?_⟩
      have : (enc (pre ++ plain ++ ['\\'] ++ cs)).length =
          (enc (pre ++ plain ++ ['\\'] ++ t)).length + (enc (dropBytes (escLen cs) cs)).length := by
        conv => lhs; rw [ht]
        rw [← List.append_assoc, enc_append _ (dropBytes _ _), List.length_append]
      omega
    · exact Or.inr hp'

/-- Loop invariant: `pre` has been decoded into `out`, the text `plain` since `start` has no backslash,
`rest` is still to be read.  (`rest.length ≤ n`: an escape may consume several characters.) -/
theorem main_loop (n : Nat) : ∀ (pre plain rest : List Char) (out : Bytes) (fuel : Nat),
    rest.length ≤ n → hasBS plain = false → (enc rest).length + 1 ≤ fuel →
    finish (src (pre ++ (plain ++ rest)))
        (loop (src (pre ++ (plain ++ rest))) fuel (enc pre).length (enc (pre ++ plain)).length out) =
      if (enc pre).length = 0 ∧ hasBS (plain ++ rest) = false then .done (out, false)
      else .done (out ++ enc (decode (plain ++ rest)), true) := by
  have hnil : ∀ (pre plain : List Char) (out : Bytes) (fuel : Nat), hasBS plain = false → 1 ≤ fuel →
      finish (src (pre ++ (plain ++ [])))
          (loop (src (pre ++ (plain ++ []))) fuel (enc pre).length (enc (pre ++ plain)).length out) =
        if (enc pre).length = 0 ∧ hasBS (plain ++ []) = false then .done (out, false)
        else .done (out ++ enc (decode (plain ++ [])), true) := by
    intro pre plain out fuel hplain hf
    obtain ⟨f, rfl⟩ := exists_add_one hf
    rw [finish_at_end, List.append_nil, decode_noBS plain hplain, hplain]
    simp
  induction n with
  | zero =>
    intro pre plain rest out fuel hn hplain hfuel
    obtain rfl : rest = [] := List.eq_nil_of_length_eq_zero (by omega)
    exact hnil pre plain out fuel hplain (by omega)
  | succ n ih =>
    intro pre plain rest out fuel hn hplain hfuel
    cases rest with
    | nil => exact hnil pre plain out fuel hplain (by omega)
    | cons c cs =>
      by_cases hc : c = '\\'
      · subst hc
        have hfuel' : (enc cs).length + 1 + 1 ≤ fuel := by
          rwa [enc_length_cons, Nat.add_comm (Char.utf8Size _)] at hfuel
        obtain ⟨f, rfl⟩ := exists_add_one hfuel'
        have hfuel' : (enc cs).length + 1 ≤ f := Nat.le_of_succ_le_succ hfuel'
        obtain ⟨p', hstep, hp'⟩ := loop_escape pre plain cs out f
        have hbs : hasBS (plain ++ '\\' :: cs) = true := by simp [hasBS]
        rw [hstep, decode_plain_append _ _ hplain, decode_backslash, hbs]
        have hdl := length_dropBytes_le (escLen cs) cs
        have hde := enc_dropBytes_le (escLen cs) cs
        generalize dropBytes (escLen cs) cs = d at hp' hdl hde
        rcases hp' with ⟨t, ht, rfl⟩ | ⟨rfl, hp'⟩
        · -- the cursor lands on the split point before `d`
          have hih := ih (pre ++ plain ++ ['\\'] ++ t) [] d
            (out ++ enc plain ++ String.utf8EncodeChar (escChar cs)) f
            (Nat.le_trans hdl (Nat.le_of_succ_le_succ hn)) rfl
            (Nat.le_trans (Nat.succ_le_succ hde) hfuel')
          have hS : src ((pre ++ plain ++ ['\\'] ++ t) ++ ([] ++ d)) = src (pre ++ (plain ++ '\\' :: cs)) := by
            rw [ht]; simp
          rw [hS, List.append_nil] at hih
          rw [hih]
          simp [enc_append, enc_cons, enc_backslash]
        · -- the cursor is at or past the end of the input
          obtain ⟨f', rfl⟩ := exists_add_one hfuel'
          rw [loop_at_end _ _ _ _ _ hp']
          have hp'nz : (p' == 0) = false := by
            rw [src_size, enc_append, enc_append, List.length_append, List.length_append, enc_length_cons] at hp'
            rw [beq_eq_false_iff_ne]
            have := Char.utf8Size_pos '\\'
            omega
          simp [finish, hp'nz, decode_nil, enc_append, enc_cons]
      · obtain ⟨f, rfl, hf⟩ : ∃ f, fuel = f + c.utf8Size ∧ (enc cs).length + 1 ≤ f := by
          rw [enc_length_cons] at hfuel
          exact ⟨fuel - c.utf8Size, by omega, by omega⟩
        have hplain' : hasBS (plain ++ [c]) = false := by
          simp only [hasBS, List.any_append, Bool.or_eq_false_iff] at hplain ⊢
          exact ⟨hplain, by simp [hc]⟩
        rw [loop_plain pre plain c cs hc]
        simpa only [List.append_assoc, List.singleton_append] using
          ih pre (plain ++ [c]) cs out f (Nat.le_of_succ_le_succ hn) hplain' hf

/-- `unescape` on the UTF-8 of any character list: never panics, never runs out of fuel; with a backslash in the
input it writes the UTF-8 of `decode` and answers `true`, without one it writes nothing and answers `false` -/
theorem unescape_spec (cs : List Char) :
    unescape (src cs) = if hasBS cs = true then .done (enc (decode cs), true) else .done ([], false) := by
  have h := main_loop cs.length [] [] cs [] ((src cs).size + 1) (Nat.le_refl _) rfl (by simp)
  simp only [List.nil_append, enc_nil, List.length_nil, true_and] at h
  unfold unescape
  rw [h]
  cases hasBS cs <;> simp

theorem unescapeUnicodeToString_spec (cs : List Char) :
    unescapeUnicodeToString (src cs) = .done (enc (decode cs), hasBS cs) := by
  unfold unescapeUnicodeToString
  rw [unescape_spec]
  cases h : hasBS cs
  · simp [src, decode_noBS cs h]
  · simp

theorem unescapeUnicode_spec (w : Bytes) (cs : List Char) :
    unescapeUnicode w (src cs) = .done (w ++ enc (decode cs)) := by
  unfold unescapeUnicode
  rw [unescape_spec]
  cases h : hasBS cs
  · simp [src, decode_noBS cs h]
  · simp

theorem string_bytes (s : String) : s.toUTF8.data = src s.toList := by
  have : s.toUTF8 = s.toList.utf8Encode := by
    conv => lhs; rw [← String.ofList_toList (s := s)]
    exact String.toByteArray_ofList
  rw [this]
  simp [List.utf8Encode, src, enc]

theorem validUTF8_bytes (b : ByteArray) (h : b.IsValidUTF8) : ∃ cs, b.data = src cs := by
  obtain ⟨m, hm⟩ := h
  exact ⟨m, by rw [hm]; simp [List.utf8Encode, src, enc]⟩

theorem hasBS_iff (cs : List Char) : hasBS cs = true ↔ '\\' ∈ cs := by
  simp [hasBS]

/-- UTF-8 bytes of a character list (through Lean's `String`) -/
def utf8 (cs : List Char) : Bytes := (String.ofList cs).toUTF8.data.toList

theorem utf8_eq_enc (cs : List Char) : utf8 cs = enc cs := by
  unfold utf8
  rw [string_bytes, String.toList_ofList]; simp [src]

end FluentProofs.Unescape

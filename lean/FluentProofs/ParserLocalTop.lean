import FluentProofs.ParserLocalLoop
import FluentProofs.ParserLocalShiftEntry
import FluentProofs.ParserLocalBarEntry
import FluentProofs.ParserLocalPreLoop
/-!
# Locality of the parser (C03, containment sentence): assembly

From the shift, barrier and prefix families (`ParserLocalShift*`, `ParserLocalBar*`, `ParserLocalPre*`) and the loop facts
of `ParserLocalLoop`: suffix independence (`parse_suffix`), prefix independence (`parse_prefix`) and both together, for
`A ++ X ++ B` with `X` arbitrary damage (`parse_containment`).  The `parseRuntime_*` theorems claim the same of the runtime
parser, which has no pending comment.
-/
namespace FluentProofs.Parser
open FluentModel.Syntax

/-- `B` starts with an entry head at column 0 (`Bar B 0 E`: a letter or `-`, then identifier bytes and spaces up
to an `=` at `E`) -/
def Head (B : Src) : Prop := ∃ E, Bar B 0 E

/-- `Z` is empty or starts with a letter or `-` -/
def RealOrEmpty (Z : Src) : Prop := Z.size = 0 ∨ ∃ b, Z[0]? = some b ∧ isReal b = true

/-- `Z` is empty or starts with a `stopByte`: any byte except a space, LF, CR, `#`, `.`, `{` and the UTF-8
continuation bytes (a space / line break / `.` / `{` at column 0 would continue the previous entry, `#` merges with a
preceding comment) -/
def StopOrEmpty (Z : Src) : Prop := Z.size = 0 ∨ ∃ b, Z[0]? = some b ∧ stopByte b = true

theorem RealOrEmpty.stopOrEmpty {Z : Src} (h : RealOrEmpty Z) : StopOrEmpty Z := by
  rcases h with h | ⟨b, hb, hr⟩
  · exact Or.inl h
  · exact Or.inr ⟨b, hb, stopByte_of_isReal b hr⟩

/-- `P` is empty or ends with a line feed -/
abbrev EndsNl (P : Src) : Prop := LS P P.size

theorem Head.realOrEmpty {B : Src} (h : Head B) : RealOrEmpty B := by
  obtain ⟨E, hb⟩ := h
  exact Or.inr hb.real

theorem ls_append {P B : Src} (hP : EndsNl P) : LS (P ++ B) P.size := by
  rcases hP with h0 | h
  · exact Or.inl h0
  · by_cases h0 : P.size = 0
    · exact Or.inl h0
    · right
      rw [Array.getElem?_append_left (by omega)]; exact h

theorem shift_of_append {P B : Src} (hP : EndsNl P) (hB : RealOrEmpty B) : Shift P.size B (P ++ B) := by
  refine ⟨?_, ?_, ?_, ls_append hP⟩
  · intro i
    rw [Array.getElem?_append_right (by omega)]
    congr 1; omega
  · rw [Array.size_append]; omega
  · unfold isBoundary
    rcases hB with h0 | ⟨b, hb, hr⟩
    · have : (P ++ B).size = P.size := by rw [Array.size_append]; omega
      simp [this]
    · have : (P ++ B)[P.size]? = some b := by
        rw [Array.getElem?_append_right (Nat.le_refl _)]; simpa using hb
      simp only [this, Bool.or_eq_true]
      right
      exact ascii_not_cont b (isReal_lt hr)

theorem bar_of_append {P B : Src} (hP : EndsNl P) {E : Nat} (hB : Bar B 0 E) : Bar (P ++ B) P.size (P.size + E) := by
  have hget : ∀ i, (P ++ B)[P.size + i]? = B[i]? := by
    intro i
    rw [Array.getElem?_append_right (by omega)]
    congr 1; omega
  refine ⟨ls_append hP, by have := hB.lt; omega, ?_, ?_, ?_⟩
  · have := hget 0; rw [Nat.add_zero] at this; rw [this]; exact hB.real
  · intro i h1 h2
    have := hget (i - P.size)
    rw [show P.size + (i - P.size) = i by omega] at this
    rw [this]
    exact hB.head (i - P.size) (by omega) (by omega)
  · rw [hget]; exact hB.eq

theorem pre_of_append {A Z : Src} (hA : EndsNl A) (hZ : StopOrEmpty Z) : Pre A.size A (A ++ Z) := by
  refine ⟨rfl, ?_, hA, ?_⟩
  · intro i hi
    exact Array.getElem?_append_left hi
  · rcases hZ with h0 | ⟨b, hb, hr⟩
    · left; rw [Array.size_append]; omega
    · right
      refine ⟨b, ?_, hr⟩
      rw [Array.getElem?_append_right (Nat.le_refl _)]; simpa using hb

theorem exprFuel_append_left (P B : Src) : exprFuel B ≤ exprFuel (P ++ B) := by
  unfold exprFuel; rw [Array.size_append]; omega

theorem exprFuel_append_right (A Z : Src) : exprFuel A ≤ exprFuel (A ++ Z) := by
  unfold exprFuel; rw [Array.size_append]; omega

theorem skipBlankBlock_real {s : Src} {p : Nat} {b : UInt8} (h : s[p]? = some b) (hr : isReal b = true) :
    skipBlankBlock s p = (p, 0) := by
  have hne : s[p]? ≠ some 32 := by rw [h]; intro h'; cases h'; revert hr; decide
  have hlt := get_lt h
  unfold skipBlankBlock
  rw [show s.size - p + 1 = (s.size - p) + 1 by omega]
  simp only [skipBlankBlockGo, skipBlankInline_of_ne hne]
  have : skipEol s p = none := by
    unfold skipEol
    rw [h]
    split
    · rename_i h'; cases h'; exact absurd hr (by decide)
    · rename_i h'; cases h'; exact absurd hr (by decide)
    · rfl
  simp [this, hlt]

theorem start_le_bar {s : Src} {n E : Nat} (hb : Bar s n E) : (skipBlankBlock s 0).1 ≤ n := by
  have h := skipBlankBlock_noRS s 0
  apply Classical.byContradiction
  intro hgt
  exact h n (Nat.zero_le _) (by omega) ⟨hb.ls, hb.real⟩

theorem parse_head_eq {B : Src} (hB : Head B) :
    parse B = parseLoop B (exprFuel B) (B.size + 1) [] [] none 0 0 := by
  obtain ⟨E, hb⟩ := hB
  obtain ⟨b, h0, hr⟩ := hb.real
  unfold parse
  simp only [skipBlankBlock_real h0 hr]

theorem parseRuntime_head_eq {B : Src} (hB : Head B) :
    parseRuntime B = parseRuntimeLoop B (exprFuel B) (B.size + 1) [] [] 0 := by
  obtain ⟨E, hb⟩ := hB
  obtain ⟨b, h0, hr⟩ := hb.real
  unfold parseRuntime
  simp only [skipBlankBlock_real h0 hr]

theorem parseLoop_seam {P B : Src} (hP : EndsNl P) (hB : Head B) {F N : Nat} (hF : exprFuel B ≤ F)
    {body : List (Entry Span)} {errs : List PErr} {lc : Option (List Span)} {cnt : Nat}
    {r rB : List (Entry Span) × List PErr}
    (h : parseLoop (P ++ B) F N body errs lc cnt P.size = .done r) (hpB : parse B = .done rB) :
    r = (body ++ attachO lc cnt (rB.1.map (shEntry P.size)), errs ++ rB.2.map (shErr P.size)) := by
  have hsh := shift_of_append hP hB.realOrEmpty
  rw [parse_head_eq hB] at hpB
  have hB2 := parseLoop_shift hsh hF (B.size + 1) (max N (B.size + 1)) (Nat.le_max_right _ _) [] [] none 0 0 rB hpB
  simp only [List.map_nil, Option.map_none, Nat.zero_add] at hB2
  rw [parseLoop_acc_eq] at h
  obtain ⟨r₀, h₀, rfl⟩ := mapD_eq_done h
  obtain ⟨E, hb⟩ := hB
  have hbar := bar_of_append hP hb
  obtain ⟨b, hbn, hbr⟩ := hbar.real
  cases lc with
  | none =>
    rw [parseLoop_none_cnt] at h₀
    have h₁ := parseLoop_mono_N _ _ (Nat.le_max_left N (B.size + 1)) h₀
    rw [h₁] at hB2
    cases hB2
    rfl
  | some c =>
    have h35 : (P ++ B)[P.size]? ≠ some 35 := by
      rw [hbn]; intro h'; cases h'; revert hbr; decide
    rw [parseLoop_pending (get_lt hbn) h35] at h₀
    obtain ⟨r₁, h₁, rfl⟩ := mapD_eq_done h₀
    have h₂ := parseLoop_mono_N _ _ (Nat.le_max_left N (B.size + 1)) h₁
    rw [h₂] at hB2
    cases hB2
    rfl

theorem parseRuntimeLoop_seam {P B : Src} (hP : EndsNl P) (hB : Head B) {F N : Nat} (hF : exprFuel B ≤ F)
    {body : List (Entry Span)} {errs : List PErr} {r rB : List (Entry Span) × List PErr}
    (h : parseRuntimeLoop (P ++ B) F N body errs P.size = .done r) (hpB : parseRuntime B = .done rB) :
    r = (body ++ rB.1.map (shEntry P.size), errs ++ rB.2.map (shErr P.size)) := by
  have hsh := shift_of_append hP hB.realOrEmpty
  rw [parseRuntime_head_eq hB] at hpB
  have hB2 := parseRuntimeLoop_shift hsh hF (B.size + 1) (max N (B.size + 1)) (Nat.le_max_right _ _) [] [] 0 rB hpB
  simp only [List.map_nil, Nat.zero_add] at hB2
  rw [parseRuntimeLoop_acc_eq] at h
  obtain ⟨r₀, h₀, rfl⟩ := mapD_eq_done h
  have h₁ := parseRuntimeLoop_mono_N _ _ (Nat.le_max_left N (B.size + 1)) h₀
  rw [h₁] at hB2
  cases hB2
  rfl

/-- **suffix independence, full parser.**  `P` is ANY byte string that is empty or ends with a line feed, `B` starts
with an entry head.  Then the parse of `P ++ B` is: some entries / errors produced while the cursor was inside
`P` (their Junk spans and error slices end at or before `|P|`), followed by exactly the parse of `B` with every
position moved by `|P|` — except that a comment pending at the end of `P` is attached to (or put in front of) `B`'s
first entry (`attachO`). -/
theorem parse_suffix {P B : Src} (hP : EndsNl P) (hB : Head B) {r rB : Resource Span × List PErr}
    (h : parse (P ++ B) = .done r) (hpB : parse B = .done rB) :
    ∃ pre preErrs lc cnt,
      r = (pre ++ attachO lc cnt (rB.1.map (shEntry P.size)), preErrs ++ rB.2.map (shErr P.size)) ∧
      (∀ sp ∈ junkSpans pre, sp.stop ≤ P.size) ∧
      (∀ e ∈ preErrs, ∃ a b, e.slice = some (a, b) ∧ b ≤ P.size) := by
  obtain ⟨E, hb⟩ := hB
  have hbar := bar_of_append hP hb
  unfold parse at h
  obtain ⟨N', mid, errsMid, lc', cnt', _, h', hj, he⟩ :=
    parseLoop_reach_loc hbar _ _ [] [] none 0 _ r (start_le_bar hbar) h
  have := parseLoop_seam hP ⟨E, hb⟩ (exprFuel_append_left P B) h' hpB
  refine ⟨mid, errsMid, lc', cnt', by simpa using this, fun sp hsp => (hj sp hsp).2, fun e hmem => ?_⟩
  obtain ⟨a, b, h1, _, h3⟩ := he e hmem
  exact ⟨a, b, h1, h3⟩

theorem parseRuntime_suffix {P B : Src} (hP : EndsNl P) (hB : Head B) {r rB : Resource Span × List PErr}
    (h : parseRuntime (P ++ B) = .done r) (hpB : parseRuntime B = .done rB) :
    ∃ pre preErrs, r = (pre ++ rB.1.map (shEntry P.size), preErrs ++ rB.2.map (shErr P.size)) ∧
      (∀ sp ∈ junkSpans pre, sp.stop ≤ P.size) ∧
      (∀ e ∈ preErrs, ∃ a b, e.slice = some (a, b) ∧ b ≤ P.size) := by
  obtain ⟨E, hb⟩ := hB
  have hbar := bar_of_append hP hb
  unfold parseRuntime at h
  obtain ⟨N', mid, errsMid, _, h', hj, he⟩ := parseRuntimeLoop_reach_loc hbar _ _ [] [] _ r (start_le_bar hbar) h
  have := parseRuntimeLoop_seam hP ⟨E, hb⟩ (exprFuel_append_left P B) h' hpB
  refine ⟨mid, errsMid, by simpa using this, fun sp hsp => (hj sp hsp).2, fun e hmem => ?_⟩
  obtain ⟨a, b, h1, _, h3⟩ := he e hmem
  exact ⟨a, b, h1, h3⟩

theorem start_le_size (s : Src) : (skipBlankBlock s 0).1 ≤ s.size :=
  (skipBlankBlock_after s 0).le_size (Nat.zero_le _)

/-- **prefix independence, full parser.**  `A` is empty or ends with a line feed and parses without errors.  Then
there is a state `(body', lc')` of the entry loop — `A`'s body, a trailing standalone comment still pending — such
that for EVERY continuation `Z` that is empty or starts with a `stopByte` (e.g. a letter or `-`), the parse of
`A ++ Z` is `body'` followed by what the loop produces when started at `|A|` with `lc'` pending. -/
theorem parse_prefix {A : Src} (hA : EndsNl A) {bodyA : Resource Span} (hpA : parse A = .done (bodyA, [])) :
    ∃ body' lc', bodyA = body' ++ flushC lc' ∧
      ∀ Z : Src, StopOrEmpty Z → ∀ r, parse (A ++ Z) = .done r →
        ∃ N cnt r₀, parseLoop (A ++ Z) (exprFuel (A ++ Z)) N [] [] lc' cnt A.size = .done r₀ ∧
          r = (body' ++ r₀.1, r₀.2) := by
  unfold parse at hpA
  obtain ⟨body', lc', heq, H⟩ :=
    parseLoop_prefix rfl hA (exprFuel A) (A.size + 1) [] none 0 _ bodyA (start_le_size A) hpA
  refine ⟨body', lc', heq, ?_⟩
  intro Z hZ r h
  have hpre := pre_of_append hA hZ
  unfold parse at h
  rw [skipBlankBlock_loc hpre.loc (Nat.zero_le _)] at h
  obtain ⟨N₂', cnt', _, h'⟩ := H (A ++ Z) _ hpre (exprFuel_append_right A Z) _ r h
  rw [parseLoop_acc_eq] at h'
  obtain ⟨r₀, h₀, rfl⟩ := mapD_eq_done h'
  exact ⟨N₂', cnt', r₀, h₀, by simp [prep]⟩

theorem parseRuntime_prefix {A : Src} (hA : EndsNl A) {bodyA : Resource Span} (hpA : parseRuntime A = .done (bodyA, []))
    {Z : Src} (hZ : StopOrEmpty Z) {r : Resource Span × List PErr} (h : parseRuntime (A ++ Z) = .done r) :
    ∃ N r₀, parseRuntimeLoop (A ++ Z) (exprFuel (A ++ Z)) N [] [] A.size = .done r₀ ∧ r = (bodyA ++ r₀.1, r₀.2) := by
  unfold parseRuntime at hpA h
  have hpre := pre_of_append hA hZ
  rw [skipBlankBlock_loc hpre.loc (Nat.zero_le _)] at h
  obtain ⟨N₂', _, h'⟩ :=
    parseRuntimeLoop_prefix rfl hA (exprFuel A) (A.size + 1) [] _ bodyA (start_le_size A) hpA
      (A ++ Z) _ hpre (exprFuel_append_right A Z) _ r h
  rw [parseRuntimeLoop_acc_eq] at h'
  obtain ⟨r₀, h₀, rfl⟩ := mapD_eq_done h'
  exact ⟨N₂', r₀, h₀, by simp [prep]⟩

/-- a damaged entry: ANY bytes that end with a line feed and whose first byte is a `stopByte` (not a space, LF, CR, `#`,
`.`, `{` or UTF-8 continuation byte — those would make the text part of the entry before it; in particular the first
byte may be a letter or `-`, or a damaged first byte such as a digit) -/
structure Damage (X : Src) : Prop where
  first : ∃ b, X[0]? = some b ∧ stopByte b = true
  last : X[X.size - 1]? = some 10

theorem Damage.pos {X : Src} (h : Damage X) : 0 < X.size := by
  obtain ⟨b, hb, _⟩ := h.first
  exact get_lt hb

theorem Damage.endsNl {A X : Src} (h : Damage X) : EndsNl (A ++ X) := by
  right
  have := h.pos
  rw [Array.size_append, Array.getElem?_append_right (by omega)]
  rw [show A.size + X.size - 1 - A.size = X.size - 1 by omega]
  exact h.last

theorem Damage.stopOrEmpty {X B : Src} (h : Damage X) : StopOrEmpty (X ++ B) := by
  obtain ⟨b, hb, hr⟩ := h.first
  right
  exact ⟨b, by rw [Array.getElem?_append_left h.pos]; exact hb, hr⟩

/-- **C03 containment, full parser.**  `A` (empty or ending with a line feed) parses without errors.  Then there is a
fixed list `body'` — `A`'s body, minus a trailing standalone comment `lc'` that is still pending at the end of `A` —
such that for EVERY damaged entry `X` and EVERY following text `B` that starts with an entry head, the parse of
`A ++ X ++ B` is `body'`, then whatever `X` produces, then exactly the parse of `B` moved by `|A| + |X|` (a comment
pending at the end of `X` attached to / put before `B`'s first entry); the errors are those of the `X` region
followed by those of `B`, moved; the Junk spans and error slices of the `X` region lie inside `[|A|, |A| + |X|]`. -/
theorem parse_containment {A : Src} (hA : EndsNl A) {bodyA : Resource Span} (hpA : parse A = .done (bodyA, [])) :
    ∃ body' lc', bodyA = body' ++ flushC lc' ∧
      ∀ X B : Src, Damage X → Head B → ∀ r rB, parse (A ++ X ++ B) = .done r → parse B = .done rB →
        ∃ mid errsMid lc cnt,
          r = (body' ++ mid ++ attachO lc cnt (rB.1.map (shEntry (A.size + X.size))),
               errsMid ++ rB.2.map (shErr (A.size + X.size))) ∧
          (∀ sp ∈ junkSpans mid, A.size ≤ sp.start ∧ sp.stop ≤ A.size + X.size) ∧
          (∀ e ∈ errsMid, ∃ a b, e.slice = some (a, b) ∧ A.size ≤ a ∧ b ≤ A.size + X.size) := by
  obtain ⟨body', lc', heq, H⟩ := parse_prefix hA hpA
  refine ⟨body', lc', heq, ?_⟩
  intro X B hX hB r rB h hpB
  obtain ⟨N, cnt, r₀, h₀, rfl⟩ := H (X ++ B) hX.stopOrEmpty r (by rw [← Array.append_assoc]; exact h)
  rw [← Array.append_assoc] at h₀
  obtain ⟨E, hb⟩ := hB
  have hP : EndsNl (A ++ X) := hX.endsNl
  have hbar := bar_of_append hP hb
  have hle : A.size ≤ (A ++ X).size := by rw [Array.size_append]; omega
  obtain ⟨N', mid, errsMid, lc'', cnt'', _, h', hj, he⟩ :=
    parseLoop_reach_loc hbar _ N [] [] lc' cnt A.size r₀ hle h₀
  have := parseLoop_seam hP ⟨E, hb⟩ (exprFuel_append_left (A ++ X) B) h' hpB
  rw [Array.size_append] at this hj he
  refine ⟨mid, errsMid, lc'', cnt'', ?_, hj, he⟩
  rw [this]
  simp [List.append_assoc]

theorem parseRuntime_containment {A : Src} (hA : EndsNl A) {bodyA : Resource Span}
    (hpA : parseRuntime A = .done (bodyA, [])) {X B : Src} (hX : Damage X) (hB : Head B)
    {r rB : Resource Span × List PErr} (h : parseRuntime (A ++ X ++ B) = .done r) (hpB : parseRuntime B = .done rB) :
    ∃ mid errsMid,
      r = (bodyA ++ mid ++ rB.1.map (shEntry (A.size + X.size)), errsMid ++ rB.2.map (shErr (A.size + X.size))) ∧
      (∀ sp ∈ junkSpans mid, A.size ≤ sp.start ∧ sp.stop ≤ A.size + X.size) ∧
      (∀ e ∈ errsMid, ∃ a b, e.slice = some (a, b) ∧ A.size ≤ a ∧ b ≤ A.size + X.size) := by
  obtain ⟨N, r₀, h₀, rfl⟩ := parseRuntime_prefix hA hpA (Z := X ++ B) hX.stopOrEmpty (by rw [← Array.append_assoc]; exact h)
  rw [← Array.append_assoc] at h₀
  obtain ⟨E, hb⟩ := hB
  have hP : EndsNl (A ++ X) := hX.endsNl
  have hbar := bar_of_append hP hb
  have hle : A.size ≤ (A ++ X).size := by rw [Array.size_append]; omega
  obtain ⟨N', mid, errsMid, _, h', hj, he⟩ := parseRuntimeLoop_reach_loc hbar _ N [] [] A.size r₀ hle h₀
  have := parseRuntimeLoop_seam hP ⟨E, hb⟩ (exprFuel_append_left (A ++ X) B) h' hpB
  rw [Array.size_append] at this hj he
  refine ⟨mid, errsMid, ?_, hj, he⟩
  rw [this]
  simp [List.append_assoc]

theorem msgsTerms_attachO (lc : Option (List Span)) (cnt : Nat) (l : List (Entry Span)) :
    msgsTerms (attachO lc cnt l) = msgsTerms l := by
  cases lc with
  | none => rfl
  | some c =>
    simp only [attachO]
    cases l with
    | nil => rfl
    | cons e rest =>
      cases e <;> simp only [attachC, msgsTerms] <;> split <;> simp [msgsTerms]

theorem msgsTerms_map_sh (d : Nat) (l : List (Entry Span)) :
    msgsTerms (l.map (shEntry d)) = (msgsTerms l).map (shEntry d) := by
  induction l with
  | nil => rfl
  | cons e rest ih => cases e <;> simp [msgsTerms, Entry.mapS, ih]

end FluentProofs.Parser

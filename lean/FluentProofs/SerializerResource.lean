import FluentProofs.SerializerExtClass
import FluentProofs.SerializerResTexts
/-!
# Serializer round trip: the writer appends the text of an entry (C04, writer half)

Messages and terms with attributes and attached comments, free comments of the three levels (with the `wrote_non_junk_entry`
blank-line logic); without Junk entries the option `with_junk` makes no difference.
-/
namespace FluentProofs.Ser
open FluentModel FluentModel.Syntax FluentModel.Syntax.Ser FluentProofs.Parser

theorem ws0_writeLiteral {w : Writer} {nl : Bool} (hw : WS w 0 nl) (item : Bytes) (hne : item ≠ [])
    (h13 : item.getLast? ≠ some 13) :
    (w.writeLiteral item).buffer = w.buffer ++ item.toArray ∧ WS (w.writeLiteral item) 0 (endsNl item) := by
  obtain ⟨hb, hw1⟩ := ws_writeLiteral hw item hne h13
  refine ⟨?_, hw1⟩
  rw [hb]; cases nl <;> simp [spacesL]

theorem ws0_writeTidy {w : Writer} {nl : Bool} (hw : WS w 0 nl) (item : Bytes) (ht : tidy item = true) :
    (w.writeLiteral item).buffer = w.buffer ++ item.toArray ∧ WS (w.writeLiteral item) 0 false := by
  obtain ⟨h1, h2, h3⟩ := tidy_ne_last ht
  have := ws0_writeLiteral hw item h1 h2
  rwa [h3] at this

theorem wsc_newline {w : Writer} {L : Nat} (hw : WSc w L false) :
    w.newline.buffer = w.buffer ++ ((if endsWith w 13 then [13] else []) ++ [(10 : UInt8)]).toArray ∧
      WS w.newline L true := by
  have hb : w.newline.buffer = w.buffer ++ ((if endsWith w 13 then [13] else []) ++ [(10 : UInt8)]).toArray := by
    rw [newline_buffer]; split <;> simp
  refine ⟨hb, by simp [hw.1], ?_, by simp⟩
  simp [Writer.newline, endsWith]

theorem serComment_text (pre : Bytes) (hp : tidy pre = true) (c : List Bytes) (hc : ∀ l ∈ c, commentLineOK l = true) :
    ∀ (w : Writer) (nl : Bool), WS w 0 nl → c ≠ [] →
      (serComment w pre c).buffer = w.buffer ++ (commentText pre c).toArray ∧ WS (serComment w pre c) 0 true := by
  induction c with
  | nil => intro w nl _ h; exact absurd rfl h
  | cons l ls ih =>
    intro w nl hw _
    have hl := hc l (List.mem_cons_self)
    obtain ⟨hb1, hw1⟩ := ws0_writeTidy hw pre hp
    have hline : ∃ w2, (if (!isBlankLine l) = true then ((w.writeLiteral pre).writeLiteral (lit " ")).writeLiteral l
          else w.writeLiteral pre) = w2 ∧
        w2.newline.buffer = w.buffer ++ (pre ++ (if isBlankLine l then [] else 32 :: (l ++ crDbl l)) ++ [10]).toArray ∧
        WS w2.newline 0 true := by
      refine ⟨_, rfl, ?_⟩
      cases hbl : isBlankLine l
      · simp only [Bool.not_false, if_true, lit_sp]
        obtain ⟨hb2, hw2⟩ := ws0_writeTidy hw1 [32] (by decide)
        obtain ⟨hb3, hw3, h13⟩ := wsc_writeLiteral hw2.toC l (commentLine_ne hbl)
        have hh : (l.head? == some 10) = false := by simpa using commentLine_head hl
        rw [hh, Bool.and_false] at hb3
        have hnl : endsNl l = false := by
          simp only [endsNl, beq_eq_false_iff_ne, ne_eq]
          exact fun h => commentLineOK_mem hl 10 (List.mem_of_getLast? h) rfl
        rw [hnl] at hw3
        obtain ⟨hb4, hw4⟩ := wsc_newline hw3
        refine ⟨?_, hw4⟩
        rw [hb4, hb3, hb2, hb1, h13]; apply Array.ext'; simp [crDbl]
      · simp only [Bool.not_true, Bool.false_eq_true, if_false]
        obtain ⟨hb4, hw4⟩ := ws_newline hw1
        exact ⟨by rw [hb4, hb1]; apply Array.ext'; simp, hw4⟩
    obtain ⟨w2, e2, hb3, hw3⟩ := hline
    simp only [serComment, e2]
    cases ls with
    | nil =>
      simp only [serComment, commentText]
      refine ⟨?_, hw3⟩
      rw [hb3]
    | cons l2 ls2 =>
      obtain ⟨hb4, hw4⟩ := ih (fun x hx => hc x (List.mem_cons_of_mem _ hx)) w2.newline true hw3 (by simp)
      refine ⟨?_, hw4⟩
      rw [hb4, hb3]; apply Array.ext'; simp [commentText]

theorem serAttributesGo_text (as : List (Attribute Bytes)) (hv : ∀ a ∈ as, rtAttr a = true) :
    ∀ w : Writer, WS w 1 false →
      ∃ w', serAttributesGo w as = some w' ∧ w'.buffer = w.buffer ++ (attrsText as).toArray ∧ WS w' 1 false := by
  induction as with
  | nil => intro w hw; exact ⟨w, rfl, by simp [attrsText], hw⟩
  | cons a as ih =>
    intro w hw
    have ha := hv a (List.mem_cons_self)
    simp only [rtAttr, Bool.and_eq_true] at ha
    obtain ⟨hb1, hw1⟩ := ws_newline hw
    obtain ⟨hb2, hw2⟩ := ws_writeTidy hw1 [46] (by decide)
    obtain ⟨hb3, hw3⟩ := ws_writeTidy hw2 a.id (validIdent_tidy ha.1)
    obtain ⟨hb4, hw4⟩ := ws_writeTidy hw3 [32, 61] (by decide)
    obtain ⟨w5, hs5, hb5, hw5⟩ := (rtPattern_patRT a.value ha.2 1).ser _ hw4
    obtain ⟨w6, hs6, hb6, hw6⟩ := ih (fun x hx => hv x (List.mem_cons_of_mem _ hx)) w5 hw5
    refine ⟨w6, by simp only [serAttributesGo, lit_dot, lit_eq, hs5, hs6], ?_, hw6⟩
    rw [hb6, hb5, hb4, hb3, hb2, hb1]
    apply Array.ext'
    simp [attrsText, attrText, spacesL]

theorem serAttributes_text (as : List (Attribute Bytes)) (hv : ∀ a ∈ as, rtAttr a = true) (w : Writer)
    (hw : WS w 0 false) :
    ∃ w', serAttributes w as = some w' ∧ w'.buffer = w.buffer ++ (attrsText as).toArray ∧ WS w' 0 false := by
  cases as with
  | nil => exact ⟨w, by simp [serAttributes], by simp [attrsText], hw⟩
  | cons a as =>
    obtain ⟨w1, hs1, hb1, hw1⟩ := serAttributesGo_text (a :: as) hv w.indent (ws_indent hw)
    obtain ⟨w2, hs2, hb2, hw2⟩ := ws_dedent hw1
    exact ⟨w2, by simp [serAttributes, hs1, hs2], by rw [hb2, hb1]; rfl, hw2⟩

theorem serOptComment_text (oc : Option (List Bytes)) (hc : rtOptComment oc = true) (w : Writer) (nl : Bool)
    (hw : WS w 0 nl) :
    ∃ nl', ((match oc with
        | some c => serComment w (lit "#") c
        | none => w).buffer = w.buffer ++ (optCommentText oc).toArray) ∧
      WS (match oc with
        | some c => serComment w (lit "#") c
        | none => w) 0 nl' := by
  cases oc with
  | none => exact ⟨nl, by simp [optCommentText], hw⟩
  | some c =>
    simp only [rtOptComment, rtComment_iff] at hc
    have := serComment_text [35] (by decide) c hc.2 w nl hw hc.1
    exact ⟨true, by simpa [optCommentText, lit_hash] using this.1, by simpa [lit_hash] using this.2⟩

theorem serEntry_text (withJunk : Bool) (e : Entry Bytes) (he : rtEntry e = true) (es : List (Entry Bytes))
    (w : Writer) (nl b : Bool) (hw : WS w 0 nl) :
    ∃ w', w'.buffer = w.buffer ++ (entryText b e).toArray ∧ WS w' 0 true ∧
      serResourceGo withJunk w b (e :: es) = serResourceGo withJunk w' true es := by
  have free : ∀ (pre : Bytes) (c : List Bytes), tidy pre = true → rtComment c = true →
      (serFreeComment w b pre c).buffer = w.buffer ++ ((if b then [10] else []) ++ commentText pre c ++ [10]).toArray ∧
        WS (serFreeComment w b pre c) 0 true := by
    intro pre c hp hc
    rw [rtComment_iff] at hc
    simp only [serFreeComment]
    cases b with
    | true =>
      -- a blank line first; the buffer ends with `\n` here, which `newline` does not care about
      obtain ⟨hb0, hw0⟩ := ws_newline hw
      obtain ⟨hb1, hw1⟩ := serComment_text pre hp c hc.2 w.newline true hw0 hc.1
      obtain ⟨hb2, hw2⟩ := ws_newline hw1
      refine ⟨?_, hw2⟩
      simp only [if_true]
      rw [hb2, hb1, hb0]; apply Array.ext'; simp
    | false =>
      obtain ⟨hb1, hw1⟩ := serComment_text pre hp c hc.2 w nl hw hc.1
      obtain ⟨hb2, hw2⟩ := ws_newline hw1
      refine ⟨?_, hw2⟩
      simp only [Bool.false_eq_true, if_false]
      rw [hb2, hb1]; apply Array.ext'; simp
  cases e with
  | message m =>
    obtain ⟨id, value, attrs, comment⟩ := m
    simp only [rtEntry, Bool.and_eq_true, List.all_eq_true] at he
    obtain ⟨⟨⟨hid, hval⟩, hattrs⟩, hcom⟩ := he
    have body : ∀ (w0 : Writer) (nl0 : Bool), WS w0 0 nl0 →
        ∃ w', w'.buffer = w0.buffer ++ (id ++ [32, 61] ++ optPatText value ++ attrsText attrs ++ [10]).toArray ∧
          WS w' 0 true ∧
          (serOptPattern ((w0.writeLiteral id).writeLiteral [32, 61]) value).bind
              (fun w3 => (serAttributes w3 attrs).map Writer.newline) = some w' := by
      intro w0 nl0 hw0
      obtain ⟨hb2, hw2⟩ := ws0_writeTidy hw0 id (validIdent_tidy hid)
      obtain ⟨hb3, hw3⟩ := ws0_writeTidy hw2 [32, 61] (by decide)
      cases value with
      | none =>
        obtain ⟨w5, hs5, hb5, hw5⟩ := serAttributes_text attrs hattrs _ hw3
        obtain ⟨hb6, hw6⟩ := ws_newline hw5
        refine ⟨w5.newline, ?_, hw6, by simp [serOptPattern, hs5]⟩
        rw [hb6, hb5, hb3, hb2]; apply Array.ext'; simp [optPatText]
      | some v =>
        simp only at hval
        obtain ⟨w4, hs4, hb4, hw4⟩ := (rtPattern_patRT v hval 0).ser _ hw3
        obtain ⟨w5, hs5, hb5, hw5⟩ := serAttributes_text attrs hattrs w4 hw4
        obtain ⟨hb6, hw6⟩ := ws_newline hw5
        refine ⟨w5.newline, ?_, hw6, by simp [serOptPattern, hs4, hs5]⟩
        rw [hb6, hb5, hb4, hb3, hb2]; apply Array.ext'; simp [optPatText]
    obtain ⟨nl', hbc, hwc⟩ := serOptComment_text comment hcom w nl hw
    obtain ⟨w', hb', hw', hs'⟩ := body _ nl' hwc
    refine ⟨w', by rw [hb', hbc]; apply Array.ext'; simp [entryText], hw', serResourceGo_message b es ?_⟩
    rw [serMessage_bind]
    cases comment <;> simpa only [commentHead, lit_eq] using hs'
  | term t =>
    obtain ⟨id, value, attrs, comment⟩ := t
    simp only [rtEntry, Bool.and_eq_true, List.all_eq_true] at he
    obtain ⟨⟨⟨hid, hval⟩, hattrs⟩, hcom⟩ := he
    have body : ∀ (w0 : Writer) (nl0 : Bool), WS w0 0 nl0 →
        ∃ w', w'.buffer = w0.buffer ++ (45 :: (id ++ [32, 61] ++ patText 0 value ++ attrsText attrs ++ [10])).toArray ∧
          WS w' 0 true ∧
          (serPattern (((w0.writeLiteral [45]).writeLiteral id).writeLiteral [32, 61]) value).bind
              (fun w3 => (serAttributes w3 attrs).map Writer.newline) = some w' := by
      intro w0 nl0 hw0
      obtain ⟨hb2a, hw2a⟩ := ws0_writeTidy hw0 [45] (by decide)
      obtain ⟨hb2, hw2⟩ := ws0_writeTidy hw2a id (validIdent_tidy hid)
      obtain ⟨hb3, hw3⟩ := ws0_writeTidy hw2 [32, 61] (by decide)
      obtain ⟨w4, hs4, hb4, hw4⟩ := (rtPattern_patRT value hval 0).ser _ hw3
      obtain ⟨w5, hs5, hb5, hw5⟩ := serAttributes_text attrs hattrs w4 hw4
      obtain ⟨hb6, hw6⟩ := ws_newline hw5
      refine ⟨w5.newline, ?_, hw6, by simp [hs4, hs5]⟩
      rw [hb6, hb5, hb4, hb3, hb2, hb2a]; apply Array.ext'; simp
    obtain ⟨nl', hbc, hwc⟩ := serOptComment_text comment hcom w nl hw
    obtain ⟨w', hb', hw', hs'⟩ := body _ nl' hwc
    refine ⟨w', by rw [hb', hbc]; apply Array.ext'; simp [entryText], hw', serResourceGo_term b es ?_⟩
    rw [serTerm_bind]
    cases comment <;> simpa only [commentHead, lit_eq, lit_minus] using hs'
  | comment c =>
    obtain ⟨hb, hw'⟩ := free [35] c (by decide) he
    exact ⟨_, by simpa [entryText] using hb, hw', by simp [serResourceGo]⟩
  | groupComment c =>
    obtain ⟨hb, hw'⟩ := free [35, 35] c (by decide) he
    exact ⟨_, by simpa [entryText] using hb, hw', by simp [serResourceGo]⟩
  | resourceComment c =>
    obtain ⟨hb, hw'⟩ := free [35, 35, 35] c (by decide) he
    exact ⟨_, by simpa [entryText] using hb, hw', by simp [serResourceGo]⟩
  | junk c => simp [rtEntry] at he

theorem serResourceGo_noJunk (withJunk : Bool) (r : List (Entry Bytes)) (hr : ∀ e ∈ r, isJunk e = false) :
    ∀ (w : Writer) (b : Bool), serResourceGo withJunk w b r = serResourceGo true w b r := by
  induction r with
  | nil => intro w b; rfl
  | cons e es ih =>
    intro w b
    have ih' := ih fun x hx => hr x (List.mem_cons_of_mem _ hx)
    cases e with
    | junk c => have := hr _ List.mem_cons_self; simp [isJunk] at this
    | message m => simp only [serResourceGo]; cases serMessage w m <;> simp [ih']
    | term t => simp only [serResourceGo]; cases serTerm w t <;> simp [ih']
    | comment c => simp only [serResourceGo, ih']
    | groupComment c => simp only [serResourceGo, ih']
    | resourceComment c => simp only [serResourceGo, ih']

theorem serialize_noJunk (withJunk : Bool) (r : List (Entry Bytes)) (hr : ∀ e ∈ r, isJunk e = false) :
    serialize withJunk r = serialize true r := by
  simp only [serialize, serResourceGo_noJunk withJunk r hr]

end FluentProofs.Ser

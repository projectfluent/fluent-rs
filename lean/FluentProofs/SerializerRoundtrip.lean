import FluentProofs.SerializerParse
/-!
# Serializer round trip: `get_inline_expression` reads `inlineBytes e` back (C04, parser half, inline chain)

`getInline_bytes`: for every `validInline` expression `e`, on any source that contains
`inlineBytes e` in `[p, q)` and continues with something that cannot extend the expression
(`Follow`), `getInline` returns a span-tree that resolves to `e` and stops right behind the text
(behind the following blanks for a message / term reference without arguments, because
`get_call_arguments` skips blanks before it looks for `(`).  The loop over call arguments is stated once for
any way of writing an argument (`getCallArgsLoop_posG`, `getCallArgsLoop_namedG`: each argument comes with the
hypothesis that `get_inline_expression` reads it back); `getInline_bytes` supplies these hypotheses for its
arguments by structural recursion.
-/
namespace FluentProofs.Ser
open FluentModel FluentModel.Syntax FluentModel.Syntax.Ser FluentProofs.Parser

theorem Follow.ident {s : Src} {q : Nat} (h : Follow s q) : NoPredAt s isIdentByte q := fun c hc => (h.1 c hc).1

theorem Follow.num {s : Src} {q : Nat} (h : Follow s q) : NoPredAt s numStop q := fun c hc => by
  obtain ⟨h1, h2⟩ := h.1 c hc
  simp only [numStop, Bool.or_eq_false_iff, beq_eq_false_iff_ne]
  refine ⟨?_, h2⟩
  cases hd : isDigit c
  · rfl
  · rw [identByte_of_digit c hd] at h1; cases h1

theorem follow_of_byte {s : Src} {q : Nat} (c : UInt8) (h : s[q]? = some c)
    (hc : c = 44 ∨ c = 41 ∨ c = 125 ∨ c = 58) : Follow s q ∧ skipBlank s q = q := by
  have hc' : c ≠ 32 ∧ c ≠ 10 ∧ c ≠ 13 ∧ c ≠ 40 ∧ c ≠ 46 ∧ isIdentByte c = false := by
    rcases hc with rfl | rfl | rfl | rfl <;> decide
  have hsb : skipBlank s q = q := skipBlank_at h hc'.1 hc'.2.1 hc'.2.2.1
  refine ⟨⟨fun c' hc'' => ?_, ?_, ?_⟩, hsb⟩
  · rw [h] at hc''; cases hc''; exact ⟨hc'.2.2.2.2.2, hc'.2.2.2.2.1⟩
  · rw [hsb, h]; intro h'; cases h'; exact hc'.2.2.2.1 rfl
  · rw [hsb, h]; intro h'; cases h'; exact hc'.2.2.2.2.1 rfl

theorem getInline_literal {s : Src} (hs : AsciiThenBoundary s) (v : Inline Bytes) (hl : isLiteral v = true)
    (hv : validInline v = true) {p q : Nat} (n : Nat) (ol : Bool) (h : AtTo s p (inlineBytes v) q)
    (hstop : NoPredAt s numStop q) :
    ∃ v', getInline s (n + 1) ol p = .ok v' q ∧ v'.mapS (spanBytes s) = v := by
  cases v with
  | str b =>
    simp only [validInline] at hv
    obtain ⟨h0, h⟩ := atTo_cons.mp h
    obtain ⟨m, hB, h⟩ := atTo_append.mp h
    obtain ⟨h34, h⟩ := atTo_cons.mp h
    obtain rfl := atTo_nil.mp h
    exact ⟨.str ⟨p + 1, m⟩, getInline_str hs hv n ol h0 hB h34, by simp [Inline.mapS, hB.span]⟩
  | num b =>
    simp only [validInline] at hv
    have h : AtTo s p b q := h
    exact ⟨_, getInline_num hs hv n ol h hstop, by simp [Inline.mapS, h.span]⟩
  | _ => simp [isLiteral] at hl

theorem nextPos_close (s : Src) (q : Nat) (h : s[q]? = some 41) :
    skipBlank s (takeByteIf s (skipBlank s q) 44).fst = q := by
  have h1 := skipBlank_at h (by decide) (by decide) (by decide)
  rw [h1, takeByteIf_neg (p := q) (b := 44) (by rw [h]; decide)]
  exact h1

theorem nextPos_comma (s : Src) (q : Nat) (b : UInt8) (h0 : s[q]? = some 44) (h1 : s[q + 1]? = some 32)
    (h2 : s[q + 2]? = some b) (hb : b ≠ 32 ∧ b ≠ 10 ∧ b ≠ 13) :
    skipBlank s (takeByteIf s (skipBlank s q) 44).fst = q + 2 := by
  rw [skipBlank_at h0 (by decide) (by decide) (by decide), takeByteIf_pos h0]
  simp only []
  rw [skipBlank_space s (q + 1) h1]
  exact skipBlank_at h2 hb.1 hb.2.1 hb.2.2

theorem getCallArguments_open (s : Src) (m q : Nat) (b : UInt8) (r : List (Inline Span) × List (Span × Inline Span))
    (qe : Nat) (h40 : s[q]? = some 40) (hb : s[q + 1]? = some b) (hnb : b ≠ 32 ∧ b ≠ 10 ∧ b ≠ 13)
    (hloop : getCallArgsLoop s m [] [] (q + 1) = .ok r qe) (h41 : s[qe]? = some 41) :
    getCallArguments s (m + 1) q = .ok (some r) (qe + 1) := by
  rw [getCallArguments]
  rw [skipBlank_at h40 (by decide) (by decide) (by decide), takeByteIf_pos h40]
  simp only [Bool.not_true, Bool.false_eq_true, if_false]
  rw [skipBlank_at hb hnb.1 hnb.2.1 hnb.2.2, hloop]
  obtain ⟨r1, r2⟩ := r
  simp [expectByte, isCurrentByte, h41]

theorem endPos_stay (e : Inline Bytes) (s : Src) (q : Nat) (h : skipBlank s q = q) : endPos e s q = q := by
  unfold endPos; split <;> simp [h]

theorem getPlaceable_inline (s : Src) (k p1 p1' : Nat) (e' : Inline Span) (pe pc : Nat) (hsb : skipBlank s p1 = p1')
    (he : getInline s k false p1' = .ok e' pe) (hsb2 : skipBlank s pe = pc) (h125 : s[pc]? = some 125)
    (hnt : ∀ a b c, e' ≠ .term a (some b) c) :
    getPlaceable s (k + 2) p1 = .ok (.inline e') (pc + 1) := by
  have hex : getExpression s (k + 1) (skipBlank s p1) = .ok (.inline e') pc := by
    rw [hsb, getExpression_unfold, he]
    simp only [R.bind_ok, hsb2]
    exact exprTail_inline hnt (by rw [h125]; decide)
  exact getPlaceable_close hex h125 fun a b c h => hnt a b c (Expr.inline.inj h)

/-! the texts of the arguments, nested to the right, so that `atTo_append`/`atTo_cons` peel one round off the front -/

theorem namedTextG_cons (txt : Inline Bytes → Bytes) (n : Bytes) (v : Inline Bytes) (xs : List (Bytes × Inline Bytes)) :
    namedTextG txt ((n, v) :: xs) =
      n ++ 58 :: 32 :: (txt v ++ ((if xs.isEmpty then [] else [44, 32]) ++ namedTextG txt xs)) := by
  rw [namedTextG]; simp only [List.append_assoc, List.cons_append, List.nil_append]

theorem posTextG_cons (txt : Inline Bytes → Bytes) (x : Inline Bytes) (xs : List (Inline Bytes)) (nn : Bool) (nt : Bytes) :
    posTextG txt (x :: xs) nn nt = txt x ++ ((if xs.isEmpty && nn then [] else [44, 32]) ++ posTextG txt xs nn nt) := by
  rw [posTextG, List.append_assoc]

/-- the named arguments in `[p, q)`: the cursor ends on the `)` that closes the text, one before `q` -/
theorem getCallArgsLoop_namedG {s : Src} (hs : AsciiThenBoundary s) (txt : Inline Bytes → Bytes)
    (fa : Inline Bytes → Nat) (named : List (Bytes × Inline Bytes))
    (hn : ∀ nv ∈ named, validIdent nv.1 = true ∧ ArgParseOL txt fa nv.2) (hnd : (named.map Prod.fst).Nodup) :
    ∀ (p q fuel : Nat) (pos0 : List (Inline Span)) (named0 : List (Span × Inline Span)),
      AtTo s p (namedTextG txt named) q → namedFuelG fa named + 3 ≤ fuel →
      (∀ n ∈ named.map Prod.fst, n ∉ accNames s named0) →
      ∃ named', getCallArgsLoop s fuel pos0 named0 p = .ok (pos0, named0 ++ named') (q - 1) ∧
        mapNamed (spanBytes s) named' = named := by
  induction named with
  | nil =>
    intro p q fuel pos0 named0 h hf _
    obtain ⟨h41, h⟩ := atTo_cons.mp h
    obtain rfl := atTo_nil.mp h
    exact ⟨[], by rw [getCallArgsLoop_close (k := 0) (by omega) h41]; simp, rfl⟩
  | cons x xs ih =>
    obtain ⟨n, v⟩ := x
    intro p q fuel pos0 named0 h hf hdis
    obtain ⟨hid, hv⟩ : validIdent n = true ∧ ArgParseOL txt fa v := hn (n, v) List.mem_cons_self
    have hxs : ∀ nv ∈ xs, validIdent nv.1 = true ∧ ArgParseOL txt fa nv.2 := fun nv h => hn nv (List.mem_cons_of_mem _ h)
    obtain ⟨k, rfl⟩ : ∃ k, fuel = k + 3 := ⟨fuel - 3, by simp only [namedFuelG] at hf; omega⟩
    simp only [namedFuelG] at hf
    simp only [List.map_cons, List.nodup_cons] at hnd
    -- `n` in `[p, m₁)`, `: `, the value in `[m₁ + 2, m₂)`, the separator in `[m₂, m₃)`, the other arguments in `[m₃, q)`
    rw [namedTextG_cons] at h
    obtain ⟨m₁, hN, h⟩ := atTo_append.mp h
    obtain ⟨h58, h⟩ := atTo_cons.mp h
    obtain ⟨h32, h⟩ := atTo_cons.mp h
    obtain ⟨m₂, hV, h⟩ := atTo_append.mp h
    obtain ⟨m₃, hS, hR⟩ := atTo_append.mp h
    obtain ⟨hfol, hsb⟩ := follow_of_byte 58 h58 (by decide)
    have e1 := getInline_msg_none hs hid k hN hfol.ident hfol.2
    rw [hsb] at e1
    obtain ⟨vb, hvb, hvnb⟩ := hv.head
    have hsb2 : skipBlank s (m₁ + 1) = m₁ + 1 + 1 := by
      rw [skipBlank_space s _ h32]; exact skipBlank_notBlank (hV.head hvb) hvnb
    -- behind the value: `)`, or `, ` and the next name
    obtain ⟨hnext, hfolv, hsbv⟩ : argSep s m₂ = m₃ ∧ Follow s m₂ ∧ skipBlank s m₂ = m₂ := by
      unfold argSep
      cases xs with
      | nil =>
        obtain rfl := atTo_nil.mp hS
        obtain ⟨h41, _⟩ := atTo_cons.mp hR
        obtain ⟨hf1, hf2⟩ := follow_of_byte 41 h41 (by decide)
        exact ⟨nextPos_close s _ h41, hf1, hf2⟩
      | cons y ys =>
        obtain ⟨h44, hS⟩ := atTo_cons.mp hS
        obtain ⟨h32', hS⟩ := atTo_cons.mp hS
        obtain rfl := atTo_nil.mp hS
        obtain ⟨yb, hyb, y1, y2, y3, _⟩ := namedTextG_head txt (y :: ys) (fun nv h => (hxs nv h).1)
        obtain ⟨hf1, hf2⟩ := follow_of_byte 44 h44 (by decide)
        exact ⟨nextPos_comma s _ yb h44 h32' (hR.head hyb) ⟨y1, y2, y3⟩, hf1, hf2⟩
    obtain ⟨v', ev, rv⟩ := hv.parse s _ _ (k + 2) hs hV hfolv hsbv (by omega)
    have hdup : (named0.any fun na => spanBytes s na.fst == spanBytes s ⟨p, m₁⟩) = false := by
      rw [hN.span, List.any_eq_false]
      intro na hna heq
      exact hdis n (by simp) (List.mem_map.mpr ⟨na, hna, by simpa using heq⟩)
    obtain ⟨named', eih, rih⟩ := ih hxs hnd.2 m₃ q (k + 2) pos0 (named0 ++ [(⟨p, m₁⟩, v')]) hR (by omega) (by
      intro m hm
      simp only [accNames, List.map_append, List.map_cons, List.map_nil, List.mem_append, List.mem_singleton, hN.span, not_or]
      exact ⟨hdis m (by simp [hm]), fun hmn => hnd.1 (by subst hmn; simpa using hm)⟩)
    refine ⟨(⟨p, m₁⟩, v') :: named', ?_, by simp [mapNamed, rv, rih, hN.span]⟩
    rw [getCallArgsLoop_arg e1]
    simp only [argTail, hsb, h58, if_true, hdup, Bool.false_eq_true, if_false, hsb2, ev, R.bind_ok, hnext, eih,
      List.append_assoc, List.singleton_append]

theorem getCallArgsLoop_posG {s : Src} (hs : AsciiThenBoundary s) (txt : Inline Bytes → Bytes)
    (fa : Inline Bytes → Nat) (xs : List (Inline Bytes)) (hx : ∀ x ∈ xs, ArgParse txt fa x)
    (named : List (Bytes × Inline Bytes)) (hvn : ∀ nv ∈ named, validIdent nv.1 = true)
    (hnl : ∀ (p q fuel : Nat) (pos0 : List (Inline Span)), AtTo s p (namedTextG txt named) q → namedFuelG fa named + 3 ≤ fuel →
      ∃ named', getCallArgsLoop s fuel pos0 [] p = .ok (pos0, named') (q - 1) ∧ mapNamed (spanBytes s) named' = named) :
    ∀ (p q fuel : Nat) (pos0 : List (Inline Span)), AtTo s p (posTextG txt xs named.isEmpty (namedTextG txt named)) q →
      argsFuelG fa xs + namedFuelG fa named + 3 ≤ fuel →
      ∃ xs' named', getCallArgsLoop s fuel pos0 [] p = .ok (pos0 ++ xs', named') (q - 1) ∧
        mapInl (spanBytes s) xs' = xs ∧ mapNamed (spanBytes s) named' = named := by
  induction xs with
  | nil =>
    intro p q fuel pos0 h hfuel
    obtain ⟨named', hl, hm⟩ := hnl p q fuel pos0 h (by simp only [argsFuelG] at hfuel; omega)
    exact ⟨[], named', by simpa using hl, rfl, hm⟩
  | cons x xs ih =>
    intro p q fuel pos0 h hfuel
    have hx0 := hx x List.mem_cons_self
    have hxr : ∀ y ∈ xs, ArgParse txt fa y := fun y hy => hx y (List.mem_cons_of_mem _ hy)
    simp only [argsFuelG] at hfuel
    obtain ⟨k, rfl⟩ : ∃ k, fuel = k + 1 := ⟨fuel - 1, by omega⟩
    -- the argument in `[p, m₁)`, the separator in `[m₁, m₂)`, the other arguments in `[m₂, q)`
    rw [posTextG_cons] at h
    obtain ⟨m₁, hX, h⟩ := atTo_append.mp h
    obtain ⟨m₂, hS, hR⟩ := atTo_append.mp h
    obtain ⟨hnext, hfol, hsb, h58⟩ : argSep s m₁ = m₂ ∧ Follow s m₁ ∧ skipBlank s m₁ = m₁ ∧ s[m₁]? ≠ some 58 := by
      unfold argSep
      by_cases hlast : (xs.isEmpty && named.isEmpty) = true
      · rw [if_pos hlast] at hS
        obtain rfl := atTo_nil.mp hS
        simp only [Bool.and_eq_true, List.isEmpty_iff] at hlast
        obtain ⟨rfl, rfl⟩ := hlast
        obtain ⟨h41, _⟩ := atTo_cons.mp (show AtTo s m₁ [41] q from hR)
        obtain ⟨hf1, hf2⟩ := follow_of_byte 41 h41 (by decide)
        exact ⟨nextPos_close s _ h41, hf1, hf2, by rw [h41]; decide⟩
      · rw [if_neg hlast] at hS
        obtain ⟨h44, hS⟩ := atTo_cons.mp hS
        obtain ⟨h32, hS⟩ := atTo_cons.mp hS
        obtain rfl := atTo_nil.mp hS
        obtain ⟨hf1, hf2⟩ := follow_of_byte 44 h44 (by decide)
        obtain ⟨b, hb, hnb⟩ := posTextG_head txt xs (fun y hy => (hxr y hy).head) named hvn
        exact ⟨nextPos_comma s _ b h44 h32 (hR.head hb) hnb, hf1, hf2, by rw [h44]; decide⟩
    obtain ⟨e', he, hme⟩ := hx0.parse s _ _ k hs hX hfol (by omega)
    rw [endPos_stay x s _ hsb] at he
    obtain ⟨xs', named', hloop, hmx, hmn⟩ := ih hxr m₂ q k (pos0 ++ [e']) hR (by omega)
    refine ⟨e' :: xs', named', ?_, by simp [mapInl, hme, hmx], hmn⟩
    rw [getCallArgsLoop_arg he, argTail_positional rfl (by rw [hsb]; exact h58), hnext, hloop, List.append_assoc,
      List.singleton_append]

theorem getCallArgsLoop_argsG {s : Src} (hs : AsciiThenBoundary s) (txt : Inline Bytes → Bytes)
    (fa : Inline Bytes → Nat) (xs : List (Inline Bytes)) (hx : ∀ x ∈ xs, ArgParse txt fa x)
    (named : List (Bytes × Inline Bytes)) (hn : ∀ nv ∈ named, validIdent nv.1 = true ∧ ArgParseOL txt fa nv.2)
    (hnd : (named.map Prod.fst).Nodup) {p q : Nat} (fuel : Nat) (pos0 : List (Inline Span))
    (h : AtTo s p (posTextG txt xs named.isEmpty (namedTextG txt named)) q)
    (hfuel : argsFuelG fa xs + namedFuelG fa named + 3 ≤ fuel) :
    ∃ xs' named', getCallArgsLoop s fuel pos0 [] p = .ok (pos0 ++ xs', named') (q - 1) ∧
      mapInl (spanBytes s) xs' = xs ∧ mapNamed (spanBytes s) named' = named :=
  getCallArgsLoop_posG hs txt fa xs hx named (fun nv h => (hn nv h).1)
    (fun p q fuel pos0 h hf => by
      simpa using getCallArgsLoop_namedG hs txt fa named hn hnd p q fuel pos0 [] h hf (by simp [accNames]))
    p q fuel pos0 h hfuel

/-- `(` at `q`, the arguments and `)` in `[q + 1, E)` -/
theorem getCallArguments_argsG {s : Src} (hs : AsciiThenBoundary s) (txt : Inline Bytes → Bytes)
    (fa : Inline Bytes → Nat) (xs : List (Inline Bytes)) (hx : ∀ x ∈ xs, ArgParse txt fa x)
    (named : List (Bytes × Inline Bytes)) (hn : ∀ nv ∈ named, validIdent nv.1 = true ∧ ArgParseOL txt fa nv.2)
    (hnd : (named.map Prod.fst).Nodup) {q E : Nat} (m : Nat) (h40 : s[q]? = some 40)
    (hT : AtTo s (q + 1) (posTextG txt xs named.isEmpty (namedTextG txt named)) E)
    (hm : argsFuelG fa xs + namedFuelG fa named + 3 ≤ m) :
    ∃ xs' named', getCallArguments s (m + 1) q = .ok (some (xs', named')) E ∧
      mapInl (spanBytes s) xs' = xs ∧ mapNamed (spanBytes s) named' = named := by
  obtain ⟨xs', named', hloop, hmx, hmn⟩ := getCallArgsLoop_argsG hs txt fa xs hx named hn hnd m [] hT hm
  obtain ⟨pre, hpre⟩ := posTextG_last txt xs named
  obtain ⟨b, hb, hnb⟩ := posTextG_head txt xs (fun x hx' => (hx x hx').head) named (fun nv h => (hn nv h).1)
  have hE : E - 1 + 1 = E := by have := hT.len; rw [hpre] at this; simp at this; omega
  have hca := getCallArguments_open s m q b _ _ h40 (hT.head hb) hnb hloop (hT.last (by rw [hpre]; simp))
  exact ⟨xs', named', by rw [hca, hE, List.nil_append], hmx, hmn⟩

/-- `-name` at `p`, `.attr` or nothing in `[m₁, m₂)`, then what `get_call_arguments` makes of the rest: `(…)`, or nothing -/
theorem getInline_term_call {s : Src} (hs : AsciiThenBoundary s) {id : Bytes} {attr : Option Bytes}
    (hid : validIdent id = true) (hattr : optIdent attr = true) {p m₁ m₂ : Nat} (k : Nat) (h0 : s[p]? = some 45)
    (hI : AtTo s (p + 1) id m₁) (hA : AtTo s m₁ (attrBytes attr) m₂) (hstop : NoPredAt s isIdentByte m₂)
    (hdot : attr = none → s[m₂]? ≠ some 46)
    {args : Option (List (Inline Span) × List (Span × Inline Span))} {q : Nat}
    (hca : getCallArguments s k m₂ = .ok args q) :
    ∃ a', getInline s (k + 1) false p = .ok (.term ⟨p + 1, m₁⟩ a' args) q ∧ a'.map (spanBytes s) = attr := by
  obtain ⟨c, hc0, hc⟩ := at_ident_head hid hI.txt
  have hstopI : NoPredAt s isIdentByte m₁ := by
    cases attr with
    | none => obtain rfl := atTo_nil.mp hA; exact hstop
    | some a => intro c hc; rw [(atTo_cons.mp hA).1] at hc; cases hc; decide
  obtain ⟨a', haa, hma⟩ := getAttributeAccessor_at hs hattr hA hstop hdot
  exact ⟨a', getInline_term_at h0 hc0 hc (getIdentifier_at hs hid hI hstopI) haa hca, hma⟩

/-- `NAME` in `[p, m)`, `(` at `m` -/
theorem getInline_fn_call {s : Src} (hs : AsciiThenBoundary s) {id : Bytes} (hid : validIdent id = true)
    (hcallee : isCalleeName id = true) {p m : Nat} (k : Nat) (h1 : AtTo s p id m) (h40 : s[m]? = some 40)
    {xs' : List (Inline Span)} {named' : List (Span × Inline Span)} {q : Nat}
    (hca : getCallArguments s k m = .ok (some (xs', named')) q) :
    getInline s (k + 1) false p = .ok (.fn ⟨p, m⟩ xs' named') q := by
  obtain ⟨c, h0, hc⟩ := at_ident_head hid h1.txt
  have hstop : NoPredAt s isIdentByte m := fun c hc => by rw [h40] at hc; cases hc; decide
  have hcal : isCallee s ⟨p, m⟩ = true := by
    simp only [isCallee, h1.span]; exact hcallee
  rw [getInline_at_alpha h0 hc, inlineRef, getIdentifierUnchecked_at hs hid h1 hstop]
  simp only [R.bind_ok, hca, hcal, Bool.not_true, Bool.false_eq_true, if_false]

mutual

theorem getInline_bytes {s : Src} (hs : AsciiThenBoundary s) (e : Inline Bytes) (hv : validInline e = true)
    {p q : Nat} (fuel : Nat) (h : AtTo s p (inlineBytes e) q) (hf : Follow s q) (hfuel : fuelInline e ≤ fuel) :
    ∃ e', getInline s fuel false p = .ok e' (endPos e s q) ∧ e'.mapS (spanBytes s) = e := by
  cases e with
  | str v =>
    obtain ⟨n, rfl⟩ : ∃ n, fuel = n + 1 := ⟨fuel - 1, by simp [fuelInline] at hfuel; omega⟩
    exact getInline_literal hs (.str v) rfl hv n false h hf.num
  | num v =>
    obtain ⟨n, rfl⟩ : ∃ n, fuel = n + 1 := ⟨fuel - 1, by simp [fuelInline] at hfuel; omega⟩
    exact getInline_literal hs (.num v) rfl hv n false h hf.num
  | var id =>
    obtain ⟨n, rfl⟩ : ∃ n, fuel = n + 1 := ⟨fuel - 1, by simp [fuelInline] at hfuel; omega⟩
    obtain ⟨h0, hI⟩ := atTo_cons.mp h
    exact ⟨.var ⟨p + 1, q⟩, getInline_var hs hv n h0 hI hf.ident, by simp [Inline.mapS, hI.span]⟩
  | msg id attr =>
    obtain ⟨n, rfl⟩ : ∃ n, fuel = n + 2 := ⟨fuel - 2, by simp [fuelInline] at hfuel; omega⟩
    simp only [validInline, Bool.and_eq_true] at hv
    obtain ⟨m, hI, hA⟩ := atTo_append.mp h
    cases attr with
    | none =>
      obtain rfl := atTo_nil.mp hA
      exact ⟨.msg ⟨p, m⟩ none, getInline_msg_none hs hv.1 n hI hf.ident hf.2, by simp [Inline.mapS, hI.span]⟩
    | some a =>
      obtain ⟨hdot, hA⟩ := atTo_cons.mp hA
      exact ⟨.msg ⟨p, m⟩ (some ⟨m + 1, q⟩), getInline_msg_some hs hv.1 hv.2 n hI hdot hA hf.ident,
        by simp [Inline.mapS, hI.span, hA.span]⟩
  | term id attr args =>
    cases args with
    | none =>
      obtain ⟨n, rfl⟩ : ∃ n, fuel = n + 2 := ⟨fuel - 2, by simp [fuelInline] at hfuel; omega⟩
      simp only [validInline, Bool.and_eq_true] at hv
      obtain ⟨h0, h⟩ := atTo_cons.mp h
      obtain ⟨m, hI, hA⟩ := atTo_append.mp h
      obtain ⟨a', hin, hma⟩ := getInline_term_call hs hv.1 hv.2 (n + 1) h0 hI hA hf.ident
        (fun _ h46 => hf.2.2 (by rw [skipBlank_at h46 (by decide) (by decide) (by decide)]; exact h46))
        (getCallArguments_none (k := n) (Nat.le_refl _) hf.2.1)
      exact ⟨_, hin, by simp [Inline.mapS, hI.span, hma]⟩
    | some pn =>
      obtain ⟨pos, named⟩ := pn
      simp only [validInline, Bool.and_eq_true] at hv
      obtain ⟨⟨⟨⟨hid, hattr⟩, hpos⟩, hnamed⟩, hnd⟩ := hv
      obtain ⟨m, rfl⟩ : ∃ m, fuel = m + 2 := ⟨fuel - 2, by simp [fuelInline] at hfuel; omega⟩
      have hm : argsFuelG fuelInline pos + namedFuelG fuelInline named + 3 ≤ m := by
        rw [← fuelArgs_eq, ← fuelNamed_eq]; simp [fuelInline] at hfuel; omega
      -- `-id` in `[p, m₁)`, the attribute in `[m₁, m₂)`, `(` at `m₂`, the arguments up to `q`
      obtain ⟨h0, h⟩ := atTo_cons.mp h
      rw [List.append_assoc] at h
      obtain ⟨m₁, hI, h⟩ := atTo_append.mp h
      obtain ⟨m₂, hA, h⟩ := atTo_append.mp h
      obtain ⟨h40, hT⟩ := atTo_cons.mp h
      rw [posTail_eq, namedTail_eq] at hT
      obtain ⟨xs', named', hca, hmx, hmn⟩ := getCallArguments_argsG hs inlineBytes fuelInline pos (argsParse pos hpos)
        named (namedParse named hnamed) (by simpa [namesNodup] using hnd) m h40 hT hm
      obtain ⟨a', hin, hma⟩ := getInline_term_call hs hid hattr (m + 1) h0 hI hA
        (fun c hc => by rw [h40] at hc; cases hc; decide) (fun _ => by rw [h40]; decide) hca
      exact ⟨_, hin, by simp [Inline.mapS, hI.span, hma, hmx, hmn]⟩
  | fn id pos named =>
    simp only [validInline, Bool.and_eq_true] at hv
    obtain ⟨⟨⟨⟨hid, hcallee⟩, hpos⟩, hnamed⟩, hnd⟩ := hv
    obtain ⟨m, rfl⟩ : ∃ m, fuel = m + 2 := ⟨fuel - 2, by simp [fuelInline] at hfuel; omega⟩
    have hm : argsFuelG fuelInline pos + namedFuelG fuelInline named + 3 ≤ m := by
      rw [← fuelArgs_eq, ← fuelNamed_eq]; simp [fuelInline] at hfuel; omega
    obtain ⟨m₁, hI, h⟩ := atTo_append.mp h
    obtain ⟨h40, hT⟩ := atTo_cons.mp h
    rw [posTail_eq, namedTail_eq] at hT
    obtain ⟨xs', named', hca, hmx, hmn⟩ := getCallArguments_argsG hs inlineBytes fuelInline pos (argsParse pos hpos)
      named (namedParse named hnamed) (by simpa [namesNodup] using hnd) m h40 hT hm
    exact ⟨_, getInline_fn_call hs hid hcallee (m + 1) hI h40 hca, by simp [Inline.mapS, hI.span, hmx, hmn]⟩
  | placeable e =>
    cases e with
    | select sel vs => simp [validInline, validInner] at hv
    | inline i =>
      have hvi : validInner (.inline i) = true := by simpa [validInline] using hv
      have hi := validInner_inline hvi
      obtain ⟨k, rfl⟩ : ∃ k, fuel = k + 3 := ⟨fuel - 3, by simp [fuelInline, fuelInner] at hfuel; omega⟩
      -- `{` at `p`, the expression in `[p + 1, m)`, `}` at `m`
      obtain ⟨h0, h⟩ := atTo_cons.mp h
      obtain ⟨m, hI, h⟩ := atTo_append.mp h
      obtain ⟨h125, h⟩ := atTo_cons.mp h
      obtain rfl := atTo_nil.mp h
      obtain ⟨hfol, hsb⟩ := follow_of_byte 125 h125 (by decide)
      obtain ⟨e', he, hm⟩ := getInline_bytes hs i hi k hI hfol (by simp [fuelInline, fuelInner] at hfuel; omega)
      rw [endPos_stay i s _ hsb] at he
      obtain ⟨b, hb, hnb⟩ := inlineBytes_head i hi
      have hpl := getPlaceable_inline s k (p + 1) (p + 1) e' _ _ (skipBlank_notBlank (hI.head hb) hnb) he hsb h125
        (notTermAttr_of_valid hvi e' _ hm)
      exact ⟨.placeable (.inline e'), by rw [getInline_at_brace h0, inlineNested, hpl]; rfl,
        by simp [Inline.mapS, Expr.mapS, hm]⟩

theorem argsParse (xs : List (Inline Bytes)) (hv : validInl xs = true) :
    ∀ x ∈ xs, ArgParse inlineBytes fuelInline x := by
  cases xs with
  | nil => intro x hx; cases hx
  | cons x xs =>
    simp only [validInl, Bool.and_eq_true] at hv
    intro y hy
    cases hy with
    | head => exact ⟨inlineBytes_head x hv.1, fun _ _ _ fuel hs h hf hfu => getInline_bytes hs x hv.1 fuel h hf hfu⟩
    | tail _ hy => exact argsParse xs hv.2 y hy

theorem namedParse (named : List (Bytes × Inline Bytes)) (hv : validNamed named = true) :
    ∀ nv ∈ named, validIdent nv.1 = true ∧ ArgParseOL inlineBytes fuelInline nv.2 := by
  cases named with
  | nil => intro nv h; cases h
  | cons x xs =>
    obtain ⟨n, v⟩ := x
    simp only [validNamed, Bool.and_eq_true] at hv
    obtain ⟨⟨⟨hn, hl⟩, hvv⟩, hxs⟩ := hv
    intro nv hnv
    cases hnv with
    | tail _ hnv => exact namedParse xs hxs nv hnv
    | head =>
      refine ⟨hn, inlineBytes_head v hvv, fun s p q fuel hs h hf hsb hfu => ?_⟩
      obtain ⟨k, rfl⟩ : ∃ k, fuel = k + 1 := ⟨fuel - 1, by have := fuelInline_ge v; have : fuelInline v ≤ fuel := hfu; omega⟩
      -- on a letter `only_literal` is not looked at
      have viaFalse : (∃ c rest, inlineBytes v = c :: rest ∧ isAlpha c = true) →
          ∃ v', getInline s (k + 1) true p = .ok v' q ∧ v'.mapS (spanBytes s) = v := by
        intro ⟨c, rest, hc, hca⟩
        obtain ⟨v', ev, rv⟩ := getInline_bytes hs v hvv (k + 1) h hf hfu
        have hc0 : s[p]? = some c := h.head (by rw [hc]; rfl)
        rw [endPos_stay v s _ hsb] at ev
        exact ⟨v', by rw [getInline_ol_alpha s k _ c hc0 hca]; exact ev, rv⟩
      cases v with
      | str b => exact getInline_literal hs (.str b) rfl hvv k true h hf.num
      | num b => exact getInline_literal hs (.num b) rfl hvv k true h hf.num
      | msg id attr =>
        simp only [validInline, Bool.and_eq_true] at hvv
        obtain ⟨c, rest, hidc, hc, _⟩ := validIdent_head hvv.1
        exact viaFalse ⟨c, rest ++ attrBytes attr, by simp [inlineBytes, hidc], hc⟩
      | fn id pos nm =>
        simp only [validInline, Bool.and_eq_true] at hvv
        obtain ⟨c, rest, hidc, hc, _⟩ := validIdent_head hvv.1.1.1.1
        exact viaFalse ⟨c, _, by simp only [inlineBytes, hidc, List.cons_append]; rfl, hc⟩
      | var id => simp [isNamedValue] at hl
      | term a b c => simp [isNamedValue] at hl
      | placeable e => simp [isNamedValue] at hl

end

theorem getCallArgsLoop_pos {s : Src} (hs : AsciiThenBoundary s) (xs : List (Inline Bytes)) (hv : validInl xs = true)
    (named : List (Bytes × Inline Bytes)) (hvn : validNamed named = true) (hnl : NamedLoopOK s named)
    (p fuel : Nat) (pos0 : List (Inline Span)) (h : At s p (posTail xs named.isEmpty (namedTail named)))
    (hfuel : fuelArgs xs + fuelNamed named + 3 ≤ fuel) :
    ∃ xs' named', getCallArgsLoop s fuel pos0 [] p =
        .ok (pos0 ++ xs', named') (p + (posTail xs named.isEmpty (namedTail named)).length - 1) ∧
      mapInl (spanBytes s) xs' = xs ∧ mapNamed (spanBytes s) named' = named := by
  rw [posTail_eq, namedTail_eq] at h ⊢
  refine getCallArgsLoop_posG hs inlineBytes fuelInline xs (argsParse xs hv) named (fun nv h => (namedParse named hvn nv h).1)
    (fun p q fuel pos0 h hf => ?_) p _ fuel pos0 h.atTo (by rw [← fuelArgs_eq, ← fuelNamed_eq]; exact hfuel)
  obtain ⟨h, rfl⟩ := h
  rw [← namedTail_eq] at h ⊢
  simpa using hnl p fuel pos0 [] h (by rw [fuelNamed_eq]; exact hf) (by simp [accNames])

theorem getCallArgsLoop_named {s : Src} (hs : AsciiThenBoundary s) (named : List (Bytes × Inline Bytes))
    (hv : validNamed named = true) (hnd : (named.map Prod.fst).Nodup)
    (p fuel : Nat) (pos0 : List (Inline Span)) (named0 : List (Span × Inline Span))
    (h : At s p (namedTail named)) (hf : fuelNamed named + 3 ≤ fuel)
    (hdis : ∀ n ∈ named.map Prod.fst, n ∉ accNames s named0) :
    ∃ named', getCallArgsLoop s fuel pos0 named0 p =
        .ok (pos0, named0 ++ named') (p + (namedTail named).length - 1) ∧
      mapNamed (spanBytes s) named' = named := by
  rw [namedTail_eq] at h ⊢
  exact getCallArgsLoop_namedG hs inlineBytes fuelInline named (namedParse named hv) hnd p _ fuel pos0 named0 h.atTo
    (by rw [← fuelNamed_eq]; exact hf) hdis

end FluentProofs.Ser

import FluentProofs.NumOperands
/-!
# Rule functions depend on the operand `n` only through its value; selection lemmas (support for C12)
-/
namespace FluentProofs.Num
open FluentModel FluentModel.Num FluentModel.Plural

/-- two operand records that agree except for the spelling of `n` (same numeric value) -/
def Same (a b : Operands) : Prop :=
  a.n.valueEq b.n = true ∧ a.i = b.i ∧ a.v = b.v ∧ a.w = b.w ∧ a.f = b.f ∧ a.t = b.t

theorem digitsToNat_zero_cons (l : List Nat) : digitsToNat (0 :: l) = digitsToNat l := by
  simp [digitsToNat]

theorem digitsToNat_stripLeading : ∀ (l : List Nat), digitsToNat (stripLeadingZeros l) = digitsToNat l
  | [] => by simp [stripLeadingZeros]
  | [y] => by cases y <;> simp [stripLeadingZeros]
  | 0 :: d :: rest => by
    rw [stripLeadingZeros, digitsToNat_zero_cons]; exact digitsToNat_stripLeading (d :: rest)
  | (n + 1) :: d :: rest => by simp [stripLeadingZeros]

theorem nInt_congr {a b : Operands} (h : Same a b) : a.nInt = b.nInt := by
  have hv := h.1
  unfold Dec.valueEq at hv
  simp only [Bool.and_eq_true, beq_iff_eq, Prod.mk.injEq] at hv
  obtain ⟨⟨hi, hf⟩, _⟩ := hv
  unfold Operands.nInt
  rw [hf]
  have : digitsToNat a.n.int = digitsToNat b.n.int := by
    rw [← digitsToNat_stripLeading a.n.int, ← digitsToNat_stripLeading b.n.int, hi]
  rw [this]

/-- a rule function that looks at `n` only through its numeric value (true of every CLDR rule) -/
def RespectsValue (rule : NumType → Rule) : Prop := ∀ ty a b, Same a b → rule ty a = rule ty b

theorem cldrRule_respects (lang : String) : RespectsValue (cldrRule lang) := by
  intro ty a b h
  have hn := nInt_congr h
  obtain ⟨_, hi, hv, hw, hf, ht⟩ := h
  unfold cldrRule
  split <;> split <;>
    simp only [cardEn, cardPl, cardRu, cardAr, cardFr, cardCs, cardLt, cardJa, cardSl, cardCy, cardRo, cardPt, cardPtPT,
      ordEn, ordFr, ordUk, ordCy, ordSv, ordOther, nEq, nModEq, nModIn, hn, hi, hv, hf] <;> rfl

theorem crateRule_respects (lang : String) : RespectsValue (crateRule lang) := by
  intro ty a b h
  have hn := nInt_congr h
  unfold crateRule
  split
  case h_7 => exact cldrRule_respects lang _ a b h
  all_goals
    obtain ⟨_, hi, hv, hw, hf, ht⟩ := h
    simp only [crateCardAr, crateCardLt, crateCardRo, crateOrdEn, crateOrdUk, crateOrdSv, nEq, hn, hi, hv, hf] <;> rfl

/-! ## where the rules of intl_pluralrules 7.0.2 still agree with CLDR (the boundary of known finding F26)

`o.nInt = some o.i` says the value is integral (and `i` not saturated). -/

theorem crate_ar_agrees (o : Operands) (hn : o.nInt = some o.i) (h : o.i < 100) :
    crateCardAr o = cardAr o := by
  have hm : o.i % 100 = o.i := Nat.mod_eq_of_lt h
  simp only [crateCardAr, cardAr, nEq, nModIn, hn, hm, inRange]
  by_cases h0 : o.i = 0
  · simp [h0]
  by_cases h1 : o.i = 1
  · simp [h1]
  by_cases h2 : o.i = 2
  · simp [h2]
  by_cases h3 : 3 ≤ o.i ∧ o.i ≤ 10
  · simp [h0, h1, h2, h3]
  by_cases h4 : 11 ≤ o.i ∧ o.i ≤ 99
  · have : ¬ (3 ≤ o.i ∧ o.i ≤ 10) := h3
    simp [h0, h1, h2, h3, h4]
  · omega

theorem crate_lt_agrees (o : Operands) (hn : o.nInt = some o.i) (hf : o.f = 0) (h : o.i < 20) :
    crateCardLt o = cardLt o := by
  simp only [crateCardLt, cardLt, nModEq, nModIn, hn, hf]
  -- both sides are now functions of `o.i` alone; below 20 they are compared value by value
  generalize o.i = i at h
  revert i
  decide

theorem crate_ordEn_agrees (o : Operands) (hn : o.nInt = some o.i) : crateOrdEn o = ordEn o := by
  simp only [crateOrdEn, ordEn, nModEq, hn]
  have h10 : o.i % 10 < 10 := Nat.mod_lt _ (by decide)
  by_cases h3 : o.i % 10 = 3
  · simp [h3]
  by_cases h1 : o.i % 10 = 1
  · simp [h1]
  · simp [h3, h1]

theorem firstMatch_append (cat : FluentNumber → Option Category) (sel : Val)
    (pre : List (Key × Bool)) (post : List (Key × Bool)) (i : Nat)
    (hpre : ∀ kd ∈ pre, ∃ kv, keyValue kd.1 = .val kv ∧ keyMatches cat kv sel = some false) :
    firstMatch cat sel (pre ++ post) i = firstMatch cat sel post (i + pre.length) := by
  induction pre generalizing i with
  | nil => simp
  | cons p t ih =>
    obtain ⟨k, d⟩ := p
    obtain ⟨kv, h1, h2⟩ := hpre (k, d) (by simp)
    simp only [List.cons_append, firstMatch, h1, h2]
    rw [ih (i + 1) (fun kd hkd => hpre kd (by simp [hkd]))]
    simp only [List.length_cons]
    congr 1
    omega

theorem firstMatch_none (cat : FluentNumber → Option Category) (sel : Val)
    (vs : List (Key × Bool)) (i : Nat)
    (h : ∀ kd ∈ vs, ∃ kv, keyValue kd.1 = .val kv ∧ keyMatches cat kv sel = some false) :
    firstMatch cat sel vs i = none := by
  have := firstMatch_append cat sel vs [] i h
  simpa [firstMatch] using this

end FluentProofs.Num

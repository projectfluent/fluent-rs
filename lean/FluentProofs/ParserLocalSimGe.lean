import FluentProofs.ParserLocalSimDefs
/-!
# Locality of the parser, SIMULATION family, part 1: cursors never move before the start (one source)

`CurGe p r`: the cursor of an `ok` / `err` outcome `r` of a parser function started at `p` is `≥ p` (for `err` this
is the *cursor* reported with the error, not the error's `posStart` as in `Mono`).  Hypothesis-free, any fuel.  It is
read off `Fwd` (`Fwd.curGe`), for which `ParserMono` walks the expression parser.  It is what `SimR.bind` asks of a
continuation: once a sub-call has returned a cursor behind `N`, so does the caller (`Past.bind`; `placeable_past`,
`callArguments_past`, `expression_past` say it of three callers).
-/
namespace FluentProofs.Parser
open FluentModel.Syntax

theorem Fwd.curGe {α : Type} {p : Nat} {r : R α} (h : Fwd p r) : CurGe p r := by
  cases r with
  | ok a q => exact h
  | err e q => exact h.1
  | panic m => trivial
  | fuel => trivial

theorem expectByte_ge (s : Src) (p : Nat) (b : UInt8) : CurGe p (expectByte s p b) :=
  (expectByte_fwd s p b).curGe

theorem skipDigits_ge (s : Src) (p : Nat) : CurGe p (skipDigits s p) :=
  (skipDigits_fwd s p).curGe

theorem getNumberLiteral_minus {s : Src} {p : Nat} (h : s[p]? = some 45) : CurGe (p + 1) (getNumberLiteral s p) := by
  have ht : (takeByteIf s p 45).1 = p + 1 := by
    rcases takeByteIf_cases s p 45 with ⟨ht, _⟩ | ⟨_, hne⟩
    · rw [ht]
    · exact absurd h hne
  rw [getNumberLiteral_eq, ht]
  refine (skipDigits_ge s (p + 1)).seq fun _ p2 => CurGe.ite ?_ ?_
  · refine ((skipDigits_ge s (p2 + 1)).weaken (Nat.le_succ p2)).seq fun _ p4 => ?_
    split
    · exact Nat.le_refl p4
    · trivial
  · split
    · exact Nat.le_refl p2
    · trivial

theorem getIdentifierUnchecked_ge (s : Src) (p : Nat) : CurGe p (getIdentifierUnchecked s p) :=
  (getIdentifierUnchecked_fwd s p).curGe

theorem getIdentifierUnchecked_not_err {s : Src} {p : Nat} {e : PErr} {q : Nat} :
    getIdentifierUnchecked s p ≠ .err e q := by
  unfold getIdentifierUnchecked
  simp only []
  split
  · intro h; cases h
  · split <;> intro h <;> cases h

theorem getIdentifier_ge (s : Src) (p : Nat) : CurGe p (getIdentifier s p) :=
  (getIdentifier_fwd s p).curGe

theorem getAttributeAccessor_ge (s : Src) (p : Nat) : CurGe p (getAttributeAccessor s p) :=
  (getAttributeAccessor_fwd s p).curGe

structure GSpecs (s : Src) (n : Nat) : Prop where
  patternLoop : ∀ st p, CurGe p (getPatternLoop s n st p)
  pattern : ∀ p, CurGe p (getPattern s n p)
  placeable : ∀ p, CurGe p (getPlaceable s n p)
  expression : ∀ p, CurGe p (getExpression s n p)
  inline : ∀ ol p, CurGe p (getInline s n ol p)
  callArguments : ∀ p, CurGe p (getCallArguments s n p)
  callArgsLoop : ∀ pos named p, CurGe p (getCallArgsLoop s n pos named p)
  variants : ∀ hd acc p, CurGe p (getVariants s n hd acc p)

theorem gspecs_all (s : Src) (n : Nat) : GSpecs s n :=
  have h := fwdspecs_all s n
  { patternLoop := fun st p => (h.patternLoop st p).curGe
    pattern := fun p => (h.pattern p).curGe
    placeable := fun p => (h.placeable p).curGe
    expression := fun p => (h.expression p).curGe
    inline := fun ol p => (h.inline ol p).curGe
    callArguments := fun p => (h.callArguments p).curGe
    callArgsLoop := fun pos named p => (h.callArgsLoop pos named p).curGe
    variants := fun hd acc p => (h.variants hd acc p).curGe }

theorem getPattern_ge (s : Src) (fuel p : Nat) : CurGe p (getPattern s fuel p) := (gspecs_all s fuel).pattern p

section
variable (s : Src) (n : Nat)

theorem exprTail_ge (exp : Inline Span) (q : Nat) : CurGe q (exprTail s n exp q) :=
  (exprTail_fwd (fwdspecs_all s n) exp q).curGe

theorem argTail_ge (pos : List (Inline Span)) (named : List (Span × Inline Span)) (expr : Inline Span) (q : Nat) :
    CurGe q (argTail s n pos named expr q) :=
  (argTail_fwd (fwdspecs_all s n) pos named expr q).curGe

theorem patAfterText_ge (st : PatState) (p indent : Nat) (v : Nat × Nat × Bool × Termination) (q : Nat) :
    CurGe q (patAfterText s n st p indent v q) :=
  (patAfterText_fwd (fwdspecs_all s n) st p indent v q).curGe

theorem patClose_ge (st : PatState) (q : Nat) : CurGe q (patClose s st q) :=
  (patClose_fwd s st q).curGe

theorem inlineNum_minus {p : Nat} (h : s[p]? = some 45) : CurGe (p + 1) (inlineNum s p) :=
  (getNumberLiteral_minus h).seq fun _ q => Nat.le_refl q

theorem inlineTerm_ge (p : Nat) : CurGe (p + 2) (inlineTerm s n p) :=
  (getIdentifierUnchecked_ge s (p + 2)).seq fun _ q =>
    (getAttributeAccessor_ge s q).seq fun _ q1 => ((gspecs_all s n).callArguments q1).seq fun _ q2 => Nat.le_refl q2

/-- what `inlineRef` does behind the identifier `id` and the call arguments `args` -/
theorem refTail_ge (id : Span) (args : Option (List (Inline Span) × List (Span × Inline Span))) (q1 : Nat) :
    CurGe q1 (match args with
      | some (pos, named) =>
        if (!isCallee s id) = true then (R.err (mkErr .forbiddenCallee q1) q1 : R (Inline Span)) else .ok (.fn id pos named) q1
      | none => (getAttributeAccessor s q1).bind fun attr q2 => .ok (Inline.msg id attr) q2) := by
  cases args with
  | some pn => exact CurGe.ite (Nat.le_refl q1) (Nat.le_refl q1)
  | none => exact (getAttributeAccessor_ge s q1).seq fun _ q2 => Nat.le_refl q2

theorem inlineRef_ge (p : Nat) : CurGe (p + 1) (inlineRef s n p) :=
  (getIdentifierUnchecked_ge s (p + 1)).seq fun id q => ((gspecs_all s n).callArguments q).seq (refTail_ge s id)

end

theorem placeable_past {s : Src} {N f p : Nat} (h : Past N (getExpression s f (skipBlank s p))) :
    Past N (getPlaceable s (f + 1) p) := by
  rw [getPlaceable_unfold]
  exact h.bind fun _ q hq => CurGe.past (((expectByte_ge s _ 125).weaken (skipBlankInline_after s q).le).seq fun _ q2 =>
    CurGe.ite (Nat.le_refl q2) (Nat.le_refl q2)) hq

theorem callArguments_past {s : Src} {N f p : Nat} (hb : s[skipBlank s p]? = some 40)
    (h : Past N (getCallArgsLoop s f [] [] (skipBlank s (skipBlank s p + 1)))) : Past N (getCallArguments s (f + 1) p) := by
  rw [getCallArguments_unfold, if_pos hb]
  exact h.bind fun _ q hq => CurGe.past ((expectByte_ge s q 41).seq fun _ q1 => Nat.le_refl q1) hq

theorem expression_past {s : Src} {N f p : Nat} (h : Past N (getInline s f false p)) :
    Past N (getExpression s (f + 1) p) := by
  rw [getExpression_unfold]
  exact h.bind fun exp q hq => ((exprTail_ge s f exp _).weaken (skipBlank_after s q).le).past hq

theorem getAttribute_ge (s : Src) (fuel p : Nat) : CurGe p (getAttribute s fuel p) := by
  rw [getAttribute_eq]
  refine (getIdentifier_ge s p).seq fun id q =>
    ((expectByte_ge s _ 61).weaken (skipBlankInline_after s q).le).seq fun _ q2 => (getPattern_ge s fuel q2).seq fun o q3 => ?_
  cases o <;> exact Nat.le_refl q3

theorem getAttributesGo_ge (s : Src) (fuel n : Nat) (acc : List (Attribute Span)) (p : Nat) :
    CurGe p (getAttributesGo s fuel n acc p) := by
  induction n generalizing acc p with
  | zero => trivial
  | succ n ih =>
    rw [getAttributesGo_unfold]
    refine CurGe.ite ?_ (Nat.le_refl p)
    have h1 := (skipBlankInline_after s p).le
    rcases (getAttribute_ge s fuel (skipBlankInline s p + 1)).cases with ⟨a, q, hr, h3⟩ | ⟨e, q, hr, h3⟩ | ⟨m, hr⟩ | hr <;>
      rw [hr]
    · exact (ih _ q).weaken (by omega)
    · exact Nat.le_refl p
    · trivial
    · trivial

theorem getAttributes_ge (s : Src) (fuel p : Nat) : CurGe p (getAttributes s fuel p) :=
  getAttributesGo_ge s fuel _ [] p

theorem getMessage_ge (s : Src) (fuel es p : Nat) : CurGe p (getMessage s fuel es p) := by
  rw [getMessage_eq]
  exact (getIdentifier_ge s p).seq fun id q =>
    ((expectByte_ge s _ 61).weaken (skipBlankInline_after s q).le).seq fun _ q2 =>
      (getPattern_ge s fuel q2).seq fun pat q3 =>
        ((getAttributes_ge s fuel _).weaken (skipBlankBlock_le s q3)).seq fun attrs q5 =>
          CurGe.ite (Nat.le_refl q5) (Nat.le_refl q5)

theorem getTerm_ge (s : Src) (fuel es p : Nat) : CurGe p (getTerm s fuel es p) := by
  rw [getTerm_eq]
  refine (expectByte_ge s p 45).seq fun _ p0 => (getIdentifier_ge s p0).seq fun id q =>
    ((expectByte_ge s _ 61).weaken (skipBlankInline_after s q).le).seq fun _ q2 =>
      ((getPattern_ge s fuel _).weaken (skipBlankInline_after s q2).le).seq fun value q3 =>
        ((getAttributes_ge s fuel _).weaken (skipBlankBlock_le s q3)).seq fun attrs q5 => ?_
  cases value <;> exact Nat.le_refl q5

end FluentProofs.Parser

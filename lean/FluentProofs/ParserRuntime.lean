import FluentProofs.ParserLoops
import FluentProofs.ParserSteps
/-!
# Runtime parser vs full parser (C05): lock-step on entries that do not start with `#`

The runtime parser skips comments instead of attaching them.  `msgsTerms` is what C05 compares: the messages and terms of a
body without their attached comments (`get_message` and `get_term` themselves never set one: `getMessage_comment_none`,
`getTerm_comment_none`).  On a position that does not hold a `#` both `get_entry` functions are the same choice between
`get_term` and `get_message` (`getEntry_of_not_hash`, `getEntryRuntime_of_not_hash`).  On a source without any `#` (`NoHash`)
the two loops therefore take the same steps and the two parsers return the same (`parseLoop_eq_runtime_of_noHash`, for
`C05_no_hash_partial`).
-/
namespace FluentModel.Syntax

/-- strip the attached comment (what the runtime parser never produces) -/
def Entry.noComment : Entry Span → Entry Span
  | .message m => .message { m with comment := none }
  | .term t => .term { t with comment := none }
  | e => e

/-- messages and terms of a body, without comments -/
def msgsTerms : List (Entry Span) → List (Entry Span)
  | [] => []
  | .message m :: rest => .message { m with comment := none } :: msgsTerms rest
  | .term t :: rest => .term { t with comment := none } :: msgsTerms rest
  | _ :: rest => msgsTerms rest

theorem getMessage_comment_none (s : Src) (fuel a p : Nat) (m : Message Span) (q : Nat)
    (h : getMessage s fuel a p = .ok m q) : m.comment = none := by
  rw [FluentProofs.Parser.getMessage_eq] at h
  obtain ⟨id, q1, _, h⟩ := R.bind_eq_ok h
  obtain ⟨_, q2, _, h⟩ := R.bind_eq_ok h
  obtain ⟨pat, q3, _, h⟩ := R.bind_eq_ok h
  obtain ⟨attrs, q5, _, h⟩ := R.bind_eq_ok h
  split at h
  · cases h
  · cases h; rfl

theorem getTerm_comment_none (s : Src) (fuel a p : Nat) (t : Term Span) (q : Nat)
    (h : getTerm s fuel a p = .ok t q) : t.comment = none := by
  rw [FluentProofs.Parser.getTerm_eq] at h
  obtain ⟨_, p0, _, h⟩ := R.bind_eq_ok h
  obtain ⟨id, q1, _, h⟩ := R.bind_eq_ok h
  obtain ⟨_, q2, _, h⟩ := R.bind_eq_ok h
  obtain ⟨pat, q3, _, h⟩ := R.bind_eq_ok h
  obtain ⟨attrs, q5, _, h⟩ := R.bind_eq_ok h
  cases pat with
  | none => cases h
  | some v => cases h; rfl

theorem getEntry_of_not_hash (s : Src) (fuel p : Nat) (h : s[p]? ≠ some 35) :
    getEntry s fuel p =
      if s[p]? = some 45 then (getTerm s fuel p p).bind fun t q => .ok (.term t) q
      else (getMessage s fuel p p).bind fun m q => .ok (.message m) q := by
  rw [FluentProofs.Parser.getEntry_unfold, if_neg h]

theorem getEntryRuntime_of_not_hash (s : Src) (fuel p : Nat) (h : s[p]? ≠ some 35) :
    getEntryRuntime s fuel p =
      if s[p]? = some 45 then (getTerm s fuel p p).bind fun t q => .ok (some (.term t)) q
      else (getMessage s fuel p p).bind fun m q => .ok (some (.message m)) q := by
  rw [FluentProofs.Parser.getEntryRuntime_unfold, if_neg h]

def NoHash (s : Src) : Prop := ∀ i : Nat, s[i]? ≠ some (35 : UInt8)

theorem parseLoop_eq_runtime_of_noHash (s : Src) (h : NoHash s) (fuel n : Nat) (body : List (Entry Span))
    (errors : List PErr) (lbc p : Nat) :
    parseLoop s fuel n body errors none lbc p = parseRuntimeLoop s fuel n body errors p := by
  induction n generalizing body errors lbc p with
  | zero => rfl
  | succ n ih =>
    rw [parseLoop_unfold, parseRuntimeLoop_unfold, getEntry_of_not_hash s fuel p (h p),
      getEntryRuntime_of_not_hash s fuel p (h p)]
    simp only [FluentProofs.Parser.flushC, List.append_nil]
    by_cases hp : p < s.size
    · rw [if_pos hp, if_pos hp]
      have junk : ∀ e q, junkThen s p e q (fun content e' q1 =>
            parseLoop s fuel n (body ++ [.junk content]) (errors ++ [e']) none
              (skipBlankBlock s q1).2 (skipBlankBlock s q1).1) =
          junkThen s p e q (fun content e' q1 =>
            parseRuntimeLoop s fuel n (body ++ [.junk content]) (errors ++ [e']) (skipBlankBlock s q1).1) := by
        intro e q
        congr 1
        funext content e' q1
        exact ih _ _ _ _
      by_cases h45 : s[p]? = some 45
      · rw [if_pos h45, if_pos h45]
        cases getTerm s fuel p p with
        | ok t q => exact ih _ _ _ _
        | err e q => exact junk e q
        | panic m => rfl
        | fuel => rfl
      · rw [if_neg h45, if_neg h45]
        cases getMessage s fuel p p with
        | ok t q => exact ih _ _ _ _
        | err e q => exact junk e q
        | panic m => rfl
        | fuel => rfl
    · rw [if_neg hp, if_neg hp]

end FluentModel.Syntax

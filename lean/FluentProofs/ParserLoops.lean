import FluentProofs.ParserSteps
import FluentProofs.ParserScan
/-!
# Loop-level facts about `parse` / `parseRuntime`

These depend only on the structure of the two entry loops, not on what the entry parsers accept: one iteration of each
loop as an equation (`parseLoop_unfold`, `parseRuntimeLoop_unfold`; every proof about the loops starts from these), and the
accounting invariant `Acc` of C03 between body and error list, which depends on the body through its Junk spans only; that both
loops keep it is proved in `ParserLoopRun`.  For proofs that follow the loop forwards over a known text (the grammar
refinement and the serializer's parse-back), `Runs` says what it appends from a position on, with one rule per kind of round.
-/
namespace FluentModel.Syntax

/-- spans of the Junk entries of a body, in order -/
def junkSpans : List (Entry Span) → List Span
  | [] => []
  | .junk c :: rest => c :: junkSpans rest
  | _ :: rest => junkSpans rest

def Entry.isJunk : Entry Span → Bool
  | .junk _ => true
  | _ => false

theorem junkSpans_append (a b : List (Entry Span)) : junkSpans (a ++ b) = junkSpans a ++ junkSpans b := by
  induction a with
  | nil => rfl
  | cons e rest ih => cases e <;> simp [junkSpans, ih]

theorem junkSpans_single_nonjunk (e : Entry Span) (h : e.isJunk = false) : junkSpans [e] = [] := by
  cases e <;> simp_all [junkSpans, Entry.isJunk]

/-- what the end of `parseLoop` does with a pending comment -/
def _root_.FluentProofs.Parser.flushC (lc : Option (List Span)) : List (Entry Span) :=
  match lc with
  | some c => [.comment c]
  | none => []

open FluentProofs.Parser (flushC)

/-- what an iteration that parsed `e` appends to the body: a message or term takes a pending comment `lc` that is
fewer than two line breaks (`lbc`; the one that ends the comment counts) away, a comment becomes pending itself, anything else
goes behind `lc` -/
def recorded (lc : Option (List Span)) (lbc : Nat) : Entry Span → List (Entry Span)
  | .comment _ => flushC lc
  | .message m =>
    (match lc with
     | some c => if lbc < 2 then [.message { m with comment := some c }] else [.comment c, .message m]
     | none => [.message m])
  | .term t =>
    (match lc with
     | some c => if lbc < 2 then [.term { t with comment := some c }] else [.comment c, .term t]
     | none => [.term t])
  | e => flushC lc ++ [e]

/-- the comment pending after the entry `e` -/
def pendingAfter : Entry Span → Option (List Span)
  | .comment c => some c
  | _ => none

/-- the iteration at `p` after `get_entry` failed with `e` at `q`: skip to the next entry start, record the Junk -/
def junkThen {α : Type} (s : Src) (p : Nat) (e : PErr) (q : Nat) (k : Span → PErr → Nat → Outcome α) : Outcome α :=
  match skipToNextEntryStart s p q with
  | none => .panic "skip_to_next_entry_start slice"
  | some q1 =>
    match slice s p q1 with
    | some content => k content { clampErr e q1 with slice := some (p, q1) } q1
    | none => .panic "junk slice"

theorem parseLoop_unfold (s : Src) (fuel n : Nat) (body : List (Entry Span)) (errors : List PErr)
    (lc : Option (List Span)) (lbc p : Nat) :
    parseLoop s fuel (n + 1) body errors lc lbc p =
      if p < s.size then
        match getEntry s fuel p with
        | .ok e q =>
          parseLoop s fuel n (body ++ recorded lc lbc e) errors (pendingAfter e) (skipBlankBlock s q).2 (skipBlankBlock s q).1
        | .err e q =>
          junkThen s p e q fun content e' q1 =>
            parseLoop s fuel n (body ++ flushC lc ++ [.junk content]) (errors ++ [e']) none
              (skipBlankBlock s q1).2 (skipBlankBlock s q1).1
        | .panic m => .panic m
        | .fuel => .outOfFuel
      else .done (body ++ flushC lc, errors) := by
  simp only [parseLoop]
  by_cases hp : p < s.size
  · simp only [hp, if_true]
    cases getEntry s fuel p with
    | ok e q =>
      cases lc with
      | none => cases e <;> simp [recorded, flushC, pendingAfter]
      | some c =>
        cases e with
        | message m => by_cases hc : lbc < 2 <;> simp [hc, recorded, pendingAfter]
        | term t => by_cases hc : lbc < 2 <;> simp [hc, recorded, pendingAfter]
        | _ => simp [recorded, flushC, pendingAfter]
    | err e q =>
      unfold junkThen
      cases lc <;> simp only [flushC, List.append_nil] <;>
        cases skipToNextEntryStart s p q <;> try rfl
      all_goals rename_i q1; cases slice s p q1 <;> rfl
    | panic m => cases lc <;> rfl
    | fuel => cases lc <;> rfl
  · simp only [hp, if_false]
    cases lc <;> simp [flushC]

theorem parseRuntimeLoop_unfold (s : Src) (fuel n : Nat) (body : List (Entry Span)) (errors : List PErr) (p : Nat) :
    parseRuntimeLoop s fuel (n + 1) body errors p =
      if p < s.size then
        match getEntryRuntime s fuel p with
        | .ok o q => parseRuntimeLoop s fuel n (body ++ o.toList) errors (skipBlankBlock s q).1
        | .err e q =>
          junkThen s p e q fun content e' q1 =>
            parseRuntimeLoop s fuel n (body ++ [.junk content]) (errors ++ [e']) (skipBlankBlock s q1).1
        | .panic m => .panic m
        | .fuel => .outOfFuel
      else .done (body, errors) := by
  simp only [parseRuntimeLoop]
  by_cases hp : p < s.size
  · simp only [hp, if_true]
    cases getEntryRuntime s fuel p with
    | ok o q => cases o <;> simp
    | err e q =>
      unfold junkThen
      cases skipToNextEntryStart s p q with
      | none => rfl
      | some q1 => cases slice s p q1 <;> rfl
    | panic m => rfl
    | fuel => rfl
  · simp only [hp, if_false]

theorem junkSpans_flushC (lc : Option (List Span)) : junkSpans (flushC lc) = [] := by
  cases lc <;> rfl

theorem junkSpans_recorded (lc : Option (List Span)) (lbc : Nat) (e : Entry Span) :
    junkSpans (recorded lc lbc e) = junkSpans [e] := by
  cases lc <;> cases e <;> simp only [recorded, flushC] <;> (try split) <;> rfl

/-- accounting invariant between the accumulated body and error list -/
structure Acc (s : Src) (body : List (Entry Span)) (errors : List PErr) : Prop where
  /-- errors and Junk entries correspond one-to-one, in order; each error's slice is its Junk's span -/
  slices : errors.map (·.slice) = (junkSpans body).map (fun sp => some (sp.start, sp.stop))
  /-- every Junk span is a valid slice of the source (in range, on char boundaries) -/
  valid : ∀ sp ∈ junkSpans body, slice s sp.start sp.stop = some sp
  /-- the reported position is not beyond the Junk; the Junk ends at an entry start or at the end of input -/
  ends : ∀ e ∈ errors, ∃ a b, e.slice = some (a, b) ∧ e.posStart ≤ b ∧ EndsAtEntryStart s b

theorem Acc.nil (s : Src) : Acc s [] [] := ⟨rfl, by simp [junkSpans], by simp⟩

theorem Acc.of_junkSpans {s : Src} {body body' : List (Entry Span)} {errors : List PErr} (h : Acc s body errors)
    (hj : junkSpans body' = junkSpans body) : Acc s body' errors :=
  ⟨by rw [hj]; exact h.slices, by rw [hj]; exact h.valid, h.ends⟩

theorem slice_some_eq {s : Src} {a b : Nat} {sp : Span} (h : slice s a b = some sp) : sp = ⟨a, b⟩ := by
  unfold slice at h; split at h <;> simp_all

theorem clampErr_le (e : PErr) (q : Nat) : (clampErr e q).posStart ≤ q := by
  unfold clampErr; split <;> simp_all <;> omega

theorem skipToNextEntryStart_ends (s : Src) (entryStart p q : Nat)
    (h : skipToNextEntryStart s entryStart p = some q) : EndsAtEntryStart s q := by
  unfold skipToNextEntryStart at h
  simp only at h
  split at h
  · simp only [Option.some.injEq] at h
    subst h
    exact (FluentProofs.Parser.skipToNextEntryStartGo_first s _).stops
  · cases h

theorem Acc.push_junk {s : Src} {body : List (Entry Span)} {errors : List PErr}
    (h : Acc s body errors) (e : PErr) (entryStart p q1 : Nat) (content : Span)
    (hq : skipToNextEntryStart s entryStart p = some q1)
    (hs : slice s entryStart q1 = some content) :
    Acc s (body ++ [.junk content]) (errors ++ [{ clampErr e q1 with slice := some (entryStart, q1) }]) := by
  have hc := slice_some_eq hs
  refine ⟨?_, ?_, ?_⟩
  · rw [junkSpans_append, List.map_append, List.map_append, h.slices]
    simp [junkSpans, hc]
  · rw [junkSpans_append]
    intro sp hsp
    rcases List.mem_append.1 hsp with h1 | h1
    · exact h.valid sp h1
    · simp [junkSpans] at h1; subst h1; rw [hc] at hs ⊢; exact hs
  · intro e' he'
    rcases List.mem_append.1 he' with h1 | h1
    · exact h.ends e' h1
    · simp at h1; subst h1
      exact ⟨entryStart, q1, rfl, clampErr_le e q1, skipToNextEntryStart_ends s entryStart p q1 hq⟩

theorem getEntry_not_junk (s : Src) (fuel p : Nat) (e : Entry Span) (q : Nat)
    (h : getEntry s fuel p = .ok e q) : e.isJunk = false := by
  rcases FluentProofs.Parser.getEntry_ok_inv h with ⟨_, r, _, rfl | rfl | rfl⟩ | ⟨_, t, rfl, _⟩ | ⟨_, m, rfl, _⟩ <;> rfl

theorem getEntryRuntime_not_junk (s : Src) (fuel p : Nat) (e : Entry Span) (q : Nat)
    (h : getEntryRuntime s fuel p = .ok (some e) q) : e.isJunk = false := by
  rw [FluentProofs.Parser.getEntryRuntime_unfold] at h
  split at h
  · cases h
  · split at h <;> (obtain ⟨_, _, _, h⟩ := R.bind_eq_ok h; cases h; rfl)

end FluentModel.Syntax

namespace FluentProofs.Parser
open FluentModel FluentModel.Syntax

/-- with `N` rounds the entry loop, started at `p` with the comment `lc` pending (`cnt` line breaks behind it), runs to the end
of the source; it appends `out` to the entries and `errs` to the errors -/
def Runs (s : Src) (F N : Nat) (lc : Option (List Span)) (cnt p : Nat) (out : List (Entry Span)) (errs : List PErr) : Prop :=
  ∀ body errs0, parseLoop s F N body errs0 lc cnt p = .done (body ++ out, errs0 ++ errs)

/-- the message or term with this comment (`Parser::parse` gives it the pending `#` comment this way); any other entry as it is -/
def withComment {α : Type} (c : Option (List α)) : Entry α → Entry α
  | .message m => .message { m with comment := c }
  | .term t => .term { t with comment := c }
  | e => e

section
variable {s : Src} {F N p q cnt : Nat} {lc : Option (List Span)} {e : Entry Span} {out : List (Entry Span)} {errs : List PErr}

theorem Runs.stop (h : s.size ≤ p) : Runs s F (N + 1) lc cnt p (flushC lc) [] := fun body errs0 => by
  rw [parseLoop_unfold, if_neg (Nat.not_lt_of_le h), List.append_nil]

/-- a round in which `get_entry` returns `e` -/
theorem Runs.step (hlt : p < s.size) (hge : getEntry s F p = .ok e q)
    (h : Runs s F N (pendingAfter e) (skipBlankBlock s q).2 (skipBlankBlock s q).1 out errs) :
    Runs s F (N + 1) lc cnt p (recorded lc cnt e ++ out) errs := fun body errs0 => by
  rw [parseLoop_unfold, if_pos hlt, hge]
  exact (h _ _).trans (by rw [List.append_assoc])

/-- a round in which `get_entry` fails: the Junk up to where recovery ends, and the error -/
theorem Runs.junk {er : PErr} {q1 : Nat} {sp : Span} (hlt : p < s.size) (hge : getEntry s F p = .err er q)
    (hk : skipToNextEntryStart s p q = some q1) (hsl : slice s p q1 = some sp)
    (h : Runs s F N none (skipBlankBlock s q1).2 (skipBlankBlock s q1).1 out errs) :
    Runs s F (N + 1) lc cnt p (flushC lc ++ .junk sp :: out) ({ clampErr er q1 with slice := some (p, q1) } :: errs) :=
  fun body errs0 => by
  rw [parseLoop_unfold, if_pos hlt, hge]
  simp only [junkThen, hk, hsl]
  exact (h _ _).trans (by simp only [List.append_assoc, List.singleton_append])

/-- a round that does not attach the pending comment: what it records and what the next round then owes (`flushC` of what is
pending after it) is the pending comment and then the entry — whether the entry is a `#` comment, which only becomes pending,
or anything else, which is recorded at once -/
theorem recorded_flush (hlc : lc = none ∨ 2 ≤ cnt) (e : Entry Span) :
    recorded lc cnt e ++ flushC (pendingAfter e) = flushC lc ++ [e] := by
  have hc : ¬ cnt < 2 ∨ lc = none := hlc.symm.imp Nat.not_lt_of_le id
  cases e with
  | comment c => simp only [recorded, pendingAfter, flushC]
  | message m => cases lc with
    | none => rfl
    | some c => simp only [recorded, pendingAfter, flushC, if_neg (hc.resolve_right nofun), List.append_nil, List.cons_append,
        List.nil_append]
  | term t => cases lc with
    | none => rfl
    | some c => simp only [recorded, pendingAfter, flushC, if_neg (hc.resolve_right nofun), List.append_nil, List.cons_append,
        List.nil_append]
  | _ => simp only [recorded, pendingAfter, flushC, List.append_nil]

/-- the round of `Runs.step` when the pending comment is not taken by the entry -/
theorem Runs.entry {t : List (Entry Span)} (hlt : p < s.size) (hge : getEntry s F p = .ok e q) (hlc : lc = none ∨ 2 ≤ cnt)
    (h : Runs s F N (pendingAfter e) (skipBlankBlock s q).2 (skipBlankBlock s q).1 (flushC (pendingAfter e) ++ t) errs) :
    Runs s F (N + 1) lc cnt p (flushC lc ++ e :: t) errs := by
  have := Runs.step (lc := lc) (cnt := cnt) hlt hge h
  rwa [← List.append_assoc, recorded_flush hlc, List.append_assoc, List.singleton_append] at this

/-- a message or term directly behind its `#` comment takes it -/
theorem recorded_attach {c : List Span} (hc : cnt < 2) (hmt : (∃ m, e = .message m) ∨ ∃ t, e = .term t) :
    recorded (some c) cnt e = [withComment (some c) e] ∧ pendingAfter e = none := by
  rcases hmt with ⟨m, rfl⟩ | ⟨t, rfl⟩ <;> exact ⟨if_pos hc, rfl⟩

end
end FluentProofs.Parser

import FluentProofs.SerializerExtClass
import FluentProofs.SerializerResLeaf
/-!
# Serializer round trip: messages and terms are read back (C04, parser half)

Attributes, a value followed by attributes (the value's pattern stops at the first attribute line or, behind empty lines, where the
entry ends), `get_message`/`get_term`/`get_entry` on the text of a message or term, and one entry of the class in the entry loop
(`runs_entry`: the rounds on it turn a run from behind it into a run from its start; `SerializerJunkText` composes these).
Patterns come back by `rtPattern_patRT`; what needs no pattern is in `SerializerResLeaf`.
-/
namespace FluentProofs.Ser
open FluentModel FluentModel.Syntax FluentModel.Syntax.Ser FluentProofs.Parser

theorem attrLine_eq (a : Attribute Bytes) :
    attrLine a = spacesL 4 ++ 46 :: ((a.id ++ [32, 61]) ++ (patText 1 a.value ++ [10])) := by
  simp [attrLine]

/-- an attribute line in `[p, N)`, its pattern followed by a stopper at `q'` -/
theorem getAttribute_line {s : Src} (hs : AsciiThenBoundary s) (fuel : Nat) (a : Attribute Bytes) (ha : rtAttr a = true)
    {p N q' : Nat} (h : AtTo s p (attrLine a) N) (hpf : PatFollow s N q') (hfu : 8 * s.size + 16 ≤ fuel) :
    skipBlankInline s p = p + 4 ∧ s[p + 4]? = some 46 ∧
      ∃ a', getAttribute s fuel (p + 4 + 1) = .ok a' q' ∧ a'.mapS (spanBytes s) = a := by
  simp only [rtAttr, Bool.and_eq_true] at ha
  rw [attrLine_eq] at h
  obtain ⟨m₀, hS, h⟩ := atTo_append.mp h
  obtain ⟨rfl, hsp⟩ := atTo_spaces hS
  obtain ⟨hdot, h⟩ := atTo_cons.mp h
  obtain ⟨m₁, hI, hP⟩ := atTo_append.mp h
  obtain ⟨m, rfl, hidp, hsbi, hexp, hidb⟩ := nameEq_at hs ha.1 hI
  obtain ⟨els, hpat, hmap⟩ := (rtPattern_patRT a.value ha.2 1).parse_driver hs hP hpf hfu
  refine ⟨skipBlankInline_run s 4 p hsp (by rw [hdot]; decide), hdot, ⟨⟨p + 4 + 1, m⟩, els⟩, ?_,
    by simp [Attribute.mapS, hidb, hmap]⟩
  rw [getAttribute_eq, hidp]
  simp only [R.bind_ok, hsbi, hexp, hpat]

/-- the attribute lines in `[p, A)`; after empty lines the entry stops at `E` -/
theorem getAttributesGo_text {s : Src} (hs : AsciiThenBoundary s) (fuel : Nat) (hfuel : 8 * s.size + 16 ≤ fuel)
    {A E : Nat} (hf : EntryFollow s A E) (as : List (Attribute Bytes)) (hv : ∀ a ∈ as, rtAttr a = true) :
    ∀ (n : Nat) (acc : List (Attribute Span)) (p : Nat), AtTo s p (attrLines as) A → as.length + 1 ≤ n →
      ∃ as', getAttributesGo s fuel n acc (if as.isEmpty then E else p) = .ok (acc ++ as') E ∧
        as'.map (Attribute.mapS (spanBytes s)) = as := by
  induction as with
  | nil =>
    intro n acc p _ hn
    obtain ⟨m, rfl⟩ : ∃ m, n = m + 1 := ⟨n - 1, by omega⟩
    exact ⟨[], by rw [List.isEmpty_nil, if_pos rfl, hf.2.2.attrs fuel hfuel m acc, List.append_nil], rfl⟩
  | cons a as ih =>
    intro n acc p h hn
    obtain ⟨m, rfl⟩ : ∃ m, n = m + 1 := ⟨n - 1, by omega⟩
    obtain ⟨N, hL, hR⟩ := atTo_append.mp h
    -- the value's pattern stops at the next attribute line, or — after the last — at `E`
    have hpf : PatFollow s N (if as.isEmpty then E else N) := by
      cases as with
      | nil => obtain rfl := atTo_nil.mp hR; exact hf.pat
      | cons a2 as2 => exact ⟨Nat.le_refl _, fun j h1 h2 => absurd h2 (Nat.not_lt_of_le h1), (attrLines_head hR).2.2⟩
    obtain ⟨hsbi0, hdot, a', hga, hma⟩ := getAttribute_line hs fuel a (hv a List.mem_cons_self) hL hpf hfuel
    obtain ⟨as', hgo, hmas⟩ := ih (fun x hx => hv x (List.mem_cons_of_mem _ hx)) m (acc ++ [a']) N hR (by simp at hn; omega)
    refine ⟨a' :: as', ?_, by simp [hma, hmas]⟩
    rw [List.isEmpty_cons, if_neg Bool.false_ne_true, getAttributesGo_unfold, hsbi0, if_pos hdot, hga]
    simp only []
    rw [hgo, List.append_assoc, List.singleton_append]

theorem getAttributes_text {s : Src} (hs : AsciiThenBoundary s) (fuel : Nat) (hfuel : 8 * s.size + 16 ≤ fuel)
    {p A E : Nat} (hf : EntryFollow s A E) (as : List (Attribute Bytes)) (hv : ∀ a ∈ as, rtAttr a = true)
    (h : AtTo s p (attrLines as) A) :
    ∃ as', getAttributes s fuel (if as.isEmpty then E else p) = .ok as' E ∧ as'.map (Attribute.mapS (spanBytes s)) = as := by
  have hn : as.length + 1 ≤ s.size - (if as.isEmpty then E else p) + 1 := by
    cases as with
    | nil => exact Nat.le_add_left _ _
    | cons a as =>
      have := attrLines_length (a :: as)
      have := h.le_size (by simp [attrLines, attrLine])
      have := h.len
      rw [List.isEmpty_cons, if_neg Bool.false_ne_true]; omega
  simpa [getAttributes] using getAttributesGo_text hs fuel hfuel hf as hv _ [] p h hn

/-- the value and the attribute lines in `[q2, T)` -/
theorem getValueAttrs_text {s : Src} (hs : AsciiThenBoundary s) (fuel : Nat) (hfuel : 8 * s.size + 16 ≤ fuel)
    (value : Option (List (PatElem Bytes))) (attrs : List (Attribute Bytes))
    (hval : (match value with
      | some v => rtPattern v
      | none => !attrs.isEmpty) = true)
    (hattrs : ∀ a ∈ attrs, rtAttr a = true) {q2 T E : Nat}
    (h : AtTo s q2 (optPatText value ++ 10 :: attrLines attrs) T) (hf : EntryFollow s T E) :
    ∃ q3 pattern' attrs', getPattern s fuel q2 = .ok pattern' q3 ∧ skipBlankBlock s q3 = (q3, 0) ∧
      getAttributes s fuel q3 = .ok attrs' E ∧
      pattern'.map (mapPat (spanBytes s)) = value ∧ attrs'.map (Attribute.mapS (spanBytes s)) = attrs := by
  obtain ⟨m₁, hP, h⟩ := atTo_append.mp h
  obtain ⟨h10, hA⟩ := atTo_cons.mp h
  -- where the value's pattern stops: at the first attribute line, or, when there is none, behind the empty lines at `E`
  obtain ⟨attrs', hga, hma⟩ := getAttributes_text hs fuel hfuel hf attrs hattrs hA
  have hstop3 : Stopper s (if attrs.isEmpty then E else m₁ + 1) ∧ PatFollow s (m₁ + 1) (if attrs.isEmpty then E else m₁ + 1) := by
    cases attrs with
    | nil => obtain rfl := atTo_nil.mp hA; exact ⟨hf.2.2.stopper, hf.pat⟩
    | cons a as =>
      exact ⟨(attrLines_head hA).2.2, Nat.le_refl _, fun j h1 h2 => absurd h2 (Nat.not_lt_of_le h1), (attrLines_head hA).2.2⟩
  refine ⟨if attrs.isEmpty then E else m₁ + 1, ?_⟩
  cases value with
  | some v =>
    obtain ⟨els, hpat, hmap⟩ := (rtPattern_patRT v hval 0).parse_driver hs
      (atTo_append.mpr ⟨m₁, hP, atTo_cons.mpr ⟨h10, atTo_nil.mpr rfl⟩⟩) hstop3.2 hfuel
    exact ⟨some els, attrs', hpat, hstop3.1.blockStop.sbb, hga, by simp [hmap], hma⟩
  | none =>
    -- no value: the attributes start on the next line
    obtain rfl := atTo_nil.mp hP
    simp only [Bool.not_eq_true', List.isEmpty_eq_false_iff] at hval
    obtain ⟨a, as, rfl⟩ := List.exists_cons_of_ne_nil hval
    obtain ⟨hsp, hdot, _⟩ := attrLines_head hA
    obtain ⟨k, rfl⟩ : ∃ k, fuel = k + 2 := ⟨fuel - 2, by omega⟩
    exact ⟨none, attrs', getPattern_none s k q2 h10 (Or.inr (Or.inr ⟨4, 46, by omega, hsp, hdot, Or.inl rfl⟩)),
      hstop3.1.blockStop.sbb, hga, rfl, hma⟩

/-- a message body `name = value` + attribute lines in `[p, T)` -/
theorem getMessage_text {s : Src} (hs : AsciiThenBoundary s) (fuel : Nat) (hfuel : 8 * s.size + 16 ≤ fuel)
    (id : Bytes) (value : Option (List (PatElem Bytes))) (attrs : List (Attribute Bytes)) (hid : validIdent id = true)
    (hval : (match value with
      | some v => rtPattern v
      | none => !attrs.isEmpty) = true)
    (hattrs : ∀ a ∈ attrs, rtAttr a = true) {p T E : Nat} (es0 : Nat) (hat : AtTo s p (msgBody id value attrs) T)
    (hf : EntryFollow s T E) :
    ∃ m', getMessage s fuel es0 p = .ok m' E ∧ m'.comment = none ∧ spanBytes s m'.id = id ∧
      m'.value.map (mapPat (spanBytes s)) = value ∧ m'.attributes.map (Attribute.mapS (spanBytes s)) = attrs := by
  obtain ⟨q2, hN, hR⟩ := atTo_append.mp hat
  obtain ⟨m, rfl, hidp, hsbi, hexp, hidb⟩ := nameEq_at hs hid hN
  obtain ⟨q3, pattern', attrs', hpat, hsbb, hga, hmv, hma⟩ := getValueAttrs_text hs fuel hfuel value attrs hval hattrs hR hf
  have hnotboth : (pattern'.isNone && attrs'.isEmpty) = false := by
    cases value with
    | some v => cases pattern' <;> simp_all
    | none =>
      simp only [Bool.not_eq_true', List.isEmpty_eq_false_iff] at hval
      cases attrs' with
      | nil => simp at hma; exact absurd hma.symm (fun h => hval h.symm)
      | cons _ _ => simp
  refine ⟨⟨⟨p, m⟩, pattern', attrs', none⟩, ?_, rfl, hidb, hmv, hma⟩
  rw [getMessage_eq, hidp]
  simp only [R.bind_ok, hsbi, hexp, hpat, hsbb, hga, hnotboth, Bool.false_eq_true, if_false]

/-- `-` at `p` and a term body in `[p + 1, T)` -/
theorem getTerm_text {s : Src} (hs : AsciiThenBoundary s) (fuel : Nat) (hfuel : 8 * s.size + 16 ≤ fuel)
    (id : Bytes) (value : List (PatElem Bytes)) (attrs : List (Attribute Bytes)) (hid : validIdent id = true)
    (hval : rtPattern value = true) (hattrs : ∀ a ∈ attrs, rtAttr a = true) {p T E : Nat} (es0 : Nat)
    (hat : AtTo s p (45 :: msgBody id (some value) attrs) T) (hf : EntryFollow s T E) :
    ∃ t', getTerm s fuel es0 p = .ok t' E ∧ t'.comment = none ∧ spanBytes s t'.id = id ∧
      mapPat (spanBytes s) t'.value = value ∧ t'.attributes.map (Attribute.mapS (spanBytes s)) = attrs := by
  obtain ⟨h45, hat⟩ := atTo_cons.mp hat
  obtain ⟨q2, hN, hR⟩ := atTo_append.mp hat
  obtain ⟨m, rfl, hidp, hsbi, hexp, hidb⟩ := nameEq_at hs hid hN
  obtain ⟨q3, pattern', attrs', hpat, hsbb, hga, hmv, hma⟩ :=
    getValueAttrs_text hs fuel hfuel (some value) attrs hval hattrs hR hf
  -- `get_term` skips blanks itself before calling `get_pattern`; the pattern text starts with ` ` or `\n`
  have hskip := getPattern_skipInline s fuel (m + 1 + 1)
  obtain ⟨v', rfl⟩ : ∃ v', pattern' = some v' := by
    cases pattern' with
    | none => simp at hmv
    | some v' => exact ⟨v', rfl⟩
  refine ⟨⟨⟨p + 1, m⟩, v', attrs', none⟩, ?_, rfl, hidb, by simpa using hmv, hma⟩
  have hexp0 : expectByte s p 45 = .ok () (p + 1) := by simp [expectByte, isCurrentByte, h45]
  rw [getTerm_eq, hexp0]
  simp only [R.bind_ok, hidp, hsbi, hexp, hskip, hpat, hsbb, hga]

theorem getEntry_msg {s : Src} (hs : AsciiThenBoundary s) (fuel : Nat) (hfuel : 8 * s.size + 16 ≤ fuel)
    (id : Bytes) (value : Option (List (PatElem Bytes))) (attrs : List (Attribute Bytes)) (hid : validIdent id = true)
    (hval : (match value with
      | some v => rtPattern v
      | none => !attrs.isEmpty) = true)
    (hattrs : ∀ a ∈ attrs, rtAttr a = true) {p T E : Nat} (hat : AtTo s p (msgBody id value attrs) T)
    (hf : EntryFollow s T E) :
    ∃ m', getEntry s fuel p = .ok (.message m') E ∧ m'.comment = none ∧ spanBytes s m'.id = id ∧
      m'.value.map (mapPat (spanBytes s)) = value ∧ m'.attributes.map (Attribute.mapS (spanBytes s)) = attrs := by
  obtain ⟨m', hm, h1, h2, h3, h4⟩ := getMessage_text hs fuel hfuel id value attrs hid hval hattrs p hat hf
  obtain ⟨b, rest, hidb, hb, _⟩ := validIdent_head hid
  have hb0 : s[p]? = some b := hat.head (by simp [msgBody, hidb])
  obtain ⟨n35, n45⟩ := alpha_not_hash_minus b hb
  refine ⟨m', ?_, h1, h2, h3, h4⟩
  unfold getEntry
  rw [hb0]
  split
  · rename_i heq; simp at heq; exact absurd heq n35
  · rename_i heq; simp at heq; exact absurd heq n45
  · simp only [hm]

theorem getEntry_term {s : Src} (hs : AsciiThenBoundary s) (fuel : Nat) (hfuel : 8 * s.size + 16 ≤ fuel)
    (id : Bytes) (value : List (PatElem Bytes)) (attrs : List (Attribute Bytes)) (hid : validIdent id = true)
    (hval : rtPattern value = true) (hattrs : ∀ a ∈ attrs, rtAttr a = true) {p T E : Nat}
    (hat : AtTo s p (45 :: msgBody id (some value) attrs) T) (hf : EntryFollow s T E) :
    ∃ t', getEntry s fuel p = .ok (.term t') E ∧ t'.comment = none ∧ spanBytes s t'.id = id ∧
      mapPat (spanBytes s) t'.value = value ∧ t'.attributes.map (Attribute.mapS (spanBytes s)) = attrs := by
  obtain ⟨t', ht, h1, h2, h3, h4⟩ := getTerm_text hs fuel hfuel id value attrs hid hval hattrs p hat hf
  refine ⟨t', ?_, h1, h2, h3, h4⟩
  unfold getEntry
  rw [(atTo_cons.mp hat).1]
  simp only [ht]

/-- a message or term body in `[pb, T)`: read back without comment; the round flushes a pending comment or — directly behind
it — attaches it -/
theorem runs_body {s : Src} (hs : AsciiThenBoundary s) (F : Nat) (hfuel : 8 * s.size + 16 ≤ F)
    (e : Entry Bytes) (hmt : isMT e = true) (he : rtEntry e = true) {pb T E : Nat}
    (hat : AtTo s pb (bodyText e) T) (hf : EntryFollow s T E) :
    ∃ e' : Entry Span, e'.mapS (spanBytes s) = withComment none e ∧
      (∃ b0, s[pb]? = some b0 ∧ (isAlpha b0 = true ∨ b0 = 45)) ∧
      (∀ {lc cnt N t errs}, (lc = none ∨ 2 ≤ cnt) → Runs s F N none 0 E t errs →
        Runs s F (N + 1) lc cnt pb (flushC lc ++ e' :: t) errs) ∧
      (∀ {c N t errs}, Runs s F N none 0 E t errs → Runs s F (N + 1) (some c) 1 pb (withComment (some c) e' :: t) errs) := by
  have hsbb : skipBlankBlock s E = (E, 0) := hf.2.2.block.sbb
  -- what `get_entry` returns, and the byte it stands on
  obtain ⟨e', b0, hge, hme, hb0, hb0s, hmt'⟩ : ∃ (e' : Entry Span) (b0 : UInt8), getEntry s F pb = .ok e' E ∧
      e'.mapS (spanBytes s) = withComment none e ∧ s[pb]? = some b0 ∧ (isAlpha b0 = true ∨ b0 = 45) ∧
      ((∃ m, e' = .message m) ∨ ∃ t, e' = .term t) := by
    cases e with
    | message m =>
      simp only [rtEntry, Bool.and_eq_true, List.all_eq_true] at he
      obtain ⟨m', hge, h1, h2, h3, h4⟩ := getEntry_msg hs F hfuel m.id m.value m.attributes he.1.1.1 he.1.1.2 he.1.2 hat hf
      obtain ⟨b, rest, hidb, hb, _⟩ := validIdent_head he.1.1.1
      exact ⟨.message m', b, hge, by simp [Entry.mapS, withComment, h1, h2, h3, h4],
        hat.head (by simp [bodyText, msgBody, hidb]), Or.inl hb, Or.inl ⟨m', rfl⟩⟩
    | term t =>
      simp only [rtEntry, Bool.and_eq_true, List.all_eq_true] at he
      obtain ⟨t', hge, h1, h2, h3, h4⟩ := getEntry_term hs F hfuel t.id t.value t.attributes he.1.1.1 he.1.1.2 he.1.2 hat hf
      exact ⟨.term t', 45, hge, by simp [Entry.mapS, withComment, h1, h2, h3, h4], hat.head (by simp [bodyText]),
        Or.inr rfl, Or.inr ⟨t', rfl⟩⟩
    | _ => cases hmt
  have hpend : pendingAfter e' = none := by rcases hmt' with ⟨m, rfl⟩ | ⟨t, rfl⟩ <;> rfl
  refine ⟨e', hme, ⟨b0, hb0, hb0s⟩, fun hlc h => Runs.entry (get_lt hb0) hge hlc ?_, fun {c N t errs} h => ?_⟩
  · rw [hsbb, hpend]; exact h
  · have := Runs.step (lc := some c) (cnt := 1) (get_lt hb0) hge (by rw [hsbb, hpend]; exact h)
    rwa [(recorded_attach (by decide) hmt').1] at this

/-- a message or term with its comment, if it has one, in `[P, T)`: one or two rounds -/
theorem runs_entry_mt {s : Src} (hs : AsciiThenBoundary s) (F : Nat) (hfuel : 8 * s.size + 16 ≤ F)
    (e : Entry Bytes) (hmt : isMT e = true) (he : rtEntry e = true) {P T E : Nat} (lc : Option (List Span)) (cnt : Nat)
    (hatE : AtTo s P (optCommentText (commentOf e) ++ bodyText e) T) (hfol : EntryFollow s T E)
    (hlc : lc = none ∨ 2 ≤ cnt) :
    ∃ e' k, e'.mapS (spanBytes s) = canonEntry e ∧ 1 ≤ k ∧ P + k ≤ T ∧ ∀ {N t errs},
      Runs s F N none 0 E t errs → Runs s F (N + k) lc cnt P (flushC lc ++ e' :: t) errs := by
  have hcom : rtOptComment (commentOf e) = true := by
    cases e with
    | message m => simp only [rtEntry, Bool.and_eq_true] at he; exact he.2
    | term t => simp only [rtEntry, Bool.and_eq_true] at he; exact he.2
    | _ => cases hmt
  have hb2 := bodyText_len e hmt
  rw [canonEntry_mt e hmt]
  -- the comment in `[P, Q)`, the body in `[Q, T)`
  obtain ⟨Q, hC, hB⟩ := atTo_append.mp hatE
  cases hc : commentOf e with
  | none =>
    rw [hc] at hC
    obtain rfl := atTo_nil.mp hC
    obtain ⟨e', hme, _, hflush, _⟩ := runs_body hs F hfuel e hmt he hB hfol
    exact ⟨e', 1, hme, Nat.le_refl _, by have := hB.len; omega, fun h => hflush hlc h⟩
  | some c =>
    rw [hc] at hC hcom
    have hct2 : 2 ≤ (commentText [35] c).length := commentText_len2 1 (by omega) c (rtComment_iff.mp hcom).1
    obtain ⟨e', hme, ⟨b0, hb0, hb0s⟩, _, hattach⟩ := runs_body hs F hfuel e hmt he hB hfol
    obtain ⟨c', hmc, hstep1⟩ := runs_attached hs F c hcom lc cnt hC b0 hb0 hb0s
    refine ⟨withComment (some c') e', 2, ?_, by omega, by have h1 : P + (commentText [35] c).length = Q := hC.len; have := hB.le; omega,
      fun h => hstep1 (hattach h)⟩
    simp only [mapS_withComment, hme, hmc, Option.map_some]
    cases e <;> first | rfl | cases hmt

/-- **one entry of the class in the entry loop**: its text in `[P, Q)`, empty lines up to `E`, where a line stands that is
not blank and — for a message or term — at which the entry ends.  The rounds on it turn a run from `E` into a run from `P`. -/
theorem runs_entry {s : Src} (hs : AsciiThenBoundary s) (F : Nat) (hfuel : 8 * s.size + 16 ≤ F)
    (e : Entry Bytes) (he : rtEntry e = true) (b : Bool) {P Q E : Nat} (lc : Option (List Span)) (cnt : Nat)
    (hatE : AtTo s P (entryText b e) Q) (hQE : Q ≤ E) (hnl : ∀ j, Q ≤ j → j < E → s[j]? = some 10)
    (hstop : isMT e = true → EntryStop s E) (hstart : BlockStop s E) (hlc : lc = none ∨ 2 ≤ cnt) :
    ∃ e' lc' cnt' k, e'.mapS (spanBytes s) = canonEntry e ∧ (lc' = none ∨ 2 ≤ cnt') ∧ 1 ≤ k ∧ P + k ≤ Q ∧
      ∀ {N t errs}, Runs s F N lc' cnt' E (flushC lc' ++ t) errs →
        Runs s F (N + k) lc cnt (P + lead b e) (flushC lc ++ e' :: t) errs := by
  by_cases hmt : isMT e = true
  · rw [entryText_mt b _ hmt] at hatE
    obtain ⟨e', k, hme, hk1, hk, step⟩ := runs_entry_mt hs F hfuel e hmt he lc cnt hatE ⟨hQE, hnl, hstop hmt⟩ hlc
    have hl : lead b e = 0 := by cases e <;> first | rfl | cases hmt
    rw [hl, Nat.add_zero]
    exact ⟨e', none, 0, k, hme, Or.inl rfl, hk1, hk, step⟩
  · -- a free-standing comment: a line feed if something was written before, the comment in `[P', Q')`, the blank line at `Q'`
    obtain ⟨k, hk, c, rfl⟩ : ∃ k, (1 ≤ k ∧ k ≤ 3) ∧ ∃ c, e = commentCtor k c := by
      cases e with
      | comment c => exact ⟨1, by omega, c, rfl⟩
      | groupComment c => exact ⟨2, by omega, c, rfl⟩
      | resourceComment c => exact ⟨3, by omega, c, rfl⟩
      | junk c => simp [rtEntry] at he
      | _ => exact absurd rfl hmt
    obtain ⟨htxt, hlead, hrt, hcan⟩ := entryText_free b k hk c
    rw [htxt] at hatE
    obtain ⟨P', hB, h⟩ := atTo_append.mp hatE
    obtain ⟨Q', hC, h⟩ := atTo_append.mp h
    obtain ⟨h10, h⟩ := atTo_cons.mp h
    obtain rfl := atTo_nil.mp h
    obtain rfl : P + (if b then 1 else 0) = P' := by have := hB.len; cases b <;> simpa using this
    obtain ⟨c', hmc, step⟩ := runs_free hs F k hk c (hrt ▸ he) E (E - (Q' + 1)) lc cnt hlc hC h10
      (fun j hj => hnl _ (by omega) (by omega)) (by omega) hstart
    rw [hlead, hcan]
    exact ⟨commentCtor k c', pendingAfter (commentCtor k c'), 2 + (E - (Q' + 1)), 1, by rw [mapS_commentCtor, hmc],
      by cases pendingAfter (commentCtor k c') <;> simp, Nat.le_refl _, by have := hC.le; omega, step⟩

end FluentProofs.Ser

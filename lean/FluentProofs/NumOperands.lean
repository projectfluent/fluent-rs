import FluentProofs.Num
/-!
# What the code prints and which operands it computes (support for C12)

The bytes `display` and `as_string` print in explicit shape, the operands `From<&FluentNumber> for PluralOperands` computes
(`operandsOf_eq`), and the CLDR operands of the printed string (`cldrOperands_asString`).
-/
namespace FluentProofs.Num
open FluentModel FluentModel.Num FluentModel.Plural

def displayBytes (d : Dec) : Bytes :=
  signBytes d.neg ++ (digitBytes (stripLeadingZeros d.int) ++
    (if (stripTrailingZeros d.frac).isEmpty then [] else 46 :: digitBytes (stripTrailingZeros d.frac)))

theorem strBytes_minus : strBytes "-" = [45] := by decide
theorem strBytes_dot : strBytes "." = [46] := by decide
theorem strBytes_empty : strBytes "" = [] := by decide
theorem digitByte_zero : digitByte 0 = 48 := by decide

theorem strBytes_display {d : Dec} (h : WF d) : strBytes (display d) = displayBytes d := by
  unfold display displayBytes signBytes
  simp only [strBytes_append]
  rw [strBytes_digitChars h.int_digits.stripLeading, List.append_assoc]
  congr 1
  · cases d.neg <;> simp [strBytes_minus, strBytes_empty]
  · congr 1
    split
    · exact strBytes_empty
    · rw [strBytes_append, strBytes_digitChars h.frac_digits.stripTrailing, strBytes_dot]; rfl

/-- the fraction digits the user sees: the significant ones, padded up to the (clamped)
`minimum_fraction_digits` -/
def visibleFrac (n : FluentNumber) : List Nat :=
  match n.options.minimumFractionDigits with
  | none => stripTrailingZeros n.value.frac
  | some m =>
    stripTrailingZeros n.value.frac ++
      List.replicate (min m maxFractionDigits - (stripTrailingZeros n.value.frac).length) 0

def printedHasDot (n : FluentNumber) : Bool :=
  n.options.minimumFractionDigits.isSome || !(stripTrailingZeros n.value.frac).isEmpty

theorem visibleFrac_digits {n : FluentNumber} (h : WF n.value) : Digits (visibleFrac n) := by
  unfold visibleFrac
  split
  · exact h.frac_digits.stripTrailing
  · exact h.frac_digits.stripTrailing.append (Digits.replicate_zero _)

theorem stripTrailingZeros_visibleFrac (n : FluentNumber) :
    stripTrailingZeros (visibleFrac n) = stripTrailingZeros n.value.frac := by
  unfold visibleFrac
  split
  · exact stripTrailingZeros_idem _
  · rw [stripTrailingZeros_append_zeros, stripTrailingZeros_idem]

theorem length_le_visibleFrac (n : FluentNumber) :
    (stripTrailingZeros n.value.frac).length ≤ (visibleFrac n).length := by
  unfold visibleFrac
  split <;> simp

theorem visibleFrac_of_no_dot {n : FluentNumber} (h : printedHasDot n = false) : visibleFrac n = [] := by
  unfold printedHasDot at h
  unfold visibleFrac
  cases hm : n.options.minimumFractionDigits with
  | none =>
    rw [hm, Option.isSome_none, Bool.false_or, Bool.not_eq_false'] at h
    exact List.isEmpty_iff.mp h
  | some m => rw [hm] at h; cases h

theorem length_visibleFrac_some {n : FluentNumber} {m : Nat} (h : n.options.minimumFractionDigits = some m) :
    (visibleFrac n).length = (stripTrailingZeros n.value.frac).length +
      (min m maxFractionDigits - (stripTrailingZeros n.value.frac).length) := by
  unfold visibleFrac
  rw [h, List.length_append, List.length_replicate]

theorem digitBytes_append (a b : List Nat) : digitBytes (a ++ b) = digitBytes a ++ digitBytes b := by
  simp [digitBytes]

theorem digitBytes_replicate_zero (k : Nat) : digitBytes (List.replicate k 0) = List.replicate k 48 := by
  simp [digitBytes, digitByte]

theorem digitBytes_length (l : List Nat) : (digitBytes l).length = l.length := by simp [digitBytes]

theorem splitAtDot_sign (neg : Bool) (b : Bytes) :
    splitAtDot (signBytes neg ++ b) = (signBytes neg ++ (splitAtDot b).1, (splitAtDot b).2) := by
  cases neg with
  | false => simp [signBytes]
  | true =>
    simp only [signBytes, if_true, List.singleton_append, splitAtDot]
    have : ((45 : UInt8) == 46) = false := by decide
    simp [this]

theorem splitAtDot_displayBytes {d : Dec} (h : WF d) :
    splitAtDot (displayBytes d) =
      (signBytes d.neg ++ digitBytes (stripLeadingZeros d.int),
       if (stripTrailingZeros d.frac).isEmpty then none else some (digitBytes (stripTrailingZeros d.frac))) := by
  unfold displayBytes
  rw [splitAtDot_sign]
  split
  · simp [splitAtDot_digits_nodot h.int_digits.stripLeading]
  · simp [splitAtDot_digits_dot h.int_digits.stripLeading]

theorem asString_eq {n : FluentNumber} (h : WF n.value) :
    asString n = signBytes n.value.neg ++ (digitBytes (stripLeadingZeros n.value.int) ++
      (if printedHasDot n then 46 :: digitBytes (visibleFrac n) else [])) := by
  unfold asString printedHasDot visibleFrac
  simp only [strBytes_display h]
  cases hm : n.options.minimumFractionDigits with
  | none =>
    simp only [Option.isSome_none, Bool.false_or]
    unfold displayBytes
    cases hf : (stripTrailingZeros n.value.frac).isEmpty <;> simp
  | some m =>
    simp only [Option.isSome_some, Bool.true_or, if_true, splitAtDot_displayBytes h]
    cases hf : (stripTrailingZeros n.value.frac).isEmpty with
    | true =>
      have he : stripTrailingZeros n.value.frac = [] := List.isEmpty_iff.mp hf
      simp [displayBytes, he, digitBytes, digitByte_zero]
    | false =>
      simp [displayBytes, hf, digitBytes_append, digitBytes_replicate_zero, digitBytes_length]

/-- what `as_string` prints parses back to the value as displayed (provided a digit follows the point:
`minimumFractionDigits: 0` on an integer prints `1.`) -/
theorem parseDec_asString {n : FluentNumber} (h : WF n.value)
    (hv : n.options.minimumFractionDigits.isSome = true → visibleFrac n ≠ []) :
    parseDec (asString n) = some ⟨n.value.neg, stripLeadingZeros n.value.int, visibleFrac n⟩ := by
  have hid := h.int_digits.stripLeading
  have hin := stripLeadingZeros_ne_nil h.int_ne
  rw [asString_eq h]
  cases hd : printedHasDot n with
  | true =>
    refine parseDec_printed_frac _ hid hin (visibleFrac_digits h) ?_
    cases hm : n.options.minimumFractionDigits with
    | some m => exact hv (by rw [hm]; rfl)
    | none =>
      unfold printedHasDot at hd
      unfold visibleFrac
      rw [hm] at hd ⊢
      intro he
      change stripTrailingZeros n.value.frac = [] at he
      rw [he] at hd
      cases hd
  | false =>
    rw [visibleFrac_of_no_dot hd, if_neg Bool.false_ne_true, List.append_nil]
    exact parseDec_printed_int _ hid hin

theorem stripMinus_cons_ne {a : UInt8} (t : Bytes) (ha : a ≠ 45) : stripMinus (a :: t) = a :: t := by
  unfold stripMinus
  split
  · rename_i r heq
    simp only [List.cons.injEq] at heq
    exact absurd heq.1 ha
  · rfl

theorem stripPlus_cons_ne {a : UInt8} (t : Bytes) (ha : a ≠ 43) : stripPlus (a :: t) = a :: t := by
  unfold stripPlus
  split
  · rename_i r heq
    simp only [List.cons.injEq] at heq
    exact absurd heq.1 ha
  · rfl

theorem stripMinus_digitBytes {l : List Nat} (h : Digits l) (hne : l ≠ []) (tail : Bytes) :
    stripMinus (digitBytes l ++ tail) = digitBytes l ++ tail := by
  cases l with
  | nil => exact absurd rfl hne
  | cons a t =>
    simp only [digitBytes, List.map_cons, List.cons_append]
    exact stripMinus_cons_ne _ (digitByte_ne h.head (by decide))

theorem stripMinus_sign {l : List Nat} (h : Digits l) (hne : l ≠ []) (neg : Bool) (tail : Bytes) :
    stripMinus (signBytes neg ++ (digitBytes l ++ tail)) = digitBytes l ++ tail := by
  cases neg with
  | true => simp [signBytes, stripMinus]
  | false =>
    simp only [signBytes, Bool.false_eq_true, if_false, List.nil_append]
    exact stripMinus_digitBytes h hne tail

theorem u64FromStr_digitBytes {l : List Nat} (h : Digits l) (hne : l ≠ []) :
    u64FromStr (digitBytes l) = if digitsToNat l ≤ u64Max then some (digitsToNat l) else none := by
  unfold u64FromStr
  have hplus : stripPlus (digitBytes l) = digitBytes l := by
    cases l with
    | nil => exact absurd rfl hne
    | cons a t =>
      simp only [digitBytes, List.map_cons]
      exact stripPlus_cons_ne _ (digitByte_ne h.head (by decide))
  simp only [hplus, digitsOf_digitBytes h hne]

theorem dropWhile_digitBytes {l : List Nat} (h : Digits l) :
    (digitBytes l).dropWhile (· == 48) = digitBytes (l.dropWhile (· == 0)) := by
  induction l with
  | nil => simp [digitBytes]
  | cons a t ih =>
    have ha := h.head
    have hb : (digitByte a == 48) = (a == 0) := by
      rw [Bool.eq_iff_iff, beq_iff_eq, beq_iff_eq, ← UInt8.toNat_inj, toNat_digitByte ha]
      simp
    simp only [digitBytes, List.map_cons, List.dropWhile_cons, hb]
    cases a == 0 with
    | true => simpa [digitBytes] using ih h.tail
    | false => simp

theorem trimEndZeros_digitBytes {l : List Nat} (h : Digits l) :
    trimEndZeros (digitBytes l) = digitBytes (stripTrailingZeros l) := by
  unfold trimEndZeros stripTrailingZeros
  have hr : (digitBytes l).reverse = digitBytes l.reverse := by simp [digitBytes]
  have hd : Digits l.reverse := fun x hx => h x (List.mem_reverse.mp hx)
  rw [hr, dropWhile_digitBytes hd]
  simp [digitBytes]

theorem absStr_displayBytes {d : Dec} (h : WF d) :
    stripMinus (displayBytes d) =
    digitBytes (stripLeadingZeros d.int) ++
      (if (stripTrailingZeros d.frac).isEmpty then [] else 46 :: digitBytes (stripTrailingZeros d.frac)) := by
  unfold displayBytes
  exact stripMinus_sign h.int_digits.stripLeading (stripLeadingZeros_ne_nil h.int_ne) _ _

theorem u64Max_ge : 10 ^ 19 ≤ u64Max := by decide

/-- `TryFrom<&str>` applied to `value.to_string()` -/
theorem operandsOfStr_display {d : Dec} (h : WF d)
    (hi : digitsToNat (stripLeadingZeros d.int) ≤ u64Max)
    (hf : (stripTrailingZeros d.frac).length ≤ 19) :
    operandsOfStr (displayBytes d) =
      some ⟨⟨false, stripLeadingZeros d.int, stripTrailingZeros d.frac⟩,
            digitsToNat (stripLeadingZeros d.int), (stripTrailingZeros d.frac).length,
            (stripTrailingZeros d.frac).length, digitsToNat (stripTrailingZeros d.frac),
            digitsToNat (stripTrailingZeros d.frac)⟩ := by
  have hid := h.int_digits.stripLeading
  have hin := stripLeadingZeros_ne_nil h.int_ne
  have hfd := h.frac_digits.stripTrailing
  unfold operandsOfStr
  simp only [absStr_displayBytes h]
  cases hfe : (stripTrailingZeros d.frac).isEmpty with
  | true =>
    have he : stripTrailingZeros d.frac = [] := List.isEmpty_iff.mp hfe
    have hp := parseDec_printed_int false hid hin
    simp only [signBytes, Bool.false_eq_true, if_false, List.nil_append] at hp
    simp only [if_true, List.append_nil, hp, splitAtDot_digits_nodot hid, he, List.length_nil]
    have hmin := Nat.min_eq_left hi
    simp only [digitsToNat] at hmin ⊢
    simp [hmin]
  | false =>
    have hfn : stripTrailingZeros d.frac ≠ [] := by
      intro he; rw [he] at hfe; simp at hfe
    have hp := parseDec_printed_frac false hid hin hfd hfn
    simp only [signBytes, Bool.false_eq_true, if_false, List.nil_append] at hp
    have hflt : digitsToNat (stripTrailingZeros d.frac) ≤ u64Max := by
      have h1 := digitsToNat_lt hfd
      have h2 : 10 ^ (stripTrailingZeros d.frac).length ≤ 10 ^ 19 := Nat.pow_le_pow_right (by decide) hf
      have h3 := u64Max_ge
      omega
    simp only [Bool.false_eq_true, if_false, hp, splitAtDot_digits_dot hid, u64FromStr_digitBytes hid hin,
      if_pos hi, trimEndZeros_digitBytes hfd, stripTrailingZeros_idem, u64FromStr_digitBytes hfd hfn,
      if_pos hflt, digitBytes_length, Option.getD_some]

theorem pow10Checked_eq {k : Nat} (h : k ≤ 19) : pow10Checked k = 10 ^ k := by
  unfold pow10Checked
  have h1 : 10 ^ k ≤ 10 ^ 19 := Nat.pow_le_pow_right (by decide) h
  have h2 := u64Max_ge
  rw [if_pos (by omega)]

theorem satMul_eq {a b : Nat} (h : a * b ≤ u64Max) : satMul a b = a * b := by
  unfold satMul; exact Nat.min_eq_left h

theorem operandsOf_eq {n : FluentNumber} (h : WF n.value)
    (hi : digitsToNat (stripLeadingZeros n.value.int) ≤ u64Max)
    (hv : (visibleFrac n).length ≤ 18) :
    operandsOf n =
      some ⟨⟨false, stripLeadingZeros n.value.int, stripTrailingZeros n.value.frac⟩,
            digitsToNat (stripLeadingZeros n.value.int), (visibleFrac n).length,
            (stripTrailingZeros n.value.frac).length, digitsToNat (visibleFrac n),
            digitsToNat (stripTrailingZeros n.value.frac)⟩ := by
  have hlen := length_le_visibleFrac n
  unfold operandsOf
  rw [strBytes_display h, operandsOfStr_display h hi (by omega)]
  simp only
  unfold visibleFrac at hv hlen ⊢
  cases hm : n.options.minimumFractionDigits with
  | none => simp
  | some m =>
    simp only [hm] at hv hlen ⊢
    by_cases hgt : min m maxFractionDigits > (stripTrailingZeros n.value.frac).length
    · simp only [hgt, if_true]
      have hk : min m maxFractionDigits - (stripTrailingZeros n.value.frac).length ≤ 19 := by
        simp at hv; omega
      have hlen2 : (stripTrailingZeros n.value.frac ++
          List.replicate (min m maxFractionDigits - (stripTrailingZeros n.value.frac).length) 0).length
          = min m maxFractionDigits := by
        simp; omega
      rw [pow10Checked_eq hk, hlen2, digitsToNat_append_zeros]
      have hd : Digits (stripTrailingZeros n.value.frac ++
          List.replicate (min m maxFractionDigits - (stripTrailingZeros n.value.frac).length) 0) :=
        h.frac_digits.stripTrailing.append (Digits.replicate_zero _)
      have hlt := digitsToNat_lt hd
      rw [digitsToNat_append_zeros, hlen2] at hlt
      have h18 : 10 ^ min m maxFractionDigits ≤ 10 ^ 18 :=
        Nat.pow_le_pow_right (by decide) (by rw [hlen2] at hv; exact hv)
      have h19 : (10 : Nat) ^ 18 ≤ u64Max := by decide
      rw [satMul_eq (by omega)]
    · have hz : min m maxFractionDigits - (stripTrailingZeros n.value.frac).length = 0 := by omega
      simp only [hgt, if_false, hz, List.replicate_zero, List.append_nil]

theorem cldrOperands_asString {n : FluentNumber} (h : WF n.value) :
    cldrOperands (asString n) =
      some ⟨⟨false, stripLeadingZeros n.value.int, visibleFrac n⟩,
            digitsToNat (stripLeadingZeros n.value.int), (visibleFrac n).length,
            (stripTrailingZeros n.value.frac).length, digitsToNat (visibleFrac n),
            digitsToNat (stripTrailingZeros n.value.frac)⟩ := by
  have hid := h.int_digits.stripLeading
  have hin := stripLeadingZeros_ne_nil h.int_ne
  have hvd := visibleFrac_digits h
  rw [asString_eq h]
  unfold cldrOperands
  simp only [stripMinus_sign hid hin]
  have hs0 : visibleFrac n = [] → stripTrailingZeros n.value.frac = [] := fun hv => by
    have := stripTrailingZeros_visibleFrac n
    rw [hv] at this
    rw [← this]; rfl
  cases hdot : printedHasDot n with
  | false =>
    -- no dot: no minimum, no significant fraction digit
    have hv : visibleFrac n = [] := visibleFrac_of_no_dot hdot
    have hs := hs0 hv
    simp only [Bool.false_eq_true, if_false, List.append_nil, splitAtDot_digits_nodot hid, Option.getD_none,
      List.isEmpty_nil, if_true, digitsOf_digitBytes hid hin, hv, hs]
    rfl
  | true =>
    simp only [if_true, splitAtDot_digits_dot hid, Option.getD_some, digitsOf_digitBytes hid hin]
    cases hve : visibleFrac n with
    | nil =>
      have hs := hs0 hve
      have hst : stripTrailingZeros ([] : List Nat) = [] := by decide
      simp [digitBytes, hs, hst]
    | cons a t =>
      have hne : visibleFrac n ≠ [] := by rw [hve]; simp
      have hemp : (digitBytes (visibleFrac n)).isEmpty = false := by
        rw [hve]; simp [digitBytes]
      rw [← hve]
      simp only [hemp, Bool.false_eq_true, if_false, digitsOf_digitBytes hvd hne, stripTrailingZeros_visibleFrac]

theorem mfdOfSource_eq (bs : Bytes) : mfdOfSource bs = (splitAtDot bs).2.map List.length := by
  unfold mfdOfSource
  cases h : splitAtDot bs with
  | mk a b => cases b <;> rfl

/-- what `FromStr` remembers is the number of digits written after the point -/
theorem mfdOfSource_parseDec {src : Bytes} {d : Dec} (h : parseDec src = some d) :
    mfdOfSource src = (if (splitAtDot src).2.isSome then some d.frac.length else none) ∧
    ((splitAtDot src).2 = none → d.frac = []) ∧
    ((splitAtDot src).2.isSome → d.frac ≠ []) := by
  obtain ⟨neg, body, rfl, e⟩ := parseDec_body src
  rw [e] at h
  obtain ⟨-, -, hf⟩ := parseBody_some h
  rw [mfdOfSource_eq, splitAtDot_sign]
  rcases hf with ⟨h2, hf⟩ | ⟨fb, h2, hf⟩
  · simp [h2, hf]
  · have hfd := digitsOf_some hf
    simp [h2, hfd.2.2.2, hfd.2.1]

end FluentProofs.Num

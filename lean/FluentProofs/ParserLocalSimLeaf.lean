import FluentProofs.ParserLocalPreLeaf
import FluentProofs.ParserLocalSimDefs
import FluentProofs.ParserLocalSimGe
/-!
# Locality of the parser, SIMULATION family, part 2: the leaf scanners

`Sim N s₁ s₂` is a `Loc N s₁ s₂` (agreement below the line start `N`, no byte at `N` that a scanner inside an entry
reacts to), so the leaf scanners started at or before `N` do the same on both sources and stay at or before `N`:
`*_sim` are the `*_loc` of `ParserLocalPreLeaf` at `Sim.loc`, `Sim.*_le`, `Sim.*_lt` the bounds of its edge.  What `Sim`
adds: the two sources agree AT `N` as well, so single bytes are read alike at every `p ≤ N`.  As `SimR` facts: numbers,
identifiers, accessors, string literals started before `N` return the same outcome on both sources, with its cursor before
`N`; started AT `N` the first byte decides (`…_simR`).
-/
namespace FluentProofs.Parser
open FluentModel.Syntax

section
variable {N : Nat} {s₁ s₂ : Src}

theorem wallByte_not_leaf {b : UInt8} (h : wallByte b = true) : ∀ c, leafByte c = true → c ≠ b := by
  intro c hc e
  subst e
  rcases Bool.or_eq_true _ _ ▸ h with hr | h35
  · rw [leafByte, stopByte_of_isReal c hr] at hc; cases hc
  · rw [beq_iff_eq.mp h35] at hc; cases hc

theorem Sim.loc (h : Sim N s₁ s₂) : Loc N s₁ s₂ where
  get i hi := h.get i (Nat.le_of_lt hi)
  ls := h.ls₁
  le₁ := Nat.le_of_lt (h.lt₁ (Nat.le_refl N))
  le₂ := Nat.le_of_lt (h.lt₂ (Nat.le_refl N))
  at₁ c hc := by
    obtain ⟨b, hb, hw⟩ := h.wall₁
    rw [hb]; exact fun e => wallByte_not_leaf hw c hc (Option.some.inj e).symm
  at₂ c hc := by
    obtain ⟨b, hb, hw⟩ := h.wall₂
    rw [hb]; exact fun e => wallByte_not_leaf hw c hc (Option.some.inj e).symm

theorem skipBlankInline_sim (h : Sim N s₁ s₂) {p : Nat} (hp : p ≤ N) : skipBlankInline s₂ p = skipBlankInline s₁ p :=
  skipBlankInline_loc h.loc hp

theorem Sim.skipBlankInline_le (h : Sim N s₁ s₂) {p : Nat} (hp : p ≤ N) : skipBlankInline s₁ p ≤ N :=
  h.loc.edge₁.skipBlankInline_le hp

theorem Sim.skipBlankInline_lt (h : Sim N s₁ s₂) {p : Nat} (hp : p < N) : skipBlankInline s₁ p < N :=
  h.loc.edge₁.skipBlankInline_lt hp

theorem Sim.skipBlankInline_N (h : Sim N s₁ s₂) : skipBlankInline s₁ N = N :=
  skipBlankInline_of_ne (h.ne_N₁ (by decide))

theorem skipEol_sim (h : Sim N s₁ s₂) {p : Nat} (hp : p ≤ N) : skipEol s₂ p = skipEol s₁ p :=
  skipEol_loc h.loc hp

theorem Sim.skipEol_le (h : Sim N s₁ s₂) {p q : Nat} (hp : p ≤ N) (he : skipEol s₁ p = some q) : q ≤ N :=
  h.loc.edge₁.skipEol_le hp he

theorem Sim.not_isEol_N (h : Sim N s₁ s₂) : isEol s₁ N = false :=
  h.loc.edge₁.isEol_false (h.lt₁ (Nat.le_refl N))

theorem isEol_sim (h : Sim N s₁ s₂) {p : Nat} (hp : p ≤ N) : isEol s₂ p = isEol s₁ p := by
  by_cases hlt : p < N
  · exact isEol_loc h.loc hlt
  · obtain rfl : p = N := by omega
    rw [h.not_isEol_N, h.symm.not_isEol_N]

theorem skipBlankBlock_sim (h : Sim N s₁ s₂) {p : Nat} (hp : p ≤ N) : skipBlankBlock s₂ p = skipBlankBlock s₁ p :=
  skipBlankBlock_loc h.loc hp

theorem Sim.skipBlankBlock_le (h : Sim N s₁ s₂) {p : Nat} (hp : p ≤ N) : (skipBlankBlock s₁ p).1 ≤ N :=
  h.loc.edge₁.skipBlankBlock_le hp

theorem skipBlank_sim (h : Sim N s₁ s₂) {p : Nat} (hp : p ≤ N) : skipBlank s₂ p = skipBlank s₁ p :=
  skipBlank_loc h.loc hp

theorem Sim.skipBlank_le (h : Sim N s₁ s₂) {p : Nat} (hp : p ≤ N) : skipBlank s₁ p ≤ N :=
  h.loc.edge₁.skipBlank_le hp

theorem expectByte_sim (h : Sim N s₁ s₂) {p : Nat} (hp : p ≤ N) (b : UInt8) : expectByte s₂ p b = expectByte s₁ p b := by
  simp only [expectByte, h.cur hp]

theorem takeByteIf_sim (h : Sim N s₁ s₂) {p : Nat} (hp : p ≤ N) (b : UInt8) : takeByteIf s₂ p b = takeByteIf s₁ p b := by
  simp only [takeByteIf, h.cur hp]

theorem isIdentifierStart_sim (h : Sim N s₁ s₂) {p : Nat} (hp : p ≤ N) : isIdentifierStart s₂ p = isIdentifierStart s₁ p := by
  simp only [isIdentifierStart, h.get p hp]

theorem isNumberStart_sim (h : Sim N s₁ s₂) {p : Nat} (hp : p ≤ N) : isNumberStart s₂ p = isNumberStart s₁ p := by
  simp only [isNumberStart, h.get p hp]

theorem Sim.expectByte_ok_lt (h : Sim N s₁ s₂) {p : Nat} (hp : p ≤ N) {b : UInt8} (hb : wallByte b = false) {u : Unit} {q : Nat}
    (he : expectByte s₁ p b = .ok u q) : q = p + 1 ∧ p < N ∧ (b ≠ 10 → q < N) := by
  obtain ⟨rfl, hbyte⟩ := expectByte_ok he
  have hlt := h.lt_of_byte hp hbyte hb
  exact ⟨rfl, hlt, fun hne => h.succ_lt hlt hbyte hne⟩

theorem isBoundary_sim (h : Sim N s₁ s₂) {i : Nat} (hi : i ≤ N) : isBoundary s₂ i = isBoundary s₁ i :=
  isBoundary_win h.loc.win hi

theorem slice_sim (h : Sim N s₁ s₂) (a : Nat) {b : Nat} (hb : b ≤ N) : slice s₂ a b = slice s₁ a b :=
  slice_loc h.loc a hb

theorem isCallee_sim (h : Sim N s₁ s₂) {sp : Span} (hsp : sp.stop ≤ N) : isCallee s₂ sp = isCallee s₁ sp :=
  isCallee_loc h.loc hsp

theorem named_any_sim (h : Sim N s₁ s₂) (named : List (Span × Inline Span)) (id : Span)
    (hn : ∀ na ∈ named, na.1.stop ≤ N) (hid : id.stop ≤ N) :
    named.any (fun na => spanBytes s₂ na.1 == spanBytes s₂ id) = named.any (fun na => spanBytes s₁ na.1 == spanBytes s₁ id) :=
  named_any_loc h.loc named id hn hid

theorem nonBlank_sim (h : Sim N s₁ s₂) (a : Nat) {b : Nat} (hb : b ≤ N) : nonBlank s₂ a b = nonBlank s₁ a b :=
  nonBlank_congr 0 fun j _ h2 => h.get j (Nat.le_of_lt (Nat.lt_of_lt_of_le h2 hb))

theorem finishElements_sim (h : Sim N s₁ s₂) (ci : Option Nat) (lnb : Nat) (i : Nat) (els : List Placeholder)
    (hel : ∀ a b ind r, Placeholder.text a b ind r ∈ els → b ≤ N) :
    finishElements s₂ ci lnb i els = finishElements s₁ ci lnb i els :=
  finishElements_loc h.loc ci lnb i els hel

theorem st2Of_sim (h : Sim N s₁ s₂) (st : PatState) (p indent start : Nat) {stop : Nat} (nb : Bool) (term : Termination)
    (hs : stop ≤ N) : st2Of s₂ st p indent start stop nb term = st2Of s₁ st p indent start stop nb term :=
  st2Of_loc h.loc st p indent start nb term hs

theorem getTextSlice_sim (h : Sim N s₁ s₂) {p : Nat} (hp : p < N) : getTextSlice s₂ p = getTextSlice s₁ p :=
  getTextSlice_loc h.loc hp

theorem Sim.getTextSlice_ok (h : Sim N s₁ s₂) {p : Nat} (hp : p < N) {start stop : Nat} {nb : Bool} {term : Termination} {q : Nat}
    (hr : getTextSlice s₁ p = .ok (start, stop, nb, term) q) :
    start = p ∧ stop ≤ N ∧ q ≤ N ∧ (q = N → term = .lineFeed) :=
  h.loc.edge₁.getTextSlice_ok hp hr

theorem getIdentifierUnchecked_sim (h : Sim N s₁ s₂) {p : Nat} (hp : p < N) :
    getIdentifierUnchecked s₂ p = getIdentifierUnchecked s₁ p ∧
      ∀ sp q, getIdentifierUnchecked s₁ p = .ok sp q → q < N ∧ sp.stop = q :=
  getIdentifierUnchecked_loc h.loc hp

end

section
variable {N : Nat} {s₁ s₂ : Src} {H : Prop}

theorem UN.curLe {α : Type} {M : Nat} {r : R α} (h : UN M M r) (hM : M ≤ N) : CurLe N r := by
  cases r with
  | ok a q => exact Nat.le_trans h hM
  | err e q => exact Nat.le_trans h hM
  | panic m => trivial
  | fuel => trivial

theorem SimR.of_loc {α : Type} {r₁ r₂ : R α} (h : r₂ = r₁ ∧ UN (N - 1) (N - 1) r₁) : SimR N H r₁ r₂ :=
  SimR.of_eq h.1 (h.2.curLe (Nat.sub_le N 1))

theorem getNumberLiteral_sim (h : Sim N s₁ s₂) {p : Nat} (hp : p < N) :
    getNumberLiteral s₂ p = getNumberLiteral s₁ p ∧ CurLe N (getNumberLiteral s₁ p) :=
  (getNumberLiteral_loc h.loc hp).imp_right fun hu => hu.curLe (Nat.sub_le N 1)

theorem scanString_sim (h : Sim N s₁ s₂) {p : Nat} (hp : p < N) :
    scanString s₂ p = scanString s₁ p ∧ CurLe (N - 1) (scanString s₁ p) :=
  (scanString_loc h.loc hp).imp_right fun hu => hu.curLe (Nat.le_refl _)

theorem expectByte_simR (h : Sim N s₁ s₂) {p : Nat} (hp : p ≤ N) {c : UInt8} (hc : wallByte c = false) :
    SimR N H (expectByte s₁ p c) (expectByte s₂ p c) := by
  refine SimR.of_eq (expectByte_sim h hp c) ?_
  rcases expectByte_cases s₁ p c with ⟨hx, hb⟩ | ⟨hx, _⟩ <;> rw [hx]
  · exact h.lt_of_byte hp hb hc
  · exact hp

theorem getIdentifierUnchecked_simR (h : Sim N s₁ s₂) {p : Nat} (hp : p < N) :
    SimR N H (getIdentifierUnchecked s₁ p) (getIdentifierUnchecked s₂ p) := by
  obtain ⟨e1, e2⟩ := getIdentifierUnchecked_sim h hp
  refine SimR.of_eq e1 ?_
  cases hr : getIdentifierUnchecked s₁ p with
  | ok sp q => exact Nat.le_of_lt (e2 sp q hr).1
  | err e q => exact absurd hr getIdentifierUnchecked_not_err
  | panic m => trivial
  | fuel => trivial

theorem getIdentifier_sim (h : Sim N s₁ s₂) {p : Nat} (hp : p < N) :
    getIdentifier s₂ p = getIdentifier s₁ p ∧ CurLe N (getIdentifier s₁ p) ∧
      ∀ sp q, getIdentifier s₁ p = .ok sp q → q < N ∧ sp.stop = q := by
  obtain ⟨e1, e2⟩ := getIdentifier_loc h.loc hp
  refine ⟨e1, ?_, e2⟩
  cases hr : getIdentifier s₁ p with
  | ok sp q => exact Nat.le_of_lt (e2 sp q hr).1
  | err e q => rw [(getIdentifier_err_start hr).1]; exact Nat.le_of_lt hp
  | panic m => trivial
  | fuel => trivial

/-- `p ≤ N`: at `N` there is no `.` -/
theorem getAttributeAccessor_sim (h : Sim N s₁ s₂) {p : Nat} (hp : p ≤ N) :
    getAttributeAccessor s₂ p = getAttributeAccessor s₁ p ∧ CurLe N (getAttributeAccessor s₁ p) := by
  by_cases hlt : p < N
  · exact (getAttributeAccessor_loc h.loc hlt).imp_right fun hu => hu.curLe (Nat.sub_le N 1)
  · obtain rfl : p = N := by omega
    rw [getAttributeAccessor_eq, getAttributeAccessor_eq, if_neg (h.ne_N₁ (by decide)), if_neg (h.ne_N₂ (by decide))]
    exact ⟨rfl, hp⟩

theorem getAttributeAccessor_simR (h : Sim N s₁ s₂) {p : Nat} (hp : p ≤ N) :
    SimR N H (getAttributeAccessor s₁ p) (getAttributeAccessor s₂ p) :=
  (getAttributeAccessor_sim h hp).elim SimR.of_eq

theorem Sim.getTextSlice_err (h : Sim N s₁ s₂) {p : Nat} (hp : p < N) {e : PErr} {q : Nat}
    (hr : getTextSlice s₁ p = .err e q) : q < N :=
  h.loc.edge₁.getTextSlice_err hp hr

theorem getIdentifier_simR (h : Sim N s₁ s₂) {p : Nat} (hp : p ≤ N) : SimR N (Hash s₁ N) (getIdentifier s₁ p) (getIdentifier s₂ p) := by
  by_cases hlt : p < N
  · have := getIdentifier_sim h hlt
    exact SimR.of_eq this.1 this.2.1
  · have hpN : p = N := by omega
    subst hpN
    have e := isIdentifierStart_sim h (Nat.le_refl p)
    by_cases hc : isIdentifierStart s₁ p = true
    · obtain ⟨b, hb, ha⟩ := (isIdentifierStart_iff s₁ p).mp hc
      have hH : ¬ Hash s₁ p := by
        intro hh
        unfold Hash at hh
        rw [hb] at hh
        injection hh with hh
        subst hh; revert ha; decide
      have e1 : getIdentifier s₁ p = getIdentifierUnchecked s₁ (p + 1) := by simp [getIdentifier, hc]
      have e2 : getIdentifier s₂ p = getIdentifierUnchecked s₂ (p + 1) := by simp [getIdentifier, e, hc]
      rw [e1, e2]
      exact SimR.of_past hH ((getIdentifierUnchecked_ge s₁ (p + 1)).past (Nat.lt_succ_self p))
        ((getIdentifierUnchecked_ge s₂ (p + 1)).past (Nat.lt_succ_self p))
    · have hc : isIdentifierStart s₁ p = false := by simpa using hc
      have e1 : getIdentifier s₁ p = .err (mkErr (.expectedCharRange 0) p) p := by simp [getIdentifier, hc]
      have e2 : getIdentifier s₂ p = .err (mkErr (.expectedCharRange 0) p) p := by simp [getIdentifier, e, hc]
      rw [e1, e2]
      exact SimR.of_eq rfl (Nat.le_refl p)

theorem sim_getNumberLiteral_err {s : Src} {p : Nat} {b : UInt8} (hb : s[p]? = some b) (h45 : b ≠ 45) (hd : isDigit b = false) :
    getNumberLiteral s p = .err (mkErr (.expectedCharRange 1) p) p := by
  have hne : s[p]? ≠ some 45 := by rw [hb]; intro hh; injection hh with hh; exact h45 hh
  have et : takeByteIf s p 45 = (p, false) := by
    rcases takeByteIf_cases s p 45 with ⟨_, h1⟩ | ⟨e, _⟩
    · exact absurd h1 hne
    · exact e
  have ed : skipDigits s p = .err (mkErr (.expectedCharRange 1) p) p := by
    simp [skipDigits, (scanWhile_first s isDigit p).eq_self (noPredAt_of_byte hb hd)]
  unfold getNumberLiteral
  rw [et]
  simp only [ed]

theorem real_byte_facts : ∀ b : UInt8, isReal b = true →
    b ≠ 34 ∧ ¬ isDigit b = true ∧ b ≠ 36 ∧ ((isAlpha b = true ∧ b ≠ 45) ∨ b = 45) := by
  apply forall_uint8; decide +kernel

theorem getNumberLiteral_simR (h : Sim N s₁ s₂) {p : Nat} (hp : p ≤ N) :
    SimR N (Hash s₁ N) (getNumberLiteral s₁ p) (getNumberLiteral s₂ p) := by
  by_cases hlt : p < N
  · exact (getNumberLiteral_sim h hlt).elim SimR.of_eq
  · have hpN : p = N := by omega
    subst hpN
    obtain ⟨b, hb, hw⟩ := h.wall₁
    have hb2 : s₂[p]? = some b := by rw [h.get p (Nat.le_refl p)]; exact hb
    by_cases h45 : b = 45
    · subst h45
      have hH : ¬ Hash s₁ p := by
        intro hh
        unfold Hash at hh
        rw [hb] at hh
        cases hh
      exact SimR.of_past hH ((getNumberLiteral_minus hb).past (Nat.lt_succ_self p))
        ((getNumberLiteral_minus hb2).past (Nat.lt_succ_self p))
    · have hd : isDigit b = false := by
        rcases Bool.or_eq_true _ _ ▸ hw with hr | h35
        · exact Bool.eq_false_iff.mpr (real_byte_facts b hr).2.1
        · rw [beq_iff_eq.mp h35]; rfl
      rw [sim_getNumberLiteral_err hb h45 hd, sim_getNumberLiteral_err hb2 h45 hd]
      exact SimR.of_eq rfl (Nat.le_refl p)

theorem variantKey_simR (h : Sim N s₁ s₂) {p : Nat} (hp : p ≤ N) : SimR N (Hash s₁ N) (variantKey s₁ p) (variantKey s₂ p) := by
  rw [variantKey_eq, variantKey_eq, isNumberStart_sim h hp]
  split
  · exact (getNumberLiteral_simR h hp).bind_ok _
  · exact (getIdentifier_simR h hp).bind_ok _

end

end FluentProofs.Parser

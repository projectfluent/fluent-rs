import FluentModel.Serializer
/-!
# Serializer lemmas: the `TextWriter` and the indentation invariant (C04)

Every serializer function returns `some` writer with the `indentLevel` it was given (mutual structural induction over
`Inline`/`Expr`/`Variant`/`PatElem`), hence `dedent` never underflows and `serialize` never panics; the one-step equations of
the writer functions, on which the later walks over the writer rest; the exact buffer effect of `writeLiteral`, `newline`,
`writeCharIntoIndent`; and `serVariants_eq_spec`: in a variant list `writeCharIntoIndent` puts the `*` in the place of an
indentation space and removes nothing else (`starIndent`, `serVariantsSpec`).
-/
namespace FluentProofs.Ser
open FluentModel FluentModel.Syntax FluentModel.Syntax.Ser

@[simp] theorem pushAll_indentLevel (w : Writer) (bs : Bytes) : (w.pushAll bs).indentLevel = w.indentLevel := rfl
@[simp] theorem writeIndent_indentLevel (w : Writer) : w.writeIndent.indentLevel = w.indentLevel := rfl
@[simp] theorem newline_indentLevel (w : Writer) : w.newline.indentLevel = w.indentLevel := rfl
@[simp] theorem indent_indentLevel (w : Writer) : w.indent.indentLevel = w.indentLevel + 1 := rfl
@[simp] theorem indent_buffer (w : Writer) : w.indent.buffer = w.buffer := rfl

@[simp] theorem writeLiteral_indentLevel (w : Writer) (item : Bytes) :
    (w.writeLiteral item).indentLevel = w.indentLevel := by
  unfold Writer.writeLiteral
  simp only []
  split <;> split <;> rfl

@[simp] theorem writeCharIntoIndent_indentLevel (w : Writer) (ch : UInt8) :
    (w.writeCharIntoIndent ch).indentLevel = w.indentLevel := by
  unfold Writer.writeCharIntoIndent
  simp only []
  split <;> rfl

theorem dedent_indent (w : Writer) : w.indent.dedent = some w := by
  simp [Writer.dedent, Writer.indent]

theorem dedent_of_pos {w : Writer} (h : 1 ≤ w.indentLevel) :
    ∃ w', w.dedent = some w' ∧ w'.indentLevel = w.indentLevel - 1 ∧ w'.buffer = w.buffer := by
  refine ⟨{ w with indentLevel := w.indentLevel - 1 }, ?_, rfl, rfl⟩
  simp [Writer.dedent, h]

theorem dedent_eq_some {w w' : Writer} (h : w.dedent = some w') :
    w'.indentLevel + 1 = w.indentLevel ∧ w'.buffer = w.buffer := by
  unfold Writer.dedent at h
  split at h
  · cases h; exact ⟨by simp; omega, rfl⟩
  · cases h

def Keeps (k : Nat) (r : Option Writer) : Prop := ∃ w', r = some w' ∧ w'.indentLevel = k

theorem Keeps.some {k : Nat} {w : Writer} (h : w.indentLevel = k) : Keeps k (some w) := ⟨w, rfl, h⟩

theorem Keeps.map {k : Nat} {r : Option Writer} (h : Keeps k r) (f : Writer → Writer)
    (hf : ∀ w, (f w).indentLevel = w.indentLevel) : Keeps k (r.map f) := by
  obtain ⟨w', rfl, h'⟩ := h
  exact ⟨f w', rfl, by rw [hf, h']⟩

theorem Keeps.bind {k k' : Nat} {r : Option Writer} {f : Writer → Option Writer} (h : Keeps k r)
    (hf : ∀ w, w.indentLevel = k → Keeps k' (f w)) : Keeps k' (r.bind f) := by
  obtain ⟨w', rfl, h'⟩ := h
  exact hf w' h'

theorem Keeps.wrap {k : Nat} {r : Option Writer} (h : Keeps k r) (l : Bytes) :
    Keeps k (r.map fun w => w.writeLiteral l) :=
  h.map _ (fun w => writeLiteral_indentLevel w l)

theorem dedent_keeps {k : Nat} {w : Writer} (h : w.indentLevel = k + 1) : Keeps k w.dedent := by
  obtain ⟨w', h1, h2, _⟩ := dedent_of_pos (w := w) (by omega)
  exact ⟨w', h1, by omega⟩

theorem patternPre_indentLevel (w : Writer) (p : List (PatElem Bytes)) :
    (patternPre w p).indentLevel = w.indentLevel + (if isMultiline p then 1 else 0) := by
  unfold patternPre
  simp only []
  split <;> split <;> simp

theorem patternPost_keeps (p : List (PatElem Bytes)) (w : Writer) (k : Nat)
    (h : w.indentLevel = k + (if isMultiline p then 1 else 0)) : Keeps k (patternPost p w) := by
  unfold patternPost
  split
  · rename_i hm
    simp [hm] at h
    exact dedent_keeps h
  · rename_i hm
    simp [hm] at h
    exact ⟨w, rfl, h⟩

/-! ## one step of each of the eight writer functions

The model writes every call as `match … with | none => none | some w => …`; that is `Option.bind`.  Each of the eight
mutually recursive functions is stated once per constructor in that form (`serArgs`, the part the two kinds of call share,
keeps the `match`); the walks over these functions (`Keeps` here, `WB` in `SerializerUtf8`, the normaliser in
`SerializerCongr`) use the equations and one sequencing lemma for their predicate.  The equations for messages, terms and the
entry loop serve `SerializerResource`; the walks over attributes, entries and resources unfold the model, which is not
mutually recursive there. -/

/-- the writer behind `id` resp. `-id` and the optional `.attr` of a message or term reference -/
def refHead (w : Writer) : Option Bytes → Writer
  | some a => (w.writeLiteral (lit ".")).writeLiteral a
  | none => w

/-- `serialize_call_arguments` after the `(` -/
def serArgs (w : Writer) (written : Bool) (pos : List (Inline Bytes)) (named : List (Bytes × Inline Bytes)) :
    Option Writer :=
  match serPositional w written pos with
  | none => none
  | some (w1, wr) => (serNamed w1 wr named).map fun w2 => w2.writeLiteral [41]

theorem serInline_msg (w : Writer) (id : Bytes) (attr : Option Bytes) :
    serInline w (.msg id attr) = some (refHead (w.writeLiteral id) attr) := by
  cases attr <;> rfl

theorem serInline_term_none (w : Writer) (id : Bytes) (attr : Option Bytes) :
    serInline w (.term id attr none) = some (refHead ((w.writeLiteral (lit "-")).writeLiteral id) attr) := by
  cases attr <;> rfl

theorem serInline_fn_call (w : Writer) (id : Bytes) (pos : List (Inline Bytes)) (named : List (Bytes × Inline Bytes)) :
    serInline w (.fn id pos named) = serArgs ((w.writeLiteral id).writeLiteral (lit "(")) false pos named := by
  simp only [serInline, serArgs]
  cases serPositional ((w.writeLiteral id).writeLiteral (lit "(")) false pos <;> rfl

theorem serInline_term_call (w : Writer) (id : Bytes) (attr : Option Bytes) (pos : List (Inline Bytes))
    (named : List (Bytes × Inline Bytes)) :
    serInline w (.term id attr (some (pos, named))) =
      serArgs ((refHead ((w.writeLiteral (lit "-")).writeLiteral id) attr).writeLiteral (lit "(")) false pos named := by
  cases attr <;> simp only [serInline, serArgs, refHead]
  · cases serPositional ((((w.writeLiteral (lit "-")).writeLiteral id)).writeLiteral (lit "(")) false pos <;> rfl
  · rename_i a
    cases serPositional ((((w.writeLiteral (lit "-")).writeLiteral id).writeLiteral (lit ".")).writeLiteral a
      |>.writeLiteral (lit "(")) false pos <;> rfl

theorem serInline_placeable (w : Writer) (e : Expr Bytes) :
    serInline w (.placeable e) = (serExpr (w.writeLiteral (lit "{")) e).map fun w1 => w1.writeLiteral (lit "}") := by
  rw [serInline]

theorem serPositional_cons (w : Writer) (written : Bool) (x : Inline Bytes) (xs : List (Inline Bytes)) :
    serPositional w written (x :: xs) =
      (serInline (if written then w.writeLiteral (lit ", ") else w) x).bind fun w2 => serPositional w2 true xs := by
  rw [serPositional]
  cases serInline (if written = true then w.writeLiteral (lit ", ") else w) x <;> rfl

theorem serNamed_cons (w : Writer) (written : Bool) (n : Bytes) (v : Inline Bytes) (xs : List (Bytes × Inline Bytes)) :
    serNamed w written ((n, v) :: xs) =
      (serInline (((if written then w.writeLiteral (lit ", ") else w).writeLiteral n).writeLiteral (lit ": ")) v).bind
        fun w3 => serNamed w3 true xs := by
  rw [serNamed]
  cases serInline (((if written = true then w.writeLiteral (lit ", ") else w).writeLiteral n).writeLiteral (lit ": ")) v <;>
    rfl

theorem serExpr_select (w : Writer) (sel : Inline Bytes) (vs : List (Variant Bytes)) :
    serExpr w (.select sel vs) =
      (serInline w sel).bind fun w1 =>
        (serVariants (((w1.writeLiteral (lit " ->")).newline).indent) vs).bind Writer.dedent := by
  rw [serExpr]
  cases serInline w sel with
  | none => rfl
  | some w1 => simp only [Option.bind_some]; cases serVariants (((w1.writeLiteral (lit " ->")).newline).indent) vs <;> rfl

theorem serVariants_cons (w : Writer) (v : Variant Bytes) (vs : List (Variant Bytes)) :
    serVariants w (v :: vs) = (serVariant w v).bind fun w1 => serVariants w1.newline vs := by
  rw [serVariants]
  cases serVariant w v <;> rfl

theorem serVariant_mk (w : Writer) (key : VKey Bytes) (value : List (PatElem Bytes)) (dflt : Bool) :
    serVariant w (.mk key value dflt) =
      (serElements (patternPre ((((if dflt then w.writeCharIntoIndent 42 else w).writeLiteral (lit "[")).writeLiteral
        (match key with | .ident n => n | .num v => v)).writeLiteral (lit "]")) value) value).bind (patternPost value) := by
  cases key <;> simp only [serVariant] <;> cases serElements _ value <;> rfl

theorem serElements_cons (w : Writer) (e : PatElem Bytes) (es : List (PatElem Bytes)) :
    serElements w (e :: es) = (serElement w e).bind fun w1 => serElements w1 es := by
  rw [serElements]
  cases serElement w e <;> rfl

theorem serPattern_bind (w : Writer) (p : List (PatElem Bytes)) :
    serPattern w p = (serElements (patternPre w p) p).bind (patternPost p) := by
  unfold serPattern
  cases serElements (patternPre w p) p <;> rfl

def commentHead (w : Writer) : Option (List Bytes) → Writer
  | some c => serComment w (lit "#") c
  | none => w

def serOptPattern (w : Writer) : Option (List (PatElem Bytes)) → Option Writer
  | some v => serPattern w v
  | none => some w

theorem serMessage_bind (w : Writer) (m : Message Bytes) :
    serMessage w m =
      (serOptPattern (((commentHead w m.comment).writeLiteral m.id).writeLiteral (lit " =")) m.value).bind
        fun w3 => (serAttributes w3 m.attributes).map Writer.newline := by
  unfold serMessage
  cases m.comment <;> cases m.value <;> simp only [commentHead, serOptPattern, Option.bind_some]
  all_goals cases serPattern _ _ <;> rfl

theorem serTerm_bind (w : Writer) (t : Term Bytes) :
    serTerm w t =
      (serPattern ((((commentHead w t.comment).writeLiteral (lit "-")).writeLiteral t.id).writeLiteral (lit " =")) t.value).bind
        fun w3 => (serAttributes w3 t.attributes).map Writer.newline := by
  unfold serTerm
  cases t.comment <;> simp only [commentHead] <;> cases serPattern _ _ <;> rfl

theorem serResourceGo_message {withJunk : Bool} {w w' : Writer} {m : Message Bytes} (b : Bool) (es : List (Entry Bytes))
    (h : serMessage w m = some w') :
    serResourceGo withJunk w b (.message m :: es) = serResourceGo withJunk w' true es := by
  simp only [serResourceGo, h]

theorem serResourceGo_term {withJunk : Bool} {w w' : Writer} {t : Term Bytes} (b : Bool) (es : List (Entry Bytes))
    (h : serTerm w t = some w') :
    serResourceGo withJunk w b (.term t :: es) = serResourceGo withJunk w' true es := by
  simp only [serResourceGo, h]

theorem serElement_inline (w : Writer) (i : Inline Bytes) (h : ∀ e, i ≠ .placeable e) :
    serElement w (.placeable (.inline i)) =
      (serInline (w.writeLiteral (lit "{ ")) i).map fun w1 => w1.writeLiteral (lit " }") := by
  cases i with
  | placeable e => exact absurd rfl (h e)
  | _ => rfl

theorem refHead_indentLevel (w : Writer) (attr : Option Bytes) : (refHead w attr).indentLevel = w.indentLevel := by
  cases attr <;> simp [refHead]

theorem ite_lit_indentLevel (b : Bool) (w : Writer) (l : Bytes) :
    (if b then w.writeLiteral l else w).indentLevel = w.indentLevel := by
  cases b <;> simp

theorem serArgs_keeps {pos : List (Inline Bytes)} {named : List (Bytes × Inline Bytes)}
    (hp : ∀ w b, ∃ r, serPositional w b pos = some r ∧ r.1.indentLevel = w.indentLevel)
    (hn : ∀ w b, Keeps w.indentLevel (serNamed w b named)) (w : Writer) (b : Bool) :
    Keeps w.indentLevel (serArgs w b pos named) := by
  unfold serArgs
  obtain ⟨r, h1, h1'⟩ := hp w b
  rw [h1]
  have := hn r.1 r.2
  rw [h1'] at this
  exact this.wrap _

mutual

theorem serInline_keeps (e : Inline Bytes) (w : Writer) : Keeps w.indentLevel (serInline w e) := by
  cases e with
  | str v => exact ⟨_, rfl, by simp⟩
  | num v => exact ⟨_, rfl, by simp⟩
  | var id => exact ⟨_, rfl, by simp⟩
  | msg id attr => rw [serInline_msg]; exact .some (by rw [refHead_indentLevel]; simp)
  | fn id pos named =>
    rw [serInline_fn_call]
    have := serArgs_keeps (serPositional_keeps pos) (serNamed_keeps named) ((w.writeLiteral id).writeLiteral (lit "(")) false
    rwa [writeLiteral_indentLevel, writeLiteral_indentLevel] at this
  | term id attr args =>
    cases args with
    | none => rw [serInline_term_none]; exact .some (by rw [refHead_indentLevel]; simp)
    | some pn =>
      obtain ⟨pos, named⟩ := pn
      rw [serInline_term_call]
      have := serArgs_keeps (serPositional_keeps pos) (serNamed_keeps named)
        ((refHead ((w.writeLiteral (lit "-")).writeLiteral id) attr).writeLiteral (lit "(")) false
      rwa [writeLiteral_indentLevel, refHead_indentLevel, writeLiteral_indentLevel, writeLiteral_indentLevel] at this
  | placeable e =>
    rw [serInline_placeable]
    have := serExpr_keeps e (w.writeLiteral (lit "{"))
    rw [writeLiteral_indentLevel] at this
    exact this.wrap _

theorem serPositional_keeps (xs : List (Inline Bytes)) (w : Writer) (written : Bool) :
    ∃ r, serPositional w written xs = some r ∧ r.1.indentLevel = w.indentLevel := by
  cases xs with
  | nil => exact ⟨(w, written), by simp [serPositional], rfl⟩
  | cons x xs =>
    rw [serPositional_cons]
    obtain ⟨w2, h2, h2'⟩ := serInline_keeps x (if written then w.writeLiteral (lit ", ") else w)
    rw [h2, Option.bind_some]
    obtain ⟨r, h3, h3'⟩ := serPositional_keeps xs w2 true
    exact ⟨r, h3, by rw [h3', h2', ite_lit_indentLevel]⟩

theorem serNamed_keeps (xs : List (Bytes × Inline Bytes)) (w : Writer) (written : Bool) :
    Keeps w.indentLevel (serNamed w written xs) := by
  cases xs with
  | nil => exact ⟨w, by simp [serNamed], rfl⟩
  | cons x xs =>
    obtain ⟨n, v⟩ := x
    rw [serNamed_cons]
    refine (serInline_keeps v _).bind fun w3 h3 => ?_
    have := serNamed_keeps xs w3 true
    rwa [h3, writeLiteral_indentLevel, writeLiteral_indentLevel, ite_lit_indentLevel] at this

theorem serExpr_keeps (e : Expr Bytes) (w : Writer) : Keeps w.indentLevel (serExpr w e) := by
  cases e with
  | inline i => unfold serExpr; exact serInline_keeps i w
  | select sel vs =>
    rw [serExpr_select]
    refine (serInline_keeps sel w).bind fun w1 h1 => ?_
    refine (serVariants_keeps vs _).bind fun w3 h3 => dedent_keeps ?_
    rw [h3, indent_indentLevel, newline_indentLevel, writeLiteral_indentLevel, h1]

theorem serVariants_keeps (vs : List (Variant Bytes)) (w : Writer) : Keeps w.indentLevel (serVariants w vs) := by
  cases vs with
  | nil => exact ⟨w, by simp [serVariants], rfl⟩
  | cons v vs =>
    rw [serVariants_cons]
    refine (serVariant_keeps v w).bind fun w1 h1 => ?_
    have := serVariants_keeps vs w1.newline
    rwa [newline_indentLevel, h1] at this

theorem serVariant_keeps (v : Variant Bytes) (w : Writer) : Keeps w.indentLevel (serVariant w v) := by
  cases v with
  | mk key value dflt =>
    rw [serVariant_mk]
    refine (serElements_keeps value _).bind fun w3 h3 => patternPost_keeps value w3 _ ?_
    rw [h3, patternPre_indentLevel, writeLiteral_indentLevel, writeLiteral_indentLevel, writeLiteral_indentLevel]
    cases dflt <;> simp

theorem serElements_keeps (es : List (PatElem Bytes)) (w : Writer) : Keeps w.indentLevel (serElements w es) := by
  cases es with
  | nil => exact ⟨w, by simp [serElements], rfl⟩
  | cons e es =>
    rw [serElements_cons]
    refine (serElement_keeps e w).bind fun w1 h1 => ?_
    have := serElements_keeps es w1
    rwa [h1] at this

theorem serElement_keeps (e : PatElem Bytes) (w : Writer) : Keeps w.indentLevel (serElement w e) := by
  cases e with
  | text v => exact ⟨_, rfl, by simp⟩
  | placeable x =>
    cases x with
    | select sel vs =>
      have := serExpr_keeps (.select sel vs) (w.writeLiteral (lit "{ "))
      rw [writeLiteral_indentLevel] at this
      exact this.wrap _
    | inline i =>
      cases i with
      | placeable x =>
        have := serExpr_keeps x (w.writeLiteral (lit "{{ "))
        rw [writeLiteral_indentLevel] at this
        exact this.wrap _
      | _ =>
        rw [serElement_inline w _ (by intro x hx; cases hx)]
        refine Keeps.wrap ?_ _
        rw [← writeLiteral_indentLevel w (lit "{ ")]
        exact serInline_keeps _ _

end

theorem serPattern_keeps (p : List (PatElem Bytes)) (w : Writer) : Keeps w.indentLevel (serPattern w p) := by
  rw [serPattern_bind]
  exact (serElements_keeps p _).bind fun w3 h3 => patternPost_keeps p w3 _ (by rw [h3, patternPre_indentLevel])

@[simp] theorem serComment_indentLevel (pre : Bytes) (ls : List Bytes) (w : Writer) :
    (serComment w pre ls).indentLevel = w.indentLevel := by
  induction ls generalizing w with
  | nil => rfl
  | cons l ls ih =>
    unfold serComment
    simp only []
    rw [ih]
    split <;> simp

theorem serAttributesGo_keeps (as : List (Attribute Bytes)) (w : Writer) :
    Keeps w.indentLevel (serAttributesGo w as) := by
  induction as generalizing w with
  | nil => exact ⟨w, rfl, rfl⟩
  | cons a as ih =>
    unfold serAttributesGo
    simp only []
    obtain ⟨w2, h2, h2'⟩ := serPattern_keeps a.value
      (((w.newline.writeLiteral (lit ".")).writeLiteral a.id).writeLiteral (lit " ="))
    simp only [h2]
    have := ih w2
    simp at h2'
    rw [h2'] at this
    exact this

theorem serAttributes_keeps (as : List (Attribute Bytes)) (w : Writer) :
    Keeps w.indentLevel (serAttributes w as) := by
  unfold serAttributes
  split
  · exact ⟨w, rfl, rfl⟩
  · obtain ⟨w1, h1, h1'⟩ := serAttributesGo_keeps as w.indent
    simp only [h1]
    simp at h1'
    exact dedent_keeps h1'

theorem serMessage_keeps (m : Message Bytes) (w : Writer) : Keeps w.indentLevel (serMessage w m) := by
  unfold serMessage
  simp only []
  generalize hw2 : ((match m.comment with
      | some c => serComment w (lit "#") c
      | none => w).writeLiteral m.id).writeLiteral (lit " =") = w2
  have hw2l : w2.indentLevel = w.indentLevel := by
    subst hw2; split <;> simp
  cases m.value with
  | none =>
    simp only []
    have := serAttributes_keeps m.attributes w2
    rw [hw2l] at this
    exact this.map _ (by simp)
  | some v =>
    simp only []
    obtain ⟨w3, h3, h3'⟩ := serPattern_keeps v w2
    simp only [h3]
    have := serAttributes_keeps m.attributes w3
    rw [h3', hw2l] at this
    exact this.map _ (by simp)

theorem serTerm_keeps (t : Term Bytes) (w : Writer) : Keeps w.indentLevel (serTerm w t) := by
  unfold serTerm
  simp only []
  generalize hw2 : (((match t.comment with
      | some c => serComment w (lit "#") c
      | none => w).writeLiteral (lit "-")).writeLiteral t.id).writeLiteral (lit " =") = w2
  have hw2l : w2.indentLevel = w.indentLevel := by
    subst hw2; split <;> simp
  obtain ⟨w3, h3, h3'⟩ := serPattern_keeps t.value w2
  simp only [h3]
  have := serAttributes_keeps t.attributes w3
  rw [h3', hw2l] at this
  exact this.map _ (by simp)

@[simp] theorem serFreeComment_indentLevel (w : Writer) (b : Bool) (pre : Bytes) (c : List Bytes) :
    (serFreeComment w b pre c).indentLevel = w.indentLevel := by
  unfold serFreeComment
  simp only []
  split <;> simp

theorem serResourceGo_keeps (withJunk : Bool) (es : List (Entry Bytes)) (w : Writer) (b : Bool) :
    Keeps w.indentLevel (serResourceGo withJunk w b es) := by
  induction es generalizing w b with
  | nil => exact ⟨w, rfl, rfl⟩
  | cons e es ih =>
    unfold serResourceGo
    cases e with
    | message m =>
      obtain ⟨w1, h1, h1'⟩ := serMessage_keeps m w
      simp only [h1]; rw [← h1']; exact ih _ _
    | term t =>
      obtain ⟨w1, h1, h1'⟩ := serTerm_keeps t w
      simp only [h1]; rw [← h1']; exact ih _ _
    | comment c => simpa using ih (serFreeComment w b (lit "#") c) true
    | groupComment c => simpa using ih (serFreeComment w b (lit "##") c) true
    | resourceComment c => simpa using ih (serFreeComment w b (lit "###") c) true
    | junk content =>
      simp only []
      split
      · exact ih _ _
      · simpa using ih (w.writeLiteral content) false

/-- `serialize` never panics: for every resource (any tree shape whatsoever) and both
options the model returns `some` bytes, i.e. the `expect` in `TextWriter::dedent` is unreachable. -/
theorem serialize_isSome (withJunk : Bool) (r : Resource Bytes) : ∃ out, serialize withJunk r = some out := by
  obtain ⟨w, h, _⟩ := serResourceGo_keeps withJunk r {} false
  exact ⟨w.buffer.toList, by simp [serialize, h]⟩

def spaces (n : Nat) : Array UInt8 := Array.replicate n 32

theorem writeIndentGo_eq (n : Nat) (b : Array UInt8) : writeIndentGo n b = b ++ spaces (4 * n) := by
  induction n generalizing b with
  | zero => simp [writeIndentGo, spaces]
  | succ n ih =>
    rw [writeIndentGo, ih]
    have : spaces (4 * (n + 1)) = #[32, 32, 32, 32] ++ spaces (4 * n) := by
      apply Array.ext'
      have : 4 * (n + 1) = 4 + 4 * n := by omega
      simp [spaces, this, ← List.replicate_append_replicate]
    rw [this, Array.append_assoc]

theorem writeIndent_buffer (w : Writer) : w.writeIndent.buffer = w.buffer ++ spaces (4 * w.indentLevel) :=
  writeIndentGo_eq _ _

theorem endsWith_iff (w : Writer) (b : UInt8) : endsWith w b = true ↔ w.buffer.back? = some b := by
  simp [endsWith]

@[simp] theorem spaces_back (n : Nat) : (spaces n).back? = if n = 0 then none else some 32 := by
  simp [spaces, Array.back?_replicate]

theorem newline_buffer (w : Writer) :
    w.newline.buffer = w.buffer ++ (if endsWith w 13 then #[13, 10] else #[10]) := by
  unfold Writer.newline
  split <;> simp_all <;> apply Array.ext' <;> simp

@[simp] theorem newline_endsWith (w : Writer) : endsWith w.newline 10 = true := by
  simp [Writer.newline, endsWith]

theorem writeIndent_not_cr (w : Writer) (h : endsWith w 10 = true) : endsWith w.writeIndent 13 = false := by
  rw [endsWith_iff] at h
  simp [endsWith, writeIndent_buffer, Array.back?_append, h]
  split <;> simp

theorem writeLiteral_after_newline (w : Writer) (item : Bytes) (h : endsWith w 10 = true) :
    (w.writeLiteral item).buffer = w.buffer ++ spaces (4 * w.indentLevel) ++ item.toArray := by
  unfold Writer.writeLiteral
  simp only [h, if_true]
  simp [writeIndent_not_cr w h, Writer.pushAll, writeIndent_buffer]

theorem writeLiteral_mid_line (w : Writer) (item : Bytes) (h : endsWith w 10 = false) :
    (w.writeLiteral item).buffer =
      w.buffer ++ (if endsWith w 13 && item.head? == some 10 then #[13] else #[]) ++ item.toArray := by
  unfold Writer.writeLiteral
  simp only [h]
  simp only [Bool.false_eq_true, if_false, Writer.pushAll]
  split <;> simp

theorem writeLiteral_appends (w : Writer) (item : Bytes) :
    ∃ mid, (w.writeLiteral item).buffer = w.buffer ++ mid ++ item.toArray := by
  cases h : endsWith w 10
  · exact ⟨_, writeLiteral_mid_line w item h⟩
  · exact ⟨_, writeLiteral_after_newline w item h⟩

theorem newline_appends (w : Writer) : ∃ mid, w.newline.buffer = w.buffer ++ mid := ⟨_, newline_buffer w⟩

theorem dropLast_snoc (l : List UInt8) (x : UInt8) (h : l.getLast? = some x) : l = l.dropLast ++ [x] := by
  obtain ⟨ys, rfl⟩ := List.getLast?_eq_some_iff.mp h
  rw [List.dropLast_concat]

theorem popChar_push_ascii (b : Array UInt8) (x : UInt8) (hx : (x &&& 0xC0) ≠ 0x80) : popChar (b.push x) = b := by
  unfold popChar
  simp only [Array.size_push]
  rw [popCharGo]
  simp [hx]

/-- the start of a line inside indent level `k + 1` is the only situation in which the serializer calls
`write_char_into_indent`, see `serVariants_eq_spec` -/
theorem writeCharIntoIndent_after_newline (w : Writer) (ch : UInt8) (k : Nat) (h : endsWith w 10 = true)
    (hk : w.indentLevel = k + 1) :
    (w.writeCharIntoIndent ch).buffer = w.buffer ++ spaces (4 * k + 3) ++ #[ch] := by
  unfold Writer.writeCharIntoIndent
  simp only [h, if_true]
  rw [writeIndent_buffer, hk]
  have : spaces (4 * (k + 1)) = (spaces (4 * k + 3)).push 32 := by
    apply Array.ext'
    have : 4 * (k + 1) = (4 * k + 3) + 1 := by omega
    simp [spaces, this, List.replicate_succ']
  rw [this, ← Array.push_append, popChar_push_ascii _ _ (by decide)]
  simp

theorem writeCharIntoIndent_mid_line (w : Writer) (ch x : UInt8) (b : Array UInt8) (h : w.buffer = b.push x)
    (hx10 : x ≠ 10) (hx : (x &&& 0xC0) ≠ 0x80) :
    (w.writeCharIntoIndent ch).buffer = b.push ch := by
  unfold Writer.writeCharIntoIndent
  have : endsWith w 10 = false := by simp [endsWith, h, hx10]
  simp only [this]
  simp [h, popChar_push_ascii _ _ hx]

/-- the `*` of a default variant written directly: indentation minus one space, then `*` -/
def starIndent (w : Writer) : Writer :=
  { w with buffer := w.buffer ++ spaces (4 * w.indentLevel - 1) ++ #[42] }

/-- `serVariants` with the `*` written by `starIndent` (pure appending) instead of
`write_char_into_indent` (which pops a character) -/
def serVariantsSpec (w : Writer) : List (Variant Bytes) → Option Writer
  | [] => some w
  | .mk key value dflt :: vs =>
    match serVariant (if dflt then starIndent w else w) (.mk key value false) with
    | none => none
    | some w1 => serVariantsSpec w1.newline vs

theorem serVariant_default (w : Writer) (key : VKey Bytes) (value : List (PatElem Bytes)) :
    serVariant w (.mk key value true) = serVariant (w.writeCharIntoIndent 42) (.mk key value false) := by
  simp [serVariant]

theorem writeCharIntoIndent_eq_starIndent (w : Writer) (h : endsWith w 10 = true) (hk : 1 ≤ w.indentLevel) :
    w.writeCharIntoIndent 42 = starIndent w := by
  obtain ⟨k, hk⟩ : ∃ k, w.indentLevel = k + 1 := ⟨w.indentLevel - 1, by omega⟩
  have h1 := writeCharIntoIndent_after_newline w 42 k h hk
  have h2 := writeCharIntoIndent_indentLevel w 42
  cases hw : w.writeCharIntoIndent 42 with
  | mk b l =>
    rw [hw] at h1 h2
    simp at h1 h2
    simp [starIndent, h1, h2, hk]; congr 2

/-- **`write_char_into_indent` only ever replaces an indentation space.**  Whenever the variant
list of a select expression is serialised (the writer is then at the start of a line inside indent
level ≥ 1, and stays so between variants), `serVariants` coincides with `serVariantsSpec`, in which
the `*` is appended after `4k − 1` spaces and no character of the buffer is ever removed. -/
theorem serVariants_eq_spec (vs : List (Variant Bytes)) (w : Writer) (h : endsWith w 10 = true)
    (hk : 1 ≤ w.indentLevel) : serVariants w vs = serVariantsSpec w vs := by
  induction vs generalizing w with
  | nil => simp [serVariants, serVariantsSpec]
  | cons v vs ih =>
    obtain ⟨key, value, dflt⟩ := v
    unfold serVariants serVariantsSpec
    have e : serVariant w (.mk key value dflt) =
        serVariant (if dflt then starIndent w else w) (.mk key value false) := by
      cases dflt
      · simp
      · simp [serVariant_default, writeCharIntoIndent_eq_starIndent w h hk]
    rw [e]
    obtain ⟨w1, h1, h1'⟩ := serVariant_keeps (.mk key value false) (if dflt then starIndent w else w)
    simp only [h1]
    apply ih
    · simp
    · simp [h1']; split <;> simp [starIndent, hk]

theorem serExpr_select_eq (w : Writer) (sel : Inline Bytes) (vs : List (Variant Bytes)) :
    serExpr w (.select sel vs) =
      match serInline w sel with
      | none => none
      | some w1 =>
        match serVariantsSpec (((w1.writeLiteral (lit " ->")).newline).indent) vs with
        | none => none
        | some w3 => w3.dedent := by
  rw [serExpr]
  cases serInline w sel with
  | none => rfl
  | some w1 =>
    simp only []
    rw [serVariants_eq_spec _ _ (by simpa [endsWith] using newline_endsWith _) (by simp)]
    rfl

end FluentProofs.Ser

import FluentProofs.SpecSteps
import FluentProofs.SpecBlank
/-!
# The executable grammar never runs out of fuel (C02, spec totality)

`SpecGrammar`'s recursive productions take fuel.  This file proves that the fuel `SpecGrammar.parse`
passes (`fuelFor`) always suffices: `(parse i).isSome` for every input (`parse_isSome`), so `wellFormed` and the grammar's
tree are defined for every source.  The proof is the usual one: every production returns a rest that is
no longer than its input (strictly shorter where a loop depends on it), and a production called on an
input of length `L` needs at most `4 L + c + 1` fuel, `c` its rank among the productions that can call
each other without consuming input.  Both facts are one statement about a result (`Below`: not out of
fuel, rest below a bound), proved for each production along its equation in `SpecSteps`.
-/
namespace FluentProofs.SpecFuel
open FluentModel FluentModel.Syntax FluentModel.SpecGrammar FluentProofs.SpecSteps FluentProofs.SpecBlank

theorem dropWhile_len (p : UInt8 → Bool) (l : List UInt8) : (l.dropWhile p).length ≤ l.length :=
  (List.dropWhile_sublist p).length_le

theorem spaces_len (i : Inp) : (spaces i).length ≤ i.length := by
  fun_induction spaces i with
  | case1 r ih => exact Nat.le_succ_of_le ih
  | case2 i _ => exact Nat.le_refl _

theorem blankOpt_len (i : Inp) : (blankOpt i).length ≤ i.length := by
  fun_induction blankOpt i with
  | case1 r ih => exact Nat.le_succ_of_le ih
  | case2 r ih => exact Nat.le_succ_of_le ih
  | case3 r ih => exact Nat.le_succ_of_le (Nat.le_succ_of_le ih)
  | case4 i _ _ _ => exact Nat.le_refl _

theorem blankOpt_cons {i r : Inp} {b : UInt8} (h : blankOpt i = b :: r) : r.length < i.length := by
  have := blankOpt_len i
  rwa [h] at this

theorem spaces_cons {i r : Inp} {b : UInt8} (h : spaces i = b :: r) : r.length < i.length := by
  have := spaces_len i
  rwa [h] at this

theorem blankInline_len {i r : Inp} (h : blankInline i = some r) : r.length < i.length := by
  unfold blankInline at h
  split at h <;> cases h
  exact Nat.lt_succ_of_le (spaces_len _)

theorem lineEnd_len {i r : Inp} (h : lineEnd i = some r) : r.length ≤ i.length := by
  unfold lineEnd at h
  split at h <;> cases h
  · exact Nat.le_add_right _ 2
  · exact Nat.le_succ _
  · exact Nat.le_refl _

theorem identifier_len {i r : Inp} {a : Bytes} : identifier i = some (a, r) → r.length < i.length := by
  fun_cases identifier i <;> intro h <;> cases h
  exact Nat.lt_succ_of_le (dropWhile_len _ _)

theorem digits_len {i r : Inp} {a : Bytes} (h : digits i = some (a, r)) : r.length < i.length := by
  simp only [digits] at h
  split at h <;> cases h
  next hd =>
  calc (i.dropWhile isDigitC).length
      < (i.takeWhile isDigitC).length + (i.dropWhile isDigitC).length :=
        Nat.lt_add_of_pos_left (Nat.pos_of_ne_zero fun h0 => hd (List.isEmpty_iff_length_eq_zero.mpr h0))
    _ = i.length := by rw [← List.length_append, List.takeWhile_append_dropWhile]

theorem numberAfterSign_len {sign a : Bytes} {i r : Inp} (h : numberAfterSign sign i = some (a, r)) :
    r.length < i.length := by
  unfold numberAfterSign at h
  split at h
  next => cases h
  next d i2 hd =>
    have h1 := digits_len hd
    split at h
    next r' =>
      split at h <;> cases h
      next f hf => exact Nat.lt_trans (Nat.lt_succ_of_lt (digits_len hf)) h1
      next => exact h1
    next => cases h; exact h1

theorem numberLiteral_len {a : Bytes} {i r : Inp} (h : numberLiteral i = some (a, r)) : r.length < i.length := by
  unfold numberLiteral at h
  split at h
  · exact Nat.lt_succ_of_lt (numberAfterSign_len h)
  · exact numberAfterSign_len h

theorem quotedChar_len {i r : Inp} {c : Bytes} : quotedChar i = some (c, r) → r.length < i.length := by
  fun_cases quotedChar i
  case case1 | case2 => intro h; cases h; exact Nat.lt_succ_of_lt (Nat.lt_succ_self _)
  case case3 | case5 =>
    intro h; cases h
    exact Nat.lt_succ_of_lt (Nat.lt_succ_of_le (List.length_drop ▸ Nat.sub_le _ _))
  case case11 => intro h; cases h; exact Nat.lt_succ_self _
  all_goals (intro h; cases h)

theorem quotedChars_len (n : Nat) (i : Inp) : (quotedChars n i).2.length ≤ i.length := by
  fun_induction quotedChars n i with
  | case2 n i c r hq cs r' hrec ih =>
    rw [hrec] at ih
    exact Nat.le_trans ih (Nat.le_of_lt (quotedChar_len hq))
  | _ => exact Nat.le_refl _

theorem stringLiteral_len {a : Bytes} {i r : Inp} : stringLiteral i = some (a, r) → r.length < i.length := by
  fun_cases stringLiteral i <;> intro h <;> cases h
  next r0 hq =>
  have := quotedChars_len r0.length r0
  rw [hq] at this
  exact Nat.lt_succ_of_lt this

theorem textRun_len (i : Inp) : (textRun i).2.length + (textRun i).1.length = i.length := by
  fun_induction textRun i with
  | case3 b r _ _ cs r' h ih => rw [h] at ih; exact congrArg Nat.succ ih
  | _ => rfl

theorem variantKey_len {k : VKey Bytes} {i r : Inp} : variantKey i = some (k, r) → r.length < i.length := by
  fun_cases variantKey i <;> intro h <;> cases h
  next r0 r1 key r2 hk h3 =>
  have h2 : r2.length < (blankOpt r0).length := by
    simp only [key] at hk
    split at hk
    next hn => cases hk; exact numberLiteral_len hn
    next =>
      split at hk <;> cases hk
      next hi => exact identifier_len hi
  exact Nat.lt_succ_of_lt (Nat.lt_trans (blankOpt_cons h3) (Nat.lt_of_lt_of_le h2 (blankOpt_len r0)))

theorem attributeAccessorOpt_len (i : Inp) : (attributeAccessorOpt i).2.length ≤ i.length := by
  fun_cases attributeAccessorOpt i
  next hi => exact Nat.le_succ_of_le (Nat.le_of_lt (identifier_len hi))
  all_goals exact Nat.le_refl _

theorem blockText_len {i r : Inp} {els : List RawEl} : blockText i = some (els, r) → r.length < i.length := by
  fun_cases blockText i <;> intro h <;> cases h
  next c r1 hb r2 hbi _ cs htr =>
  have h3 := Nat.le.intro (textRun_len r2)
  rw [htr] at h3
  exact Nat.lt_of_le_of_lt h3
    (Nat.lt_of_lt_of_le (blankInline_len hbi) (Nat.le_trans (blankBlock_len hb) (Nat.sub_le _ _)))

theorem namedArg_len {i r : Inp} {a : Arg} (h : namedArg i = some (a, r)) : r.length < i.length := by
  unfold namedArg at h
  split at h
  next name r0 hid =>
    split at h
    next r1 hb =>
      have hlt : (blankOpt r1).length < i.length :=
        Nat.lt_of_le_of_lt (blankOpt_len r1) (Nat.lt_trans (blankOpt_cons hb) (identifier_len hid))
      split at h
      next hs => cases h; exact Nat.lt_trans (stringLiteral_len hs) hlt
      next =>
        split at h <;> cases h
        next hn => exact Nat.lt_trans (numberLiteral_len hn) hlt
    next => cases h
  next => cases h

theorem defaultMark_len {d : Bool} {i r : Inp} (h : defaultMark d i = some r) : r.length ≤ i.length := by
  unfold defaultMark at h
  split at h
  · split at h <;> cases h
    exact Nat.le_succ _
  · cases h; exact Nat.le_refl _

theorem commentChars_len (i : Inp) : (commentChars i).2.length ≤ i.length := by
  fun_induction commentChars i with
  | case3 b r _ _ cs r' h ih => rw [h] at ih; exact Nat.le_succ_of_le ih
  | _ => exact Nat.le_refl _

theorem commentMarker_len {i r : Inp} {l : Nat} (h : commentMarker i = some (l, r)) : r.length < i.length := by
  unfold commentMarker at h
  split at h <;> cases h
  · exact Nat.lt_succ_of_lt (Nat.lt_succ_of_lt (Nat.lt_succ_self _))
  · exact Nat.lt_succ_of_lt (Nat.lt_succ_self _)
  · exact Nat.lt_succ_self _

theorem commentBody_len (r : Inp) : (commentBody r).2.length ≤ r.length := by
  unfold commentBody
  split
  · exact Nat.le_succ_of_le (commentChars_len _)
  · exact Nat.le_refl _

theorem commentLine_len {i r : Inp} {x : Nat × Bytes} (h : commentLine i = some (x, r)) : r.length < i.length := by
  unfold commentLine at h
  split at h
  next => cases h
  next l r0 hm =>
    split at h <;> cases h
    next hle =>
      exact Nat.lt_of_le_of_lt (Nat.le_trans (lineEnd_len hle) (commentBody_len r0)) (commentMarker_len hm)

theorem junkLine_len (b : UInt8) (t : Inp) : (junkLine (b :: t)).2.length ≤ t.length := by
  have hd := dropWhile_len (· != 10) (b :: t)
  fun_cases junkLine (b :: t)
  next r' h => rw [h] at hd; exact Nat.le_of_succ_le_succ hd
  next h =>
    by_cases hb : b = 10
    · subst hb; exact (h t rfl).elim
    · dsimp only
      rw [List.dropWhile_cons_of_pos (p := fun x => x != 10) (bne_iff_ne.mpr hb)]
      exact dropWhile_len _ _

theorem junkLines_len (n : Nat) (i : Inp) : (junkLines n i).2.length ≤ i.length := by
  fun_induction junkLines n i with
  | case4 n b r _ cs r' hl cs' r'' hls ih =>
    have := junkLine_len b r
    rw [hl] at this; rw [hls] at ih
    exact Nat.le_succ_of_le (Nat.le_trans ih this)
  | _ => exact Nat.le_refl _

theorem junk_len (b : UInt8) (t : Inp) : (junk (b :: t)).2.length ≤ t.length := by
  unfold junk
  exact Nat.le_trans (junkLines_len _ _) (junkLine_len b t)

section
variable {α β : Type}

/-- `x` is not out of fuel, and if it succeeded its rest is shorter than `b` -/
def Below (b : Nat) : PR α → Prop
  | .ok _ r => r.length < b
  | .fail => True
  | .fuel => False

theorem Below.ok {b : Nat} {a : α} {r : Inp} (h : r.length < b) : Below b (.ok a r) := h

theorem Below.fail {b : Nat} : Below b (.fail : PR α) := trivial

theorem Below.mono {b b' : Nat} {x : PR α} (h : Below b x) (hb : b ≤ b') : Below b' x := by
  cases x with
  | ok a r => exact Nat.lt_of_lt_of_le h hb
  | fail => trivial
  | fuel => exact h

theorem Below.seq {b b' : Nat} {x : PR α} {f : α → Inp → PR β} {y : PR β} (hx : Below b x)
    (hf : ∀ a r, r.length < b → Below b' (f a r)) (hy : Below b' y) : Below b' (x.seq f y) := by
  cases x with
  | ok a r => exact hf a r hx
  | fail => exact hy
  | fuel => exact hx

theorem Below.star {γ : Type} {i : Inp} {x : PR α} {loop : Inp → PR β} {g : α → β → γ} {z : γ}
    (hx : Below i.length x) (hl : ∀ r, r.length < i.length → Below (r.length + 1) (loop r)) :
    Below (i.length + 1) (x.seq (fun a r => (loop r).bind fun more r' => .ok (g a more) r') (.ok z i)) :=
  hx.seq (fun _ r hr => (hl r hr).seq (fun _ _ hr' => .ok (Nat.lt_of_lt_of_le hr' (Nat.le_succ_of_le hr))) .fail)
    (.ok (Nat.lt_succ_self _))

theorem Below.ite {b : Nat} {c : Prop} [Decidable c] {x y : PR α} (hx : Below b x) (hy : Below b y) :
    Below b (if c then x else y) := by
  split <;> assumption

/-- with fuel `n`, `f` on an input of length `L` with `4 L + c < n` does not run out of fuel and leaves
less than `L + d` (`d = 0`: it consumes; `d = 1`: it may consume nothing) -/
def Fits (c d : Nat) (f : Nat → Inp → PR α) (n : Nat) : Prop :=
  ∀ i, 4 * i.length + c < n → Below (i.length + d) (f n i)

end

section
variable {α : Type} {f : Nat → Inp → PR α} {c c' d' L n : Nat} {i' : Inp}

theorem fuel_mono {L' : Nat} (hn : 4 * L + c < n) (hi : L' ≤ L) : 4 * L' + c < n :=
  Nat.lt_of_le_of_lt (Nat.add_le_add_right (Nat.mul_le_mul_left 4 hi) c) hn

theorem Fits.le (H : Fits c d' f n) (hn : 4 * L + c < n) (hi : i'.length ≤ L) : Below (i'.length + d') (f n i') :=
  H i' (fuel_mono hn hi)

/-- a call before anything has been consumed: the callee's rank is smaller -/
theorem Fits.here (H : Fits c' d' f n) (hn : 4 * L + c < n + 1) (hi : i'.length ≤ L) (hc : c' < c := by decide) :
    Below (i'.length + d') (f n i') :=
  H i' (Nat.lt_of_lt_of_le (Nat.add_lt_add_of_le_of_lt (Nat.mul_le_mul_left 4 hi) hc) (Nat.le_of_lt_succ hn))

/-- a call after a byte has been consumed: every rank fits into the four units of fuel that byte is worth -/
theorem Fits.after (H : Fits c' d' f n) (hn : 4 * L + c < n + 1) (hi : i'.length < L) (hc : c' < 4 := by decide) :
    Below (i'.length + d') (f n i') :=
  H i' (Nat.lt_of_lt_of_le (Nat.add_lt_add_left hc _)
    (Nat.le_trans (Nat.mul_le_mul_left 4 hi) (Nat.le_trans (Nat.le_add_right _ c) (Nat.le_of_lt_succ hn))))

end

theorem fits_zero {α : Type} {c d : Nat} {f : Nat → Inp → PR α} : Fits c d f 0 :=
  fun _ h => absurd h (Nat.not_lt_zero _)

/-- `Fits` of every production at fuel `n`, each with its rank `c` and its slack `d`: the statement of the induction
on `n` -/
structure AllFit (n : Nat) : Prop where
  pat : Fits 3 1 pattern n
  pes : Fits 2 1 patternElements n
  pe : Fits 1 0 patternElement n
  ip : Fits 0 0 inlinePlaceable n
  ie : Fits 1 0 inlineExpression n
  ca : Fits 0 0 callArguments n
  al : Fits 3 1 argumentList n
  ar : Fits 2 0 argument n
  vl : Fits 2 1 variantList n
  vs : Fits 1 1 variants n
  v : ∀ d, Fits 0 0 (fun n i => variant n d i) n

variable {n : Nat}

theorem pattern_step (H : AllFit n) : Fits 3 1 pattern (n + 1) := by
  intro i hn
  rw [pattern_unfold]
  exact (H.pes.here hn (Nat.le_refl _)).seq (fun _ _ hr => .ite .fail (.ok hr)) .fail

theorem patternElements_step (H : AllFit n) : Fits 2 1 patternElements (n + 1) := by
  intro i hn
  rw [patternElements_unfold]
  exact .star (H.pe.here hn (Nat.le_refl _)) fun _ hr => H.pes.after hn hr

theorem blockPlaceable_below (H : AllFit n) {i : Inp} (hn : 4 * i.length + 1 < n + 1) :
    Below i.length (blockPlaceable n i) := by
  unfold blockPlaceable
  split
  next c r1 hb =>
    have h1 : (spaces r1).length ≤ i.length - 1 := Nat.le_trans (spaces_len r1) (blankBlock_len hb)
    refine (H.ip.here hn (Nat.le_trans h1 (Nat.sub_le _ _))).seq (fun _ r hr => .ok ?_) .fail
    exact Nat.lt_of_lt_of_le (Nat.lt_of_lt_of_le hr h1) (Nat.sub_le _ _)
  next => exact .fail

theorem patternElement_step (H : AllFit n) : Fits 1 0 patternElement (n + 1) := by
  intro i hn
  rw [patternElement_unfold]
  have ht := textRun_len i
  split
  next b t r htr =>
    rw [htr] at ht
    exact .ok (Nat.lt_of_lt_of_eq (Nat.lt_add_of_pos_right (Nat.zero_lt_succ _)) ht)
  next =>
    split
    next els r hb => exact .ok (blockText_len hb)
    next => exact (H.ip.here hn (Nat.le_refl _)).seq (fun _ _ hr => .ok hr) (blockPlaceable_below H hn)

theorem selectTail_below (H : AllFit n) {c L : Nat} {e : Inline Bytes} {r1 : Inp} (hn : 4 * L + c < n + 1)
    (h1 : r1.length < L) : Below (r1.length + 1) (selectTail n e r1) := by
  unfold selectTail
  split
  next r2 hb =>
    have h2 : (spaces r2).length < r1.length :=
      Nat.lt_of_le_of_lt (spaces_len r2) (Nat.lt_of_succ_lt (blankOpt_cons hb))
    refine .ite ((H.vl.after hn (Nat.lt_trans h2 h1)).seq (fun _ _ hr => .ok ?_) .fail) .fail
    exact Nat.lt_of_lt_of_le hr (Nat.le_succ_of_le h2)
  next => exact .ok (Nat.lt_succ_self _)

theorem inlinePlaceable_step (H : AllFit n) : Fits 0 0 inlinePlaceable (n + 1) := by
  intro i hn
  rw [inlinePlaceable_unfold]
  split
  next r =>
    have h0 : (blankOpt r).length < (123 :: r).length := Nat.lt_succ_of_le (blankOpt_len r)
    refine (H.ie.after hn h0).seq (fun e r1 hr1 => ?_) .fail
    refine (selectTail_below H hn (Nat.lt_trans hr1 h0)).seq (fun x r4 hr4 => ?_) .fail
    split
    next r5 hb =>
      exact .ite (.ok (Nat.lt_trans (Nat.lt_of_lt_of_le (blankOpt_cons hb) (Nat.le_of_lt_succ hr4))
        (Nat.lt_trans hr1 h0))) .fail
    next => exact .fail
  next => exact .fail

theorem fnRef_below (H : AllFit n) {c : Nat} {i : Inp} (hn : 4 * i.length + c < n + 1) : Below i.length (fnRef n i) := by
  unfold fnRef
  split
  next id r hid =>
    have h1 := identifier_len hid
    exact (H.ca.after hn h1).seq (fun _ _ hr => .ite (.ok (Nat.lt_trans hr h1)) .fail) .fail
  next => exact .fail

theorem termRef_below (H : AllFit n) {c L : Nat} {r : Inp} (hn : 4 * L + c < n + 1) (h0 : r.length < L) :
    Below r.length (termRef n r) := by
  unfold termRef
  split
  next id r1 hid =>
    have h2 : (attributeAccessorOpt r1).2.length < r.length :=
      Nat.lt_of_le_of_lt (attributeAccessorOpt_len r1) (identifier_len hid)
    exact (H.ca.after hn (Nat.lt_trans h2 h0)).seq (fun _ _ hr => .ok (Nat.lt_trans hr h2)) (.ok h2)
  next => exact .fail

theorem inlineExpression_step (H : AllFit n) : Fits 1 0 inlineExpression (n + 1) := by
  intro i hn
  rw [inlineExpression_unfold]
  split
  next v r hs => exact .ok (stringLiteral_len hs)
  next =>
    split
    next v r hnum => exact .ok (numberLiteral_len hnum)
    next =>
      refine (fnRef_below H hn).seq (fun _ _ hr => .ok hr) ?_
      split
      next id r hid => exact .ok (Nat.lt_of_le_of_lt (attributeAccessorOpt_len r) (identifier_len hid))
      next =>
        split
        next r => exact (termRef_below H hn (Nat.lt_succ_self _)).mono (Nat.le_succ _)
        next r =>
          split
          next id r1 hid => exact .ok (Nat.lt_succ_of_lt (identifier_len hid))
          next => exact .fail
        next => exact (H.ip.here hn (Nat.le_refl _)).seq (fun _ _ hr => .ok hr) .fail

theorem callArguments_step (H : AllFit n) : Fits 0 0 callArguments (n + 1) := by
  intro i hn
  rw [callArguments_unfold]
  split
  next r hb =>
    have h0 : (blankOpt r).length < i.length := Nat.lt_of_le_of_lt (blankOpt_len r) (blankOpt_cons hb)
    refine (H.al.after hn h0).seq (fun args r1 hr1 => ?_) .fail
    split
    next r2 hb1 =>
      have h2 : r2.length < i.length :=
        Nat.lt_trans (Nat.lt_of_lt_of_le (blankOpt_cons hb1) (Nat.le_of_lt_succ hr1)) h0
      split
      next => exact .ok h2
      next => exact .fail
    next => exact .fail
  next => exact .fail

theorem argumentList_step (H : AllFit n) : Fits 3 1 argumentList (n + 1) := by
  intro i hn
  rw [argumentList_unfold]
  refine (H.ar.here hn (Nat.le_refl _)).seq (fun a r hr => ?_) (.ok (Nat.lt_succ_self _))
  split
  next r1 hb =>
    have h1 : (blankOpt r1).length < i.length :=
      Nat.lt_trans (Nat.lt_of_le_of_lt (blankOpt_len r1) (blankOpt_cons hb)) hr
    exact (H.al.after hn h1).seq (fun _ _ hr2 => .ok (Nat.lt_of_lt_of_le hr2 (Nat.le_succ_of_le h1))) .fail
  next => exact .ok (Nat.lt_succ_of_lt hr)

theorem argument_step (H : AllFit n) : Fits 2 0 argument (n + 1) := by
  intro i hn
  rw [argument_unfold]
  split
  next a r ha => exact .ok (namedArg_len ha)
  next => exact (H.ie.here hn (Nat.le_refl _)).seq (fun _ _ hr => .ok hr) .fail

theorem variantList_step (H : AllFit n) : Fits 2 1 variantList (n + 1) := by
  intro i hn
  rw [variantList_unfold]
  refine (H.vs.here hn (Nat.le_refl _)).seq (fun vs1 r1 hr1 => ?_) .fail
  refine ((H.v true).here hn (Nat.le_of_lt_succ hr1)).seq (fun d r2 hr2 => ?_) .fail
  have h2 : r2.length < i.length := Nat.lt_of_lt_of_le hr2 (Nat.le_of_lt_succ hr1)
  refine (H.vs.after hn h2).seq (fun vs2 r3 hr3 => ?_) .fail
  split
  next r4 hle =>
    exact .ok (Nat.lt_of_le_of_lt (lineEnd_len hle) (Nat.lt_of_lt_of_le hr3 (Nat.le_succ_of_le h2)))
  next => exact .fail

theorem variants_step (H : AllFit n) : Fits 1 1 variants (n + 1) := by
  intro i hn
  rw [variants_unfold]
  exact .star ((H.v false).here hn (Nat.le_refl _)) fun _ hr => H.vs.after hn hr

theorem variant_step (H : AllFit n) (d : Bool) : Fits 0 0 (fun n i => variant n d i) (n + 1) := by
  intro i hn
  show Below _ (variant (n + 1) d i)
  rw [variant_unfold]
  split
  next => exact .fail
  next r hle =>
    split
    next => exact .fail
    next r2 hd =>
      have h2 : r2.length ≤ i.length :=
        Nat.le_trans (defaultMark_len hd) (Nat.le_trans (blankOpt_len r) (lineEnd_len hle))
      split
      next => exact .fail
      next k r3 hk =>
        have h3 : (spaces r3).length < i.length :=
          Nat.lt_of_lt_of_le (Nat.lt_of_le_of_lt (spaces_len r3) (variantKey_len hk)) h2
        exact (H.pat.after hn h3).seq (fun _ _ hr => .ok (Nat.lt_of_lt_of_le hr h3)) .fail

theorem allFit (n : Nat) : AllFit n := by
  induction n with
  | zero =>
    exact ⟨fits_zero, fits_zero, fits_zero, fits_zero, fits_zero, fits_zero, fits_zero, fits_zero, fits_zero,
      fits_zero, fun _ => fits_zero⟩
  | succ n ih =>
    exact {
      pat := pattern_step ih
      pes := patternElements_step ih
      pe := patternElement_step ih
      ip := inlinePlaceable_step ih
      ie := inlineExpression_step ih
      ca := callArguments_step ih
      al := argumentList_step ih
      ar := argument_step ih
      vl := variantList_step ih
      vs := variants_step ih
      v := variant_step ih }

/-! ## entries and the resource loop

An entry-level production passes its fuel on unchanged: it fits whenever a pattern on the same input does. -/

theorem Below.keyThen {β : Type} {b : Nat} {i : Inp} {k : Bytes → Inp → PR β}
    (hk : ∀ id r, r.length < i.length → Below b (k id r)) : Below b (keyThen i k) := by
  unfold SpecSteps.keyThen
  split
  next id r hid =>
    split
    next r1 hs => exact hk id r1 (Nat.lt_trans (spaces_cons hs) (identifier_len hid))
    next => exact .fail
  next => exact .fail

variable (fuel : Nat)

theorem attributeP_fits : Fits 3 0 attributeP fuel := by
  intro i hn
  rw [attributeP_unfold]
  split
  next => exact .fail
  next r hle =>
    split
    next r1 hb =>
      refine .keyThen fun id r3 h3 => ?_
      have h4 : (spaces r3).length < i.length :=
        Nat.lt_trans (Nat.lt_of_le_of_lt (spaces_len r3) h3) (Nat.lt_of_lt_of_le (blankOpt_cons hb) (lineEnd_len hle))
      exact ((allFit fuel).pat.le hn (Nat.le_of_lt h4)).seq (fun _ _ hr => .ok (Nat.lt_of_lt_of_le hr h4)) .fail
    next => exact .fail

theorem attributesP_below (n : Nat) : ∀ i : Inp, 4 * i.length + 3 < fuel → i.length < n →
    Below (i.length + 1) (attributesP fuel n i) := by
  induction n with
  | zero => exact fun _ _ h => absurd h (Nat.not_lt_zero _)
  | succ n ih =>
    intro i hf h
    rw [attributesP_unfold]
    exact .star (attributeP_fits fuel i hf) fun r hr =>
      ih r (fuel_mono hf (Nat.le_of_lt hr)) (Nat.lt_of_lt_of_le hr (Nat.le_of_lt_succ h))

theorem attributes_then {i r : Inp} (hn : 4 * i.length + 3 < fuel) (hr : r.length < i.length) {β : Type} {b : Nat}
    {k : List (Attribute Bytes) → Inp → PR β} (hk : ∀ as r', r'.length < i.length → Below b (k as r')) :
    Below b ((attributesP fuel fuel r).bind k) :=
  have hf := fuel_mono hn (Nat.le_of_lt hr)
  have hlt : r.length < fuel :=
    Nat.lt_of_le_of_lt (Nat.le_trans (Nat.le_mul_of_pos_left _ (by decide)) (Nat.le_add_right _ 3)) hf
  (attributesP_below fuel fuel r hf hlt).seq (fun as r' h => hk as r' (Nat.lt_of_lt_of_le h hr)) .fail

theorem messageP_fits : Fits 3 0 messageP fuel := by
  intro i hn
  rw [messageP_unfold]
  refine .keyThen fun id r1 h1 => ?_
  have h2 : (spaces r1).length < i.length := Nat.lt_of_le_of_lt (spaces_len r1) h1
  refine ((allFit fuel).pat.le hn (Nat.le_of_lt h2)).seq (fun p r3 hr3 => ?_) ?_
  · exact attributes_then fuel hn (Nat.lt_of_lt_of_le hr3 h2) fun _ _ h => .ok h
  · refine attributes_then fuel hn h2 fun as _ h => ?_
    cases as with
    | nil => exact .fail
    | cons => exact .ok h

theorem termP_fits : Fits 3 0 termP fuel := by
  intro i hn
  rw [termP_unfold]
  split
  next r0 =>
    refine .keyThen fun id r1 h1 => ?_
    have h2 : (spaces r1).length < (45 :: r0).length :=
      Nat.lt_succ_of_lt (Nat.lt_of_le_of_lt (spaces_len r1) h1)
    refine ((allFit fuel).pat.le hn (Nat.le_of_lt h2)).seq (fun p r3 hr3 => ?_) .fail
    exact attributes_then fuel hn (Nat.lt_of_lt_of_le hr3 h2) fun _ _ h => .ok h
  next => exact .fail

theorem entryLine_below {α : Type} {mk : α → Entry Bytes} {b : Nat} {x : PR α} (hx : Below b x) :
    Below b (entryLine mk x) := by
  refine hx.seq (fun a r hr => ?_) .fail
  split
  next r' hle => exact .ok (Nat.lt_of_le_of_lt (lineEnd_len hle) hr)
  next => exact .fail

theorem entryP_fits : Fits 3 0 entryP fuel := by
  intro i hn
  rw [entryP_unfold]
  refine (entryLine_below (messageP_fits fuel i hn)).seq (fun _ _ h => .ok h) ?_
  refine (entryLine_below (termP_fits fuel i hn)).seq (fun _ _ h => .ok h) ?_
  split
  next h => exact .ok (commentLine_len h)
  next h => exact .ok (commentLine_len h)
  next h => exact .ok (commentLine_len h)
  next => exact .fail

theorem resourceRaw_some (n : Nat) : ∀ i : Inp, 4 * i.length + 3 < fuel → i.length < n →
    (resourceRaw fuel n i).isSome = true := by
  induction n with
  | zero => exact fun _ _ h => absurd h (Nat.not_lt_zero _)
  | succ n ih =>
    intro i hf h
    cases i with
    | nil => rfl
    | cons b t =>
      have ih : ∀ r : Inp, r.length ≤ t.length → (resourceRaw fuel n r).isSome = true := fun r hr =>
        ih r (fuel_mono hf (Nat.le_succ_of_le hr)) (Nat.lt_of_le_of_lt hr (Nat.lt_of_succ_lt_succ h))
      have he := entryP_fits fuel (b :: t) hf
      simp only [resourceRaw]
      revert he
      cases entryP fuel (b :: t) with
      | ok e r => exact fun he => Option.isSome_map.trans (ih r (Nat.le_of_lt_succ he))
      | fuel => exact False.elim
      | fail =>
        intro _
        dsimp only
        split
        next c r hb => exact Option.isSome_map.trans (ih r (blankBlock_len hb))
        next => exact Option.isSome_map.trans (ih _ (junk_len b t))

/-- **Spec totality.** The fuel `SpecGrammar.parse` passes always suffices: the grammar assigns a tree
to every input (so `wellFormed` is decided by that tree, never by fuel exhaustion). -/
theorem parse_isSome (i : Inp) : (SpecGrammar.parse i).isSome = true := by
  unfold SpecGrammar.parse
  have hf : 4 * i.length + 3 < fuelFor i :=
    Nat.add_lt_add_of_le_of_lt (Nat.mul_le_mul_right _ (by decide)) (by decide)
  exact Option.isSome_map.trans (resourceRaw_some (fuelFor i) (i.length + 1) i hf (Nat.lt_succ_self _))

end FluentProofs.SpecFuel

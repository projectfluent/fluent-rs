import FluentModel.UnescapeFast
/-!
# The driver's linear-time functions equal the model `FluentModel.Unescape`, on all inputs

`loopFast` keeps the written bytes in an `Array UInt8`; the invariant is simply "the array holds the
list `loop` holds" (`loopFast_eq`, by induction on the fuel, for every start/ptr/accumulator).  From
it: `unescapeUnicodeFast = unescapeUnicode` and `unescapeUnicodeToStringFast = unescapeUnicodeToString`
as functions — every outcome (`done` with bytes and owned/borrowed flag, `panic`, `outOfFuel`), no
side condition (the input need not even be valid UTF-8).
-/
namespace FluentProofs.UnescapeFast
open FluentModel FluentModel.Unescape

theorem loopFast_eq (s : Src) : ∀ (fuel start ptr : Nat) (out : Array UInt8),
    loopResult (loopFast s fuel start ptr out) = loop s fuel start ptr out.toList := by
  intro fuel
  induction fuel with
  | zero => intro start ptr out; simp [loopFast, loop, loopResult]
  | succ fuel ih =>
    intro start ptr out
    simp only [loopFast, loop]
    cases hb : s[ptr]? with
    | none => simp [loopResult]
    | some b =>
      simp only
      split
      · exact ih _ _ _
      · cases hc : (if (start != ptr) = true then strIndex s start ptr else Outcome.done []) with
        | panic => simp [loopResult]
        | outOfFuel => simp [loopResult]
        | done chunk =>
          simp only
          cases hp : skipToBoundary s (s.size + 1) (escape s (ptr + 1)).2 with
          | panic => simp [loopResult]
          | outOfFuel => simp [loopResult]
          | done p =>
            simp only
            rw [ih]
            simp

theorem unescapeFast_eq (s : Src) : unescapeFast s = unescape s := by
  simp [unescapeFast, unescape, loopFast_eq]

theorem unescapeUnicodeFast_eq (pre : Bytes) (s : Src) :
    unescapeUnicodeFast pre s = unescapeUnicode pre s := by
  unfold unescapeUnicodeFast unescapeUnicode
  rw [unescapeFast_eq]
  rcases unescape s with ⟨o, _ | _⟩ | _ | _ <;> rfl

theorem unescapeUnicodeToStringFast_eq (s : Src) :
    unescapeUnicodeToStringFast s = unescapeUnicodeToString s := by
  unfold unescapeUnicodeToStringFast unescapeUnicodeToString
  rw [unescapeFast_eq]
  rcases unescape s with ⟨o, _ | _⟩ | _ | _ <;> rfl

/-! ## the driver's hex coding equals the model's (no property needs it; the driver runs these functions) -/

theorem hexDecodeFastAux_eq : ∀ (n : Nat) (cs : List Char) (acc : Array UInt8), cs.length ≤ n →
    (hexDecodeFastAux cs acc).map Array.toList = (hexDecodeAux cs).map (acc.toList ++ ·) := by
  intro n
  induction n with
  | zero =>
    intro cs acc h
    match cs, h with
    | [], _ => simp [hexDecodeFastAux, hexDecodeAux]
  | succ n ih =>
    intro cs acc h
    match cs, h with
    | [], _ => simp [hexDecodeFastAux, hexDecodeAux]
    | [_], _ => simp [hexDecodeFastAux, hexDecodeAux]
    | a :: b :: rest, h =>
      simp only [hexDecodeFastAux, hexDecodeAux]
      cases hexVal a with
      | none => simp
      | some x =>
        cases hexVal b with
        | none => simp
        | some y =>
          simp only
          rw [ih rest _ (by simp at h; omega)]
          cases hexDecodeAux rest <;> simp

theorem hexDecodeFast_eq (s : String) : hexDecodeFast s = hexDecode s := by
  unfold hexDecodeFast hexDecode
  split
  · rfl
  · rw [hexDecodeFastAux_eq _ _ _ (Nat.le_refl _)]
    cases hexDecodeAux s.toList <;> simp

theorem hexEncodeFastAux_eq : ∀ (bs : Bytes) (acc : String),
    hexEncodeFastAux bs acc = acc ++ hexEncode bs := by
  intro bs
  induction bs with
  | nil => intro acc; simp [hexEncodeFastAux, hexEncode]
  | cons b rest ih =>
    intro acc
    rw [hexEncodeFastAux, ih]
    apply String.toList_inj.mp
    simp [hexEncode, String.toList_append, String.toList_push]

theorem hexEncFast_eq (bs : Bytes) : hexEncFast bs = hexEnc bs := by
  unfold hexEncFast hexEnc
  split
  · rfl
  · rw [hexEncodeFastAux_eq]; simp

end FluentProofs.UnescapeFast

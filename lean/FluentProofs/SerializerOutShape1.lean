import FluentProofs.SerializerOutSlice
import FluentModel.Serializer
/-!
# Serializer lemmas: the shape of what `get_pattern` produces (C04, "parser output is in the class")

A state machine over the placeholders that `get_pattern`'s loop collects (`chk`), what `get_text_slice`
returns (`Slice`), and the loop invariant `PInv` (the placeholders collected so far are well-shaped, the role/cursor
fit the last placeholder, `common_indent` is the minimum over the lines seen so far, `kept_common_indent` the minimum
over the lines up to `last_non_blank`), for every source.

A text slice that ends in front of `\r\n` leaves the cursor AT the `\n` with role `LineStart`; the next iteration
pushes that `\n` as a blank-line element (`PendLF`).  So the state machine allows such a placeholder after a text that
does not end with `\n` and after a placeable, and the role/cursor relation has a "pending line feed" alternative; they
are the only trace a `\r` leaves in the machine.  A `\r` that is not followed by `\n` is an ordinary text byte: it may
occur anywhere in a text (also as its first or last byte).
-/
namespace FluentProofs.Ser
open FluentModel FluentModel.Syntax FluentModel.Syntax.Ser FluentProofs.Parser

def NoCR (s : Src) : Prop := ∀ j : Nat, s[j]? ≠ some (13 : UInt8)

def NoLoneCR (s : Src) : Prop := ∀ j : Nat, s[j]? = some (13 : UInt8) → s[j + 1]? = some (10 : UInt8)

theorem NoCR.noLone {s : Src} (h : NoCR s) : NoLoneCR s := fun j hj => absurd hj (h j)

/-- what the loop has just pushed -/
inductive PSt where
  | first (r : TextPos)   -- nothing yet; `r` = the initial role
  | afterNl               -- a text that ends with a line feed
  | afterGhost            -- the indentation in front of a placeable that starts a line
  | afterText             -- a text that ends in front of `{`, `\r\n` or at the end of input
  | afterPl               -- a placeable

def nlOf : PSt → Bool
  | .first .lineStart => true
  | .afterNl => true
  | _ => false

def isGhost (a b ind : Nat) (role : TextPos) : Bool := role == .lineStart && b == a + ind

def endsLF (s : Src) (b : Nat) : Bool := s[b - 1]? == some 10

def nxt (s : Src) : Placeholder → PSt
  | .placeable _ => .afterPl
  | .text a b ind role => if isGhost a b ind role then .afterGhost else if endsLF s b then .afterNl else .afterText

/-- a line with content: `ind` spaces, then a byte that may continue a pattern -/
def ContentLine (s : Src) (a b ind : Nat) : Prop :=
  a + ind < b ∧ (∀ j, a ≤ j → j < a + ind → s[j]? = some 32) ∧
    (∃ c, s[a + ind]? = some c ∧ c ≠ 32 ∧ c ≠ 10 ∧ c ≠ 46 ∧ c ≠ 91 ∧ c ≠ 42) ∧ TextBytes s a b

/-- the indentation in front of a placeable -/
def GhostLine (s : Src) (a b ind : Nat) : Prop :=
  b = a + ind ∧ b ≤ s.size ∧ (∀ j, a ≤ j → j < b → s[j]? = some 32)

def BlankPh (s : Src) (a b ind : Nat) : Prop := ind = 0 ∧ b = a + 1 ∧ s[a]? = some 10

def isBlankPh (s : Src) (a b ind : Nat) : Bool := ind == 0 && b == a + 1 && s[a]? == some 10

/-- the `\n` of a `\r\n`, pushed as an element of its own -/
def PendLF (s : Src) (a b ind : Nat) : Prop := BlankPh s a b ind ∧ s[a - 1]? = some 13

/-- the transitions of the machine: the placeholder may be pushed in the state `E` -/
def okPh (s : Src) : PSt → Placeholder → Prop
  | _, .placeable _ => True
  | .first .initialLineStart, .text a b _ role =>
    role = .initialLineStart ∧ a < b ∧ TextBytes s a b ∧ ∃ c, s[a]? = some c ∧ c ≠ 32 ∧ c ≠ 10
  | .first .lineStart, .text a b ind role =>
    role = .lineStart ∧ (ContentLine s a b ind ∨ GhostLine s a b ind)
  | .afterNl, .text a b ind role =>
    role = .lineStart ∧ (ContentLine s a b ind ∨ GhostLine s a b ind ∨ BlankPh s a b ind)
  | .afterPl, .text a b ind role =>
    (role = .continuation ∧ a < b ∧ TextBytes s a b) ∨ (role = .lineStart ∧ PendLF s a b ind)
  | .afterText, .text a b ind role => role = .lineStart ∧ PendLF s a b ind
  | _, .text _ _ _ _ => False

/-- the list of placeholders is a run of the machine from the state `E` -/
def chk (s : Src) : PSt → List Placeholder → Prop
  | _, [] => True
  | E, ph :: l => okPh s E ph ∧ chk s (nxt s ph) l

/-- the state behind the run -/
def endSt (s : Src) : PSt → List Placeholder → PSt
  | E, [] => E
  | _, ph :: l => endSt s (nxt s ph) l

/-- the indent of the line a placeholder starts (if it starts one that counts for the common indent) -/
def lineInd (s : Src) : PSt → Placeholder → List Nat
  | E, .placeable _ => if nlOf E then [0] else []
  | _, .text a b ind role => if role == .lineStart && !isBlankPh s a b ind then [ind] else []

def lineInds (s : Src) : PSt → List Placeholder → List Nat
  | _, [] => []
  | E, ph :: l => lineInd s E ph ++ lineInds s (nxt s ph) l

theorem chk_append (s : Src) (E : PSt) (l1 l2 : List Placeholder) :
    chk s E (l1 ++ l2) ↔ chk s E l1 ∧ chk s (endSt s E l1) l2 := by
  induction l1 generalizing E with
  | nil => simp [chk, endSt]
  | cons ph l ih => simp [chk, endSt, ih, and_assoc]

theorem endSt_append (s : Src) (E : PSt) (l1 l2 : List Placeholder) :
    endSt s E (l1 ++ l2) = endSt s (endSt s E l1) l2 := by
  induction l1 generalizing E with
  | nil => rfl
  | cons ph l ih => simp [endSt, ih]

theorem lineInds_append (s : Src) (E : PSt) (l1 l2 : List Placeholder) :
    lineInds s E (l1 ++ l2) = lineInds s E l1 ++ lineInds s (endSt s E l1) l2 := by
  induction l1 generalizing E with
  | nil => rfl
  | cons ph l ih => simp [lineInds, endSt, ih]

theorem nxt_ghost {s : Src} {a b ind : Nat} (h : GhostLine s a b ind) : nxt s (.text a b ind .lineStart) = .afterGhost := by
  obtain ⟨rfl, _, _⟩ := h; simp [nxt, isGhost]

theorem nxt_blank {s : Src} {a b ind : Nat} {role : TextPos} (h : BlankPh s a b ind) :
    nxt s (.text a b ind role) = .afterNl := by
  obtain ⟨rfl, rfl, h10⟩ := h; simp [nxt, isGhost, endsLF, h10]

/-- the loop's update of `common_indent` by a line of indent `x`; `minL`: the same over a list of line indents -/
def stepMin (c : Option Nat) (x : Nat) : Option Nat :=
  match c with
  | some c => if x < c then some x else some c
  | none => some x

def minL : List Nat → Option Nat
  | [] => none
  | x :: xs => stepMin (minL xs) x

theorem stepMin_some (c x : Nat) : stepMin (some c) x = some (min x c) := by
  simp only [stepMin]; split <;> (congr 1; omega)

theorem stepMin_comm (c : Option Nat) (x y : Nat) : stepMin (stepMin c x) y = stepMin (stepMin c y) x := by
  cases c with
  | none =>
    show stepMin (some x) y = stepMin (some y) x
    rw [stepMin_some, stepMin_some, Nat.min_comm]
  | some c => rw [stepMin_some, stepMin_some, stepMin_some, stepMin_some, Nat.min_left_comm]

theorem minL_snoc (l : List Nat) (x : Nat) : minL (l ++ [x]) = stepMin (minL l) x := by
  induction l with
  | nil => rfl
  | cons y ys ih => simp only [List.cons_append, minL, ih, stepMin_comm]

theorem minL_append_nil (l : List Nat) : minL (l ++ []) = minL l := by simp

theorem minL_spec (l : List Nat) :
    (minL l = none ↔ l = []) ∧ ∀ c, minL l = some c → c ∈ l ∧ ∀ x ∈ l, c ≤ x := by
  induction l with
  | nil => simp [minL]
  | cons y ys ih =>
    constructor
    · simp only [minL, stepMin]; split <;> simp; split <;> simp
    · intro c hc
      simp only [minL] at hc
      cases hm : minL ys with
      | none =>
        have : ys = [] := ih.1.mp hm
        subst this
        simp [hm, stepMin] at hc; subst hc; simp
      | some m =>
        obtain ⟨h1, h2⟩ := ih.2 m hm
        simp only [hm, stepMin] at hc
        split at hc
        · cases hc
          refine ⟨by simp, ?_⟩
          intro x hx
          simp only [List.mem_cons] at hx
          rcases hx with rfl | hx
          · omega
          · have := h2 x hx; omega
        · cases hc
          refine ⟨by simp [h1], ?_⟩
          intro x hx
          simp only [List.mem_cons] at hx
          rcases hx with rfl | hx
          · omega
          · exact h2 x hx

theorem stepMin_zero (c : Option Nat) : stepMin c 0 = some 0 := by
  cases c with
  | none => rfl
  | some c => simp [stepMin]

theorem no13_of_clean {s : Src} (hcr : NoLoneCR s) {a b : Nat} (hcl : Clean s a b)
    (hend : s[b]? ≠ some 10) : ∀ j, a ≤ j → j < b → s[j]? ≠ some 13 := by
  intro j j1 j2 h13
  have h10 := hcr j h13
  by_cases hj : j + 1 < b
  · exact (hcl (j + 1) (by omega) hj).1 h10
  · have : j + 1 = b := by omega
    rw [this] at h10; exact hend h10

theorem nonBlank_first {s : Src} {a b : Nat} {c : UInt8} (hab : a < b) (hc : s[a]? = some c) (h32 : c ≠ 32) :
    nonBlank s a b = true := by
  unfold nonBlank
  obtain ⟨n, hn⟩ : ∃ n, b - a = n + 1 := ⟨b - a - 1, by omega⟩
  rw [hn, nonBlankGo]
  simp [hab, hc, h32]

section slice
variable {s : Src} {p stop : Nat} {nb : Bool} {term : Termination} {q : Nat}

theorem Slice.at_nl (hS : Slice s p stop nb term q) (h10 : s[p]? = some 10) :
    term = .lineFeed ∧ stop = p + 1 ∧ q = p + 1 ∧ nb = false := by
  obtain ⟨e, hpe, _, hcl, h⟩ := hS
  have he : e = p := by
    rcases Nat.lt_or_ge p e with h0 | h0
    · exact absurd h10 (hcl p (Nat.le_refl _) h0).1
    · omega
  subst he
  have hlt := get_lt h10
  rcases h with ⟨_, he, _⟩ | ⟨_, h123, _⟩ | ⟨rfl, _, _, rfl, rfl, rfl⟩ | ⟨_, _, h0, _⟩
  · omega
  · rw [h10] at h123; cases h123
  · exact ⟨rfl, rfl, rfl, nonBlank_self s _⟩
  · omega

theorem Slice.at_brace (hS : Slice s p stop nb term q) (h123 : s[p]? = some 123) :
    term = .placeableStart ∧ stop = p ∧ q = p ∧ nb = false := by
  obtain ⟨e, hpe, _, hcl, h⟩ := hS
  have he : e = p := by
    rcases Nat.lt_or_ge p e with h0 | h0
    · exact absurd h123 (hcl p (Nat.le_refl _) h0).2.1
    · omega
  subst he
  have hlt := get_lt h123
  rcases h with ⟨_, he, _⟩ | ⟨rfl, _, rfl, rfl, rfl⟩ | ⟨_, h10, _⟩ | ⟨_, _, h0, _⟩
  · omega
  · exact ⟨rfl, rfl, rfl, nonBlank_self s _⟩
  · rw [h123] at h10; cases h10
  · omega

theorem Slice.at_crlf (hS : Slice s p stop nb term q) (h13 : s[p]? = some 13) (h10 : s[p + 1]? = some 10) :
    term = .crlf ∧ stop = p ∧ q = p + 1 := by
  obtain ⟨e, hpe, _, hcl, h⟩ := hS
  have hlt := get_lt h10
  have he : e = p + 1 := by
    rcases Nat.lt_or_ge (p + 1) e with h0 | h0
    · exact absurd h10 (hcl (p + 1) (by omega) h0).1
    · rcases Nat.lt_or_ge p e with h1 | h1
      · omega
      · exfalso
        have : e = p := by omega
        subst this
        rcases h with ⟨_, he, _⟩ | ⟨_, h123, _⟩ | ⟨_, h10', _⟩ | ⟨_, _, h0, _⟩
        · omega
        · rw [h13] at h123; cases h123
        · rw [h13] at h10'; cases h10'
        · omega
  subst he
  rcases h with ⟨_, he, _⟩ | ⟨_, h123, _⟩ | ⟨_, _, hn, _⟩ | ⟨rfl, _, _, _, rfl, rfl, _⟩
  · omega
  · rw [h10] at h123; cases h123
  · exact absurd h13 (hn (by omega))
  · exact ⟨rfl, rfl, rfl⟩

theorem Slice.at_other (hS : Slice s p stop nb term q) {b : UInt8} (hb : s[p]? = some b) (h10 : b ≠ 10)
    (h123 : b ≠ 123) (hcr : b = 13 → s[p + 1]? ≠ some 10) : p < stop ∧ (b ≠ 32 → nb = true) := by
  obtain ⟨e, hpe, _, hcl, h⟩ := hS
  have hlt := get_lt hb
  have hpe' : p < e := by
    rcases Nat.lt_or_ge p e with h0 | h0
    · exact h0
    · exfalso
      have : e = p := by omega
      subst this
      rcases h with ⟨_, he, _⟩ | ⟨_, h123', _⟩ | ⟨_, h10', _⟩ | ⟨_, _, h0, _⟩
      · omega
      · rw [hb] at h123'; cases h123'; exact h123 rfl
      · rw [hb] at h10'; cases h10'; exact h10 rfl
      · omega
  rcases h with ⟨_, _, rfl, _, rfl⟩ | ⟨_, _, rfl, _, rfl⟩ | ⟨_, _, _, rfl, _, rfl⟩ | ⟨_, h10', _, h13, rfl, _, rfl⟩
  · exact ⟨hpe', nonBlank_first hpe' hb⟩
  · exact ⟨hpe', nonBlank_first hpe' hb⟩
  · exact ⟨by omega, nonBlank_first hpe' hb⟩
  · have : p < e - 1 := by
      rcases Nat.lt_or_ge p (e - 1) with h0 | h0
      · exact h0
      · exfalso
        have he : e = p + 1 := by omega
        subst he
        rw [Nat.add_sub_cancel, hb] at h13
        cases h13
        exact hcr rfl h10'
    exact ⟨this, nonBlank_first this hb⟩

end slice

/-- the role and the cursor fit the last placeholder; "pending line feed": the cursor is at the `\n` of a `\r\n` -/
def RoleOK (s : Src) (E : PSt) (role : TextPos) (p : Nat) : Prop :=
  match E with
  | .first .initialLineStart =>
    role = .initialLineStart ∧ ∀ c, s[p]? = some c → c ≠ 32 ∧ c ≠ 10 ∧ (c = 13 → s[p + 1]? ≠ some 10)
  | .first .lineStart =>
    role = .lineStart ∧ s[skipBlankInline s p]? ≠ some 10 ∧
      (s[skipBlankInline s p]? = some 13 → s[skipBlankInline s p + 1]? ≠ some 10)
  | .first .continuation => False
  | .afterNl => role = .lineStart
  | .afterGhost => role = .continuation ∧ s[p]? = some 123
  | .afterText =>
    (role = .continuation ∧ (s[p]? = some 123 ∨ s.size ≤ p)) ∨ (role = .lineStart ∧ s[p]? = some 10 ∧ s[p - 1]? = some 13)
  | .afterPl => role = .continuation ∨ (role = .lineStart ∧ s[p]? = some 10 ∧ s[p - 1]? = some 13)

structure PInv (s : Src) (r0 : TextPos) (st : PatState) (p : Nat) : Prop where
  chk : chk s (.first r0) st.elements
  role : RoleOK s (endSt s (.first r0) st.elements) st.role p
  ci : st.commonIndent = minL (lineInds s (.first r0) st.elements)
  lnb : ∀ i, st.lastNonBlank = some i → (∃ ph, st.elements[i]? = some ph ∧ Surv s ph) ∧
    st.keptCommonIndent = minL (lineInds s (.first r0) (st.elements.take (i + 1)))

theorem push_pinv {s : Src} {r0 : TextPos} {st : PatState} {p : Nat} (hI : PInv s r0 st p) (ph : Placeholder)
    (ci' : Option Nat) (sv : Bool) (role' : TextPos) (q : Nat)
    (hok : okPh s (endSt s (.first r0) st.elements) ph)
    (hci : ci' = minL (lineInds s (.first r0) st.elements ++ lineInd s (endSt s (.first r0) st.elements) ph))
    (hsv : sv = true → Surv s ph)
    (hrole : RoleOK s (nxt s ph) role' q) :
    PInv s r0 { st with commonIndent := ci',
                        lastNonBlank := if sv then some st.elements.length else st.lastNonBlank,
                        keptCommonIndent := if sv then ci' else st.keptCommonIndent,
                        elements := st.elements ++ [ph], role := role' } q := by
  have hli : lineInds s (.first r0) (st.elements ++ [ph]) =
      lineInds s (.first r0) st.elements ++ lineInd s (endSt s (.first r0) st.elements) ph := by
    rw [lineInds_append]; simp [lineInds]
  constructor
  · show chk s _ (st.elements ++ [ph])
    rw [chk_append]
    exact ⟨hI.chk, hok, trivial⟩
  · show RoleOK s (endSt s _ (st.elements ++ [ph])) role' q
    rw [endSt_append]
    exact hrole
  · show ci' = minL (lineInds s _ (st.elements ++ [ph]))
    rw [hli]; exact hci
  · intro i hi
    simp only [] at hi ⊢
    cases sv with
    | true =>
      simp only [if_true, Option.some.injEq] at hi ⊢
      subst hi
      refine ⟨⟨ph, by simp, hsv rfl⟩, ?_⟩
      rw [List.take_of_length_le (by simp), hli]; exact hci
    | false =>
      simp only [Bool.false_eq_true, if_false] at hi ⊢
      obtain ⟨⟨x, h1, h2⟩, h3⟩ := hI.lnb i hi
      have hlt := (List.getElem?_eq_some_iff.mp h1).1
      refine ⟨⟨x, getElem?_append_one_left h1, h2⟩, ?_⟩
      rw [List.take_append_of_le_length (by omega)]
      exact h3

theorem text_push {s : Src} {r0 : TextPos} {st : PatState} {p : Nat} (hI : PInv s r0 st p)
    {indent start stop : Nat} {nb : Bool} {term : Termination} {st2 : PatState} {q : Nat}
    (h2 : st2Of s st p indent start stop nb term = some st2)
    (hne : (start != stop || (st.role == .lineStart && term == .placeableStart && start == stop)) = true)
    (hcond : (st.role != .lineStart || nb || term == .lineFeed ||
      (st.role == .lineStart && term == .placeableStart && start == stop)) = true)
    (e : Placeholder)
    (he : elOf st p indent stop nb (st.role == .lineStart && term == .placeableStart && start == stop) = some e)
    (hok : okPh s (endSt s (.first r0) st.elements) e)
    (hci : (if st.role == .lineStart && (nb || (st.role == .lineStart && term == .placeableStart && start == stop))
        then stepMin st.commonIndent indent else st.commonIndent) =
      minL (lineInds s (.first r0) st.elements ++ lineInd s (endSt s (.first r0) st.elements) e))
    (hsv : survivesOf s start stop nb = some true → Surv s e)
    (hrole : RoleOK s (nxt s e) (patRole term) q) : PInv s r0 { st2 with role := patRole term } q := by
  rw [st2Of_eq s st p indent start stop nb term _ rfl, if_pos hne, if_pos hcond, he, Option.bind_some] at h2
  obtain ⟨sv, hsv', rfl⟩ := Option.map_eq_some_iff.mp h2
  exact push_pinv hI e _ sv (patRole term) q hok hci (fun h => hsv (by rw [hsv', h])) hrole

end FluentProofs.Ser

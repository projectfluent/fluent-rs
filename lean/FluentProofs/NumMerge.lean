import FluentModel.Plural
/-!
# `FluentNumberOptions::merge`: an option given in the call replaces the value's, all others are kept
(support for C12 `number_options_override`)
-/
namespace FluentProofs.Num
open FluentModel FluentModel.Num FluentModel.Plural

theorem restGet_filter_ne (r : List (String × String)) (name k : String) (h : k ≠ name) :
    restGet (r.filter (fun kv => kv.1 != name)) k = restGet r k := by
  induction r with
  | nil => rfl
  | cons p t ih =>
    obtain ⟨a, b⟩ := p
    by_cases ha : a = name
    · subst ha
      have hak : (a == k) = false := by simp; exact fun e => h e.symm
      simp [restGet, hak, ih]
    · have : (a != name) = true := by simp [ha]
      simp only [List.filter_cons, this, if_true, restGet, ih]

theorem restGet_filter_self (r : List (String × String)) (name : String) :
    restGet (r.filter (fun kv => kv.1 != name)) name = none := by
  induction r with
  | nil => rfl
  | cons p t ih =>
    obtain ⟨a, b⟩ := p
    by_cases ha : a = name
    · subst ha; simp [ih]
    · have h1 : (a != name) = true := by simp [ha]
      have h2 : (a == name) = false := by simp [ha]
      simp only [List.filter_cons, h1, if_true, restGet, h2, ih]
      simp

theorem restGet_insert_self (r : List (String × String)) (name v : String) (h : restGet r name = none) :
    restGet (restInsert name v r) name = some v := by
  induction r with
  | nil => simp [restInsert, restGet]
  | cons p t ih =>
    obtain ⟨a, b⟩ := p
    have hne : (a == name) = false := by
      cases hc : (a == name) with
      | false => rfl
      | true => simp [restGet, hc] at h
    have ht : restGet t name = none := by simpa [restGet, hne] using h
    unfold restInsert
    split
    · simp [restGet]
    · simp [restGet, hne, ih ht]

theorem restGet_insert_ne (r : List (String × String)) (name v k : String) (h : k ≠ name) :
    restGet (restInsert name v r) k = restGet r k := by
  have hnk : (name == k) = false := by simp; exact fun e => h e.symm
  induction r with
  | nil => simp [restInsert, restGet, hnk]
  | cons p t ih =>
    obtain ⟨a, b⟩ := p
    unfold restInsert
    split
    · simp [restGet, hnk]
    · simp [restGet, ih]

theorem restGet_restSet_self (r : List (String × String)) (name : String) (v : Option String) :
    restGet (restSet r name v) name = v := by
  unfold restSet
  cases v with
  | none => exact restGet_filter_self r name
  | some x => exact restGet_insert_self _ name x (restGet_filter_self r name)

theorem restGet_restSet_ne (r : List (String × String)) (name k : String) (v : Option String) (h : k ≠ name) :
    restGet (restSet r name v) k = restGet r k := by
  unfold restSet
  cases v with
  | none => exact restGet_filter_ne r name k h
  | some x => rw [restGet_insert_ne _ name x k h]; exact restGet_filter_ne r name k h

theorem getOption_congr {t t' : NumType} {m m' : Option Nat} {r r' : List (String × String)} {name : String}
    (ht : name = "type" → t' = t) (hm : name = "minimumFractionDigits" → m' = m)
    (hr : restGet r' name = restGet r name) :
    getOption ⟨t', m', r'⟩ name = getOption ⟨t, m, r⟩ name := by
  unfold getOption
  split
  case h_1 => rw [ht rfl]
  case h_2 => rw [hm rfl]
  case h_11 => rfl
  all_goals exact congrArg (Option.getD · _) hr

theorem getOption_mergeOption_ne (o : NumOptions) (k : String) (v : Val) (name : String) (h : name ≠ k) :
    getOption (mergeOption o k v) name = getOption o name := by
  unfold mergeOption
  split
  case h_1 => exact getOption_congr (fun e => absurd e h) (fun _ => rfl) rfl     -- `type`
  case h_7 => exact getOption_congr (fun _ => rfl) (fun e => absurd e h) rfl     -- `minimumFractionDigits`
  case h_11 => rfl
  all_goals exact getOption_congr (fun _ => rfl) (fun _ => rfl) (restGet_restSet_ne _ _ _ _ h)

theorem getD_ite {α : Type} (c : Prop) [Decidable c] (a : α) (b : Option α) (d : α) :
    (if c then some a else b).getD d = if c then a else b.getD d := by
  split <;> rfl

theorem getOption_mergeOption_self (o : NumOptions) (k : String) (v : Val) :
    getOption (mergeOption o k v) k = (optionOf k v).getD (getOption o k) := by
  -- `mergeOption` and `optionOf` branch on the same `match name, v`: one `split` decides both
  unfold mergeOption optionOf
  split
  case h_11 => rfl
  all_goals rw [Option.getD_some, getOption]
  case h_1 s => generalize (s == _) = c; cases c <;> rfl                          -- `type`
  all_goals rw [restGet_restSet_self]
  case h_2 => rw [getD_ite, getD_ite]; rfl                                        -- `style`
  case h_4 => rw [getD_ite, getD_ite]; rfl                                        -- `currencyDisplay`
  case h_5 => rw [getD_ite]; rfl                                                  -- `useGrouping`
  all_goals rfl

/-- what the named arguments of a `NUMBER` call say about option `name`: the last pair `(name, v)` that `merge`
has an arm for (`optionOf name v ≠ none`) -/
def effective : List (String × Val) → String → Option String
  | [], _ => none
  | (k, v) :: rest, name =>
    match effective rest name with
    | some s => some s
    | none => if k = name then optionOf name v else none

theorem merge_cons (o : NumOptions) (k : String) (v : Val) (rest : List (String × Val)) :
    merge o ((k, v) :: rest) = merge (mergeOption o k v) rest := by
  simp [merge]

theorem getOption_merge (o : NumOptions) (named : List (String × Val)) (name : String) :
    getOption (merge o named) name = (effective named name).getD (getOption o name) := by
  induction named generalizing o with
  | nil => simp [merge, effective]
  | cons p rest ih =>
    obtain ⟨k, v⟩ := p
    rw [merge_cons, ih, effective]
    cases he : effective rest name with
    | some s => simp
    | none =>
      simp only [Option.getD_none]
      by_cases hk : k = name
      · subst hk; simp [getOption_mergeOption_self]
      · have hk' : name ≠ k := fun e => hk e.symm
        simp [hk, getOption_mergeOption_ne o k v name hk']

end FluentProofs.Num

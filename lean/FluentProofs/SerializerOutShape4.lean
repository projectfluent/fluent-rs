import FluentProofs.SerializerOutShape3
import FluentProofs.SerializerNorm
import FluentProofs.ParserForward
/-!
# Serializer lemmas: `finishElements` turns well-shaped placeholders into a pattern of the class (C04)

`joinTop` (`SerializerNorm`: what `nPat okSafe` does at the top level of one pattern) merges, on the output of
`get_pattern`, the text in front of `\r\n` with the `"\n"` element the next iteration pushes; when that text itself ends with a (lone) `\r`
(source `x\r\r\n`) the two stay apart, which is the adjacency `endsCr v && u == [10]` of `mlElems`.

`FinJ`: the elements `finishElements` returns for a `chk`-shaped placeholder list — dedented by the
kept common indent `c`, cut after `last_non_blank`, the last text trimmed — satisfy, after `joinTop`, `mlElems`,
`mlLastOK`, and their `excesses` are the line indents minus the common indent (`FinOK`); and `joinTop` changes
nothing when the source has no `\r`.
-/
namespace FluentProofs.Ser
open FluentModel FluentModel.Syntax FluentModel.Syntax.Ser FluentProofs.Parser

/-- what remains of a line's indent after the common indent `c` is removed -/
def eff (c : Option Nat) (ind : Nat) : Nat :=
  match c with
  | none => 0
  | some c => ind - min ind c

theorem eff_zero (c : Option Nat) : eff c 0 = 0 := by cases c <;> simp [eff]

theorem feStart_ls (c : Option Nat) (a ind : Nat) : feStart c a ind .lineStart + eff c ind = a + ind := by
  cases c with
  | none => simp [feStart, eff]
  | some c => simp only [feStart, eff, beq_self_eq_true, if_true]; omega

theorem mlElems_pl (nl : Bool) (x : Expr Bytes) (es : List (PatElem Bytes)) :
    mlElems nl (.placeable x :: es) = mlElems false es := by
  rw [mlElems]

theorem mlLastOK_cons (e : PatElem Bytes) (es : List (PatElem Bytes)) (h : es ≠ []) :
    mlLastOK (e :: es) = mlLastOK es := by
  cases es with
  | nil => exact absurd rfl h
  | cons x xs => cases e <;> simp [mlLastOK]

theorem excesses_text (nl : Bool) (v : Bytes) (es : List (PatElem Bytes)) :
    excesses nl (.text v :: es) = (if nl && v != [10] then [leadSpaces v] else []) ++ excesses (endsNl v) es := by
  rw [excesses]

theorem excesses_pl (nl : Bool) (x : Expr Bytes) (es : List (PatElem Bytes)) :
    excesses nl (.placeable x :: es) = (if nl then [0] else []) ++ excesses false es := by
  rw [excesses]

/-- the list `B` is of the class, seen from the state `E` in front of it: `l.take k` are the placeholders it comes from -/
structure FinOK (s : Src) (c : Option Nat) (E : PSt) (l : List Placeholder) (k : Nat)
    (B : List (PatElem Bytes)) : Prop where
  ml : mlElems (nlOf E) B = true
  last : mlLastOK B = true
  ne : B ≠ []
  exc : excesses (nlOf E) B = (lineInds s E (l.take k)).map (eff c)
  noTextG : E = .afterGhost → ∀ v es, B ≠ .text v :: es
  /-- behind a text that does not end with `\n` only the `\n` of a `\r\n` can follow -/
  pendT : E = .afterText → ∀ v es, B = .text v :: es → v = [10] ∧ ¬ NoCR s
  firstI : E = .first .initialLineStart → ∀ v es, B = .text v :: es → ∃ x, v.head? = some x ∧ x ≠ 32 ∧ x ≠ 10
  firstL : E = .first .lineStart → ∀ v es, B = .text v :: es → v ≠ [10]

/-- `FinOK` after joining; nothing is joined when the source has no `\r` -/
def FinJ (s : Src) (c : Option Nat) (E : PSt) (l : List Placeholder) (k : Nat) (X : List (PatElem Bytes)) : Prop :=
  FinOK s c E l k (joinTop X) ∧ (NoCR s → joinTop X = X)

/-- what `finishElements` returns for the placeholders behind position `i`: nothing if `i` is `last_non_blank`, else a list
with `FinJ` -/
def TailOK (s : Src) (c : Option Nat) (lnb i : Nat) (E' : PSt) (rest : List Placeholder)
    (r' : List (PatElem Span)) : Prop :=
  (i = lnb ∧ r' = []) ∨ (i < lnb ∧ FinJ s c E' rest (lnb - i) (mapPat (spanBytes s) r'))

theorem take_cons_k {α : Type} (x : α) (l : List α) (lnb i : Nat) (hi : i ≤ lnb) :
    (x :: l).take (lnb + 1 - i) = x :: l.take (lnb - i) := by
  rw [show lnb + 1 - i = (lnb - i) + 1 by omega, List.take_succ_cons]

theorem nxt_text_noghost (s : Src) (a b ind : Nat) (role : TextPos) (hg : isGhost a b ind role = false) :
    nxt s (.text a b ind role) = if endsLF s b then .afterNl else .afterText := by
  simp [nxt, hg]

theorem mlTextOK_snoc10 {v : Bytes} (hv : mlTextOK v = true) (hn : endsNl v = false) (h13 : endsCr v = false) :
    mlTextOK (v ++ [10]) = true := by
  have hne := mlTextOK_ne hv
  simp only [mlTextOK, Bool.and_eq_true, Bool.not_eq_true', List.isEmpty_eq_false_iff, List.all_eq_true] at hv ⊢
  refine ⟨⟨⟨by simp, ?_⟩, ?_⟩, ?_⟩
  · intro x hx
    simp only [List.mem_append, List.mem_singleton] at hx
    rcases hx with hx | rfl
    · exact hv.1.1.2 x hx
    · decide
  · rw [List.dropLast_concat]
    intro x hx
    have hsplit := List.dropLast_concat_getLast hne
    rw [← hsplit] at hx
    simp only [List.mem_append, List.mem_singleton] at hx
    rcases hx with hx | rfl
    · exact hv.1.2 x hx
    · simp only [endsNl, beq_eq_false_iff_ne, ne_eq] at hn
      simp only [bne_iff_ne, ne_eq]
      intro h0
      apply hn
      rw [List.getLast?_eq_some_getLast hne, h0]
  · simp only [crlfEnd, List.dropLast_concat, Bool.and_eq_false_iff]
    right
    simpa [endsCr] using h13

theorem fin_pl {s : Src} {c : Option Nat} {lnb i : Nat} {E : PSt} {e : Expr Span} {rest : List Placeholder}
    {r' : List (PatElem Span)} (hi : i ≤ lnb) (hT : TailOK s c lnb i .afterPl rest r') :
    FinJ s c E (.placeable e :: rest) (lnb + 1 - i) (mapPat (spanBytes s) (.placeable e :: r')) := by
  simp only [mapPat, PatElem.mapS, FinJ, joinTop_pl]
  rcases hT with ⟨rfl, rfl⟩ | ⟨hlt, hF, hsame⟩
  · refine ⟨?_, fun _ => rfl⟩
    exact {
      ml := by simp [mapPat, joinTop, mlElems]
      last := by simp [mapPat, joinTop, mlLastOK]
      ne := by simp
      exc := by
        rw [take_cons_k _ _ _ _ hi]
        simp only [mapPat, joinTop, excesses, Nat.sub_self, List.take_zero, lineInds, lineInd,
          List.append_nil]
        split <;> simp [eff_zero]
      noTextG := by intro _ v es h; cases h
      pendT := by intro _ v es h; cases h
      firstI := by intro _ v es h; cases h
      firstL := by intro _ v es h; cases h }
  · refine ⟨?_, fun hcr => by rw [hsame hcr]⟩
    exact {
      ml := by rw [mlElems_pl]; exact hF.ml
      last := by rw [mlLastOK_cons _ _ hF.ne]; exact hF.last
      ne := by simp
      exc := by
        rw [take_cons_k _ _ _ _ hi, excesses_pl, lineInds, List.map_append]
        simp only [nxt]
        rw [← hF.exc]
        simp only [lineInd, nlOf]
        split <;> simp [eff_zero]
      noTextG := by intro _ v es h; cases h
      pendT := by intro _ v es h; cases h
      firstI := by intro _ v es h; cases h
      firstL := by intro _ v es h; cases h }

/-- a text `v` that is not the last element, in front of a tail `X` with `FinJ`.  Two cases: the tail starts with the `\n` of a
`\r\n`, which `joinTop` joins to `v`, or nothing is joined to `v` -/
theorem fin_text_keep {s : Src} {c : Option Nat} {lnb i : Nat} {E E' : PSt} {ph : Placeholder}
    {rest : List Placeholder} {X : List (PatElem Bytes)} (hi : i < lnb)
    (hFJ : FinJ s c E' rest (lnb - i) X) (v : Bytes) (hv : mlTextOK v = true)
    (hnx : nxt s ph = E') (hnl : nlOf E' = endsNl v)
    (hnt : endsNl v = false → E' = .afterText ∨ E' = .afterGhost)
    (hls : nlOf E = true → (v == [10] || lineStartOK v (joinTop X)) = true)
    (hls2 : nlOf E = true → E' = .afterText → ∀ B', lineStartOK (v ++ [10]) B' = true)
    (hexc : (if nlOf E && v != [10] then [leadSpaces v] else []) = (lineInd s E ph).map (eff c))
    (hlead : nlOf E = true → endsNl v = false → leadSpaces (v ++ [10]) = leadSpaces v)
    (hG : E ≠ .afterGhost) (hpT : E = .afterText → v = [10] ∧ ¬ NoCR s)
    (hfI : E = .first .initialLineStart → ∃ x, v.head? = some x ∧ x ≠ 32 ∧ x ≠ 10)
    (hfL : E = .first .lineStart → v ≠ [10]) :
    FinJ s c E (ph :: rest) (lnb + 1 - i) (.text v :: X) := by
  obtain ⟨hF, hsame⟩ := hFJ
  have hvne := mlTextOK_ne hv
  -- is the tail led by the pending line feed?
  by_cases hp : ∃ R, joinTop X = .text [10] :: R ∧ endsNl v = false ∧ endsCr v = false
  · obtain ⟨R, hR, hen, hec⟩ := hp
    have hE' : E' = .afterText := by
      rcases hnt hen with h | h
      · exact h
      · exact absurd hR (hF.noTextG h [10] R)
    refine ⟨?_, fun hcr => absurd hcr (hF.pendT hE' _ _ hR).2⟩
    rw [joinTop_text_join v [10] X R hR (okSafe_pend hv hen hec _)]
    have hml := hF.ml
    rw [hR, mlElems_text] at hml
    simp only [Bool.and_eq_true] at hml
    have hRne : R ≠ [] := by
      intro h0
      have := hF.last
      rw [hR, h0] at this
      simp [mlLastOK] at this
    have hlastR : mlLastOK R = true := by
      have := hF.last
      rwa [hR, mlLastOK_cons _ _ hRne] at this
    have hexcR := hF.exc
    rw [hR, excesses_text, hE'] at hexcR
    have hv2ne : (v ++ [10]) ≠ [10] := by
      intro h0
      have := congrArg List.length h0
      simp at this
      exact hvne this
    have hen2 : endsNl (v ++ [10]) = true := by simp [endsNl]
    exact {
      ml := by
        rw [mlElems_text, mlTextOK_snoc10 hv hen hec, hen2]
        simp only [Bool.true_and, Bool.and_eq_true]
        refine ⟨⟨?_, ?_⟩, by simpa [endsNl] using hml.2⟩
        · cases R with
          | nil => rfl
          | cons x xs => cases x <;> rfl
        · cases hn : nlOf E with
          | false => rfl
          | true => simp [hls2 hn hE' R]
      last := by rw [mlLastOK_cons _ _ hRne]; exact hlastR
      ne := by simp
      exc := by
        rw [take_cons_k _ _ _ _ (Nat.le_of_lt hi), excesses_text, lineInds, List.map_append, hnx, hE', hen2]
        have : excesses true R = (lineInds s .afterText (rest.take (lnb - i))).map (eff c) := by
          simpa [endsNl, nlOf] using hexcR
        rw [← this, ← hexc]
        congr 1
        cases hn : nlOf E with
        | false => simp
        | true =>
          have h1 : ((v ++ [10]) != [10]) = true := by simpa using hv2ne
          have h2 : (v != [10]) = true := by
            simp only [bne_iff_ne, ne_eq]
            intro h0; rw [h0] at hen; simp [endsNl] at hen
          simp [h1, h2, hlead hn hen]
      noTextG := fun h => absurd h hG
      pendT := by
        intro h
        rw [(hpT h).1] at hen
        cases hen
      firstI := by
        intro h w es hw
        cases hw
        obtain ⟨x, hx, h1, h2⟩ := hfI h
        refine ⟨x, ?_, h1, h2⟩
        cases v with
        | nil => simp at hx
        | cons b v' => simpa using hx
      firstL := by intro _ w es hw; cases hw; exact hv2ne }
  · -- no pending line feed, or a pending line feed behind a text that ends with `\r`: the text stays as it is
    have hpend : ∀ w R, joinTop X = .text w :: R → endsNl v = false → w = [10] ∧ endsCr v = true := by
      intro w R hR hen
      rcases hnt hen with h | h
      · obtain ⟨rfl, _⟩ := hF.pendT h w R hR
        refine ⟨rfl, ?_⟩
        cases hec : endsCr v with
        | true => rfl
        | false => exact absurd ⟨R, hR, hen, hec⟩ hp
      · exact absurd hR (hF.noTextG h w R)
    have hnoj : ∀ w R, joinTop X = .text w :: R → okSafe v w = false := by
      intro w R hR
      cases hen : endsNl v with
      | true => exact okSafe_nl hen w
      | false =>
        obtain ⟨rfl, hec⟩ := hpend w R hR hen
        exact okSafe_cr hec
    refine ⟨?_, fun hcr => by rw [joinTop_text_nojoin v X hnoj, hsame hcr]⟩
    rw [joinTop_text_nojoin v X hnoj]
    exact {
      ml := by
        rw [mlElems_text, hv, ← hnl, hF.ml]
        simp only [Bool.true_and, Bool.and_true, Bool.and_eq_true]
        constructor
        · cases hB : joinTop X with
          | nil => rfl
          | cons x xs =>
            cases x with
            | placeable _ => rfl
            | text w =>
              simp only []
              cases hen : endsNl v with
              | true => rw [hnl]; simp [hen]
              | false =>
                obtain ⟨rfl, hec⟩ := hpend w xs hB hen
                rw [hnl]; simp [hec]
        · cases hn : nlOf E with
          | false => rfl
          | true => simpa using hls hn
      last := by rw [mlLastOK_cons _ _ hF.ne]; exact hF.last
      ne := by simp
      exc := by
        rw [take_cons_k _ _ _ _ (Nat.le_of_lt hi), excesses_text, lineInds, List.map_append, hnx, ← hF.exc, ← hnl, hexc]
      noTextG := fun h => absurd h hG
      pendT := by intro h w es hw; cases hw; exact hpT h
      firstI := by intro h w es hw; cases hw; exact hfI h
      firstL := by intro h w es hw; cases hw; exact hfL h }

theorem fin_text_last {s : Src} {c : Option Nat} {lnb : Nat} {E : PSt} {ph : Placeholder}
    {rest : List Placeholder} (v : Bytes) (hv : mlTextOK v = true)
    (hlast : v.getLast? ≠ some 32 ∧ v.getLast? ≠ some 10 ∧ v.getLast? ≠ some 13)
    (hls : nlOf E = true → (v == [10] || lineStartOK v []) = true)
    (hexc : (if nlOf E && v != [10] then [leadSpaces v] else []) = (lineInd s E ph).map (eff c))
    (hE : E ≠ .afterText ∧ E ≠ .afterGhost)
    (hfI : E = .first .initialLineStart → ∃ x, v.head? = some x ∧ x ≠ 32 ∧ x ≠ 10)
    (hfL : E = .first .lineStart → v ≠ [10]) :
    FinJ s c E (ph :: rest) (lnb + 1 - lnb) [.text v] := by
  refine ⟨?_, fun _ => joinTop_single v⟩
  rw [joinTop_single]
  exact {
    ml := by
      rw [mlElems_text, hv]
      simp only [mlElems, Bool.true_and, Bool.and_true]
      cases hn : nlOf E with
      | false => rfl
      | true => simpa using hls hn
    last := by simp [mlLastOK, hlast.1, hlast.2.1, hlast.2.2]
    ne := by simp
    exc := by
      rw [take_cons_k _ _ _ _ (Nat.le_refl _), excesses_text]
      simp only [excesses, List.append_nil, Nat.sub_self, List.take_zero, lineInds, hexc]
    noTextG := fun h => absurd h hE.2
    pendT := fun h => absurd h hE.1
    firstI := by intro h w es hw; cases hw; exact hfI h
    firstL := by intro h w es hw; cases hw; exact hfL h }

/-- the step of `finishElements` at a text placeholder `[a, b)` that is no ghost and whose element starts at `a'`: the element
is `[a', b)` (`fin_text_keep`) or, at `last_non_blank`, `[a', t)` where `trim_end` stops (`fin_text_last`).  What depends on the
kind of line is asked for every end `t` behind the indent; `fin_plain` and `fin_content` supply it -/
theorem fin_text_gen {s : Src} {c : Option Nat} {lnb i : Nat} {E : PSt} {a b ind : Nat} {role : TextPos}
    {rest : List Placeholder} {r : List (PatElem Span)}
    (hi : i ≤ lnb) (a' : Nat) (ha' : feStart c a ind role = a') (h1 : a ≤ a') (h2 : a' ≤ a + ind) (hab : a' < b)
    (hg : isGhost a b ind role = false) (hTB : TextBytes s a b) (hE : E ≠ .afterText ∧ E ≠ .afterGhost)
    (hls : nlOf E = true → ∀ t B', a' < t → t ≤ b → (a + ind < t ∨ t = b) →
      (spanBytes s ⟨a', t⟩ == [10] || lineStartOK (spanBytes s ⟨a', t⟩) B') = true ∧
        lineStartOK (spanBytes s ⟨a', t⟩ ++ [10]) B' = true)
    (hexc : ∀ t, a' < t → t ≤ b → (a + ind < t ∨ t = b) →
      (if nlOf E && spanBytes s ⟨a', t⟩ != [10] then [leadSpaces (spanBytes s ⟨a', t⟩)] else []) =
        (lineInd s E (.text a b ind role)).map (eff c))
    (hlead : nlOf E = true → endsNl (spanBytes s ⟨a', b⟩) = false →
      leadSpaces (spanBytes s ⟨a', b⟩ ++ [10]) = leadSpaces (spanBytes s ⟨a', b⟩))
    (hfI : E = .first .initialLineStart → ∀ t, a' < t → t ≤ b → ∃ x, (spanBytes s ⟨a', t⟩).head? = some x ∧ x ≠ 32 ∧ x ≠ 10)
    (hfL : E = .first .lineStart → ∀ t, a' < t → t ≤ b → (a + ind < t ∨ t = b) → spanBytes s ⟨a', t⟩ ≠ [10])
    (hsurv : i = lnb → Surv s (.text a b ind role))
    (htail : ∀ r', finishElements s c lnb (i + 1) rest = some r' →
      TailOK s c lnb i (nxt s (.text a b ind role)) rest r')
    (h : finishElements s c lnb i (.text a b ind role :: rest) = some r) :
    FinJ s c E (.text a b ind role :: rest) (lnb + 1 - i) (mapPat (spanBytes s) r) := by
  rcases fe_text hi h with ⟨h0, _⟩ | ⟨_, _, r', hr', rfl⟩
  · omega
  · rw [ha']
    have hbs := hTB.1
    rcases htail r' hr' with ⟨rfl, rfl⟩ | ⟨hlt, hF⟩
    · obtain ⟨hle, hsv⟩ := hsurv rfl
      obtain ⟨e1, e2, e3⟩ := trimEnd_mono s (a + ind) a' b h2 hle hsv
      have htr : trimEnd s ⟨a', b⟩ = ⟨a', (trimEnd s ⟨a', b⟩).stop⟩ := rfl
      generalize ht : (trimEnd s ⟨a', b⟩).stop = t at htr e1
      have hat : a + ind < t := by omega
      have htb : t ≤ b := by omega
      have hv := mlTextOK_span hTB h1 (by omega : a' < t) htb
      simp only [beq_self_eq_true, if_true, htr, mapPat, PatElem.mapS]
      refine fin_text_last _ hv ?_ (fun hn => (hls hn t [] (by omega) htb (Or.inl hat)).1)
        (hexc t (by omega) htb (Or.inl hat)) hE (fun h0 => hfI h0 t (by omega) htb)
        (fun h0 => hfL h0 t (by omega) htb (Or.inl hat))
      rw [spanBytes_getLast (by omega) (by omega)]
      have hgo : t = trimEndGo s a' (b - a') b := by rw [← ht]; rfl
      obtain ⟨x, hx, x1, x2, x3⟩ := trimEndGo_last s a' (b - a') b (by omega) (Nat.le_refl _) hbs (by rw [← hgo]; omega)
      rw [← hgo] at hx
      rw [hx]
      exact ⟨fun h0 => x1 (by cases h0; rfl), fun h0 => x2 (by cases h0; rfl), fun h0 => x3 (by cases h0; rfl)⟩
    · have hni : (lnb == i) = false := by simp; omega
      simp only [hni, Bool.false_eq_true, if_false, mapPat, PatElem.mapS]
      have hv := mlTextOK_span hTB h1 hab (Nat.le_refl _)
      have hen := endsNl_span hab hbs
      rw [nxt_text_noghost s a b ind role hg] at hF
      refine fin_text_keep hlt hF _ hv (nxt_text_noghost s a b ind role hg) ?_ ?_
        (fun hn => (hls hn b _ hab (Nat.le_refl _) (Or.inr rfl)).1)
        (fun hn _ B' => (hls hn b B' hab (Nat.le_refl _) (Or.inr rfl)).2)
        (hexc b hab (Nat.le_refl _) (Or.inr rfl)) hlead hE.2 (fun h0 => absurd h0 hE.1)
        (fun h0 => hfI h0 b hab (Nat.le_refl _)) (fun h0 => hfL h0 b hab (Nat.le_refl _) (Or.inr rfl))
      · rw [hen]; cases endsLF s b <;> rfl
      · rw [hen]; intro h0; rw [h0]; exact Or.inl rfl

theorem fin_plain {s : Src} {c : Option Nat} {lnb i : Nat} {E : PSt} {a b ind : Nat} {role : TextPos}
    {rest : List Placeholder} {r : List (PatElem Span)} (hi : i ≤ lnb)
    (hr : (role == .lineStart) = false) (hab : a < b) (hTB : TextBytes s a b)
    (hE : (E = .first .initialLineStart ∧ ∃ x, s[a]? = some x ∧ x ≠ 32 ∧ x ≠ 10) ∨ E = .afterPl)
    (hsurv : i = lnb → Surv s (.text a b ind role))
    (htail : ∀ r', finishElements s c lnb (i + 1) rest = some r' →
      TailOK s c lnb i (nxt s (.text a b ind role)) rest r')
    (h : finishElements s c lnb i (.text a b ind role :: rest) = some r) :
    FinJ s c E (.text a b ind role :: rest) (lnb + 1 - i) (mapPat (spanBytes s) r) := by
  have hnl : nlOf E = false := by rcases hE with ⟨h, _⟩ | h <;> rw [h] <;> rfl
  refine fin_text_gen hi a (feStart_nls c a ind role hr) (Nat.le_refl _) (by omega) hab (by simp [isGhost, hr]) hTB
    (by rcases hE with ⟨h, _⟩ | h <;> rw [h] <;> exact ⟨by simp, by simp⟩)
    (fun hn => by rw [hnl] at hn; cases hn) (fun t _ _ _ => by simp [hnl, lineInd, hr])
    (fun hn => by rw [hnl] at hn; cases hn) ?_
    (fun h0 => by rcases hE with ⟨h, _⟩ | h <;> rw [h] at h0 <;> cases h0) hsurv htail h
  intro h0 t h1 h2
  rcases hE with ⟨_, x, hx, hx1, hx2⟩ | h
  · exact ⟨x, by rw [spanBytes_head h1 (by have := hTB.1; omega)]; exact hx, hx1, hx2⟩
  · rw [h] at h0; cases h0

theorem fin_content {s : Src} {c : Option Nat} {lnb i : Nat} {E : PSt} {a b ind : Nat}
    {rest : List Placeholder} {r : List (PatElem Span)} (hi : i ≤ lnb)
    (hE : E = .first .lineStart ∨ E = .afterNl) (hcl : ContentLine s a b ind)
    (hsurv : i = lnb → Surv s (.text a b ind .lineStart))
    (htail : ∀ r', finishElements s c lnb (i + 1) rest = some r' →
      TailOK s c lnb i (nxt s (.text a b ind .lineStart)) rest r')
    (h : finishElements s c lnb i (.text a b ind .lineStart :: rest) = some r) :
    FinJ s c E (.text a b ind .lineStart :: rest) (lnb + 1 - i) (mapPat (spanBytes s) r) := by
  obtain ⟨hlt, hsp, ⟨c0, hc0, n32, n10, n46, n91, n42⟩, hTB⟩ := hcl
  have hnl : nlOf E = true := by rcases hE with h | h <;> rw [h] <;> rfl
  have hes := feStart_ls c a ind
  have hge := (feStart_le c a ind .lineStart).1
  generalize ha' : feStart c a ind .lineStart = a' at hes hge
  have hbs := hTB.1
  have hsplit : ∀ t, a + ind < t → t ≤ b →
      spanBytes s ⟨a', t⟩ = spacesL (eff c ind) ++ c0 :: spanBytes s ⟨a + ind + 1, t⟩ := by
    intro t t1 t2
    rw [span_split (fun j j1 j2 => hsp j (by omega) j2) hc0 (by omega) t1 (by omega)]
    congr 2; omega
  have hne10 : ∀ t, a + ind < t → t ≤ b → spanBytes s ⟨a', t⟩ ≠ [10] := by
    intro t t1 t2 h0
    have := dropWhile_spaces_cons (eff c ind) c0 (spanBytes s ⟨a + ind + 1, t⟩) n32
    rw [← hsplit t t1 t2, h0] at this
    simp at this
    exact n10 this.1.symm
  have hblank : isBlankPh s a b ind = false := by
    simp only [isBlankPh, Bool.and_eq_false_iff, beq_eq_false_iff_ne]
    by_cases hi0 : ind = 0
    · right; subst hi0; rw [Nat.add_zero] at hc0; rw [hc0]; intro h0; cases h0; exact n10 rfl
    · left; left; exact hi0
  have htt : ∀ t, a' < t → t ≤ b → (a + ind < t ∨ t = b) → a + ind < t := by
    intro t _ _ h0; rcases h0 with h0 | h0 <;> omega
  have hcs : contentStartOK c0 = true := by simp [contentStartOK, n32, n10, n46, n91, n42]
  refine fin_text_gen hi a' ha' hge (by omega) (by omega) (by simp [isGhost]; omega) hTB
    (by rcases hE with h | h <;> rw [h] <;> exact ⟨by simp, by simp⟩) ?_ ?_ ?_
    (fun h0 => by rcases hE with h | h <;> rw [h] at h0 <;> cases h0)
    (fun _ t t1 t2 t3 => hne10 t (htt t t1 t2 t3) t2) hsurv htail h
  · intro _ t B' t1 t2 t3
    rw [hsplit t (htt t t1 t2 t3) t2]
    constructor
    · simp only [lineStartOK, dropWhile_spaces_cons _ _ _ n32, hcs, Bool.or_true]
    · rw [List.append_assoc, List.cons_append]
      simp only [lineStartOK, dropWhile_spaces_cons _ _ _ n32, hcs]
  · intro t t1 t2 t3
    have hne := hne10 t (htt t t1 t2 t3) t2
    have : (spanBytes s ⟨a', t⟩ != [10]) = true := by simpa using hne
    simp only [hnl, this, Bool.and_self, if_true, lineInd, beq_self_eq_true, hblank, Bool.not_false,
      List.map_cons, List.map_nil]
    rw [hsplit t (htt t t1 t2 t3) t2, leadSpaces_spaces_cons _ _ _ n32]
  · intro _ _
    rw [hsplit b (by omega) (Nat.le_refl _), List.append_assoc, List.cons_append,
      leadSpaces_spaces_cons _ _ _ n32, leadSpaces_spaces_cons _ _ _ n32]

theorem fin_blank {s : Src} {c : Option Nat} {lnb i : Nat} {E : PSt} {a b ind : Nat}
    {rest : List Placeholder} {r : List (PatElem Span)} (hi : i ≤ lnb)
    (hE : E = .afterNl ∨ ((E = .afterText ∨ E = .afterPl) ∧ ¬ NoCR s)) (hbl : BlankPh s a b ind)
    (hsurv : i = lnb → Surv s (.text a b ind .lineStart))
    (htail : ∀ r', finishElements s c lnb (i + 1) rest = some r' →
      TailOK s c lnb i (nxt s (.text a b ind .lineStart)) rest r')
    (h : finishElements s c lnb i (.text a b ind .lineStart :: rest) = some r) :
    FinJ s c E (.text a b ind .lineStart :: rest) (lnb + 1 - i) (mapPat (spanBytes s) r) := by
  obtain ⟨rfl, rfl, h10⟩ := hbl
  have hlt := get_lt h10
  have ha' : feStart c a 0 .lineStart = a := by
    have := feStart_ls c a 0; rw [eff_zero] at this; omega
  have hblank : isBlankPh s a (a + 1) 0 = true := by simp [isBlankPh, h10]
  have hnx : nxt s (.text a (a + 1) 0 .lineStart) = .afterNl := nxt_blank ⟨rfl, rfl, h10⟩
  have hv : spanBytes s ⟨a, a + 1⟩ = [10] := by
    rw [spanBytes_cons h10 (by omega), spanBytes_nil (Nat.le_refl _)]
  have hil : i < lnb := by
    rcases Nat.lt_or_ge i lnb with h0 | h0
    · exact h0
    · exfalso
      obtain ⟨_, hsv⟩ := hsurv (by omega)
      apply hsv
      simp [trimEnd, trimEndGo, h10]
  rcases fe_text hi h with ⟨h0, _⟩ | ⟨_, _, r', hr', rfl⟩
  · omega
  · rw [ha']
    rcases htail r' hr' with ⟨h0, _⟩ | ⟨_, hF⟩
    · omega
    · have hni : (lnb == i) = false := by simp; omega
      simp only [hni, Bool.false_eq_true, if_false, mapPat, PatElem.mapS, hv]
      rw [hnx] at hF
      have hE' : E ≠ .afterGhost ∧ (∀ r0, E ≠ .first r0) := by
        rcases hE with h | ⟨h | h, _⟩ <;> rw [h] <;> exact ⟨by simp, by simp⟩
      refine fin_text_keep hil hF [10] (by decide) hnx rfl (fun h0 => by cases h0) (fun _ => rfl)
        (fun _ h0 => by cases h0) (by simp [lineInd, hblank]) (fun _ h0 => by cases h0) hE'.1 ?_
        (fun h0 => absurd h0 (hE'.2 _)) (fun h0 => absurd h0 (hE'.2 _))
      intro h0
      rcases hE with h | ⟨_, h⟩
      · rw [h] at h0; cases h0
      · exact ⟨rfl, h⟩

theorem fin_ghost {s : Src} {c : Option Nat} {lnb i : Nat} {E : PSt} {a b ind : Nat}
    {rest : List Placeholder} {r : List (PatElem Span)} (hi : i ≤ lnb)
    (hE : E = .first .lineStart ∨ E = .afterNl) (hgl : GhostLine s a b ind)
    (hsurv : i = lnb → Surv s (.text a b ind .lineStart))
    (htail : ∀ r', finishElements s c lnb (i + 1) rest = some r' → TailOK s c lnb i .afterGhost rest r')
    (h : finishElements s c lnb i (.text a b ind .lineStart :: rest) = some r) :
    FinJ s c E (.text a b ind .lineStart :: rest) (lnb + 1 - i) (mapPat (spanBytes s) r) := by
  obtain ⟨rfl, hbs, hsp⟩ := hgl
  have hnl : nlOf E = true := by rcases hE with h | h <;> rw [h] <;> rfl
  have hE' : E ≠ .afterText ∧ E ≠ .afterGhost := by rcases hE with h | h <;> rw [h] <;> exact ⟨by simp, by simp⟩
  have hnI : E ≠ .first .initialLineStart := by rcases hE with h | h <;> rw [h] <;> simp
  have hlt : i < lnb := by
    rcases Nat.lt_or_ge i lnb with h0 | h0
    · exact h0
    · exfalso
      obtain ⟨_, hsv⟩ := hsurv (by omega)
      exact hsv (by simp [trimEnd, trimEndGo])
  have hes := feStart_ls c a ind
  have hge := (feStart_le c a ind .lineStart).1
  have hblank : isBlankPh s a (a + ind) ind = false := by
    simp only [isBlankPh, Bool.and_eq_false_iff, beq_eq_false_iff_ne]
    by_cases hi0 : ind = 0
    · left; right; omega
    · left; left; exact hi0
  have hli : lineInd s E (.text a (a + ind) ind .lineStart) = [ind] := by simp [lineInd, hblank]
  have hnx : nxt s (.text a (a + ind) ind .lineStart) = .afterGhost := nxt_ghost ⟨rfl, hbs, hsp⟩
  rcases fe_text hi h with ⟨hd, h⟩ | ⟨hd, _, r', hr', rfl⟩
  · have he0 : eff c ind = 0 := by omega
    rcases htail r h with ⟨h0, _⟩ | ⟨_, hF, hsame⟩
    · omega
    · refine ⟨?_, hsame⟩
      generalize joinTop (mapPat (spanBytes s) r) = B at hF ⊢
      cases B with
      | nil => exact absurd rfl hF.ne
      | cons x B'' =>
        cases x with
        | text w => exact absurd rfl (hF.noTextG rfl w B'')
        | placeable x =>
          exact {
            ml := by have := hF.ml; rw [mlElems_pl] at this ⊢; exact this
            last := hF.last
            ne := by simp
            exc := by
              have := hF.exc
              rw [excesses_pl] at this ⊢
              rw [take_cons_k _ _ _ _ hi, lineInds, List.map_append, hnx, ← this, hli, hnl]
              simp [nlOf, he0]
            noTextG := fun h0 => absurd h0 hE'.2
            pendT := fun h0 => absurd h0 hE'.1
            firstI := fun h0 => absurd h0 hnI
            firstL := by intro _ w es hw; cases hw }
  · generalize ha' : feStart c a ind .lineStart = a' at hes hge hd
    rcases htail r' hr' with ⟨h0, _⟩ | ⟨_, hF, hsame⟩
    · omega
    · have hni : (lnb == i) = false := by simp; omega
      simp only [hni, Bool.false_eq_true, if_false, mapPat, PatElem.mapS]
      have hv : spanBytes s ⟨a', a + ind⟩ = spacesL (eff c ind) := by
        rw [spanBytes_spaces (fun j j1 j2 => hsp j (by omega) j2)]; congr 1; omega
      have hpos : 0 < eff c ind := by omega
      rw [hv]
      have hne10 : spacesL (eff c ind) ≠ [10] := by
        intro h0
        have := leadSpaces_spaces (eff c ind)
        rw [h0] at this; simp [leadSpaces] at this; omega
      refine fin_text_keep hlt ⟨hF, hsame⟩ _ (mlTextOK_spaces _ hpos) hnx (by rw [endsNl_spaces]; rfl)
        (fun _ => Or.inr rfl) ?_ (fun _ h0 => by cases h0) ?_
        (fun _ _ => by rw [leadSpaces_spaces_cons _ _ _ (by decide), leadSpaces_spaces]) hE'.2
        (fun h0 => absurd h0 hE'.1) (fun h0 => absurd h0 hnI) (fun _ => hne10)
      · -- the tail starts with the placeable
        intro _
        generalize joinTop (mapPat (spanBytes s) r') = B at hF
        cases B with
        | nil => exact absurd rfl hF.ne
        | cons x B'' =>
          cases x with
          | text w => exact absurd rfl (hF.noTextG rfl w B'')
          | placeable x => simp [lineStartOK, dropWhile_spaces]
      · have : (spacesL (eff c ind) != [10]) = true := by simpa using hne10
        simp [hnl, this, hli, leadSpaces_spaces]

theorem fin_shape {s : Src} (c : Option Nat) (lnb : Nat) :
    ∀ (n : Nat) (l : List Placeholder), l.length ≤ n → ∀ (i : Nat) (E : PSt) (r : List (PatElem Span)),
      chk s E l → i ≤ lnb → lnb < i + l.length → (∀ ph, l[lnb - i]? = some ph → Surv s ph) →
      finishElements s c lnb i l = some r →
      FinJ s c E l (lnb + 1 - i) (mapPat (spanBytes s) r) := by
  intro n
  induction n with
  | zero =>
    intro l hl i E r _ h1 h2 _ _
    have : l.length = 0 := by omega
    omega
  | succ n ih =>
    intro l hl i E r hchk hi hlen hsv h
    cases l with
    | nil => simp at hlen; omega
    | cons ph rest =>
      simp only [chk] at hchk
      obtain ⟨hok, hchk'⟩ := hchk
      simp only [List.length_cons] at hl hlen
      have hsurv : i = lnb → Surv s ph := fun h0 => hsv ph (by subst h0; simp)
      have htail : ∀ r', finishElements s c lnb (i + 1) rest = some r' → TailOK s c lnb i (nxt s ph) rest r' := by
        intro r' hr'
        by_cases h0 : i = lnb
        · left
          rw [finishElements_past s c lnb (i + 1) rest (by omega)] at hr'
          cases hr'
          exact ⟨h0, rfl⟩
        · right
          refine ⟨by omega, ?_⟩
          have := ih rest (by omega) (i + 1) (nxt s ph) r' hchk' (by omega) (by omega)
            (fun x hx => hsv x (by
              rw [show lnb - i = (lnb - (i + 1)) + 1 by omega, List.getElem?_cons_succ]; exact hx)) hr'
          rwa [show lnb + 1 - (i + 1) = lnb - i by omega] at this
      cases ph with
      | placeable e =>
        obtain ⟨r', hr', rfl⟩ := fe_placeable hi h
        exact fin_pl hi (htail r' hr')
      | text a b ind role =>
        cases E with
        | first r0 =>
          cases r0 with
          | initialLineStart =>
            obtain ⟨hr, hab, hTB, hx⟩ := hok
            subst hr
            exact fin_plain hi rfl hab hTB (Or.inl ⟨rfl, hx⟩) hsurv htail h
          | lineStart =>
            obtain ⟨hr, hk⟩ := hok
            subst hr
            rcases hk with hk | hk
            · exact fin_content hi (Or.inl rfl) hk hsurv htail h
            · rw [nxt_ghost hk] at htail
              exact fin_ghost hi (Or.inl rfl) hk hsurv htail h
          | continuation => exact absurd hok id
        | afterNl =>
          obtain ⟨hr, hk⟩ := hok
          subst hr
          rcases hk with hk | hk | hk
          · exact fin_content hi (Or.inr rfl) hk hsurv htail h
          · rw [nxt_ghost hk] at htail
            exact fin_ghost hi (Or.inr rfl) hk hsurv htail h
          · exact fin_blank hi (Or.inl rfl) hk hsurv htail h
        | afterGhost => exact absurd hok id
        | afterText =>
          obtain ⟨hr, hk⟩ := hok
          subst hr
          exact fin_blank hi (Or.inr ⟨Or.inl rfl, fun hcr => hcr _ hk.2⟩) hk.1 hsurv htail h
        | afterPl =>
          rcases hok with ⟨hr, hab, hTB⟩ | ⟨hr, hk⟩
          · subst hr
            exact fin_plain hi rfl hab hTB (Or.inr rfl) hsurv htail h
          · subst hr
            exact fin_blank hi (Or.inr ⟨Or.inr rfl, fun hcr => hcr _ hk.2⟩) hk.1 hsurv htail h

end FluentProofs.Ser

import FluentModel.Parser
/-!
# One step of each parser function

The model writes every call as a four-armed `match` on its outcome in which only the `ok` arm does
anything.  `R.bind` names that shape.  This file states once, in that form, what one step of each function is, so that
a proof about the parser rewrites with these equations and does not unfold the model.

`f_unfold` is `f` at fuel `n + 1`, `f_eq` a function without fuel in `bind` form, `f_cases` a case rule where `f` chooses its
continuation by the byte under the cursor (`f_cases₂`: two runs side by side).  The continuations are plain definitions
(`exprTail`, `argTail`, `inlineStr` …, `variantTail`, `patClose`) named after what they parse; the step of `getPatternLoop`
is `patLoop_exit` / `patLoop_placeable` / `patLoop_text` over the named pieces `patPre`, `patBreak`, `patRole`, `st2Of` …
A fact about every successful run of the pattern loop is an invariant its three kinds of round keep (`patLoop_inv`).  A few
inversions stand beside the equations they invert (`getPlaceable_ok_brace`, `getPattern_some`, `getEntry_ok_inv`).
-/
namespace FluentModel.Syntax

/-- `r`, then `f` on its value and cursor; `err`, `panic` and `fuel` end the run -/
def R.bind {α β : Type} (r : R α) (f : α → Nat → R β) : R β :=
  match r with
  | .ok a q => f a q
  | .err e q => .err e q
  | .panic m => .panic m
  | .fuel => .fuel

@[simp] theorem R.bind_ok {α β : Type} (a : α) (q : Nat) (f : α → Nat → R β) : (R.ok a q).bind f = f a q := rfl
@[simp] theorem R.bind_err {α β : Type} (e : PErr) (q : Nat) (f : α → Nat → R β) : (R.err e q : R α).bind f = .err e q := rfl
@[simp] theorem R.bind_panic {α β : Type} (m : String) (f : α → Nat → R β) : (R.panic m : R α).bind f = .panic m := rfl
@[simp] theorem R.bind_fuel {α β : Type} (f : α → Nat → R β) : (R.fuel : R α).bind f = .fuel := rfl

theorem R.bind_eq_ok {α β : Type} {r : R α} {f : α → Nat → R β} {b : β} {q : Nat} (h : r.bind f = .ok b q) :
    ∃ a q', r = .ok a q' ∧ f a q' = .ok b q := by
  cases r with
  | ok a q' => exact ⟨a, q', rfl, h⟩
  | err e q' => cases h
  | panic m => cases h
  | fuel => cases h

end FluentModel.Syntax

namespace FluentProofs.Parser
open FluentModel.Syntax

/-- without fuel each of the eight functions reports `fuel` (`simp only [fuel_zero s]` rewrites all eight) -/
theorem fuel_zero (s : Src) :
    (∀ st p, getPatternLoop s 0 st p = .fuel) ∧ (∀ p, getPattern s 0 p = .fuel) ∧ (∀ p, getPlaceable s 0 p = .fuel) ∧
    (∀ p, getExpression s 0 p = .fuel) ∧ (∀ ol p, getInline s 0 ol p = .fuel) ∧ (∀ p, getCallArguments s 0 p = .fuel) ∧
    (∀ pos named p, getCallArgsLoop s 0 pos named p = .fuel) ∧ (∀ hd acc p, getVariants s 0 hd acc p = .fuel) := by
  simp only [getPatternLoop, getPattern, getPlaceable, getExpression, getInline, getCallArguments, getCallArgsLoop,
    getVariants, implies_true, and_self]

theorem usub_some {a b c : Nat} (h : usub a b = some c) : c = a - b ∧ b ≤ a := by
  unfold usub at h
  split at h
  · injection h with h; exact ⟨h.symm, by assumption⟩
  · cases h

theorem expectByte_cases (s : Src) (p : Nat) (b : UInt8) :
    (expectByte s p b = .ok () (p + 1) ∧ s[p]? = some b) ∨
      (expectByte s p b = .err (mkErr (.expectedToken b) p) p ∧ s[p]? ≠ some b) := by
  unfold expectByte
  split
  · rename_i h; exact Or.inl ⟨rfl, by simpa [isCurrentByte] using h⟩
  · rename_i h; exact Or.inr ⟨rfl, fun h' => h (by simpa [isCurrentByte] using h')⟩

theorem expectByte_pos {s : Src} {p : Nat} {b : UInt8} (h : s[p]? = some b) : expectByte s p b = .ok () (p + 1) :=
  (expectByte_cases s p b).elim And.left fun h' => absurd h h'.2

theorem expectByte_neg {s : Src} {p : Nat} {b : UInt8} (h : s[p]? ≠ some b) :
    expectByte s p b = .err (mkErr (.expectedToken b) p) p :=
  (expectByte_cases s p b).elim (fun h' => absurd h'.2 h) And.left

theorem expectByte_ok {s : Src} {p : Nat} {b : UInt8} {u : Unit} {q : Nat} (h : expectByte s p b = .ok u q) :
    q = p + 1 ∧ s[p]? = some b := by
  rcases expectByte_cases s p b with ⟨hx, hb⟩ | ⟨hx, _⟩ <;> rw [hx] at h <;> cases h
  exact ⟨rfl, hb⟩

theorem getNumberLiteral_eq (s : Src) (p : Nat) :
    getNumberLiteral s p =
      (skipDigits s (takeByteIf s p 45).1).bind fun _ p2 =>
        if s[p2]? = some 46 then
          (skipDigits s (p2 + 1)).bind fun _ p4 =>
            match slice s p p4 with
            | some sp => .ok sp p4
            | none => .panic "get_number_literal slice"
        else
          match slice s p p2 with
          | some sp => .ok sp p2
          | none => .panic "get_number_literal slice" := by
  unfold getNumberLiteral
  simp only []
  cases skipDigits s (takeByteIf s p 45).1 with
  | ok _ p2 =>
    simp only [R.bind_ok, takeByteIf, isCurrentByte, beq_iff_eq]
    by_cases h : s[p2]? = some 46
    · simp only [if_pos h, if_true]
      cases skipDigits s (p2 + 1) <;> rfl
    · simp only [if_neg h, Bool.false_eq_true, if_false]
      cases slice s p p2 <;> rfl
  | _ => rfl

theorem getAttributeAccessor_eq (s : Src) (p : Nat) :
    getAttributeAccessor s p =
      if s[p]? = some 46 then (getIdentifier s (p + 1)).bind fun id q => .ok (some id) q else .ok none p := by
  simp only [getAttributeAccessor, takeByteIf, isCurrentByte, beq_iff_eq]
  split
  · simp only [if_true]; cases getIdentifier s (p + 1) <;> rfl
  · rfl

theorem getPlaceable_unfold (s : Src) (n p : Nat) :
    getPlaceable s (n + 1) p =
      (getExpression s n (skipBlank s p)).bind fun exp q =>
        (expectByte s (skipBlankInline s q) 125).bind fun _ q2 =>
          if (match exp with
              | .inline (.term _ (some _) _) => true
              | _ => false) then .err (mkErr .termAttributeAsPlaceable q2) q2
          else .ok exp q2 := by
  simp only [getPlaceable]
  cases getExpression s n (skipBlank s p) with
  | ok exp q =>
    simp only [R.bind_ok]
    cases expectByte s (skipBlankInline s q) 125 <;> rfl
  | _ => rfl

theorem getPlaceable_ok_brace {s : Src} {f p : Nat} {e : Expr Span} {q : Nat} (h : getPlaceable s f p = .ok e q) :
    ∃ q', q = q' + 1 ∧ s[q']? = some 125 := by
  cases f with
  | zero => simp [getPlaceable] at h
  | succ f =>
    rw [getPlaceable_unfold] at h
    obtain ⟨exp, q0, _, h⟩ := R.bind_eq_ok h
    obtain ⟨_, q2, hx, h⟩ := R.bind_eq_ok h
    rcases expectByte_cases s (skipBlankInline s q0) 125 with ⟨hx', h125⟩ | ⟨hx', _⟩ <;> rw [hx'] at hx <;> cases hx
    split at h <;> cases h
    exact ⟨_, rfl, h125⟩

/-- why an inline expression cannot be the selector of a select expression -/
def selectorError : Inline Span → Option EK
  | .msg _ none => some .messageReferenceAsSelector
  | .msg _ (some _) => some .messageAttributeAsSelector
  | .term _ none _ => some .termReferenceAsSelector
  | .term _ (some _) _ => none
  | .str _ => none
  | .num _ => none
  | .var _ => none
  | .fn _ _ _ => none
  | .placeable _ => some .expectedSimpleExpressionAsSelector

/-- `get_expression` after its inline expression `exp`; `q` is the cursor after the blank that follows it -/
def exprTail (s : Src) (n : Nat) (exp : Inline Span) (q : Nat) : R (Expr Span) :=
  if s[q]? = some 45 ∧ s[q + 1]? = some 62 then
    match selectorError exp with
    | some k => .err (mkErr k q) q
    | none =>
      match skipEol s (skipBlankInline s (q + 2)) with
      | none => .err (mkErr (.expectedCharRange 2) (skipBlankInline s (q + 2))) (skipBlankInline s (q + 2))
      | some q3 => (getVariants s n false [] (skipBlank s q3)).bind fun vs q5 => .ok (.select exp vs) q5
  else
    match exp with
    | .term _ (some _) _ => .err (mkErr .termAttributeAsPlaceable q) q
    | _ => .ok (.inline exp) q

theorem getExpression_unfold (s : Src) (n p : Nat) :
    getExpression s (n + 1) p = (getInline s n false p).bind fun exp q => exprTail s n exp (skipBlank s q) := by
  simp only [getExpression]
  cases getInline s n false p with
  | ok exp q =>
    simp only [R.bind_ok, exprTail]
    by_cases h : s[skipBlank s q]? = some 45 ∧ s[skipBlank s q + 1]? = some 62
    · simp only [isCurrentByte, h.1, h.2, BEq.rfl, Bool.not_true, Bool.or_self, Bool.false_eq_true, if_false, and_self, if_true]
      have tail : ∀ exp : Inline Span, (match skipEol s (skipBlankInline s (skipBlank s q + 2)) with
          | none => R.err (mkErr (.expectedCharRange 2) (skipBlankInline s (skipBlank s q + 2)))
              (skipBlankInline s (skipBlank s q + 2))
          | some q3 =>
            match getVariants s n false [] (skipBlank s q3) with
            | .ok vs q5 => R.ok (Expr.select exp vs) q5
            | .err e q5 => .err e q5
            | .panic m => .panic m
            | .fuel => .fuel) =
          match skipEol s (skipBlankInline s (skipBlank s q + 2)) with
          | none => R.err (mkErr (.expectedCharRange 2) (skipBlankInline s (skipBlank s q + 2)))
              (skipBlankInline s (skipBlank s q + 2))
          | some q3 => (getVariants s n false [] (skipBlank s q3)).bind fun vs q5 => .ok (.select exp vs) q5 := by
        intro exp
        cases skipEol s (skipBlankInline s (skipBlank s q + 2)) with
        | none => rfl
        | some q3 => simp only []; cases getVariants s n false [] (skipBlank s q3) <;> rfl
      cases exp with
      | msg id attr => cases attr <;> rfl
      | term id attr args => cases attr <;> first | rfl | exact tail _
      | placeable e => rfl
      | _ => exact tail _
    · have hc : (!isCurrentByte s (skipBlank s q) 45 || !s[skipBlank s q + 1]? == some 62) = true := by
        simp only [isCurrentByte, Bool.or_eq_true, Bool.not_eq_eq_eq_not, Bool.not_true, beq_eq_false_iff_ne, ne_eq]
        exact Classical.not_and_iff_not_or_not.mp h
      rw [if_neg h, if_pos hc]
      cases exp <;> rfl
  | _ => rfl

theorem getCallArguments_unfold (s : Src) (n p : Nat) :
    getCallArguments s (n + 1) p =
      if s[skipBlank s p]? = some 40 then
        (getCallArgsLoop s n [] [] (skipBlank s (skipBlank s p + 1))).bind fun r q =>
          (expectByte s q 41).bind fun _ q1 => .ok (some r) q1
      else .ok none (skipBlank s p) := by
  simp only [getCallArguments, takeByteIf, isCurrentByte, beq_iff_eq]
  split
  · simp only [Bool.not_true, Bool.false_eq_true, if_false]
    cases getCallArgsLoop s n [] [] (skipBlank s (skipBlank s p + 1)) with
    | ok r q => simp only [R.bind_ok]; cases expectByte s q 41 <;> rfl
    | _ => rfl
  · rfl

/-- between two call arguments: blank, an optional comma, blank -/
def argSep (s : Src) (q : Nat) : Nat := skipBlank s (takeByteIf s (skipBlank s q) 44).1

/-- `get_call_arguments`' loop after the argument `expr` that ended at `q` -/
def argTail (s : Src) (n : Nat) (pos : List (Inline Span)) (named : List (Span × Inline Span)) (expr : Inline Span)
    (q : Nat) : R (List (Inline Span) × List (Span × Inline Span)) :=
  match expr with
  | .msg id none =>
    if s[skipBlank s q]? = some 58 then
      if named.any (fun na => spanBytes s na.1 == spanBytes s id) then
        .err (mkErr (.duplicatedNamedArgument id) (skipBlank s q)) (skipBlank s q)
      else
        (getInline s n true (skipBlank s (skipBlank s q + 1))).bind fun val q3 =>
          getCallArgsLoop s n pos (named ++ [(id, val)]) (argSep s q3)
    else if !named.isEmpty then .err (mkErr .positionalArgumentFollowsNamed (skipBlank s q)) (skipBlank s q)
    else getCallArgsLoop s n (pos ++ [expr]) named (argSep s (skipBlank s q))
  | _ =>
    if !named.isEmpty then .err (mkErr .positionalArgumentFollowsNamed q) q
    else getCallArgsLoop s n (pos ++ [expr]) named (argSep s q)

theorem getCallArgsLoop_unfold (s : Src) (n : Nat) (pos : List (Inline Span)) (named : List (Span × Inline Span)) (p : Nat) :
    getCallArgsLoop s (n + 1) pos named p =
      if p < s.size ∧ s[p]? ≠ some 41 then (getInline s n false p).bind (argTail s n pos named)
      else .ok (pos, named) p := by
  simp only [getCallArgsLoop, isCurrentByte, beq_iff_eq]
  by_cases hlt : p < s.size
  · by_cases h41 : s[p]? = some 41
    · simp only [hlt, h41, if_true, ne_eq, not_true_eq_false, and_false, if_false]
    · simp only [hlt, h41, if_true, if_false, ne_eq, not_false_eq_true, and_self]
      cases getInline s n false p with
      | ok expr q =>
        simp only [R.bind_ok, argTail, argSep]
        cases expr <;> try rfl
        rename_i id attr
        cases attr <;> try rfl
        simp only []
        split <;> try rfl
        split <;> try rfl
        cases getInline s n true (skipBlank s (skipBlank s q + 1)) <;> rfl
      | _ => rfl
  · simp only [hlt, if_false, false_and]

/-- `"…"`: the cursor is at the opening quote -/
def inlineStr (s : Src) (p : Nat) : R (Inline Span) :=
  (scanString s (p + 1)).bind fun _ q =>
    if s[q]? = some 34 then
      match slice s (p + 1) q with
      | some sp => .ok (.str sp) (q + 1)
      | none => .panic "string literal slice"
    else .err (mkErr (.expectedToken 34) q) q

def inlineNum (s : Src) (p : Nat) : R (Inline Span) :=
  (getNumberLiteral s p).bind fun sp q => .ok (.num sp) q

/-- `-name`, `-name.attr`, `-name(…)`: the cursor is at the `-` -/
def inlineTerm (s : Src) (n p : Nat) : R (Inline Span) :=
  (getIdentifierUnchecked s (p + 2)).bind fun id q =>
    (getAttributeAccessor s q).bind fun attr q1 =>
      (getCallArguments s n q1).bind fun args q2 => .ok (.term id attr args) q2

/-- `$name`: the cursor is at the `$` -/
def inlineVar (s : Src) (p : Nat) : R (Inline Span) :=
  (getIdentifier s (p + 1)).bind fun id q => .ok (.var id) q

/-- `NAME(…)`, `name` or `name.attr`: the cursor is at the first letter -/
def inlineRef (s : Src) (n p : Nat) : R (Inline Span) :=
  (getIdentifierUnchecked s (p + 1)).bind fun id q =>
    (getCallArguments s n q).bind fun args q1 =>
      match args with
      | some (pos, named) => if !isCallee s id then .err (mkErr .forbiddenCallee q1) q1 else .ok (.fn id pos named) q1
      | none => (getAttributeAccessor s q1).bind fun attr q2 => .ok (.msg id attr) q2

/-- `{…}` inside a placeable: the cursor is at the `{` -/
def inlineNested (s : Src) (n p : Nat) : R (Inline Span) :=
  (getPlaceable s n (p + 1)).bind fun e q => .ok (.placeable e) q

theorem getInline_unfold (s : Src) (n : Nat) (ol : Bool) (p : Nat) :
    getInline s (n + 1) ol p =
      match s[p]? with
      | none => .err (mkErr (if ol then .expectedLiteral else .expectedInlineExpression) p) p
      | some b =>
        if b = 34 then inlineStr s p
        else if isDigit b then inlineNum s p
        else if b = 45 then (if ol = false ∧ isIdentifierStart s (p + 1) then inlineTerm s n p else inlineNum s p)
        else if b = 36 ∧ ol = false then inlineVar s p
        else if isAlpha b then inlineRef s n p
        else if b = 123 ∧ ol = false then inlineNested s n p
        else .err (mkErr (if ol then .expectedLiteral else .expectedInlineExpression) p) p := by
  simp only [getInline]
  have hfb : (if ol = true then R.err (mkErr .expectedLiteral p) p else .err (mkErr .expectedInlineExpression p) p :
      R (Inline Span)) = .err (mkErr (if ol then .expectedLiteral else .expectedInlineExpression) p) p := by
    cases ol <;> rfl
  cases s[p]? with
  | none => exact hfb
  | some b =>
    simp only [hfb, beq_iff_eq, Bool.and_eq_true, Bool.not_eq_eq_eq_not, Bool.not_true]
    have num : (match getNumberLiteral s p with
        | .ok sp q => R.ok (Inline.num sp) q
        | .err e q => .err e q
        | .panic m => .panic m
        | .fuel => .fuel) = inlineNum s p := by
      unfold inlineNum; cases getNumberLiteral s p <;> rfl
    by_cases h1 : b = 34
    · rw [if_pos h1, if_pos h1]
      unfold inlineStr
      cases scanString s (p + 1) with
      | ok _ q =>
        simp only [R.bind_ok, expectByte, isCurrentByte, beq_iff_eq]
        by_cases h : s[q]? = some 34
        · simp only [if_pos h, usub, Nat.le_add_left, if_true, Nat.add_sub_cancel]
          cases slice s (p + 1) q <;> rfl
        · simp only [if_neg h]
      | _ => rfl
    rw [if_neg h1, if_neg h1]
    by_cases h2 : isDigit b = true
    · rw [if_pos h2, if_pos h2]; exact num
    rw [if_neg h2, if_neg h2]
    by_cases h3 : b = 45
    · rw [if_pos h3, if_pos h3]
      split
      · unfold inlineTerm
        cases getIdentifierUnchecked s (p + 2) with
        | ok id q =>
          simp only [R.bind_ok]
          cases getAttributeAccessor s q with
          | ok attr q1 => simp only [R.bind_ok]; cases getCallArguments s n q1 <;> rfl
          | _ => rfl
        | _ => rfl
      · exact num
    rw [if_neg h3, if_neg h3]
    by_cases h4 : b = 36 ∧ ol = false
    · rw [if_pos h4, if_pos h4]
      unfold inlineVar; cases getIdentifier s (p + 1) <;> rfl
    rw [if_neg h4, if_neg h4]
    by_cases h5 : isAlpha b = true
    · rw [if_pos h5, if_pos h5]
      unfold inlineRef
      cases getIdentifierUnchecked s (p + 1) with
      | ok id q =>
        simp only [R.bind_ok]
        cases getCallArguments s n q with
        | ok args q1 =>
          cases args with
          | none => simp only [R.bind_ok]; cases getAttributeAccessor s q1 <;> rfl
          | some pn => simp only [R.bind_ok, Bool.not_eq_eq_eq_not, Bool.not_true]
        | _ => rfl
      | _ => rfl
    rw [if_neg h5, if_neg h5]
    by_cases h6 : b = 123 ∧ ol = false
    · rw [if_pos h6, if_pos h6]
      unfold inlineNested; cases getPlaceable s n (p + 1) <;> rfl
    rw [if_neg h6, if_neg h6]

theorem getInline_cases₂ {motive : R (Inline Span) → R (Inline Span) → Prop} (s₁ s₂ : Src) (n₁ n₂ : Nat) (ol : Bool)
    (p₁ p₂ : Nat) (hget : s₂[p₂]? = s₁[p₁]?)
    (hid : s₁[p₁]? = some 45 → isIdentifierStart s₂ (p₂ + 1) = isIdentifierStart s₁ (p₁ + 1))
    (fallback : motive (.err (mkErr (if ol then .expectedLiteral else .expectedInlineExpression) p₁) p₁)
      (.err (mkErr (if ol then .expectedLiteral else .expectedInlineExpression) p₂) p₂))
    (str : s₁[p₁]? = some 34 → motive (inlineStr s₁ p₁) (inlineStr s₂ p₂))
    (num : ∀ b, s₁[p₁]? = some b → isDigit b = true ∨ b = 45 → motive (inlineNum s₁ p₁) (inlineNum s₂ p₂))
    (term : s₁[p₁]? = some 45 → ol = false → isIdentifierStart s₁ (p₁ + 1) = true →
      motive (inlineTerm s₁ n₁ p₁) (inlineTerm s₂ n₂ p₂))
    (var : s₁[p₁]? = some 36 → ol = false → motive (inlineVar s₁ p₁) (inlineVar s₂ p₂))
    (ref : ∀ b, s₁[p₁]? = some b → isAlpha b = true → motive (inlineRef s₁ n₁ p₁) (inlineRef s₂ n₂ p₂))
    (placeable : s₁[p₁]? = some 123 → ol = false → motive (inlineNested s₁ n₁ p₁) (inlineNested s₂ n₂ p₂)) :
    motive (getInline s₁ (n₁ + 1) ol p₁) (getInline s₂ (n₂ + 1) ol p₂) := by
  rw [getInline_unfold, getInline_unfold, hget]
  cases hb : s₁[p₁]? with
  | none => exact fallback
  | some b =>
    simp only []
    by_cases h1 : b = 34
    · rw [if_pos h1, if_pos h1]; exact str (h1 ▸ hb)
    rw [if_neg h1, if_neg h1]
    by_cases h2 : isDigit b = true
    · rw [if_pos h2, if_pos h2]; exact num b hb (Or.inl h2)
    rw [if_neg h2, if_neg h2]
    by_cases h3 : b = 45
    · rw [if_pos h3, if_pos h3, hid (h3 ▸ hb)]
      by_cases h : ol = false ∧ isIdentifierStart s₁ (p₁ + 1) = true
      · rw [if_pos h, if_pos h]; exact term (h3 ▸ hb) h.1 h.2
      · rw [if_neg h, if_neg h]; exact num b hb (Or.inr h3)
    rw [if_neg h3, if_neg h3]
    by_cases h4 : b = 36 ∧ ol = false
    · rw [if_pos h4, if_pos h4]; exact var (h4.1 ▸ hb) h4.2
    rw [if_neg h4, if_neg h4]
    by_cases h5 : isAlpha b = true
    · rw [if_pos h5, if_pos h5]; exact ref b hb h5
    rw [if_neg h5, if_neg h5]
    by_cases h6 : b = 123 ∧ ol = false
    · rw [if_pos h6, if_pos h6]; exact placeable (h6.1 ▸ hb) h6.2
    · rw [if_neg h6, if_neg h6]; exact fallback

theorem getInline_cases {motive : R (Inline Span) → Prop} (s : Src) (n : Nat) (ol : Bool) (p : Nat)
    (fallback : ∀ k, motive (.err (mkErr k p) p))
    (str : s[p]? = some 34 → motive (inlineStr s p))
    (num : ∀ b, s[p]? = some b → isDigit b = true ∨ b = 45 → motive (inlineNum s p))
    (term : s[p]? = some 45 → ol = false → isIdentifierStart s (p + 1) = true → motive (inlineTerm s n p))
    (var : s[p]? = some 36 → ol = false → motive (inlineVar s p))
    (ref : ∀ b, s[p]? = some b → isAlpha b = true → motive (inlineRef s n p))
    (placeable : s[p]? = some 123 → ol = false → motive (inlineNested s n p)) :
    motive (getInline s (n + 1) ol p) :=
  getInline_cases₂ (motive := fun r _ => motive r) s s n n ol p p rfl (fun _ => rfl) (fallback _) str num term var ref
    placeable

/-- `get_variant_key` (inlined in the model's `getVariants`) -/
def variantKey (s : Src) (p : Nat) : R (VKey Span) :=
  if isNumberStart s p then
    match getNumberLiteral s p with
    | .ok sp q => R.ok (VKey.num sp) q
    | .err e q => .err e q
    | .panic m => .panic m
    | .fuel => .fuel
  else
    match getIdentifier s p with
    | .ok sp q => R.ok (VKey.ident sp) q
    | .err e q => .err e q
    | .panic m => .panic m
    | .fuel => .fuel

theorem variantKey_eq (s : Src) (p : Nat) :
    variantKey s p =
      if isNumberStart s p then (getNumberLiteral s p).bind fun sp q => .ok (.num sp) q
      else (getIdentifier s p).bind fun sp q => .ok (.ident sp) q := by
  unfold variantKey
  split
  · cases getNumberLiteral s p <;> rfl
  · cases getIdentifier s p <;> rfl

/-- one variant from just after its `[`: key, `]`, value, and then the variants that follow -/
def variantTail (s : Src) (n : Nat) (hd dflt : Bool) (acc : List (Variant Span)) (p : Nat) : R (List (Variant Span)) :=
  (variantKey s (skipBlank s p)).bind fun key q =>
    (expectByte s (skipBlank s q) 93).bind fun _ q2 =>
      (getPattern s n q2).bind fun o q3 =>
        match o with
        | some value => getVariants s n hd (acc ++ [.mk key value dflt]) (skipBlank s q3)
        | none => .err (mkErr .missingValue q3) q3

/-- `variantTail` as the model spells it -/
theorem variantTail_eq (s : Src) (n : Nat) (hd dflt : Bool) (acc : List (Variant Span)) (p : Nat) :
    (match variantKey s (skipBlank s p) with
     | .ok key q =>
       (match expectByte s (skipBlank s q) 93 with
        | .ok _ q2 =>
          (match getPattern s n q2 with
           | .ok (some value) q3 => getVariants s n hd (acc ++ [.mk key value dflt]) (skipBlank s q3)
           | .ok none q3 => .err (mkErr .missingValue q3) q3
           | .err e q3 => .err e q3
           | .panic m => .panic m
           | .fuel => .fuel)
        | .err e q2 => .err e q2
        | .panic m => .panic m
        | .fuel => .fuel)
     | .err e q => .err e q
     | .panic m => .panic m
     | .fuel => .fuel) = variantTail s n hd dflt acc p := by
  unfold variantTail
  cases variantKey s (skipBlank s p) with
  | ok key q =>
    simp only [R.bind_ok]
    cases expectByte s (skipBlank s q) 93 with
    | ok _ q2 =>
      simp only [R.bind_ok]
      cases getPattern s n q2 with
      | ok o q3 => cases o <;> rfl
      | _ => rfl
    | _ => rfl
  | _ => rfl

theorem getVariants_unfold (s : Src) (n : Nat) (hd : Bool) (acc : List (Variant Span)) (p : Nat) :
    getVariants s (n + 1) hd acc p =
      if s[p]? = some 42 then
        if hd then .err (mkErr .multipleDefaultVariants (p + 1)) (p + 1)
        else if s[p + 1]? = some 91 then variantTail s n true true acc (p + 2)
        else .err (mkErr (.expectedToken 91) (p + 1)) (p + 1)
      else if s[p]? = some 91 then variantTail s n hd false acc (p + 1)
      else if hd then .ok acc p else .err (mkErr .missingDefaultVariant p) p := by
  simp only [getVariants, takeByteIf, isCurrentByte, beq_iff_eq]
  by_cases h42 : s[p]? = some 42
  · simp only [h42, if_true, Bool.true_and, Bool.or_true]
    cases hd with
    | true => rfl
    | false =>
      simp only [Bool.false_eq_true, if_false]
      by_cases h91 : s[p + 1]? = some 91
      · simp only [h91, if_true, Bool.not_true, Bool.false_eq_true, if_false]
        exact variantTail_eq s n true true acc (p + 2)
      · simp only [h91, if_false, Bool.not_false, if_true]
  · simp only [h42, if_false, Bool.false_and, Bool.false_eq_true, Bool.or_false]
    by_cases h91 : s[p]? = some 91
    · simp only [h91, if_true, Bool.not_true, Bool.false_eq_true, if_false]
      exact variantTail_eq s n hd false acc (p + 1)
    · simp only [h91, if_false, Bool.not_false, if_true]

/-- where `get_pattern`'s loop starts, and the role of the first text: after the blank on the
line of the `=` or `]`, or, when nothing else is on that line, at the first line that is not blank -/
def patStart (s : Src) (p : Nat) : TextPos × Nat :=
  match skipEol s (skipBlankInline s p) with
  | some q => (.lineStart, (skipBlankBlock s q).1)
  | none => (.initialLineStart, skipBlankInline s p)

/-- `get_pattern` after its loop -/
def patClose (s : Src) (st : PatState) (q : Nat) : R (Option (Pattern Span)) :=
  match st.lastNonBlank with
  | some lnb =>
    (match finishElements s st.keptCommonIndent lnb 0 st.elements with
     | some els => .ok (some els) q
     | none => .panic "get_pattern slice")
  | none => .ok none q

theorem patClose_ok {s : Src} {st : PatState} {q : Nat} {o : Option (Pattern Span)} {q' : Nat}
    (h : patClose s st q = .ok o q') : q' = q := by
  unfold patClose at h
  split at h
  · split at h
    · cases h; rfl
    · cases h
  · cases h; rfl

theorem getPattern_unfold (s : Src) (n p : Nat) :
    getPattern s (n + 1) p =
      (getPatternLoop s n ⟨[], none, none, (patStart s p).1, none⟩ (patStart s p).2).bind (patClose s) := by
  simp only [getPattern, patStart]
  cases skipEol s (skipBlankInline s p) <;> simp only [] <;> cases getPatternLoop s n _ _ <;> rfl

theorem getPattern_some {s : Src} {n p : Nat} {els : List (PatElem Span)} {q : Nat}
    (h : getPattern s (n + 1) p = .ok (some els) q) :
    ∃ st lnb, getPatternLoop s n ⟨[], none, none, (patStart s p).1, none⟩ (patStart s p).2 = .ok st q ∧
      st.lastNonBlank = some lnb ∧ finishElements s st.keptCommonIndent lnb 0 st.elements = some els := by
  rw [getPattern_unfold] at h
  obtain ⟨st, q', hloop, h⟩ := R.bind_eq_ok h
  obtain rfl := patClose_ok h
  unfold patClose at h
  split at h
  · rename_i lnb hlnb
    split at h <;> cases h
    rename_i hfin
    exact ⟨st, lnb, hloop, hlnb, hfin⟩
  · cases h

/-- the state after a placeable -/
def patPlaced (st : PatState) (e : Expr Span) : PatState :=
  { elements := st.elements ++ [.placeable e], lastNonBlank := some st.elements.length,
    commonIndent := if st.role == .lineStart then some 0 else st.commonIndent,
    role := .continuation,
    keptCommonIndent := if st.role == .lineStart then some 0 else st.commonIndent }

/-- the model's local `pre`: indent and cursor of the text slice to take at `p`; `none` = `break`
(at a line start, the line does not continue the pattern) -/
def patPre (s : Src) (st : PatState) (p : Nat) : Option (Nat × Nat) :=
  if st.role == .lineStart then
    let p1 := skipBlankInline s p
    let indent := p1 - p
    match s[p1]? with
    | some b =>
      if indent == 0 then
        if !isEol s p1 then none else some (indent, p1)
      else if !isBytePatternContinuation b then none
      else some (indent, p1)
    | none => none
  else some (0, p)

/-- the cursor after `break` -/
def patBreak (s : Src) (p : Nat) : Nat :=
  let p1 := skipBlankInline s p
  let indent := p1 - p
  match s[p1]? with
  | some b => if indent == 0 then p1 else if !isBytePatternContinuation b then p else p1
  | none => p1

/-- the role of the text that follows a slice ended by `term` -/
def patRole : Termination → TextPos
  | .lineFeed => .lineStart
  | .crlf => .lineStart
  | .placeableStart => .continuation
  | .eof => .continuation

/-- the element pushed for a text slice (the model's local `el`); `nb`: the slice has a byte other than a space,
`placeableLed`: it is the empty text in front of a placeable that leads its line -/
def elOf (st : PatState) (p indent stop : Nat) (nb placeableLed : Bool) : Option Placeholder :=
  if st.role == .lineStart && !nb && !placeableLed then
    (usub stop 1).map fun a => Placeholder.text a stop 0 st.role
  else some (.text p stop indent st.role)

/-- the model's local `survives`: something of the slice is left once `trim_end` has cut blanks and line ends -/
def survivesOf (s : Src) (start stop : Nat) (nb : Bool) : Option Bool :=
  if nb then (slice s start stop).map fun sp => (trimEnd s sp).stop != sp.start
  else some false

/-- the model's local `st2` in `getPatternLoop` (definitionally the same expression) -/
def st2Of (s : Src) (st : PatState) (p indent start stop : Nat) (nb : Bool) (term : Termination) : Option PatState :=
  let placeableLed := st.role == .lineStart && term == .placeableStart && start == stop
  if start != stop || placeableLed then
    let ci :=
      if st.role == .lineStart && (nb || placeableLed) then
        match st.commonIndent with
        | some c => if indent < c then some indent else some c
        | none => some indent
      else st.commonIndent
    if st.role != .lineStart || nb || term == .lineFeed || placeableLed then
      match elOf st p indent stop nb placeableLed, survivesOf s start stop nb with
      | some e, some sv =>
        some { st with commonIndent := ci,
                       lastNonBlank := if sv then some st.elements.length else st.lastNonBlank,
                       keptCommonIndent := if sv then ci else st.keptCommonIndent,
                       elements := st.elements ++ [e] }
      | _, _ => none
    else some { st with commonIndent := ci }
  else some st

/-- `st` with the element `e` pushed; `sv`: its text survives the final trim, so it is the last non-blank element -/
def patPush (st : PatState) (ci : Option Nat) (e : Placeholder) (sv : Bool) : PatState :=
  { st with commonIndent := ci,
            lastNonBlank := if sv then some st.elements.length else st.lastNonBlank,
            keptCommonIndent := if sv then ci else st.keptCommonIndent,
            elements := st.elements ++ [e] }

/-- the common indent after a text slice of indent `indent` (`pl`: the slice is the empty text before a placeable that
leads its line) -/
def patIndent (st : PatState) (indent : Nat) (nb pl : Bool) : Option Nat :=
  if st.role == .lineStart && (nb || pl) then
    match st.commonIndent with
    | some c => if indent < c then some indent else some c
    | none => some indent
  else st.commonIndent

theorem st2Of_eq (s : Src) (st : PatState) (p indent start stop : Nat) (nb : Bool) (term : Termination) (pl : Bool)
    (hpl : pl = (st.role == .lineStart && term == .placeableStart && start == stop)) :
    st2Of s st p indent start stop nb term =
      if (start != stop || pl) = true then
        if (st.role != .lineStart || nb || term == .lineFeed || pl) = true then
          (elOf st p indent stop nb pl).bind fun e => (survivesOf s start stop nb).map (patPush st (patIndent st indent nb pl) e)
        else some { st with commonIndent := patIndent st indent nb pl }
      else some st := by
  subst hpl
  unfold st2Of
  simp only []
  by_cases h1 : (start != stop || st.role == .lineStart && term == .placeableStart && start == stop) = true
  · rw [if_pos h1, if_pos h1]
    by_cases h2 : (st.role != .lineStart || nb || term == .lineFeed ||
        st.role == .lineStart && term == .placeableStart && start == stop) = true
    · rw [if_pos h2, if_pos h2]
      cases elOf st p indent stop nb (st.role == .lineStart && term == .placeableStart && start == stop) with
      | none => rfl
      | some e => cases survivesOf s start stop nb <;> rfl
    · rw [if_neg h2, if_neg h2]; rfl
  · rw [if_neg h1, if_neg h1]

theorem st2Of_cases (s : Src) (st : PatState) (p indent start stop : Nat) (nb : Bool) (term : Termination) :
    (∃ ci, st2Of s st p indent start stop nb term = some { st with commonIndent := ci }) ∨
    ∃ ci, (start != stop || st.role == .lineStart && term == .placeableStart && start == stop) = true ∧
      (st.role != .lineStart || nb || term == .lineFeed ||
        st.role == .lineStart && term == .placeableStart && start == stop) = true ∧
      st2Of s st p indent start stop nb term =
        (elOf st p indent stop nb (st.role == .lineStart && term == .placeableStart && start == stop)).bind fun e =>
          (survivesOf s start stop nb).map (patPush st ci e) := by
  rw [st2Of_eq s st p indent start stop nb term _ rfl]
  by_cases h1 : (start != stop || st.role == .lineStart && term == .placeableStart && start == stop) = true
  · rw [if_pos h1]
    by_cases h2 : (st.role != .lineStart || nb || term == .lineFeed ||
        st.role == .lineStart && term == .placeableStart && start == stop) = true
    · rw [if_pos h2]; exact Or.inr ⟨_, h1, h2, rfl⟩
    · rw [if_neg h2]; exact Or.inl ⟨_, rfl⟩
  · rw [if_neg h1]; exact Or.inl ⟨st.commonIndent, rfl⟩

theorem elOf_some {st : PatState} {p indent stop : Nat} {nb pl : Bool} {e : Placeholder}
    (h : elOf st p indent stop nb pl = some e) :
    e = .text p stop indent st.role ∨
      (st.role == .lineStart && !nb && !pl) = true ∧ 1 ≤ stop ∧ e = .text (stop - 1) stop 0 st.role := by
  unfold elOf at h
  by_cases hc : (st.role == .lineStart && !nb && !pl) = true
  · rw [if_pos hc] at h
    unfold usub at h
    by_cases h1 : 1 ≤ stop
    · rw [if_pos h1] at h; cases h; exact Or.inr ⟨hc, h1, rfl⟩
    · rw [if_neg h1] at h; cases h
  · rw [if_neg hc] at h; cases h; exact Or.inl rfl

/-- the loop after the text slice `v` taken for the iteration at `p`, which ended at `q` -/
def patAfterText (s : Src) (n : Nat) (st : PatState) (p indent : Nat) (v : Nat × Nat × Bool × Termination) (q : Nat) :
    R PatState :=
  match st2Of s st p indent v.1 v.2.1 v.2.2.1 v.2.2.2 with
  | some st2 => getPatternLoop s n { st2 with role := patRole v.2.2.2 } q
  | none => .panic "get_pattern: end - 1 underflow or text slice"

theorem patLoop_exit (s : Src) (n : Nat) (st : PatState) (p : Nat) (h : s.size ≤ p) :
    getPatternLoop s (n + 1) st p = .ok st p := by
  simp only [getPatternLoop, Nat.not_lt.mpr h, if_false]

theorem patLoop_placeable (s : Src) (n : Nat) (st : PatState) (p : Nat) (hlt : p < s.size) (h : s[p]? = some 123) :
    getPatternLoop s (n + 1) st p =
      (getPlaceable s n (p + 1)).bind fun e q => getPatternLoop s n (patPlaced st e) q := by
  simp only [getPatternLoop, hlt, if_true, isCurrentByte, h, BEq.rfl]
  cases getPlaceable s n (p + 1) with
  | ok e q => simp only [R.bind_ok, patPlaced]; split <;> rfl
  | _ => rfl

theorem patLoop_text (s : Src) (n : Nat) (st : PatState) (p : Nat) (hlt : p < s.size) (h : s[p]? ≠ some 123) :
    getPatternLoop s (n + 1) st p =
      match patPre s st p with
      | none => .ok st (patBreak s p)
      | some (indent, p1) => (getTextSlice s p1).bind (patAfterText s n st p indent) := by
  have hc : isCurrentByte s p 123 = false := by simpa [isCurrentByte] using h
  simp only [getPatternLoop, hlt, if_true, hc, Bool.false_eq_true, if_false]
  show (match patPre s st p with | none => _ | some (indent, p1) => _) = _
  cases patPre s st p with
  | none => rfl
  | some ip => simp only []; cases getTextSlice s ip.2 <;> rfl

theorem patLoop_cases {motive : R PatState → Prop} (s : Src) (n : Nat) (st : PatState) (p : Nat)
    (exit : s.size ≤ p → motive (.ok st p))
    (placeable : p < s.size → s[p]? = some 123 →
      motive ((getPlaceable s n (p + 1)).bind fun e q => getPatternLoop s n (patPlaced st e) q))
    (brk : p < s.size → s[p]? ≠ some 123 → patPre s st p = none → motive (.ok st (patBreak s p)))
    (text : ∀ indent p1, p < s.size → s[p]? ≠ some 123 → patPre s st p = some (indent, p1) →
      motive ((getTextSlice s p1).bind (patAfterText s n st p indent))) :
    motive (getPatternLoop s (n + 1) st p) := by
  by_cases hlt : p < s.size
  · by_cases h : s[p]? = some 123
    · rw [patLoop_placeable s n st p hlt h]; exact placeable hlt h
    · rw [patLoop_text s n st p hlt h]
      cases hpre : patPre s st p with
      | none => exact brk hlt h hpre
      | some ip => exact text ip.1 ip.2 hlt h hpre
  · rw [patLoop_exit s n st p (Nat.le_of_not_lt hlt)]; exact exit (Nat.le_of_not_lt hlt)

theorem patLoop_inv {s : Src} (I Q : PatState → Nat → Prop)
    (hexit : ∀ st p, I st p → s.size ≤ p → Q st p)
    (hbrk : ∀ st p, I st p → p < s.size → s[p]? ≠ some 123 → patPre s st p = none → Q st (patBreak s p))
    (hpl : ∀ n st p e q, I st p → p < s.size → s[p]? = some 123 → getPlaceable s n (p + 1) = .ok e q →
      I (patPlaced st e) q)
    (htext : ∀ st p indent p1 start stop nb term q st2, I st p → p < s.size → s[p]? ≠ some 123 →
      patPre s st p = some (indent, p1) → getTextSlice s p1 = .ok (start, stop, nb, term) q →
      st2Of s st p indent start stop nb term = some st2 → I { st2 with role := patRole term } q) :
    ∀ (n : Nat) (st : PatState) (p : Nat) (st' : PatState) (q : Nat), I st p →
      getPatternLoop s n st p = .ok st' q → Q st' q := by
  intro n
  induction n with
  | zero => intro st p st' q _ h; simp [getPatternLoop] at h
  | succ n ih =>
    intro st p st' q hI
    refine patLoop_cases (motive := fun r => r = .ok st' q → _) s n st p ?_ ?_ ?_ ?_
    · intro hsz h; cases h; exact hexit st p hI hsz
    · intro hlt h123 h
      obtain ⟨e, q1, he, h⟩ := R.bind_eq_ok h
      exact ih _ _ _ _ (hpl n st p e q1 hI hlt h123 he) h
    · intro hlt h123 hpre h; cases h; exact hbrk st p hI hlt h123 hpre
    · intro indent p1 hlt h123 hpre h
      obtain ⟨⟨start, stop, nb, term⟩, q1, hts, h⟩ := R.bind_eq_ok h
      unfold patAfterText at h
      split at h
      · rename_i st2 h2
        exact ih _ _ _ _ (htext st p indent p1 start stop nb term q1 st2 hI hlt h123 hpre hts h2) h
      · cases h

theorem getAttribute_eq (s : Src) (fuel p : Nat) :
    getAttribute s fuel p =
      (getIdentifier s p).bind fun id q =>
        (expectByte s (skipBlankInline s q) 61).bind fun _ q2 =>
          (getPattern s fuel q2).bind fun o q3 =>
            match o with
            | some pat => .ok ⟨id, pat⟩ q3
            | none => .err (mkErr .missingValue q3) q3 := by
  unfold getAttribute
  cases getIdentifier s p with
  | ok id q =>
    simp only [R.bind_ok]
    cases expectByte s (skipBlankInline s q) 61 with
    | ok _ q2 =>
      simp only [R.bind_ok]
      cases getPattern s fuel q2 with
      | ok o q3 => cases o <;> rfl
      | _ => rfl
    | _ => rfl
  | _ => rfl

theorem getAttributesGo_unfold (s : Src) (fuel n : Nat) (acc : List (Attribute Span)) (p : Nat) :
    getAttributesGo s fuel (n + 1) acc p =
      if s[skipBlankInline s p]? = some 46 then
        match getAttribute s fuel (skipBlankInline s p + 1) with
        | .ok a q => getAttributesGo s fuel n (acc ++ [a]) q
        | .err _ _ => .ok acc p
        | .panic m => .panic m
        | .fuel => .fuel
      else .ok acc p := by
  simp only [getAttributesGo, takeByteIf, isCurrentByte, beq_iff_eq]
  split
  · simp only [Bool.not_true, Bool.false_eq_true, if_false]
    cases getAttribute s fuel (skipBlankInline s p + 1) <;> rfl
  · rfl

theorem getMessage_eq (s : Src) (fuel es p : Nat) :
    getMessage s fuel es p =
      (getIdentifier s p).bind fun id q =>
        (expectByte s (skipBlankInline s q) 61).bind fun _ q2 =>
          (getPattern s fuel q2).bind fun pattern q3 =>
            (getAttributes s fuel (skipBlankBlock s q3).1).bind fun attrs q5 =>
              if pattern.isNone && attrs.isEmpty then .err (mkErr2 (.expectedMessageField id) es q5) q5
              else .ok ⟨id, pattern, attrs, none⟩ q5 := by
  unfold getMessage
  cases getIdentifier s p with
  | ok id q =>
    simp only [R.bind_ok]
    cases expectByte s (skipBlankInline s q) 61 with
    | ok _ q2 =>
      simp only [R.bind_ok]
      cases getPattern s fuel q2 with
      | ok o q3 => simp only [R.bind_ok]; cases getAttributes s fuel (skipBlankBlock s q3).1 <;> rfl
      | _ => rfl
    | _ => rfl
  | _ => rfl

theorem getTerm_eq (s : Src) (fuel es p : Nat) :
    getTerm s fuel es p =
      (expectByte s p 45).bind fun _ p0 =>
        (getIdentifier s p0).bind fun id q =>
          (expectByte s (skipBlankInline s q) 61).bind fun _ q2 =>
            (getPattern s fuel (skipBlankInline s q2)).bind fun value q3 =>
              (getAttributes s fuel (skipBlankBlock s q3).1).bind fun attrs q5 =>
                match value with
                | some v => .ok ⟨id, v, attrs, none⟩ q5
                | none => .err (mkErr2 (.expectedTermField id) es q5) q5 := by
  unfold getTerm
  cases expectByte s p 45 with
  | ok _ p0 =>
    simp only [R.bind_ok]
    cases getIdentifier s p0 with
    | ok id q =>
      simp only [R.bind_ok]
      cases expectByte s (skipBlankInline s q) 61 with
      | ok _ q2 =>
        simp only [R.bind_ok]
        cases getPattern s fuel (skipBlankInline s q2) with
        | ok o q3 =>
          simp only [R.bind_ok]
          cases getAttributes s fuel (skipBlankBlock s q3).1 with
          | ok attrs q5 => cases o <;> rfl
          | _ => rfl
        | _ => rfl
      | _ => rfl
    | _ => rfl
  | _ => rfl

theorem getCommentLevel_snd (s : Src) (p : Nat) : (getCommentLevel s p).2 = p + (getCommentLevel s p).1 := by
  unfold getCommentLevel
  split
  · split
    · split <;> rfl
    · rfl
  · rfl

/-- what one round of `get_comment`'s loop does -/
inductive CStep where
  /-- a line of the comment with `l` `#`s and the text `sp`; the next line starts at `p'` -/
  | line (l : Nat) (sp : Span) (p' : Nat)
  /-- the comment is over: its level is `lv`, the cursor goes to `q` -/
  | stop (lv q : Nat)
  /-- the `#`s of the first line are followed by neither a space nor the end of the line, at `q` -/
  | bad (q : Nat)
  | panic (m : String)

/-- the text of a comment line from `p2` on (`get_comment_line`), and where the next line starts -/
def commentTextStep (s : Src) (l p2 : Nat) : CStep :=
  match slice s p2 (commentLineEndGo s (s.size - p2) p2) with
  | some sp => .line l sp ((skipEol s (commentLineEndGo s (s.size - p2) p2)).getD (commentLineEndGo s (s.size - p2) p2))
  | none => .panic "get_comment_line slice"

/-- one round of `get_comment` at the line start `p`; `level` is the level of the lines read so far (0: none yet, then
`first` holds).  The two `ptr -= level` of the Rust loop never underflow and are left out. -/
def commentStep (s : Src) (level : Nat) (first : Bool) (p : Nat) : CStep :=
  if p < s.size then
    if (getCommentLevel s p).1 = 0 then
      match usub p 1 with
      | some q => .stop level q
      | none => .panic "get_comment: ptr -= 1 underflow"
    else if level ≠ 0 ∧ (getCommentLevel s p).1 ≠ level then .stop level p
    else if isEol s (p + (getCommentLevel s p).1) then commentTextStep s (getCommentLevel s p).1 (p + (getCommentLevel s p).1)
    else if s[p + (getCommentLevel s p).1]? = some 32 then
      commentTextStep s (getCommentLevel s p).1 (p + (getCommentLevel s p).1 + 1)
    else if first then .bad (p + (getCommentLevel s p).1)
    else .stop (getCommentLevel s p).1 p
  else .stop level p

theorem getCommentGo_unfold (s : Src) (n level : Nat) (content : List Span) (p : Nat) :
    getCommentGo s (n + 1) level content p =
      match commentStep s level content.isEmpty p with
      | .line l sp p' => getCommentGo s n l (content ++ [sp]) p'
      | .stop lv q => .ok (content, lv) q
      | .bad q => .err (mkErr (.expectedToken 32) q) q
      | .panic m => .panic m := by
  obtain ⟨l, hl⟩ : ∃ l, getCommentLevel s p = (l, p + l) := ⟨_, Prod.ext rfl (getCommentLevel_snd s p)⟩
  have text : ∀ p2, (match getCommentLine s p2 with
      | .ok line q => getCommentGo s n l (content ++ [line]) ((skipEol s q).getD q)
      | .err e q => .err e q
      | .panic m => .panic m
      | .fuel => .fuel) =
      match commentTextStep s l p2 with
      | .line l sp p' => getCommentGo s n l (content ++ [sp]) p'
      | .stop lv q => .ok (content, lv) q
      | .bad q => .err (mkErr (.expectedToken 32) q) q
      | .panic m => .panic m := by
    intro p2
    unfold getCommentLine commentTextStep
    simp only []
    cases slice s p2 (commentLineEndGo s (s.size - p2) p2) <;> rfl
  simp only [getCommentGo, commentStep, hl, beq_iff_eq, bne_iff_ne, ne_eq, Bool.and_eq_true, usub,
    Nat.le_add_left, if_true, Nat.add_sub_cancel, expectByte, isCurrentByte]
  by_cases hlt : p < s.size
  · simp only [hlt, if_true]
    by_cases h0 : l = 0
    · subst h0; simp only [if_true, Nat.add_zero]
      cases (if 1 ≤ p then some (p - 1) else none) <;> rfl
    · simp only [h0, if_false]
      by_cases hd : ¬level = 0 ∧ ¬l = level
      · simp only [hd, not_false_eq_true, and_self, if_true]
      · simp only [hd, if_false]
        by_cases he : isEol s (p + l) = true
        · simp only [he, if_true]; exact text _
        · simp only [he, Bool.false_eq_true, if_false]
          by_cases h32 : s[p + l]? = some 32
          · simp only [h32, if_true]; exact text _
          · simp only [h32, if_false]
            cases content <;> rfl
  · simp only [hlt, if_false]

/-- `get_entry` on a comment `r` (lines, level) that ended at `q`: the entry for its level -/
def entryOfComment (r : List Span × Nat) (q : Nat) : R (Entry Span) :=
  if r.2 == 1 then .ok (.comment r.1) q
  else if r.2 == 2 then .ok (.groupComment r.1) q
  else if r.2 == 3 then .ok (.resourceComment r.1) q
  else .panic "get_entry unreachable (Level::None)"

theorem getEntry_unfold (s : Src) (fuel p : Nat) :
    getEntry s fuel p =
      if s[p]? = some 35 then (getComment s p).bind entryOfComment
      else if s[p]? = some 45 then (getTerm s fuel p p).bind fun t q => .ok (.term t) q
      else (getMessage s fuel p p).bind fun m q => .ok (.message m) q := by
  unfold getEntry
  split
  · rename_i h; rw [if_pos h]; cases getComment s p <;> rfl
  · rename_i h; rw [h, if_neg (by decide), if_pos rfl]; cases getTerm s fuel p p <;> rfl
  · rename_i h1 h2; rw [if_neg h1, if_neg h2]; cases getMessage s fuel p p <;> rfl

theorem getEntryRuntime_unfold (s : Src) (fuel p : Nat) :
    getEntryRuntime s fuel p =
      if s[p]? = some 35 then .ok none (skipComment s p)
      else if s[p]? = some 45 then (getTerm s fuel p p).bind fun t q => .ok (some (.term t)) q
      else (getMessage s fuel p p).bind fun m q => .ok (some (.message m)) q := by
  unfold getEntryRuntime
  split
  · rename_i h; rw [if_pos h]
  · rename_i h; rw [h, if_neg (by decide), if_pos rfl]; cases getTerm s fuel p p <;> rfl
  · rename_i h1 h2; rw [if_neg h1, if_neg h2]; cases getMessage s fuel p p <;> rfl

theorem entryOfComment_cases (r : List Span × Nat) (q : Nat) :
    (∃ e, entryOfComment r q = .ok e q ∧ (e = .comment r.1 ∨ e = .groupComment r.1 ∨ e = .resourceComment r.1)) ∨
    (¬ (1 ≤ r.2 ∧ r.2 ≤ 3) ∧ ∃ m, entryOfComment r q = .panic m) := by
  unfold entryOfComment
  by_cases h1 : (r.2 == 1) = true
  · rw [if_pos h1]; exact Or.inl ⟨_, rfl, Or.inl rfl⟩
  rw [if_neg h1]
  by_cases h2 : (r.2 == 2) = true
  · rw [if_pos h2]; exact Or.inl ⟨_, rfl, Or.inr (Or.inl rfl)⟩
  rw [if_neg h2]
  by_cases h3 : (r.2 == 3) = true
  · rw [if_pos h3]; exact Or.inl ⟨_, rfl, Or.inr (Or.inr rfl)⟩
  rw [if_neg h3]
  simp only [beq_iff_eq] at h1 h2 h3
  exact Or.inr ⟨by omega, _, rfl⟩

theorem getEntry_ok_inv {s : Src} {F p : Nat} {e : Entry Span} {q : Nat} (h : getEntry s F p = .ok e q) :
    (s[p]? = some 35 ∧ ∃ r, getComment s p = .ok r q ∧
      (e = .comment r.1 ∨ e = .groupComment r.1 ∨ e = .resourceComment r.1)) ∨
    (s[p]? = some 45 ∧ ∃ t, e = .term t ∧ getTerm s F p p = .ok t q) ∨
    (s[p]? ≠ some 35 ∧ ∃ m, e = .message m ∧ getMessage s F p p = .ok m q) := by
  rw [getEntry_unfold] at h
  split at h
  · rename_i h35
    obtain ⟨r, q1, hgc, h⟩ := R.bind_eq_ok h
    rcases entryOfComment_cases r q1 with ⟨e', he, hk⟩ | ⟨_, m, hm⟩
    · rw [he] at h; cases h
      exact Or.inl ⟨h35, r, hgc, hk⟩
    · rw [hm] at h; cases h
  · rename_i h35
    split at h
    · rename_i h45
      obtain ⟨t, _, ht, h⟩ := R.bind_eq_ok h
      cases h; exact Or.inr (Or.inl ⟨h45, t, rfl, ht⟩)
    · obtain ⟨m, _, hm, h⟩ := R.bind_eq_ok h
      cases h; exact Or.inr (Or.inr ⟨h35, m, rfl, hm⟩)

theorem entryOfComment_ok {cl : List Span × Nat} {q0 q : Nat} {e : Entry Span} (h : entryOfComment cl q0 = .ok e q) :
    q0 = q ∧ ∀ q', entryOfComment cl q' = .ok e q' := by
  unfold entryOfComment at h ⊢
  by_cases h1 : (cl.2 == 1) = true
  · rw [if_pos h1] at h; cases h; exact ⟨rfl, fun q' => by rw [if_pos h1]⟩
  rw [if_neg h1] at h
  by_cases h2 : (cl.2 == 2) = true
  · rw [if_pos h2] at h; cases h; exact ⟨rfl, fun q' => by rw [if_neg h1, if_pos h2]⟩
  rw [if_neg h2] at h
  by_cases h3 : (cl.2 == 3) = true
  · rw [if_pos h3] at h; cases h; exact ⟨rfl, fun q' => by rw [if_neg h1, if_neg h2, if_pos h3]⟩
  · rw [if_neg h3] at h; cases h

/-- where the text of a placeholder starts once the common indent is removed (the model's local `start'` in `finishElements`) -/
def feStart (ci : Option Nat) (start indent : Nat) (role : TextPos) : Nat :=
  if role == .lineStart then
    match ci with
    | none => start + indent
    | some c => start + min indent c
  else start

theorem feStart_le (c : Option Nat) (start indent : Nat) (role : TextPos) :
    start ≤ feStart c start indent role ∧ feStart c start indent role ≤ start + indent := by
  unfold feStart
  split
  · cases c with
    | none => exact ⟨Nat.le_add_right _ _, Nat.le_refl _⟩
    | some c => exact ⟨Nat.le_add_right _ _, Nat.add_le_add_left (Nat.min_le_left _ _) _⟩
  · exact ⟨Nat.le_refl _, Nat.le_add_right _ _⟩

theorem feStart_nls (c : Option Nat) (a ind : Nat) (role : TextPos) (h : (role == .lineStart) = false) :
    feStart c a ind role = a := by simp [feStart, h]

theorem feStart_zero (c : Option Nat) (a : Nat) (role : TextPos) : feStart c a 0 role = a := by
  unfold feStart; cases c <;> simp

theorem finishElements_text (s : Src) (ci : Option Nat) (lnb i : Nat) (start stop indent : Nat) (role : TextPos)
    (rest : List Placeholder) :
    finishElements s ci lnb i (.text start stop indent role :: rest) =
      if i > lnb then some [] else
      if feStart ci start indent role == stop then finishElements s ci lnb (i + 1) rest
      else match slice s (feStart ci start indent role) stop with
        | none => none
        | some sp =>
          (finishElements s ci lnb (i + 1) rest).map (PatElem.text (if lnb == i then trimEnd s sp else sp) :: ·) := by
  simp only [finishElements]; rfl

theorem finishElements_placeable (s : Src) (c : Option Nat) (lnb i : Nat) (e : Expr Span) (rest : List Placeholder) :
    finishElements s c lnb i (.placeable e :: rest) =
      if i > lnb then some [] else (finishElements s c lnb (i + 1) rest).map (PatElem.placeable e :: ·) := by
  simp only [finishElements]

/-- One step of the loop over the body of a string literal, for two runs that see the same byte under their cursors (and,
behind a backslash, the same byte after it); with `s₂ = s₁` it is the case analysis of a single run.  The escape cases name the
escaped byte `c`, and for `\u`/`\U` the number `len` of hex digits that goes with it, for the users that read the text. -/
theorem scanStringGo_cases₂ {motive : R Unit → R Unit → Prop} (s₁ s₂ : Src) (n₁ n₂ p₁ p₂ : Nat)
    (hget : s₂[p₂]? = s₁[p₁]?) (hget1 : s₁[p₁]? = some 92 → s₂[p₂ + 1]? = s₁[p₁ + 1]?)
    (stop : s₁[p₁]? = none ∨ s₁[p₁]? = some 34 → motive (.ok () p₁) (.ok () p₂))
    (esc : ∀ c, s₁[p₁]? = some 92 → s₁[p₁ + 1]? = some c → c = 92 ∨ c = 34 →
      motive (scanStringGo s₁ n₁ (p₁ + 2)) (scanStringGo s₂ n₂ (p₂ + 2)))
    (uni : ∀ c len, s₁[p₁]? = some 92 → s₁[p₁ + 1]? = some c → (c = 117 ∧ len = 4) ∨ (c = 85 ∧ len = 6) →
      motive ((skipUnicodeEscapeSequence s₁ (p₁ + 2) len).bind fun _ q => scanStringGo s₁ n₁ q)
        ((skipUnicodeEscapeSequence s₂ (p₂ + 2) len).bind fun _ q => scanStringGo s₂ n₂ q))
    (badEsc : s₁[p₁]? = some 92 → s₁[p₁ + 1]? ≠ some 92 → s₁[p₁ + 1]? ≠ some 34 → s₁[p₁ + 1]? ≠ some 117 →
      s₁[p₁ + 1]? ≠ some 85 →
      motive (.err (mkErr (.unknownEscapeSequence s₁[p₁ + 1]?) p₁) p₁)
        (.err (mkErr (.unknownEscapeSequence s₁[p₁ + 1]?) p₂) p₂))
    (nl : s₁[p₁]? = some 10 →
      motive (.err (mkErr .unterminatedStringLiteral p₁) p₁) (.err (mkErr .unterminatedStringLiteral p₂) p₂))
    (other : ∀ b, s₁[p₁]? = some b → b ≠ 92 → b ≠ 34 → b ≠ 10 →
      motive (scanStringGo s₁ n₁ (p₁ + 1)) (scanStringGo s₂ n₂ (p₂ + 1))) :
    motive (scanStringGo s₁ (n₁ + 1) p₁) (scanStringGo s₂ (n₂ + 1) p₂) := by
  simp only [scanStringGo, hget]
  split
  · rename_i h; exact stop (Or.inl h)
  · rename_i h92
    rw [hget1 h92]
    split
    · rename_i h; exact esc 92 h92 h (Or.inl rfl)
    · rename_i h; exact esc 34 h92 h (Or.inr rfl)
    · rename_i h
      have := uni 117 4 h92 h (Or.inl ⟨rfl, rfl⟩)
      revert this
      cases skipUnicodeEscapeSequence s₁ (p₁ + 2) 4 <;> cases skipUnicodeEscapeSequence s₂ (p₂ + 2) 4 <;> exact id
    · rename_i h
      have := uni 85 6 h92 h (Or.inr ⟨rfl, rfl⟩)
      revert this
      cases skipUnicodeEscapeSequence s₁ (p₁ + 2) 6 <;> cases skipUnicodeEscapeSequence s₂ (p₂ + 2) 6 <;> exact id
    · rename_i g92 g34 g117 g85; exact badEsc h92 g92 g34 g117 g85
  · rename_i h; exact stop (Or.inr h)
  · rename_i h; exact nl h
  · rename_i b h92 h34 h10 h
    exact other b h h92 h34 h10

end FluentProofs.Parser

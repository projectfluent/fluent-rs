import FluentProofs.ParserLoopRun
import FluentProofs.ParserLocalDefs
/-!
# Locality of the parser (C03): the two entry loops, whatever the entry parsers do

The two loops as instances of `runLoop` (`ParserLoopRun`): the accumulators are only appended to (`parseLoop_acc_eq`), a
larger iteration budget does not change a finished run (`parseLoop_mono_N`); and for the full parser: the blank-line count
matters only while a comment is pending (`parseLoop_none_cnt`), and a comment pending in front of an entry that is not a
comment only changes how that entry is recorded (`parseLoop_pending`).
-/
namespace FluentProofs.Parser
open FluentModel.Syntax

theorem parseLoop_acc_eq (s : Src) (F : Nat) (N : Nat) (body : List (Entry Span)) (errs : List PErr)
    (lc : Option (List Span)) (cnt p : Nat) :
    parseLoop s F N body errs lc cnt p = mapD (prep body errs) (parseLoop s F N [] [] lc cnt p) := by
  rw [parseLoop_eq_run, parseLoop_eq_run, runLoop_acc_eq]

theorem parseLoop_mono_N (s : Src) (F : Nat) {N N' : Nat} (hN : N ≤ N') {body : List (Entry Span)} {errs : List PErr}
    {lc : Option (List Span)} {cnt p : Nat} {r : List (Entry Span) × List PErr}
    (h : parseLoop s F N body errs lc cnt p = .done r) : parseLoop s F N' body errs lc cnt p = .done r := by
  rw [parseLoop_eq_run] at h ⊢
  exact runLoop_mono_N N N' hN _ _ _ _ _ r h

theorem loopStep_none_cnt (s : Src) (F cnt p : Nat) : loopStep s F none cnt p = loopStep s F none 0 p := by
  unfold loopStep
  cases getEntry s F p with
  | ok e q => cases e <;> rfl
  | err e q => rfl
  | panic m => rfl
  | fuel => rfl

theorem parseLoop_none_cnt (s : Src) (F N : Nat) (body : List (Entry Span)) (errs : List PErr) (cnt p : Nat) :
    parseLoop s F N body errs none cnt p = parseLoop s F N body errs none 0 p := by
  cases N with
  | zero => simp only [parseLoop_zero]
  | succ N => rw [parseLoop_loopStep, parseLoop_loopStep, loopStep_none_cnt]

theorem attachC_append (c : List Span) (cnt : Nat) (e : Entry Span) (rest x : List (Entry Span)) :
    attachC c cnt ((e :: rest) ++ x) = attachC c cnt (e :: rest) ++ x := by
  cases e <;> simp only [attachC, List.cons_append] <;> split <;> simp

def attachStep (c : List Span) (cnt : Nat) : StepR → StepR
  | .next ab ae lc' cnt' p' => .next (attachC c cnt ab) ae lc' cnt' p'
  | o => o

theorem getEntry_ok_of_not_hash {s : Src} {F p : Nat} {e : Entry Span} {q : Nat} (h35 : s[p]? ≠ some 35)
    (h : getEntry s F p = .ok e q) : (∃ t, e = .term t) ∨ ∃ m, e = .message m := by
  rcases getEntry_ok_inv h with ⟨h, _⟩ | ⟨_, t, rfl, _⟩ | ⟨_, m, rfl, _⟩
  · exact absurd h h35
  · exact Or.inl ⟨t, rfl⟩
  · exact Or.inr ⟨m, rfl⟩

theorem loopStep_pending {s : Src} {p : Nat} (h35 : s[p]? ≠ some 35) (F : Nat) (c : List Span) (cnt : Nat) :
    loopStep s F (some c) cnt p = attachStep c cnt (loopStep s F none 0 p) ∧
    ∀ ab ae lc' cnt' p', loopStep s F none 0 p = .next ab ae lc' cnt' p' → ∃ e rest, ab = e :: rest := by
  cases hge : getEntry s F p with
  | ok e q =>
    rw [loopStep_ok hge, loopStep_ok hge]
    rcases getEntry_ok_of_not_hash h35 hge with ⟨t, rfl⟩ | ⟨m, rfl⟩
    · refine ⟨?_, fun ab ae lc' cnt' p' h => by cases h; exact ⟨_, _, rfl⟩⟩
      simp only [recorded, pendingAfter, attachStep, attachC]
    · refine ⟨?_, fun ab ae lc' cnt' p' h => by cases h; exact ⟨_, _, rfl⟩⟩
      simp only [recorded, pendingAfter, attachStep, attachC]
  | err e q =>
    rw [loopStep_err_eq hge, loopStep_err_eq hge]
    unfold junkStep
    cases skipToNextEntryStart s p q with
    | none => exact ⟨rfl, by intro ab ae lc' cnt' p' h; cases h⟩
    | some q1 =>
      simp only []
      cases FluentModel.Syntax.slice s p q1 with
      | none => exact ⟨rfl, by intro ab ae lc' cnt' p' h; cases h⟩
      | some content => exact ⟨rfl, by intro ab ae lc' cnt' p' h; cases h; exact ⟨_, _, rfl⟩⟩
  | panic m =>
    unfold loopStep
    rw [hge]
    exact ⟨rfl, by intro ab ae lc' cnt' p' h; cases h⟩
  | fuel =>
    unfold loopStep
    rw [hge]
    exact ⟨rfl, by intro ab ae lc' cnt' p' h; cases h⟩

theorem parseLoop_pending {s : Src} {p : Nat} (hp : p < s.size) (h35 : s[p]? ≠ some 35) (F N : Nat) (c : List Span)
    (cnt : Nat) :
    parseLoop s F N [] [] (some c) cnt p =
      mapD (fun r => (attachC c cnt r.1, r.2)) (parseLoop s F N [] [] none 0 p) := by
  cases N with
  | zero => simp only [parseLoop_zero, mapD_fuel]
  | succ N =>
    rw [parseLoop_loopStep, parseLoop_loopStep]
    simp only [hp, if_true]
    obtain ⟨h1, h2⟩ := loopStep_pending h35 F c cnt
    rw [h1]
    cases hst : loopStep s F none 0 p with
    | next ab ae lc' cnt' p' =>
      obtain ⟨e, rest, rfl⟩ := h2 _ _ _ _ _ hst
      simp only [attachStep]
      rw [parseLoop_acc_eq s F N ([] ++ attachC c cnt (e :: rest)), parseLoop_acc_eq s F N ([] ++ e :: rest), mapD_mapD]
      congr 1; funext r
      simp only [prep, Function.comp, List.nil_append]
      rw [attachC_append]
    | panic m => rfl
    | fuel => rfl

theorem parseRuntimeLoop_acc_eq (s : Src) (F : Nat) (N : Nat) (body : List (Entry Span)) (errs : List PErr) (p : Nat) :
    parseRuntimeLoop s F N body errs p = mapD (prep body errs) (parseRuntimeLoop s F N [] [] p) := by
  rw [parseRuntimeLoop_eq_run, parseRuntimeLoop_eq_run, runLoop_acc_eq]

theorem parseRuntimeLoop_mono_N (s : Src) (F : Nat) {N N' : Nat} (hN : N ≤ N') {body : List (Entry Span)}
    {errs : List PErr} {p : Nat} {r : List (Entry Span) × List PErr}
    (h : parseRuntimeLoop s F N body errs p = .done r) : parseRuntimeLoop s F N' body errs p = .done r := by
  rw [parseRuntimeLoop_eq_run] at h ⊢
  exact runLoop_mono_N N N' hN _ _ _ _ _ r h

end FluentProofs.Parser

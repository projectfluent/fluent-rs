import FluentModel.Generated
import FluentModel.Resolver
/-!
# Constant tie for the resolver model (C06–C09)

`tools/extract_consts.py` regenerates `FluentModel/Generated.lean` from the Rust source on every run.
The theorems here compare the extracted values with what the resolver model holds as literals: the
isolation marks `fsi`/`pdi` and the keyword table of `Resolver.categoryOfKeyword`.
`max_placeables_fits_u8` is not an equation but the inequality on the extracted limit that the `u8`
counter of the resolver needs; the proofs of C06, C07 and C09 use it.  The resolver's property files import
this file, so a change of one of these constants in the Rust source fails their build (in addition to
whatever the correspondence check observes).
-/
namespace FluentProofs.ConstTie
open FluentModel FluentModel.Generated

/-- UTF-8 of a BMP code point ≥ 0x800 (three bytes) -/
def utf8of3 (cp : Nat) : Bytes :=
  [UInt8.ofNat (0xE0 + cp / 4096), UInt8.ofNat (0x80 + (cp / 64) % 64), UInt8.ofNat (0x80 + cp % 64)]

/-- C09: the isolation marks the resolver model writes are the characters `pattern.rs` writes -/
theorem fsi_pdi_from_source :
    Resolver.fsi = utf8of3 fsiCodePoint ∧ Resolver.pdi = utf8of3 pdiCodePoint ∧
    0x800 ≤ fsiCodePoint ∧ fsiCodePoint < 0x10000 ∧ 0x800 ≤ pdiCodePoint ∧ pdiCodePoint < 0x10000 := by decide

/-- C07: the plural keywords `FluentValue::matches` recognises, and the category each denotes, for
`Resolver.categoryOfKeyword` (`Plural.categoryOfKeyword` is tied in `ConstTieNum`) -/
theorem plural_keywords_from_source :
    pluralKeywords.map (fun kc => (Resolver.categoryOfKeyword (strBytes kc.1)).map fun c =>
      match c with
      | .zero => "zero" | .one => "one" | .two => "two" | .few => "few" | .many => "many" | .other => "other")
      = pluralKeywords.map (fun kc => some kc.2) := by decide +kernel

/-- C06: the placeable limit fits the `u8` counter with room for the increment that trips it -/
theorem max_placeables_fits_u8 : maxPlaceables ≤ 254 := by decide

end FluentProofs.ConstTie

import FluentModel.Cache
/-!
# Lemmas about the cache LTS (`FluentModel.Cache`): one step by cases, and the safety invariant

The vocabulary `CacheLive` and `CacheOps` build on: `PollCase`, the five ways one `poll_next` can go, and `StepCase`, the state
after one label, each with the resulting state spelled out by the consumer updates `deliver`, `advance`, `park`, `unpark`,
`begin`, `stop`.

`Safe all s` – the cache and the unread script together are the source's item order `all`, the pull
counter equals the cache length, every stream has been handed exactly the first `curr` cached items,
and a cursor beyond the cache exists only once the source has ended.
-/
namespace FluentProofs.Cache
open FluentModel.Cache

variable {α : Type}

@[simp] theorem modCons_cons (s : St α) (c : Task) (f) (t : Task) :
    (s.modCons c f).cons t = if t = c then f (s.cons c) else s.cons t := rfl
@[simp] theorem modCons_items (s : St α) (c : Task) (f) : (s.modCons c f).items = s.items := rfl
@[simp] theorem modCons_src (s : St α) (c : Task) (f) : (s.modCons c f).src = s.src := rfl
@[simp] theorem modCons_pending (s : St α) (c : Task) (f) : (s.modCons c f).pending = s.pending := rfl
@[simp] theorem modCons_wakeLog (s : St α) (c : Task) (f) : (s.modCons c f).wakeLog = s.wakeLog := rfl
@[simp] theorem modCons_grp (s : St α) (c : Task) (f) : (s.modCons c f).grp = s.grp := rfl

@[simp] theorem wake_items (s : St α) (t : Task) : (s.wake t).items = s.items := rfl
@[simp] theorem wake_src (s : St α) (t : Task) : (s.wake t).src = s.src := rfl
@[simp] theorem wake_pending (s : St α) (t : Task) : (s.wake t).pending = s.pending := rfl
@[simp] theorem wake_grp (s : St α) (t : Task) : (s.wake t).grp = s.grp := rfl
@[simp] theorem wake_cons (s : St α) (w u : Task) :
    (s.wake w).cons u = if s.grp u = w then { s.cons u with woken := true } else s.cons u := rfl

theorem wakeAll_inv {β : Type} (π : St α → β) (h : ∀ s t, π (St.wake s t) = π s) (s : St α) (ts : List Task) :
    π (s.wakeAll ts) = π s := by
  induction ts generalizing s with
  | nil => rfl
  | cons t r ih => exact (ih (s.wake t)).trans (h s t)

@[simp] theorem wakeAll_items (s : St α) (ts : List Task) : (s.wakeAll ts).items = s.items :=
  wakeAll_inv (·.items) (fun _ _ => rfl) s ts
@[simp] theorem wakeAll_src (s : St α) (ts : List Task) : (s.wakeAll ts).src = s.src :=
  wakeAll_inv (·.src) (fun _ _ => rfl) s ts
@[simp] theorem wakeAll_pending (s : St α) (ts : List Task) : (s.wakeAll ts).pending = s.pending :=
  wakeAll_inv (·.pending) (fun _ _ => rfl) s ts
@[simp] theorem wakeAll_grp (s : St α) (ts : List Task) : (s.wakeAll ts).grp = s.grp :=
  wakeAll_inv (·.grp) (fun _ _ => rfl) s ts

theorem wakeAll_cons (s : St α) (ts : List Task) (u : Task) :
    (s.wakeAll ts).cons u = { s.cons u with woken := (s.cons u).woken || decide (s.grp u ∈ ts) } := by
  induction ts generalizing s with
  | nil => simp [St.wakeAll]
  | cons t r ih =>
    have : St.wakeAll s (t :: r) = St.wakeAll (s.wake t) r := rfl
    rw [this, ih]
    have hmem : decide (s.grp u ∈ t :: r) = (decide (s.grp u = t) || decide (s.grp u ∈ r)) := by
      simp
    rw [hmem]
    by_cases h : s.grp u = t
    · simp [h]
    · simp [h]; rfl

theorem poll_ready_some {src src' : Source α} {w : Task} {it : α}
    (h : src.poll w = (src', .ready (some it))) :
    src.need = 0 ∧ ∃ n r, src.rest = (n, it) :: r ∧
      src' = { src with rest := r, polls := src.polls + 1, pulls := src.pulls + 1 } := by
  unfold Source.poll at h
  split at h
  · rename_i hn
    split at h
    · rename_i n it' r hr
      simp only [Prod.mk.injEq, PollRes.ready.injEq, Option.some.injEq] at h
      exact ⟨hn, n, r, by rw [hr, h.2], h.1.symm⟩
    · simp at h
  · simp at h

theorem poll_ready_none {src src' : Source α} {w : Task}
    (h : src.poll w = (src', .ready none)) :
    src.need = 0 ∧ src.rest = [] ∧ src.endNeed = 0 ∧ src' = { src with polls := src.polls + 1 } := by
  unfold Source.poll at h
  split at h
  · rename_i hn
    split at h
    · simp at h
    · rename_i hr
      simp only [Prod.mk.injEq] at h
      refine ⟨hn, hr, ?_, h.1.symm⟩
      simpa [Source.need, hr] using hn
  · simp at h

theorem poll_pending {src src' : Source α} {w : Task}
    (h : src.poll w = (src', .pending)) :
    src.need ≠ 0 ∧ src' = { src with waker := some w, polls := src.polls + 1 } := by
  unfold Source.poll at h
  split at h
  · split at h <;> simp at h
  · rename_i hn
    simp only [Prod.mk.injEq] at h
    exact ⟨hn, h.1.symm⟩

structure Safe (all : List α) (s : St α) : Prop where
  /-- cache ++ unread script = the source's items, in order -/
  order : s.items ++ s.src.rest.map (·.2) = all
  /-- as many items are cached as the source has yielded -/
  pulls : s.src.pulls = s.items.length
  /-- what a stream has delivered is the cache prefix up to its cursor -/
  got : ∀ c, (s.cons c).got = s.items.take (s.cons c).curr
  /-- a cursor runs at most one past the cache (the step that reported the end moved it there) -/
  bound : ∀ c, (s.cons c).curr ≤ s.items.length + 1
  /-- a cursor beyond the cache means the source has ended (so the cache will not grow) -/
  over : ∀ c, s.items.length < (s.cons c).curr → s.src.rest = [] ∧ s.src.endNeed = 0

theorem safe_init (script : List (Nat × α)) (e : Nat) (grp : Task → Task := id) :
    Safe (script.map (·.2)) (init script e grp) := by
  constructor <;> simp [init]

theorem pollNextItem_pending {s s' : St α} {c : Task} (h : pollNextItem s c = (s', .pending)) :
    ∃ src', s.src.poll (s.grp c) = (src', .pending) ∧
      s' = { s with src := src', pending := s.pending ++ [s.grp c] } := by
  unfold pollNextItem at h
  split at h
  · simp at h
  · rename_i src' hp
    simp only [Prod.mk.injEq, and_true] at h
    exact ⟨src', hp, h.symm⟩

theorem pollNextItem_ready {s s' : St α} {c : Task} {v : Option α} (h : pollNextItem s c = (s', .ready v)) :
    ∃ src', s.src.poll (s.grp c) = (src', .ready v) ∧
      s' = St.wakeAll { s with src := src', pending := [] } s.pending := by
  unfold pollNextItem at h
  split at h
  · rename_i src' v' hp
    simp only [Prod.mk.injEq, PollRes.ready.injEq] at h
    exact ⟨src', by rw [hp, h.2], h.1.symm⟩
  · simp at h

/-- consumer update: the stream hands out `xs` and moves its cursor to `n` -/
def deliver (n : Nat) (xs : List α) (k : Consumer α) : Consumer α :=
  { k with curr := n, waiting := false, got := k.got ++ xs }
/-- consumer update: the stream reports the end and moves its cursor to `n` -/
def advance (n : Nat) (k : Consumer α) : Consumer α := { k with curr := n, waiting := false }
/-- consumer update: the stream returned `Pending` -/
def park (k : Consumer α) : Consumer α := { k with waiting := true }
/-- consumer update: the stream returned `Ready(None)` beyond the cache -/
def unpark (k : Consumer α) : Consumer α := { k with waiting := false }

/-- the five ways one `poll_next` of a stream can go, with the resulting state spelled out -/
inductive PollCase (s : St α) (c : Task) : St α × PollRes α → Prop
  | cached (h : (s.cons c).curr < s.items.length) :
    PollCase s c (s.modCons c (deliver ((s.cons c).curr + 1) (s.items[(s.cons c).curr]?).toList),
      .ready s.items[(s.cons c).curr]?)
  | pend (src' : Source α) (h : (s.cons c).curr = s.items.length)
      (hp : s.src.poll (s.grp c) = (src', .pending)) :
    PollCase s c (St.modCons { s with src := src', pending := s.pending ++ [s.grp c] } c park, .pending)
  | item (src' : Source α) (it : α) (h : (s.cons c).curr = s.items.length)
      (hp : s.src.poll (s.grp c) = (src', .ready (some it))) :
    PollCase s c (St.modCons { (St.wakeAll { s with src := src', pending := [] } s.pending) with
        items := s.items ++ [it] } c (deliver ((s.cons c).curr + 1) [it]), .ready (some it))
  | ended (src' : Source α) (h : (s.cons c).curr = s.items.length)
      (hp : s.src.poll (s.grp c) = (src', .ready none)) :
    PollCase s c (St.modCons (St.wakeAll { s with src := src', pending := [] } s.pending) c
        (advance ((s.cons c).curr + 1)), .ready none)
  | over (h : s.items.length < (s.cons c).curr) :
    PollCase s c (s.modCons c unpark, .ready none)

theorem pollNext_cases (s : St α) (c : Task) : PollCase s c (pollNext s c) := by
  unfold pollNext
  simp only []
  split
  · rename_i h; exact .cached h
  · rename_i h1
    split
    · rename_i h
      split
      · rename_i s' hq
        obtain ⟨src', hp, rfl⟩ := pollNextItem_pending hq
        exact .pend src' h hp
      · rename_i s' it hq
        obtain ⟨src', hp, rfl⟩ := pollNextItem_ready hq
        have := PollCase.item (s := s) (c := c) src' it h hp
        simp only [wakeAll_items]
        exact this
      · rename_i s' hq
        obtain ⟨src', hp, rfl⟩ := pollNextItem_ready hq
        exact .ended src' h hp
    · rename_i h2
      exact .over (by omega)

@[simp] theorem deliver_curr (n : Nat) (xs : List α) (k) : (deliver n xs k).curr = n := rfl
@[simp] theorem deliver_got (n : Nat) (xs : List α) (k) : (deliver n xs k).got = k.got ++ xs := rfl
@[simp] theorem deliver_waiting (n : Nat) (xs : List α) (k) : (deliver n xs k).waiting = false := rfl
@[simp] theorem deliver_active (n : Nat) (xs : List α) (k) : (deliver n xs k).active = k.active := rfl
@[simp] theorem deliver_woken (n : Nat) (xs : List α) (k) : (deliver n xs k).woken = k.woken := rfl
@[simp] theorem deliver_want (n : Nat) (xs : List α) (k) : (deliver n xs k).want = k.want := rfl
@[simp] theorem advance_curr (n : Nat) (k : Consumer α) : (advance n k).curr = n := rfl
@[simp] theorem advance_got (n : Nat) (k : Consumer α) : (advance n k).got = k.got := rfl
@[simp] theorem advance_waiting (n : Nat) (k : Consumer α) : (advance n k).waiting = false := rfl
@[simp] theorem advance_active (n : Nat) (k : Consumer α) : (advance n k).active = k.active := rfl
@[simp] theorem advance_woken (n : Nat) (k : Consumer α) : (advance n k).woken = k.woken := rfl
@[simp] theorem advance_want (n : Nat) (k : Consumer α) : (advance n k).want = k.want := rfl
@[simp] theorem park_curr (k : Consumer α) : (park k).curr = k.curr := rfl
@[simp] theorem park_got (k : Consumer α) : (park k).got = k.got := rfl
@[simp] theorem park_waiting (k : Consumer α) : (park k).waiting = true := rfl
@[simp] theorem park_active (k : Consumer α) : (park k).active = k.active := rfl
@[simp] theorem park_woken (k : Consumer α) : (park k).woken = k.woken := rfl
@[simp] theorem park_want (k : Consumer α) : (park k).want = k.want := rfl
@[simp] theorem unpark_curr (k : Consumer α) : (unpark k).curr = k.curr := rfl
@[simp] theorem unpark_got (k : Consumer α) : (unpark k).got = k.got := rfl
@[simp] theorem unpark_waiting (k : Consumer α) : (unpark k).waiting = false := rfl
@[simp] theorem unpark_active (k : Consumer α) : (unpark k).active = k.active := rfl
@[simp] theorem unpark_woken (k : Consumer α) : (unpark k).woken = k.woken := rfl
@[simp] theorem unpark_want (k : Consumer α) : (unpark k).want = k.want := rfl

theorem Safe.modCons {all : List α} {s : St α} (hs : Safe all s) (c : Task) (f : Consumer α → Consumer α)
    (hgot : (f (s.cons c)).got = s.items.take (f (s.cons c)).curr)
    (hbound : (f (s.cons c)).curr ≤ s.items.length + 1)
    (hover : s.items.length < (f (s.cons c)).curr → s.src.rest = [] ∧ s.src.endNeed = 0) :
    Safe all (s.modCons c f) := by
  refine ⟨hs.order, hs.pulls, fun t => ?_, fun t => ?_, fun t => ?_⟩ <;> rw [modCons_cons] <;> split
  · exact hgot
  · exact hs.got t
  · exact hbound
  · exact hs.bound t
  · exact hover
  · exact hs.over t

theorem safe_of_same {all : List α} {s s' : St α} (hs : Safe all s)
    (hi : s'.items = s.items) (hr : s'.src.rest = s.src.rest) (he : s'.src.endNeed = s.src.endNeed)
    (hp : s'.src.pulls = s.src.pulls)
    (hc : ∀ t, (s'.cons t).curr = (s.cons t).curr ∧ (s'.cons t).got = (s.cons t).got) : Safe all s' := by
  refine ⟨?_, ?_, ?_, ?_, ?_⟩
  · rw [hi, hr]; exact hs.order
  · rw [hi, hp]; exact hs.pulls
  · intro t; rw [(hc t).1, (hc t).2, hi]; exact hs.got t
  · intro t; rw [(hc t).1, hi]; exact hs.bound t
  · intro t; rw [(hc t).1, hi, hr, he]; exact hs.over t

theorem Safe.modCons_same {all : List α} {s : St α} (hs : Safe all s) (c : Task) (f : Consumer α → Consumer α)
    (hcurr : (f (s.cons c)).curr = (s.cons c).curr) (hgot : (f (s.cons c)).got = (s.cons c).got) :
    Safe all (s.modCons c f) :=
  hs.modCons c f (by rw [hgot, hcurr]; exact hs.got c) (by rw [hcurr]; exact hs.bound c)
    (by rw [hcurr]; exact hs.over c)

theorem safe_push {all : List α} {s s' : St α} (hs : Safe all s) {n : Nat} {it : α} {r : List (Nat × α)}
    (hr : s.src.rest = (n, it) :: r) (hi : s'.items = s.items ++ [it]) (hr' : s'.src.rest = r)
    (hp : s'.src.pulls = s.src.pulls + 1)
    (hc : ∀ t, (s'.cons t).curr = (s.cons t).curr ∧ (s'.cons t).got = (s.cons t).got) : Safe all s' := by
  have hle : ∀ t, (s.cons t).curr ≤ s.items.length := fun t =>
    Nat.le_of_not_lt fun hlt => by have := (hs.over t hlt).1; rw [hr] at this; cases this
  refine ⟨?_, ?_, fun t => ?_, fun t => ?_, fun t hlt => ?_⟩
  · rw [hi, hr', ← hs.order, hr]; simp
  · rw [hi, hp, hs.pulls]; simp
  · rw [(hc t).1, (hc t).2, hi, List.take_append_of_le_length (hle t)]; exact hs.got t
  · rw [(hc t).1, hi]; have := hle t; simp; omega
  · rw [(hc t).1, hi] at hlt; have := hle t; simp at hlt; omega

theorem safe_wakeAll {all : List α} {s : St α} (hs : Safe all s) (ts : List Task) : Safe all (s.wakeAll ts) :=
  safe_of_same hs (wakeAll_items _ _) (by rw [wakeAll_src]) (by rw [wakeAll_src]) (by rw [wakeAll_src])
    fun t => by rw [wakeAll_cons]; exact ⟨rfl, rfl⟩

theorem safe_pollNext {all : List α} {s : St α} (c : Task) (hs : Safe all s) :
    Safe all (pollNext s c).1 := by
  have hc := pollNext_cases s c
  generalize pollNext s c = r at hc
  cases hc with
  | cached h =>
    refine hs.modCons c _ ?_ ?_ ?_
    · rw [deliver_got, deliver_curr, hs.got c, List.take_add_one]
    · rw [deliver_curr]; omega
    · rw [deliver_curr]; omega
  | pend src' h hp =>
    obtain ⟨_, rfl⟩ := poll_pending hp
    refine Safe.modCons_same ?_ c park rfl rfl
    exact safe_of_same hs rfl rfl rfl rfl fun _ => ⟨rfl, rfl⟩
  | item src' it h hp =>
    obtain ⟨_, n, r, hr, rfl⟩ := poll_ready_some hp
    refine Safe.modCons (s := { St.wakeAll _ _ with items := s.items ++ [it] })
      (safe_push hs hr rfl (by show (St.wakeAll _ _).src.rest = r; rw [wakeAll_src])
        (by show (St.wakeAll _ _).src.pulls = _; rw [wakeAll_src]) fun t => ?_) c _ ?_ ?_ ?_
    · show ((St.wakeAll _ _).cons t).curr = _ ∧ ((St.wakeAll _ _).cons t).got = _
      rw [wakeAll_cons]; exact ⟨rfl, rfl⟩
    · show ((St.wakeAll _ _).cons c).got ++ [it] = List.take ((s.cons c).curr + 1) (s.items ++ [it])
      rw [wakeAll_cons, h, List.take_of_length_le (by simp)]
      show (s.cons c).got ++ [it] = _
      rw [hs.got c, h, List.take_length]
    · show (s.cons c).curr + 1 ≤ (s.items ++ [it]).length + 1
      simp [h]
    · intro k
      have : (s.items ++ [it]).length < (s.cons c).curr + 1 := k
      simp [h] at this
  | ended src' h hp =>
    obtain ⟨_, hr, he, rfl⟩ := poll_ready_none hp
    refine Safe.modCons (safe_wakeAll ?_ _) c _ ?_ ?_ ?_
    · exact safe_of_same hs rfl rfl rfl rfl fun _ => ⟨rfl, rfl⟩
    · rw [advance_got, advance_curr, wakeAll_cons, wakeAll_items, h, List.take_of_length_le (Nat.le_succ _)]
      show (s.cons c).got = _
      rw [hs.got c, h, List.take_length]
    · rw [advance_curr, wakeAll_items, h]; exact Nat.le_refl _
    · intro _; rw [wakeAll_src]; exact ⟨hr, he⟩
  | over h => exact hs.modCons_same c unpark rfl rfl

/-- `fire` events the source still needs in total -/
def totalNeed (src : Source α) : Nat := (src.rest.map (·.1)).sum + src.endNeed

theorem fire_cases (src : Source α) :
    (src.need = 0 ∧ src.fire = (src, none)) ∨
    (src.need ≠ 0 ∧ ∃ src', src.fire = (src', src.waker) ∧ totalNeed src' + 1 = totalNeed src ∧
      src'.rest.map (·.2) = src.rest.map (·.2) ∧ src'.pulls = src.pulls ∧ src'.polls = src.polls ∧
      src'.waker = none) := by
  unfold Source.fire
  by_cases h : src.need = 0
  · left; simp [h]
  · right
    refine ⟨h, ?_⟩
    simp only [h, if_false]
    cases hr : src.rest with
    | nil =>
      simp only [Source.need, hr] at h
      refine ⟨_, rfl, ?_⟩
      simp [totalNeed, hr]; omega
    | cons p r =>
      obtain ⟨n, it⟩ := p
      simp only [Source.need, hr] at h
      refine ⟨_, rfl, ?_⟩
      simp [totalNeed, hr]; omega

/-- consumer update: a request of depth `d` is issued -/
def begin (d : Nat) (k : Consumer α) : Consumer α :=
  { k with active := true, want := d, curr := 0, waiting := false, got := [] }
/-- consumer update: the request is complete -/
def stop (k : Consumer α) : Consumer α := { k with active := false }

/-- the state after one label, by kind.  Nothing happens: a request issued by a busy task, the finish of a waiting
request, a poll of an idle task, an event for a source that is ready.  Otherwise: a request begins; a request ends;
one `poll_next`, without or with the executor clearing the task's wake flag first; the pending source comes one event
closer and calls the waker it holds, if it holds one. -/
inductive StepCase (s : St α) : Label → St α → Prop
  | busy (c : Task) (d : Nat) (h : (s.cons c).active = true) : StepCase s (.start c d) s
  | start (c : Task) (d : Nat) (h : (s.cons c).active = false) : StepCase s (.start c d) (s.modCons c (begin d))
  | waits (c : Task) (h : (s.cons c).waiting = true) : StepCase s (.finish c) s
  | finish (c : Task) (h : (s.cons c).waiting = false) : StepCase s (.finish c) (s.modCons c stop)
  | asleep (c : Task) (fresh : Bool) (h : (s.cons c).active = false) : StepCase s (.poll c fresh) s
  | poll (c : Task) (h : (s.cons c).active = true) : StepCase s (.poll c false) (pollNext s c).1
  | pollFresh (c : Task) (h : (s.cons c).active = true) :
      StepCase s (.poll c true) (pollNext (clearWoken s c) c).1
  | ready (h : s.src.need = 0) : StepCase s .fire s
  | fired (src' : Source α) (hw : s.src.waker = none) (hn : s.src.need ≠ 0)
      (hN : totalNeed src' + 1 = totalNeed s.src) (hm : src'.rest.map (·.2) = s.src.rest.map (·.2))
      (hpu : src'.pulls = s.src.pulls) (hpo : src'.polls = s.src.polls) (hwn : src'.waker = none) :
      StepCase s .fire { s with src := src' }
  | firedWake (src' : Source α) (w : Task) (hw : s.src.waker = some w) (hn : s.src.need ≠ 0)
      (hN : totalNeed src' + 1 = totalNeed s.src) (hm : src'.rest.map (·.2) = s.src.rest.map (·.2))
      (hpu : src'.pulls = s.src.pulls) (hpo : src'.polls = s.src.polls) (hwn : src'.waker = none) :
      StepCase s .fire (St.wake { s with src := src' } w)

theorem step_cases (s : St α) (l : Label) : StepCase s l (step s l) := by
  cases l with
  | start c d =>
    show StepCase s _ (startReq s c d)
    unfold startReq
    by_cases h : (s.cons c).active = true
    · rw [if_pos h]; exact .busy c d h
    · rw [if_neg h]; exact .start c d (by simpa using h)
  | finish c =>
    show StepCase s _ (finishReq s c)
    unfold finishReq
    by_cases h : (s.cons c).waiting = true
    · rw [if_pos h]; exact .waits c h
    · rw [if_neg h]; exact .finish c (by simpa using h)
  | poll c fresh =>
    show StepCase s _ (if (s.cons c).active = true then _ else s)
    by_cases h : (s.cons c).active = true
    · rw [if_pos h]
      cases fresh
      · exact .poll c h
      · exact .pollFresh c h
    · rw [if_neg h]; exact .asleep c fresh (by simpa using h)
  | fire =>
    show StepCase s _ (fireSrc s)
    unfold fireSrc
    rcases fire_cases s.src with ⟨hn, h⟩ | ⟨hn, src', h, hN, hm, hpu, hpo, hwn⟩
    · rw [h]; exact .ready hn
    · rw [h]
      cases hw : s.src.waker with
      | none => exact .fired src' hw hn hN hm hpu hpo hwn
      | some w => exact .firedWake src' w hw hn hN hm hpu hpo hwn

@[simp] theorem pollNext_grp (s : St α) (c : Task) : (pollNext s c).1.grp = s.grp := by
  have hc := pollNext_cases s c
  generalize pollNext s c = r at hc
  cases hc <;> simp

@[simp] theorem clearWoken_grp (s : St α) (c : Task) : (clearWoken s c).grp = s.grp := rfl

@[simp] theorem step_grp (s : St α) (l : Label) : (step s l).grp = s.grp := by
  have hc := step_cases s l
  generalize step s l = s' at hc ⊢
  cases hc with
  | poll => exact pollNext_grp s _
  | pollFresh => exact pollNext_grp _ _
  | _ => rfl

@[simp] theorem run_grp (s : St α) (ls : List Label) : (run s ls).grp = s.grp := by
  induction ls generalizing s with
  | nil => rfl
  | cons l r ih => exact (ih (step s l)).trans (step_grp s l)

theorem safe_fire {all : List α} {s : St α} {src' : Source α} (hs : Safe all s) (hn : s.src.need ≠ 0)
    (hm : src'.rest.map (·.2) = s.src.rest.map (·.2)) (hpu : src'.pulls = s.src.pulls) :
    Safe all { s with src := src' } := by
  refine ⟨?_, ?_, hs.got, hs.bound, fun t ht => ?_⟩
  · show s.items ++ src'.rest.map (·.2) = all
    rw [hm]; exact hs.order
  · show src'.pulls = s.items.length
    rw [hpu]; exact hs.pulls
  · have := hs.over t ht
    exact absurd (by simp [Source.need, this.1, this.2]) hn

theorem safe_step {all : List α} {s : St α} (l : Label) (hs : Safe all s) : Safe all (step s l) := by
  have hc := step_cases s l
  generalize step s l = s' at hc ⊢
  cases hc with
  | busy | waits | asleep | ready => exact hs
  | start c d h => exact hs.modCons c _ rfl (Nat.zero_le _) (fun k => absurd k (Nat.not_lt_zero _))
  | finish c h => exact hs.modCons_same c _ rfl rfl
  | poll c h => exact safe_pollNext c hs
  | pollFresh c h => exact safe_pollNext c (hs.modCons_same c _ rfl rfl)
  | fired src' _ hn _ hm hpu => exact safe_fire hs hn hm hpu
  | firedWake src' w _ hn _ hm hpu =>
    -- the waker only sets `woken` flags
    refine safe_of_same (safe_fire hs hn hm hpu) rfl rfl rfl rfl fun t => ?_
    rw [wake_cons]; split <;> exact ⟨rfl, rfl⟩

theorem safe_run {all : List α} {s : St α} (ls : List Label) (hs : Safe all s) : Safe all (run s ls) := by
  induction ls generalizing s with
  | nil => exact hs
  | cons l r ih => exact ih (safe_step l hs)

end FluentProofs.Cache

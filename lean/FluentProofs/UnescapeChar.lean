/-! Characters as numbers: facts shared by the proofs about string escapes (C13) and pseudolocalisation (C20). -/
namespace FluentProofs

theorem char_eq_of_toNat {c d : Char} (h : c.toNat = d.toNat) : c = d :=
  Char.ext (UInt32.toNat_inj.1 h)

theorem char_le_iff (a b : Char) : a ≤ b ↔ a.toNat ≤ b.toNat := by
  rw [Char.le_def, UInt32.le_iff_toNat_le]; rfl

theorem utf8Size_of_lt_128 (c : Char) (h : c.toNat < 128) : c.utf8Size = 1 := by
  have hle : c.val ≤ 0x7f := UInt32.le_iff_toNat_le.2 (Nat.le_of_lt_succ h)
  simp [Char.utf8Size, hle]

end FluentProofs

import FluentModel.SpecGrammar
/-!
# One step of each recursive production of the executable grammar

`SpecGrammar` writes every call of a production as a three-armed `match` on its outcome in which
`.fuel` is passed on and `.fail` either ends the production or starts the next alternative.
`PR.seq` names that shape (`bind`: sequence, `orElse`: ordered choice).  Each production at fuel
`n + 1`, and each entry-level production from `attributeP` to `entryP`, is then equal to a short
expression in `seq`, its callees at fuel `n` and the lexical rules (`pattern_unfold`, … , `entryP_unfold`).
The proofs about all productions by induction on the fuel go through these equations.  The loop over
entries, `resourceRaw`, has no equation here: `SpecFuel` and `SpecResource` unfold it where they use it.
-/
namespace FluentModel.SpecGrammar
variable {α β : Type}

/-- `x`, then `f` on its value and rest; `y` if `x` fails (PEG: once `x` has matched, the choice is
made); out of fuel stays out of fuel -/
def PR.seq (x : PR α) (f : α → Inp → PR β) (y : PR β) : PR β :=
  match x with
  | .ok a r => f a r
  | .fail => y
  | .fuel => .fuel

abbrev PR.bind (x : PR α) (f : α → Inp → PR β) : PR β := x.seq f .fail
abbrev PR.orElse (x y : PR α) : PR α := x.seq .ok y

theorem PR.seq_eq_ok {x : PR α} {f : α → Inp → PR β} {y : PR β} {c : β} {r' : Inp} (h : x.seq f y = .ok c r') :
    (∃ a r, x = .ok a r ∧ f a r = .ok c r') ∨ (x = .fail ∧ y = .ok c r') := by
  cases x with
  | ok a r => exact .inl ⟨a, r, rfl, h⟩
  | fail => exact .inr ⟨rfl, h⟩
  | fuel => cases h

theorem PR.bind_eq_ok {x : PR α} {f : α → Inp → PR β} {c : β} {r' : Inp} (h : x.bind f = .ok c r') :
    ∃ a r, x = .ok a r ∧ f a r = .ok c r' :=
  (PR.seq_eq_ok h).elim id fun h => nomatch h.2

end FluentModel.SpecGrammar

namespace FluentProofs.SpecSteps
open FluentModel FluentModel.Syntax FluentModel.SpecGrammar

-- The equations below hold by unfolding definitions; the elaborator unfolds a `match` whose
-- discriminant is not a constructor only when smart unfolding is off.
set_option smartUnfolding false

theorem pattern_unfold (n : Nat) (i : Inp) :
    pattern (n + 1) i =
      (patternElements n i).bind fun els r =>
        if (finishPattern els).isEmpty then .fail else .ok (finishPattern els) r := by
  rw [pattern.eq_def]; rfl

theorem patternElements_unfold (n : Nat) (i : Inp) :
    patternElements (n + 1) i =
      (patternElement n i).seq (fun els r => (patternElements n r).bind fun more r' => .ok (els ++ more) r')
        (.ok [] i) := by
  rw [patternElements.eq_def]; rfl

/-- `block_placeable ::= blank_block blank_inline? inline_placeable` -/
def blockPlaceable (n : Nat) (i : Inp) : PR (List RawEl) :=
  match blankBlock i with
  | some (c, r1) =>
    (inlinePlaceable n (spaces r1)).bind fun e r =>
      .ok [.text (newlines c), .indent (r1.length - (spaces r1).length), .placeable e] r
  | none => .fail

theorem patternElement_unfold (n : Nat) (i : Inp) :
    patternElement (n + 1) i =
      match textRun i with
      | (b :: t, r) => .ok [.text (b :: t)] r
      | ([], _) =>
        match blockText i with
        | some (els, r) => .ok els r
        | none => (inlinePlaceable n i).seq (fun e r => .ok [.placeable e] r) (blockPlaceable n i) := by
  rw [patternElement.eq_def]; rfl

/-- a placeable after its inline expression `e`: `blank? "->" blank_inline? variant_list` makes `e`
the selector of a SelectExpression -/
def selectTail (n : Nat) (e : Inline Bytes) (r1 : Inp) : PR (Expr Bytes) :=
  match blankOpt r1 with
  | 45 :: 62 :: r2 =>
    if selectorOk e then (variantList n (spaces r2)).bind fun vs r3 => .ok (.select e vs) r3 else .fail
  | _ => .ok (.inline e) r1

theorem inlinePlaceable_unfold (n : Nat) (i : Inp) :
    inlinePlaceable (n + 1) i =
      match i with
      | 123 :: r =>
        (inlineExpression n (blankOpt r)).bind fun e r1 =>
          (selectTail n e r1).bind fun x r4 =>
            match blankOpt r4 with
            | 125 :: r5 => if placeableOk x then .ok x r5 else .fail
            | _ => .fail
      | _ => .fail := by
  rw [inlinePlaceable.eq_def]; rfl

/-- `FunctionReference ::= Identifier CallArguments` -/
def fnRef (n : Nat) (i : Inp) : PR (Inline Bytes) :=
  match identifier i with
  | some (id, r) =>
    (callArguments n r).bind fun (pos, named) r' => if calleeOk id then .ok (.fn id pos named) r' else .fail
  | none => .fail

/-- `TermReference ::= "-" Identifier AttributeAccessor? CallArguments?` after its `-` -/
def termRef (n : Nat) (r : Inp) : PR (Inline Bytes) :=
  match identifier r with
  | some (id, r1) =>
    (callArguments n (attributeAccessorOpt r1).2).seq
      (fun args r3 => .ok (.term id (attributeAccessorOpt r1).1 (some args)) r3)
      (.ok (.term id (attributeAccessorOpt r1).1 none) (attributeAccessorOpt r1).2)
  | none => .fail

theorem inlineExpression_unfold (n : Nat) (i : Inp) :
    inlineExpression (n + 1) i =
      match stringLiteral i with
      | some (v, r) => .ok (.str v) r
      | none =>
      match numberLiteral i with
      | some (v, r) => .ok (.num v) r
      | none =>
      (fnRef n i).orElse <|
      match identifier i with
      | some (id, r) => .ok (.msg id (attributeAccessorOpt r).1) (attributeAccessorOpt r).2
      | none =>
      match i with
      | 45 :: r => termRef n r
      | 36 :: r =>
        (match identifier r with
         | some (id, r1) => .ok (.var id) r1
         | none => .fail)
      | _ => (inlinePlaceable n i).bind fun e r => .ok (.placeable e) r := by
  rw [inlineExpression.eq_def]; rfl

theorem callArguments_unfold (n : Nat) (i : Inp) :
    callArguments (n + 1) i =
      match blankOpt i with
      | 40 :: r =>
        (argumentList n (blankOpt r)).bind fun args r1 =>
          match blankOpt r1 with
          | 41 :: r2 =>
            (match splitArgs args [] [] with
             | some pn => .ok pn r2
             | none => .fail)
          | _ => .fail
      | _ => .fail := by
  rw [callArguments.eq_def]; rfl

theorem argumentList_unfold (n : Nat) (i : Inp) :
    argumentList (n + 1) i =
      (argument n i).seq
        (fun a r =>
          match blankOpt r with
          | 44 :: r1 => (argumentList n (blankOpt r1)).bind fun more r2 => .ok (a :: more) r2
          | _ => .ok [a] r)
        (.ok [] i) := by
  rw [argumentList.eq_def]; rfl

/-- `NamedArgument ::= Identifier blank? ":" blank? (StringLiteral | NumberLiteral)` -/
def namedArg (i : Inp) : Option (Arg × Inp) :=
  match identifier i with
  | some (name, r) =>
    (match blankOpt r with
     | 58 :: r1 =>
       (match stringLiteral (blankOpt r1) with
        | some (v, r3) => some (.named name (.str v), r3)
        | none =>
          match numberLiteral (blankOpt r1) with
          | some (v, r3) => some (.named name (.num v), r3)
          | none => none)
     | _ => none)
  | none => none

theorem argument_unfold (n : Nat) (i : Inp) :
    argument (n + 1) i =
      match namedArg i with
      | some (a, r) => .ok a r
      | none => (inlineExpression n i).bind fun e r => .ok (.positional e) r := by
  rw [argument.eq_def]; rfl

theorem variantList_unfold (n : Nat) (i : Inp) :
    variantList (n + 1) i =
      (variants n i).bind fun vs1 r1 =>
        (variant n true r1).bind fun d r2 =>
          (variants n r2).bind fun vs2 r3 =>
            match lineEnd r3 with
            | some r4 => .ok (vs1 ++ d :: vs2) r4
            | none => .fail := by
  rw [variantList.eq_def]; rfl

theorem variants_unfold (n : Nat) (i : Inp) :
    variants (n + 1) i =
      (variant n false i).seq (fun v r => (variants n r).bind fun more r' => .ok (v :: more) r') (.ok [] i) := by
  rw [variants.eq_def]; rfl

/-- the `"*"` of a default variant -/
def defaultMark (dflt : Bool) (i : Inp) : Option Inp :=
  if dflt then
    match i with
    | 42 :: r => some r
    | _ => none
  else some i

theorem variant_unfold (n : Nat) (dflt : Bool) (i : Inp) :
    variant (n + 1) dflt i =
      match lineEnd i with
      | none => .fail
      | some r =>
        match defaultMark dflt (blankOpt r) with
        | none => .fail
        | some r2 =>
          match variantKey r2 with
          | none => .fail
          | some (k, r3) => (pattern n (spaces r3)).bind fun p r4 => .ok (.mk k p dflt) r4 := by
  rw [variant.eq_def]; rfl

/-- `Identifier blank_inline? "="`, then `k` on the name and the rest -/
def keyThen {β : Type} (i : Inp) (k : Bytes → Inp → PR β) : PR β :=
  match identifier i with
  | some (id, r) =>
    (match spaces r with
     | 61 :: r1 => k id r1
     | _ => .fail)
  | none => .fail

theorem attributeP_unfold (fuel : Nat) (i : Inp) :
    attributeP fuel i =
      match lineEnd i with
      | none => .fail
      | some r =>
        match blankOpt r with
        | 46 :: r1 => keyThen r1 fun id r3 => (pattern fuel (spaces r3)).bind fun p r4 => .ok ⟨id, p⟩ r4
        | _ => .fail := by
  rw [attributeP.eq_def]; rfl

theorem attributesP_unfold (fuel n : Nat) (i : Inp) :
    attributesP fuel (n + 1) i =
      (attributeP fuel i).seq (fun a r => (attributesP fuel n r).bind fun more r' => .ok (a :: more) r')
        (.ok [] i) := by
  rw [attributesP.eq_def]; rfl

theorem messageP_unfold (fuel : Nat) (i : Inp) :
    messageP fuel i =
      keyThen i fun id r1 =>
        (pattern fuel (spaces r1)).seq
          (fun p r3 => (attributesP fuel fuel r3).bind fun as r4 => .ok ⟨id, some p, as, none⟩ r4)
          ((attributesP fuel fuel (spaces r1)).bind fun as r4 =>
            match as with
            | [] => .fail
            | _ => .ok ⟨id, none, as, none⟩ r4) := by
  rw [messageP.eq_def]; rfl

theorem termP_unfold (fuel : Nat) (i : Inp) :
    termP fuel i =
      match i with
      | 45 :: r0 =>
        keyThen r0 fun id r1 =>
          (pattern fuel (spaces r1)).bind fun p r3 =>
            (attributesP fuel fuel r3).bind fun as r4 => .ok ⟨id, p, as, none⟩ r4
      | _ => .fail := by
  rw [termP.eq_def]; rfl

/-- a Message or Term as an entry: it ends with `line_end` -/
def entryLine {α : Type} (mk : α → Entry Bytes) (x : PR α) : PR (Entry Bytes) :=
  x.bind fun a r =>
    match lineEnd r with
    | some r' => .ok (mk a) r'
    | none => .fail

theorem entryP_unfold (fuel : Nat) (i : Inp) :
    entryP fuel i =
      (entryLine .message (messageP fuel i)).orElse
        ((entryLine .term (termP fuel i)).orElse
          (match commentLine i with
           | some ((1, c), r) => .ok (.comment [c]) r
           | some ((2, c), r) => .ok (.groupComment [c]) r
           | some ((_, c), r) => .ok (.resourceComment [c]) r
           | none => .fail)) := by
  rw [entryP.eq_def]; rfl

end FluentProofs.SpecSteps

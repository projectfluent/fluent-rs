import FluentModel.SpecGrammar
/-!
# Blank lines on the grammar's side (C02)

`blank_block ::= (blank_inline? line_end)+` is scanned by `blankBlockScan`, with a count and the start of the current line
as accumulators.  `scans` says once what it does, for every count: nothing on a line that has something on it; otherwise
it takes `n` line breaks and ends at the end of the input or at the start of the first line with something on it (`Canon`),
further on by at least `n` bytes and with the same `blank?`-normal form.  `afterBlank r` is that position when the scan
starts at `r`.  What the other layers need about blank blocks — the length of the rest (fuel), `blank?` after a blank
block (expressions), where a pattern or an entry ends (patterns, entries, the resource loop) — follows from `scans`
without another induction over the scan.

The file begins with what `blank?`, `line_end` and the scan do on a first byte that is not part of a line break
(`NoBreak`).  `NonBlankHead`, `afterBlank` and `Canon` are declared in the namespaces of the files whose statements
are written with them (`SpecEntries`, `SpecRefine`, `SpecResource`).
-/
namespace FluentProofs.SpecLex
open FluentModel.SpecGrammar

theorem spaces_cons_ne {b : UInt8} (r : List UInt8) (h : b ≠ 32) : spaces (b :: r) = b :: r :=
  spaces.eq_2 _ fun _ e => h (List.cons.inj e).1

/-- `b`, followed by `r`, begins no line end -/
def NoBreak (b : UInt8) (r : List UInt8) : Prop := b ≠ 10 ∧ (b = 13 → ∀ t, r ≠ 10 :: t)

theorem NoBreak.of_ne {b : UInt8} {r : List UInt8} (h10 : b ≠ 10) (h13 : b ≠ 13) : NoBreak b r :=
  ⟨h10, fun e => absurd e h13⟩

theorem NoBreak.cr_other {c : UInt8} {r : List UInt8} (h : c ≠ 10) : NoBreak 13 (c :: r) :=
  ⟨by decide, fun _ _ e => h (List.cons.inj e).1⟩

theorem lineEnd_nonbreak {b : UInt8} {r : List UInt8} (h : NoBreak b r) : lineEnd (b :: r) = none :=
  lineEnd.eq_4 _ (fun t e => h.2 (List.cons.inj e).1 t (List.cons.inj e).2) (fun _ e => h.1 (List.cons.inj e).1)
    (fun e => nomatch e)

theorem blankOpt_nonbreak {b : UInt8} {r : List UInt8} (h32 : b ≠ 32) (h : NoBreak b r) :
    blankOpt (b :: r) = b :: r :=
  blankOpt.eq_4 _ (fun _ e => h32 (List.cons.inj e).1) (fun _ e => h.1 (List.cons.inj e).1)
    (fun t e => h.2 (List.cons.inj e).1 t (List.cons.inj e).2)

theorem blankOpt_other {b : UInt8} (r : List UInt8) (h1 : b ≠ 32) (h2 : b ≠ 10) (h3 : b ≠ 13) :
    blankOpt (b :: r) = b :: r :=
  blankOpt_nonbreak h1 (.of_ne h2 h3)

theorem blankOpt_cr_other {b : UInt8} (r : List UInt8) (h1 : b ≠ 10) : blankOpt (13 :: b :: r) = 13 :: b :: r :=
  blankOpt_nonbreak (by decide) (.cr_other h1)

theorem blankOpt_cr_eof : blankOpt [13] = [13] := rfl

theorem scan_nonbreak {b : UInt8} {r : List UInt8} (ls : List UInt8) (c : Nat) (h32 : b ≠ 32) (h : NoBreak b r) :
    blankBlockScan (b :: r) ls c = if c == 0 then none else some (c, ls) :=
  blankBlockScan.eq_5 ls c b r h32 h.1 fun t e => h.2 e t

theorem scan_other {b : UInt8} (r ls : List UInt8) (c : Nat) (h1 : b ≠ 32) (h2 : b ≠ 10) (h3 : b ≠ 13) :
    blankBlockScan (b :: r) ls c = if c == 0 then none else some (c, ls) :=
  scan_nonbreak ls c h1 (.of_ne h2 h3)

theorem blankBlockScan_spaces (i ls : List UInt8) (c : Nat) :
    blankBlockScan i ls c = blankBlockScan (spaces i) ls c := by
  induction i with
  | nil => rfl
  | cons b r ih =>
    by_cases hb : b = 32
    · subst hb; exact ih
    · rw [spaces_cons_ne r hb]

end FluentProofs.SpecLex

namespace FluentProofs.SpecEntries

/-- a byte that is neither a space nor the beginning of a line end -/
def NonBlankHead (l : List UInt8) : Prop :=
  ∃ b t, l = b :: t ∧ b ≠ 32 ∧ b ≠ 10 ∧ ¬ (b = 13 ∧ ∃ t', t = 10 :: t')

end FluentProofs.SpecEntries

namespace FluentProofs.SpecRefine
open FluentModel.SpecGrammar

/-- the input after the blank lines that may follow a pattern (what `get_pattern` leaves: the start of the
first line that does not belong to the pattern) -/
def afterBlank (r : List UInt8) : List UInt8 :=
  match blankBlock r with
  | some (_, r') => r'
  | none => r

end FluentProofs.SpecRefine

namespace FluentProofs.SpecResource
open FluentModel.SpecGrammar FluentProofs.SpecEntries

/-- a position where no blank block starts: the end of input or a line with something on it -/
def Canon (X : List UInt8) : Prop := X = [] ∨ NonBlankHead (spaces X)

end FluentProofs.SpecResource

namespace FluentProofs.SpecBlank
open FluentModel FluentModel.SpecGrammar FluentProofs.SpecLex FluentProofs.SpecEntries FluentProofs.SpecRefine
open FluentProofs.SpecResource

/-- the input begins with a line break -/
def LineBreak (i : List UInt8) : Prop := ∃ X, i = 10 :: X ∨ i = 13 :: 10 :: X

theorem lineEnd_isSome_cases {i : List UInt8} (h : (lineEnd i).isSome = true) : i = [] ∨ LineBreak i := by
  unfold lineEnd at h
  split at h
  · rename_i r; exact Or.inr ⟨r, Or.inr rfl⟩
  · rename_i r; exact Or.inr ⟨r, Or.inl rfl⟩
  · exact Or.inl rfl
  · cases h

theorem blankOpt_lineEnd {i r : List UInt8} (h : lineEnd i = some r) : blankOpt i = blankOpt r := by
  unfold lineEnd at h
  split at h <;> cases h <;> rfl

theorem blankOpt_spaces (i : List UInt8) : blankOpt (spaces i) = blankOpt i := by
  fun_induction spaces i <;> simp_all [blankOpt]

theorem blankOpt_of_nonBlankHead {l : List UInt8} (h : NonBlankHead l) : blankOpt l = l := by
  obtain ⟨b, t, rfl, h1, h2, h3⟩ := h
  exact blankOpt_nonbreak h1 ⟨h2, fun e t' ht => h3 ⟨e, t', ht⟩⟩

theorem blankBlock_nl (X : List UInt8) : blankBlock (10 :: X) = blankBlockScan X X 1 := rfl
theorem blankBlock_crlf (X : List UInt8) : blankBlock (13 :: 10 :: X) = blankBlockScan X X 1 := rfl
theorem blankBlockScan_nl (X ls : List UInt8) (k : Nat) : blankBlockScan (10 :: X) ls k = blankBlockScan X X (k + 1) := rfl
theorem blankBlockScan_crlf (X ls : List UInt8) (k : Nat) :
    blankBlockScan (13 :: 10 :: X) ls k = blankBlockScan X X (k + 1) := rfl

/-- What `blankBlockScan` does from `i`, whatever count `c` it starts with (`ls` is the start of the line): either the
line has something on it and the scan stops at once, or the scan takes `n` line breaks and ends at `x`, the end of the
input or the start of the first line with something on it; `x` lies at least `n` bytes further on, and `blank?` leads
from `i` and from `x` to the same place. -/
def Scans (i ls : List UInt8) : Prop :=
  (NonBlankHead (spaces i) ∧ ∀ c, blankBlockScan i ls c = if c == 0 then none else some (c, ls)) ∨
  (¬ NonBlankHead (spaces i) ∧ ∃ n x, Canon x ∧ (n = 0 → x = []) ∧ x.length + n ≤ i.length ∧
    blankOpt x = blankOpt i ∧ ∀ c, blankBlockScan i ls c = some (c + n, x))

theorem scans (i ls : List UInt8) : Scans i ls := by
  -- a line break of `k` bytes: the scan goes on from the next line `r` with one more on the count
  have brk : ∀ (r j l : List UInt8) (k : Nat), ¬ NonBlankHead (spaces j) → r.length + k = j.length → 0 < k →
      blankOpt j = blankOpt r → (∀ c, blankBlockScan j l c = blankBlockScan r r (c + 1)) → Scans r r → Scans j l := by
    rintro r j l k hj hlen hk hbo eq (⟨h, e⟩ | ⟨_, n, x, h, _, hl, hb, e⟩)
    · exact Or.inr ⟨hj, 1, r, Or.inr h, nofun, hlen ▸ Nat.add_le_add_left hk _, hbo.symm, fun c => (eq c).trans (e (c + 1))⟩
    · refine Or.inr ⟨hj, n + 1, x, h, nofun, ?_, hb.trans hbo.symm,
        fun c => (eq c).trans ((e (c + 1)).trans (by rw [Nat.add_right_comm]; rfl))⟩
      rw [← hlen, ← Nat.add_assoc]
      exact Nat.add_le_add hl hk
  have stop : ∀ (b : UInt8) (t l : List UInt8), (b = 32 → False) → (b = 10 → False) →
      (∀ r, b = 13 → t = 10 :: r → False) → Scans (b :: t) l := fun b t l h1 h2 h3 =>
    Or.inl ⟨⟨b, t, spaces_cons_ne t h1, h1, h2, fun ⟨e, t', e'⟩ => h3 t' e e'⟩, fun c => blankBlockScan.eq_5 l c b t h1 h2 h3⟩
  refine blankBlockScan.induct (motive := fun i ls _ => Scans i ls) ?_ ?_ ?_ ?_ ?_ ?_ i ls 0
  · intro r ls _ ih
    exact ih.imp (fun ⟨h, e⟩ => ⟨h, fun c => (blankBlockScan.eq_1 ls c r).trans (e c)⟩)
      (fun ⟨h, n, x, hx, h0, hl, hb, e⟩ =>
        ⟨h, n, x, hx, h0, Nat.le_succ_of_le hl, hb, fun c => (blankBlockScan.eq_1 ls c r).trans (e c)⟩)
  · intro r ls _ ih
    refine brk r _ _ 1 ?_ rfl Nat.one_pos rfl (fun c => blankBlockScan.eq_2 ls c r) ih
    rw [spaces_cons_ne r (by decide)]
    rintro ⟨b, t, e, _, h10, _⟩
    exact h10 (List.cons.inj e).1.symm
  · intro r ls _ ih
    refine brk r _ _ 2 ?_ rfl (by decide) rfl (fun c => blankBlockScan.eq_3 ls c r) ih
    rw [spaces_cons_ne _ (by decide)]
    rintro ⟨b, t, e, _, _, hcr⟩
    exact hcr ⟨(List.cons.inj e).1.symm, r, (List.cons.inj e).2.symm⟩
  · intro ls _
    exact Or.inr ⟨fun ⟨b, t, e, _⟩ => (by cases e), 0, [], Or.inl rfl, fun _ => rfl, Nat.le_refl _, rfl,
      fun c => blankBlockScan.eq_4 ls c⟩
  · intro b t ls _ h1 h2 h3 _
    exact stop b t ls h1 h2 h3
  · intro b t ls _ h1 h2 h3 _
    exact stop b t ls h1 h2 h3

/-- a blank block takes at least one byte, unless it is the empty line at the end of the input -/
theorem blankBlock_len {i r : Inp} {c : Nat} (h : blankBlock i = some (c, r)) : r.length ≤ i.length - 1 := by
  rcases scans i i with ⟨_, e⟩ | ⟨_, n, x, _, h0, hl, _, e⟩
  · cases (e 0).symm.trans h
  · obtain ⟨rfl, rfl⟩ := Prod.mk.inj (Option.some.inj ((e 0).symm.trans h))
    cases n with
    | zero => rw [h0 rfl]; exact Nat.zero_le _
    | succ n => exact Nat.le_sub_one_of_lt (Nat.lt_of_lt_of_le (Nat.lt_add_of_pos_right (Nat.succ_pos n)) hl)

theorem blankBlockScan_isSome_of_pos (i ls : List UInt8) (c : Nat) (hc : 0 < c) : (blankBlockScan i ls c).isSome = true := by
  rcases scans i ls with ⟨_, e⟩ | ⟨_, _, _, _, _, _, _, e⟩ <;> rw [e c]
  · rw [if_neg (by rw [beq_iff_eq]; exact Nat.ne_of_gt hc)]; rfl
  · rfl

theorem blankBlock_head {b : UInt8} {t : List UInt8} (h : (blankBlock (b :: t)).isSome = true) :
    b = 32 ∨ b = 10 ∨ b = 13 := by
  refine Classical.byContradiction fun hn => ?_
  have hb : blankBlock (b :: t) = none :=
    scan_other t _ 0 (fun e => hn (.inl e)) (fun e => hn (.inr (.inl e))) fun e => hn (.inr (.inr e))
  rw [hb] at h
  cases h

theorem blankBlock_none_iff {X : List UInt8} : blankBlock X = none ↔ NonBlankHead (spaces X) := by
  rcases scans X X with ⟨h, e⟩ | ⟨h, n, x, _, _, _, _, e⟩
  · exact ⟨fun _ => h, fun _ => e 0⟩
  · exact ⟨fun h' => (by cases (e 0).symm.trans h'), fun h' => absurd h' h⟩

theorem afterBlank_nil : afterBlank [] = [] := rfl

theorem afterBlank_of_none {X : List UInt8} (h : blankBlock X = none) : afterBlank X = X := by
  unfold afterBlank; rw [h]

theorem afterBlank_of_some {X x : List UInt8} {n : Nat} (h : blankBlock X = some (n, x)) : afterBlank X = x := by
  unfold afterBlank; rw [h]

theorem afterBlank_canon (X : List UInt8) : Canon (afterBlank X) := by
  rcases scans X X with ⟨h, e⟩ | ⟨_, n, x, hx, _, _, _, e⟩
  · rw [afterBlank_of_none (e 0)]; exact Or.inr h
  · rw [afterBlank_of_some (e 0)]; exact hx

theorem afterBlank_of_canon {X : List UInt8} (h : Canon X) : afterBlank X = X := by
  rcases h with rfl | h
  · exact afterBlank_nil
  · exact afterBlank_of_none (blankBlock_none_iff.mpr h)

theorem blankOpt_afterBlank (r : List UInt8) : blankOpt (afterBlank r) = blankOpt r := by
  rcases scans r r with ⟨_, e⟩ | ⟨_, n, x, _, _, _, hb, e⟩
  · rw [afterBlank_of_none (e 0)]
  · rw [afterBlank_of_some (e 0), hb]

theorem afterBlank_of_break {Y X : List UInt8} (h : blankBlock Y = blankBlockScan X X 1) : afterBlank Y = afterBlank X := by
  rcases scans X X with ⟨_, e⟩ | ⟨_, n, x, _, _, _, _, e⟩
  · rw [afterBlank_of_none (e 0)]; exact afterBlank_of_some (h.trans (e 1))
  · rw [afterBlank_of_some (e 0)]; exact afterBlank_of_some (h.trans (e 1))

theorem afterBlank_lineEnd {r r' : List UInt8} (h : lineEnd r = some r') : afterBlank r = afterBlank r' := by
  rcases lineEnd_isSome_cases (i := r) (by rw [h]; rfl) with rfl | ⟨X, rfl | rfl⟩
  · cases h; rfl
  · obtain rfl : X = r' := Option.some.inj h
    exact afterBlank_of_break (blankBlock_nl X)
  · obtain rfl : X = r' := Option.some.inj h
    exact afterBlank_of_break (blankBlock_crlf X)

theorem afterBlank_spaces (i : List UInt8) : spaces (afterBlank i) = blankOpt i := by
  rw [← blankOpt_afterBlank i, ← blankOpt_spaces]
  rcases afterBlank_canon i with h1 | h1
  · rw [h1]; rfl
  · exact (blankOpt_of_nonBlankHead h1).symm

end FluentProofs.SpecBlank

namespace FluentProofs.SpecResource
open FluentProofs.SpecRefine FluentProofs.SpecBlank

theorem afterBlank_idem (X : List UInt8) : afterBlank (afterBlank X) = afterBlank X :=
  afterBlank_of_canon (afterBlank_canon X)

end FluentProofs.SpecResource

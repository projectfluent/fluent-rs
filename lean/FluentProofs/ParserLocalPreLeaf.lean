import FluentProofs.ParserLocalWin
/-!
# Locality of the parser, PREFIX family, part 1: the leaf scanners on two sources

Under `h : Loc n s₁ s₂` (the sources agree below the line start `n`, and neither has a blank, a line break, `.`, `{` or a
continuation byte at `n`) every leaf function gives the same result on both sources: the blank skippers and the slicing
functions at every position `≤ n`, the scanners at every position `< n` (they stop at the line feed at `n - 1`).  These are
the lemmas of `ParserLocalWin` at distance `0` (`Loc.win`) with the bounds of its edge (`Loc.edge₁`).  `Pre n s₁ s₂` is such
a pair (`Pre.loc`).
-/
namespace FluentProofs.Parser
open FluentModel.Syntax

section
variable {n : Nat} {s₁ s₂ : Src}

namespace Loc

theorem edge₁ (h : Loc n s₁ s₂) : Edge s₁ n := h.win.edge
theorem edge₂ (h : Loc n s₁ s₂) : Edge s₂ n := h.symm.win.edge

end Loc

theorem map_add_zero (o : Option Nat) : o.map (· + 0) = o := by cases o <;> rfl
theorem map_shSpan_zero (o : Option Span) : o.map (shSpan 0) = o := by cases o <;> rfl

theorem skipBlankInline_loc (h : Loc n s₁ s₂) {p : Nat} (hp : p ≤ n) : skipBlankInline s₂ p = skipBlankInline s₁ p :=
  skipBlankInline_win h.win hp

theorem skipEol_loc (h : Loc n s₁ s₂) {p : Nat} (hp : p ≤ n) : skipEol s₂ p = skipEol s₁ p :=
  (skipEol_win h.win hp).trans (map_add_zero _)

theorem isEol_loc (h : Loc n s₁ s₂) {p : Nat} (hp : p < n) : isEol s₂ p = isEol s₁ p := isEol_win h.win hp

theorem skipBlankBlock_loc (h : Loc n s₁ s₂) {p : Nat} (hp : p ≤ n) : skipBlankBlock s₂ p = skipBlankBlock s₁ p :=
  skipBlankBlock_win h.win hp

theorem skipBlank_loc (h : Loc n s₁ s₂) {p : Nat} (hp : p ≤ n) : skipBlank s₂ p = skipBlank s₁ p := skipBlank_win h.win hp

theorem expectByte_loc (h : Loc n s₁ s₂) {p : Nat} (hp : p < n) (b : UInt8) : expectByte s₂ p b = expectByte s₁ p b :=
  (expectByte_win h.win hp b).trans (shR_zero (fun _ => rfl) _)

theorem takeByteIf_loc (h : Loc n s₁ s₂) {p : Nat} (hp : p < n) (b : UInt8) : takeByteIf s₂ p b = takeByteIf s₁ p b :=
  takeByteIf_win h.win hp b

theorem isIdentifierStart_loc (h : Loc n s₁ s₂) {p : Nat} (hp : p < n) : isIdentifierStart s₂ p = isIdentifierStart s₁ p :=
  isIdentifierStart_win h.win hp

theorem isNumberStart_loc (h : Loc n s₁ s₂) {p : Nat} (hp : p < n) : isNumberStart s₂ p = isNumberStart s₁ p :=
  isNumberStart_win h.win hp

theorem slice_loc (h : Loc n s₁ s₂) (a : Nat) {b : Nat} (hb : b ≤ n) : slice s₂ a b = slice s₁ a b :=
  (slice_win h.win a hb).trans (map_shSpan_zero _)

theorem spanBytes_loc (h : Loc n s₁ s₂) {sp : Span} (hsp : sp.stop ≤ n) : spanBytes s₂ sp = spanBytes s₁ sp :=
  spanBytes_win h.win hsp

/-- the duplicate check of `get_call_arguments` -/
theorem named_any_loc (h : Loc n s₁ s₂) (named : List (Span × Inline Span)) (id : Span)
    (hn : ∀ na ∈ named, na.1.stop ≤ n) (hid : id.stop ≤ n) :
    named.any (fun na => spanBytes s₂ na.1 == spanBytes s₂ id) = named.any (fun na => spanBytes s₁ na.1 == spanBytes s₁ id) := by
  induction named with
  | nil => rfl
  | cons na rest ih =>
    simp only [List.any_cons]
    rw [ih (fun x hx => hn x (List.mem_cons_of_mem _ hx)), spanBytes_loc h (hn na (List.mem_cons_self ..)),
      spanBytes_loc h hid]

theorem isCallee_loc (h : Loc n s₁ s₂) {sp : Span} (hsp : sp.stop ≤ n) : isCallee s₂ sp = isCallee s₁ sp :=
  isCallee_win h.win hsp

theorem trimEnd_loc (h : Loc n s₁ s₂) {sp : Span} (hsp : sp.stop ≤ n) : trimEnd s₂ sp = trimEnd s₁ sp :=
  trimEnd_win h.win hsp

theorem finishElements_loc (h : Loc n s₁ s₂) (ci : Option Nat) (lnb : Nat) (i : Nat) (els : List Placeholder)
    (hel : ∀ a b ind r, Placeholder.text a b ind r ∈ els → b ≤ n) :
    finishElements s₂ ci lnb i els = finishElements s₁ ci lnb i els := by
  induction els generalizing i with
  | nil => simp only [finishElements]
  | cons ph rest ih =>
    have ihr := fun j => ih j (fun a b ind r hm => hel a b ind r (List.mem_cons_of_mem _ hm))
    cases ph with
    | placeable e => simp only [finishElements, ihr]
    | text start stop indent role =>
      have hs := hel start stop indent role (List.mem_cons_self ..)
      simp only [finishElements_text, ihr, slice_loc h _ hs]
      generalize feStart ci start indent role = st'
      split
      · rfl
      · split
        · rfl
        · split
          · rfl
          · rename_i sp hsl
            obtain ⟨rfl, _⟩ := slice_eq_some hsl
            rw [trimEnd_loc h hs]

theorem patStart_loc (h : Loc n s₁ s₂) {p : Nat} (hp : p < n) : patStart s₂ p = patStart s₁ p := by
  have hp1 := Nat.le_of_lt (h.edge₁.skipBlankInline_lt hp)
  unfold patStart
  rw [skipBlankInline_loc h (Nat.le_of_lt hp), skipEol_loc h hp1]
  cases hE : skipEol s₁ (skipBlankInline s₁ p) with
  | none => rfl
  | some q0 => simp only [skipBlankBlock_loc h (h.edge₁.skipEol_le hp1 hE)]

theorem patPre_loc (h : Loc n s₁ s₂) (st : PatState) {p : Nat} (hp : p < n) : patPre s₂ st p = patPre s₁ st p := by
  have := patPre_win h.win st hp
  cases hq : patPre s₁ st p <;> rw [hq] at this <;> exact this

theorem patBreak_loc (h : Loc n s₁ s₂) {p : Nat} (hp : p < n) : patBreak s₂ p = patBreak s₁ p := patBreak_win h.win hp

theorem Pre.none₁ (h : Pre n s₁ s₂) {i : Nat} (hi : n ≤ i) : s₁[i]? = none := by
  have := h.size
  simp only [Array.getElem?_eq_none_iff]; omega

theorem Pre.le₂ (h : Pre n s₁ s₂) : n ≤ s₂.size := h.loc.le₂

theorem Pre.lt₂ (h : Pre n s₁ s₂) {p : Nat} (hp : p < n) : p < s₂.size := Nat.lt_of_lt_of_le hp h.le₂

theorem skipBlank_le_n (h : Pre n s₁ s₂) {p : Nat} (hp : p ≤ n) : skipBlank s₁ p ≤ n := h.loc.edge₁.skipBlank_le hp

theorem Pre.succ_lt (h : Pre n s₁ s₂) {p : Nat} {b : UInt8} (hb : s₁[p]? = some b) (hne : b ≠ 10) : p + 1 < n :=
  h.ls.step (by have := get_lt hb; have := h.size; omega) hb hne

theorem Pre.ne_n (h : Pre n s₁ s₂) {c : UInt8} (hc : stopByte c = false) : s₂[n]? ≠ some c := by
  intro hn
  rcases h.stop with h1 | ⟨b, hb, hr⟩
  · have := get_lt hn; omega
  · rw [hn] at hb; cases hb; rw [hc] at hr; cases hr

theorem Pre.cur (h : Pre n s₁ s₂) {p : Nat} (hp : p ≤ n) {c : UInt8} (hc : stopByte c = false) :
    isCurrentByte s₂ p c = isCurrentByte s₁ p c := by
  unfold isCurrentByte
  by_cases hpn : p = n
  · subst hpn
    rw [h.none₁ (Nat.le_refl _)]
    have := h.ne_n hc
    simp [this]
  · rw [h.get p (by omega)]

theorem getNumberLiteral_loc (h : Loc n s₁ s₂) {p : Nat} (hp : p < n) :
    getNumberLiteral s₂ p = getNumberLiteral s₁ p ∧ UN (n - 1) (n - 1) (getNumberLiteral s₁ p) :=
  ⟨(getNumberLiteral_win h.win hp).trans (shR_zero (fun _ => rfl) _), h.edge₁.getNumberLiteral_lt hp⟩

theorem getIdentifierUnchecked_loc (h : Loc n s₁ s₂) {p : Nat} (hp : p < n) :
    getIdentifierUnchecked s₂ p = getIdentifierUnchecked s₁ p ∧
      ∀ sp q, getIdentifierUnchecked s₁ p = .ok sp q → q < n ∧ sp.stop = q :=
  ⟨(getIdentifierUnchecked_win h.win hp (Or.inr rfl)).trans (shR_zero (fun _ => rfl) _),
    fun _ _ hr => h.edge₁.getIdentifierUnchecked_ok hp hr⟩

theorem getIdentifier_loc (h : Loc n s₁ s₂) {p : Nat} (hp : p < n) :
    getIdentifier s₂ p = getIdentifier s₁ p ∧ ∀ sp q, getIdentifier s₁ p = .ok sp q → q < n ∧ sp.stop = q :=
  ⟨(getIdentifier_win h.win hp).trans (shR_zero (fun _ => rfl) _), fun _ _ hr => h.edge₁.getIdentifier_ok hp hr⟩

theorem getAttributeAccessor_loc (h : Loc n s₁ s₂) {p : Nat} (hp : p < n) :
    getAttributeAccessor s₂ p = getAttributeAccessor s₁ p ∧ UN (n - 1) (n - 1) (getAttributeAccessor s₁ p) :=
  ⟨(getAttributeAccessor_win h.win hp).trans (shR_zero (fun o => by cases o <;> rfl) _), h.edge₁.getAttributeAccessor_lt hp⟩

theorem scanString_loc (h : Loc n s₁ s₂) {p : Nat} (hp : p < n) :
    scanString s₂ p = scanString s₁ p ∧ UN (n - 1) (n - 1) (scanString s₁ p) :=
  ⟨(scanString_win h.win hp).trans (shR_zero (fun _ => rfl) _), h.edge₁.scanString_lt hp⟩

theorem getTextSlice_loc (h : Loc n s₁ s₂) {p : Nat} (hp : p < n) : getTextSlice s₂ p = getTextSlice s₁ p :=
  (getTextSlice_win h.win hp).trans (shR_zero (fun _ => rfl) _)

theorem st2Of_loc (h : Loc n s₁ s₂) (st : PatState) (p indent start : Nat) {stop : Nat} (nb : Bool) (term : Termination)
    (hs : stop ≤ n) : st2Of s₂ st p indent start stop nb term = st2Of s₁ st p indent start stop nb term := by
  unfold st2Of
  rw [show survivesOf s₂ start stop nb = survivesOf s₁ start stop nb from survivesOf_win h.win start nb hs]

end
end FluentProofs.Parser

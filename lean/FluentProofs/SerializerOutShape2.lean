import FluentProofs.SerializerOutShape1
import FluentProofs.ParserLineHead
import FluentProofs.ParserLinesWF
/-!
# Serializer lemmas: the loop of `get_pattern` keeps the shape invariant (C04)

Every iteration of `getPatternLoop` (text slice in the middle of a line, empty slice in front of `\r\n`, blank line,
content line, indentation in front of a placeable, placeable) keeps `PInv`; hence the state the loop returns
satisfies it (`patternLoop_pinv`), for every source.
-/
namespace FluentProofs.Ser
open FluentModel FluentModel.Syntax FluentModel.Syntax.Ser FluentProofs.Parser

theorem Slice.role_after {s : Src} {p1 stop : Nat} {nb : Bool} {term : Termination} {q : Nat}
    (hS : Slice s p1 stop nb term q) (hlt : p1 < stop) (a ind : Nat) (role : TextPos)
    (hg : isGhost a stop ind role = false) : RoleOK s (nxt s (.text a stop ind role)) (patRole term) q := by
  obtain ⟨e, hpe, _, hcl, h⟩ := hS
  simp only [nxt, hg, Bool.false_eq_true, if_false, endsLF]
  rcases h with ⟨rfl, rfl, rfl, rfl, _⟩ | ⟨rfl, h123, rfl, rfl, _⟩ | ⟨rfl, h10, _, rfl, rfl, _⟩ | ⟨rfl, h10, h0, h13, rfl, rfl, _⟩
  · have := (hcl (s.size - 1) (by omega) (by omega)).1
    simp only [beq_iff_eq, this, if_false]
    exact Or.inl ⟨rfl, Or.inr (Nat.le_refl _)⟩
  · have := (hcl (q - 1) (by omega) (by omega)).1
    simp only [beq_iff_eq, this, if_false]
    exact Or.inl ⟨rfl, Or.inl h123⟩
  · simp only [Nat.add_sub_cancel, h10, beq_self_eq_true, if_true]
    rfl
  · have := (hcl (q - 1 - 1) (by omega) (by omega)).1
    simp only [beq_iff_eq, this, if_false]
    exact Or.inr ⟨rfl, h10, h13⟩

theorem patPre_facts {s : Src} {st : PatState} {p indent p1 : Nat} (h : patPre s st p = some (indent, p1)) :
    (st.role = .lineStart ∧ p1 = skipBlankInline s p ∧ p + indent = p1 ∧
      ∃ b, s[p1]? = some b ∧ b ≠ 32 ∧ (indent = 0 → b = 10 ∨ (b = 13 ∧ s[p1 + 1]? = some 10)) ∧
        (0 < indent → b ≠ 46 ∧ b ≠ 125 ∧ b ≠ 91 ∧ b ≠ 42)) ∨
    ((st.role == .lineStart) = false ∧ indent = 0 ∧ p1 = p) := by
  rcases patPre_eq_some h with ⟨hr, rfl, rfl⟩ | ⟨hr, rfl, b, H, hc⟩
  · exact Or.inr ⟨by simpa using hr, rfl, rfl⟩
  · refine Or.inl ⟨hr, H.sbi.symm, rfl, b, H.byte, fun h0 => H.ne32 (by rw [h0]), fun h0 => ?_, fun h0 => ?_⟩
    · subst h0
      rcases hc with ⟨_, he⟩ | ⟨h1, _⟩
      · have hb := H.byte
        rw [Nat.add_zero] at hb ⊢
        rcases isEol_cases he with h1 | h1 | ⟨h1, h1'⟩ <;> rw [hb] at h1
        · cases h1
        · cases h1; exact Or.inl rfl
        · cases h1; exact Or.inr ⟨rfl, h1'⟩
      · omega
    · rcases hc with ⟨h1, _⟩ | ⟨_, hc⟩
      · omega
      · refine ⟨?_, ?_, ?_, ?_⟩ <;> (intro h0; subst h0; revert hc; decide)

theorem roleOK_nl {s : Src} {E : PSt} {role : TextPos} {p : Nat} (h : RoleOK s E role p) (h123 : s[p]? = some 123) :
    (role == .lineStart) = nlOf E := by
  cases E with
  | first r => cases r <;> simp only [RoleOK] at h <;> first | (rw [h.1]; rfl) | exact absurd h id
  | afterNl => simp only [RoleOK] at h; rw [h]; rfl
  | afterGhost => simp only [RoleOK] at h; rw [h.1]; rfl
  | afterText =>
    simp only [RoleOK] at h
    rcases h with ⟨h', _⟩ | ⟨_, h', _⟩
    · rw [h']; rfl
    · rw [h123] at h'; cases h'
  | afterPl =>
    simp only [RoleOK] at h
    rcases h with h' | ⟨_, h', _⟩
    · rw [h']; rfl
    · rw [h123] at h'; cases h'

theorem roleOK_nls {s : Src} {E : PSt} {role : TextPos} {p : Nat} (h : RoleOK s E role p)
    (hr : (role == .lineStart) = false) (hp : p < s.size) (h123 : s[p]? ≠ some 123) :
    (E = .first .initialLineStart ∧ role = .initialLineStart ∧
      ∀ c, s[p]? = some c → c ≠ 32 ∧ c ≠ 10 ∧ (c = 13 → s[p + 1]? ≠ some 10)) ∨
    (E = .afterPl ∧ role = .continuation) := by
  cases E with
  | first r =>
    cases r <;> simp only [RoleOK] at h
    · exact Or.inl ⟨rfl, h.1, h.2⟩
    · rw [h.1] at hr; simp at hr
  | afterNl => simp only [RoleOK] at h; rw [h] at hr; simp at hr
  | afterGhost => simp only [RoleOK] at h; exact absurd h.2 h123
  | afterText =>
    simp only [RoleOK] at h
    rcases h with ⟨_, h' | h'⟩ | ⟨h', _⟩
    · exact absurd h' h123
    · omega
    · rw [h'] at hr; simp at hr
  | afterPl =>
    simp only [RoleOK] at h
    rcases h with h | ⟨h', _⟩
    · exact Or.inr ⟨rfl, h⟩
    · rw [h'] at hr; simp at hr

theorem roleOK_ls {s : Src} {E : PSt} {role : TextPos} {p : Nat} (h : RoleOK s E role p) (hr : role = .lineStart) :
    (E = .first .lineStart ∧ s[skipBlankInline s p]? ≠ some 10 ∧
      (s[skipBlankInline s p]? = some 13 → s[skipBlankInline s p + 1]? ≠ some 10)) ∨ E = .afterNl ∨
    ((E = .afterText ∨ E = .afterPl) ∧ s[p]? = some 10 ∧ s[p - 1]? = some 13) := by
  subst hr
  cases E with
  | first r => cases r <;> simp only [RoleOK] at h <;> first | exact Or.inl ⟨rfl, h.2⟩ | (exfalso; simp at h)
  | afterNl => exact Or.inr (Or.inl rfl)
  | afterGhost => simp [RoleOK] at h
  | afterText =>
    simp only [RoleOK] at h
    rcases h with ⟨h', _⟩ | ⟨_, h'⟩
    · cases h'
    · exact Or.inr (Or.inr ⟨Or.inl rfl, h'⟩)
  | afterPl =>
    simp only [RoleOK] at h
    rcases h with h' | ⟨_, h'⟩
    · cases h'
    · exact Or.inr (Or.inr ⟨Or.inr rfl, h'⟩)

theorem roleOK_ls_real {s : Src} {E : PSt} {role : TextPos} {p : Nat} (h : RoleOK s E role p)
    (hr : role = .lineStart) {b : UInt8} (hb : s[skipBlankInline s p]? = some b) (h10 : b ≠ 10) :
    E = .first .lineStart ∨ E = .afterNl := by
  rcases roleOK_ls h hr with ⟨h, _⟩ | h | ⟨_, h, _⟩
  · exact Or.inl h
  · exact Or.inr h
  · exfalso
    rw [skipBlankInline_of_ne (by rw [h]; decide), h] at hb
    cases hb; exact h10 rfl

section steps
variable {s : Src} {r0 : TextPos} {st st2 : PatState} {p indent p1 start stop : Nat} {nb : Bool} {term : Termination}
  {q : Nat}

theorem step_empty (hI : PInv s r0 st p) (h13 : s[p1]? = some 13) (h10 : s[p1 + 1]? = some 10)
    (hE : endSt s (.first r0) st.elements = .afterNl ∨ endSt s (.first r0) st.elements = .afterPl)
    (hst : start = p1) (hS : Slice s p1 stop nb term q)
    (h2 : st2Of s st p indent start stop nb term = some st2) : PInv s r0 { st2 with role := patRole term } q := by
  obtain ⟨rfl, rfl, rfl⟩ := hS.at_crlf h13 h10
  subst hst
  have : st2Of s st p indent start start nb .crlf = some st := by simp [st2Of]
  rw [this] at h2
  cases h2
  refine ⟨hI.chk, ?_, hI.ci, hI.lnb⟩
  show RoleOK s (endSt s (.first r0) st.elements) .lineStart (start + 1)
  rcases hE with h | h <;> rw [h]
  · rfl
  · exact Or.inr ⟨rfl, h10, h13⟩

theorem step_mid (hI : PInv s r0 st p) (hp : p < s.size) (h123 : s[p]? ≠ some 123)
    (hr : (st.role == .lineStart) = false) (hst : start = p) (hS : Slice s p stop nb term q)
    (h2 : st2Of s st p 0 start stop nb term = some st2) : PInv s r0 { st2 with role := patRole term } q := by
  have hE := roleOK_nls hI.role hr hp h123
  have hsome : s[p]? = some s[p] := by simp [hp]
  by_cases h13 : s[p]? = some 13 ∧ s[p + 1]? = some 10
  · rcases hE with ⟨_, _, hc⟩ | ⟨hE, _⟩
    · exact absurd h13.2 ((hc 13 h13.1).2.2 rfl)
    · exact step_empty hI h13.1 h13.2 (Or.inr hE) hst hS h2
  · subst hst
    have hlt : start < stop := by
      by_cases h10 : s[start]? = some 10
      · have := (hS.at_nl h10).2.1; omega
      · exact (hS.at_other hsome (fun h => h10 (by rw [hsome, h])) (fun h => h123 (by rw [hsome, h]))
          (fun h0 h1 => h13 ⟨by rw [hsome, h0], h1⟩)).1
    have hg : isGhost start stop 0 st.role = false := by simp [isGhost, hr]
    have hTB := hS.textBytes (a := start) (fun j j1 j2 => by omega)
    have hr' : st.role ≠ .lineStart := by simpa using hr
    have hne : start ≠ stop := by omega
    refine text_push hI h2 (by simp [hne]) (by simp [hr, hr']) (.text start stop 0 st.role) (by simp [elOf, hr]) ?_ ?_
      (surv_of_survives (by omega)) (hS.role_after hlt start 0 st.role hg)
    · rcases hE with ⟨hE, hrole, hc⟩ | ⟨hE, hrole⟩
      · rw [hE]; exact ⟨hrole, hlt, hTB, _, hsome, (hc _ hsome).1, (hc _ hsome).2.1⟩
      · rw [hE]; exact Or.inl ⟨hrole, hlt, hTB⟩
    · simp only [hr, Bool.false_and, Bool.false_eq_true, if_false, lineInd, List.append_nil]
      exact hI.ci

theorem step_blank (hI : PInv s r0 st p) (hr : st.role = .lineStart) (hp1 : p1 = skipBlankInline s p)
    (h10 : s[p1]? = some 10) (hst : start = p1) (hS : Slice s p1 stop nb term q)
    (h2 : st2Of s st p indent start stop nb term = some st2) : PInv s r0 { st2 with role := patRole term } q := by
  obtain ⟨rfl, rfl, rfl, rfl⟩ := hS.at_nl h10
  subst hst
  have hbl : BlankPh s start (start + 1) 0 := ⟨rfl, rfl, h10⟩
  refine text_push hI h2 (by simp) (by simp) (.text start (start + 1) 0 st.role)
    (by simp [elOf, hr, usub]) ?_ ?_ (by simp [survivesOf]) ?_
  · rcases roleOK_ls hI.role hr with ⟨_, h, _⟩ | h | ⟨h, h10', h13⟩
    · rw [← hp1] at h; exact absurd h10 h
    · rw [h]; exact ⟨hr, Or.inr (Or.inr hbl)⟩
    · have hpl : PendLF s start (start + 1) 0 := by
        rw [hp1, skipBlankInline_of_ne (by rw [h10']; decide)] at hbl ⊢
        exact ⟨hbl, h13⟩
      rcases h with h | h <;> rw [h]
      · exact ⟨hr, hpl⟩
      · exact Or.inr ⟨hr, hpl⟩
  · simp only [hr, Bool.false_or, Bool.and_false, Bool.false_eq_true, if_false, lineInd, isBlankPh, h10,
      beq_self_eq_true, Bool.and_self, Bool.not_true, List.append_nil]
    simpa using hI.ci
  · rw [nxt_blank hbl]; rfl

theorem step_ghost (hI : PInv s r0 st p) (hr : st.role = .lineStart) (hp1 : p1 = skipBlankInline s p)
    (hind : p + indent = p1) (hpos : 0 < indent) (hsp : ∀ j, p ≤ j → j < p1 → s[j]? = some 32)
    (h123 : s[p1]? = some 123) (hst : start = p1) (hS : Slice s p1 stop nb term q)
    (h2 : st2Of s st p indent start stop nb term = some st2) : PInv s r0 { st2 with role := patRole term } q := by
  obtain ⟨rfl, rfl, rfl, rfl⟩ := hS.at_brace h123
  subst hst
  have hlt := get_lt h123
  have hgl : GhostLine s p start indent := ⟨by omega, by omega, hsp⟩
  refine text_push hI h2 (by simp [hr]) (by simp [hr]) (.text p start indent st.role)
    (by simp [elOf, hr]) ?_ ?_ (by simp [survivesOf]) ?_
  · rcases roleOK_ls_real hI.role hr (by rw [← hp1]; exact h123) (by decide) with h | h
    · rw [h]; exact ⟨hr, Or.inr hgl⟩
    · rw [h]; exact ⟨hr, Or.inr (Or.inl hgl)⟩
  · have hb : isBlankPh s p start indent = false := by
      simp only [isBlankPh, Bool.and_eq_false_iff, beq_eq_false_iff_ne]; left; left; omega
    simp only [hr, beq_self_eq_true, Bool.and_self, Bool.or_true, if_true, lineInd, hb, Bool.not_false]
    rw [minL_snoc, ← hI.ci]
  · rw [hr, nxt_ghost hgl]; exact ⟨rfl, h123⟩

theorem step_content (hI : PInv s r0 st p) (hr : st.role = .lineStart) (hp1 : p1 = skipBlankInline s p)
    (hind : p + indent = p1) (hpos : 0 < indent) (hsp : ∀ j, p ≤ j → j < p1 → s[j]? = some 32) {b : UInt8}
    (hb : s[p1]? = some b) (h32 : b ≠ 32) (h10 : b ≠ 10) (h123 : b ≠ 123) (h13 : b = 13 → s[p1 + 1]? ≠ some 10)
    (hcont : b ≠ 46 ∧ b ≠ 125 ∧ b ≠ 91 ∧ b ≠ 42) (hst : start = p1) (hS : Slice s p1 stop nb term q)
    (h2 : st2Of s st p indent start stop nb term = some st2) : PInv s r0 { st2 with role := patRole term } q := by
  obtain ⟨hlt, hnb⟩ := hS.at_other hb h10 h123 h13
  obtain rfl := hnb h32
  subst hst
  have hne' : start ≠ stop := by omega
  have hcl : ContentLine s p stop indent :=
    ⟨by omega, fun j j1 j2 => hsp j j1 (by omega), ⟨b, by rw [hind]; exact hb, h32, h10, hcont.1, hcont.2.2.1, hcont.2.2.2⟩,
      hS.textBytes hsp⟩
  have hg : isGhost p stop indent st.role = false := by simp [isGhost]; intro _; omega
  refine text_push hI h2 (by simp [hne']) (by simp) (.text p stop indent st.role)
    (by simp [elOf]) ?_ ?_ (surv_of_survives (by omega)) (hS.role_after hlt p indent st.role hg)
  · rcases roleOK_ls_real hI.role hr (by rw [← hp1]; exact hb) h10 with h | h
    · rw [h]; exact ⟨hr, Or.inl hcl⟩
    · rw [h]; exact ⟨hr, Or.inl hcl⟩
  · have hbl : isBlankPh s p stop indent = false := by
      simp only [isBlankPh, Bool.and_eq_false_iff, beq_eq_false_iff_ne]; left; left; omega
    simp only [hr, beq_self_eq_true, Bool.true_or, Bool.and_self, if_true, lineInd, hbl, Bool.not_false]
    rw [minL_snoc, ← hI.ci]

theorem step_text (hI : PInv s r0 st p) (hp : p < s.size) (h123 : s[p]? ≠ some 123)
    (hpre : patPre s st p = some (indent, p1)) (hts : getTextSlice s p1 = .ok (start, stop, nb, term) q)
    (h2 : st2Of s st p indent start stop nb term = some st2) : PInv s r0 { st2 with role := patRole term } q := by
  rcases patPre_facts hpre with ⟨hr, hp1, hind, b, hb, h32, hz, hpos⟩ | ⟨hr, rfl, rfl⟩
  · obtain ⟨hst, hS⟩ := getTextSlice_slice (Nat.le_of_lt (get_lt hb)) hts
    have hsp : ∀ j, p ≤ j → j < p1 → s[j]? = some 32 := by rw [hp1]; exact skipBlankInline_spaces s p
    by_cases h10 : b = 10
    · subst h10; exact step_blank hI hr hp1 hb hst hS h2
    · by_cases h13 : b = 13 ∧ s[p1 + 1]? = some 10
      · obtain ⟨h13, h10'⟩ := h13
        subst h13
        refine step_empty hI hb h10' (Or.inl ?_) hst hS h2
        rcases roleOK_ls_real hI.role hr (by rw [← hp1]; exact hb) (by decide) with h | h
        · exfalso
          have := hI.role
          rw [h] at this
          exact this.2.2 (by rw [← hp1]; exact hb) (by rw [← hp1]; exact h10')
        · exact h
      · have hi : 0 < indent := by
          rcases Nat.eq_zero_or_pos indent with h | h
          · rcases hz h with h' | h'
            · exact absurd h' h10
            · exact absurd h' h13
          · exact h
        by_cases hb123 : b = 123
        · subst hb123; exact step_ghost hI hr hp1 hind hi hsp hb hst hS h2
        · exact step_content hI hr hp1 hind hi hsp hb h32 h10 hb123 (fun h0 h1 => h13 ⟨h0, h1⟩) (hpos hi) hst hS h2
  · obtain ⟨hst, hS⟩ := getTextSlice_slice (Nat.le_of_lt hp) hts
    exact step_mid hI hp h123 hr hst hS h2

end steps

theorem patternLoop_pinv {s : Src} (r0 : TextPos) (n : Nat) (st : PatState) (p : Nat) (st' : PatState) (q : Nat)
    (hI : PInv s r0 st p) (h : getPatternLoop s n st p = .ok st' q) : ∃ p', PInv s r0 st' p' := by
  refine patLoop_inv (PInv s r0) (fun st' _ => ∃ p', PInv s r0 st' p') (fun _ _ hI _ => ⟨_, hI⟩)
    (fun _ _ hI _ _ _ => ⟨_, hI⟩) ?_ (fun st p _ _ _ _ _ _ _ _ hI hp h123 hpre hts h2 => step_text hI hp h123 hpre hts h2)
    n st p st' q hI h
  intro n st p e q1 hI _ h123 _
  have hnl := roleOK_nl hI.role h123
  have key := push_pinv hI (.placeable e) (if st.role == .lineStart then some 0 else st.commonIndent) true
    .continuation q1 (by cases endSt s (.first r0) st.elements <;> trivial)
    (by
      simp only [lineInd, ← hnl]
      split
      · rw [minL_snoc, ← hI.ci, stepMin_zero]
      · rw [List.append_nil]; exact hI.ci)
    (fun _ => trivial) (Or.inl rfl)
  simp only [if_true] at key
  exact key

theorem pinv_init_inline {s : Src} (p1 : Nat) (h32 : s[p1]? ≠ some 32) (hE : skipEol s p1 = none) :
    PInv s .initialLineStart ⟨[], none, none, .initialLineStart, none⟩ p1 := by
  refine ⟨trivial, ⟨rfl, ?_⟩, rfl, fun i hi => by cases hi⟩
  intro c hc
  refine ⟨fun h0 => h32 (by rw [hc, h0]), fun h0 => ?_, fun h0 h10 => ?_⟩
  · subst h0; simp [skipEol, hc] at hE
  · subst h0
    simp [skipEol, hc, h10] at hE

theorem pinv_init_block {s : Src} (q : Nat) :
    PInv s .lineStart ⟨[], none, none, .lineStart, none⟩ (skipBlankBlock s q).1 := by
  have hnb : ∀ b, s[skipBlankInline s (skipBlankBlock s q).1]? = some b →
      skipEol s (skipBlankInline s (skipBlankBlock s q).1) = none := by
    intro b hb
    have hlt := get_lt hb
    have hle := (skipBlankInline_after s (skipBlankBlock s q).1).le
    have hnb := skipBlankBlock_notBlank s q (by omega)
    cases hE : skipEol s (skipBlankInline s (skipBlankBlock s q).1) with
    | none => rfl
    | some q' => exact absurd (Or.inl ⟨q', hE⟩) hnb
  refine ⟨trivial, ⟨rfl, ?_, ?_⟩, rfl, fun i hi => by cases hi⟩
  · intro h10
    have := hnb _ h10
    simp [skipEol, h10] at this
  · intro h13 h10
    have := hnb _ h13
    simp [skipEol, h13, h10] at this

end FluentProofs.Ser

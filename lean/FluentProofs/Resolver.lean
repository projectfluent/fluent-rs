import FluentProofs.ResolverEqns
/-!
# Invariants of the resolver model (C06): the placeable counter, `dirty`, the error log, no panic

Everything is proved for every fuel, every `Env`, every AST (parser-produced or not), every scope and
writer, by one induction on the fuel over the ten functions of the mutual block.

`Step a b` relates the scope before a call to the scope after it; `Call a b` adds that the resolution stack
is left as it was.  `Run env sc r` says what a result `r` of a call started in scope `sc` satisfies:
`.ok` → `Call`, `.panic` → the plural rules are partial, or the start scope was neither `ScopeOk` nor dirty,
`.fuel` → nothing.  `Inv env n` holds `Run` of each of the ten functions at fuel `n`, and `inv_all` proves it for every `n`;
`ResolverTotal`, `ResolverBound` and the simulation (`ResolverRefineVal`) read their scope facts off it.  `Good` is the weaker
form without the stack and with `ScopeOk` alone as start condition; `Run.good` derives it, and nothing further rests on it.

The end of the file reads two groups of facts for C07 off `Run` (namespace `FluentProofs.ResolverRefine`): what a
call does once the scope is dirty, and that every call leaves `local_args` and a non-empty `travelled` as it found them.

Parametric in `Generated.maxPlaceables`: only `hmax : Generated.maxPlaceables ≤ 254` is used.
-/
namespace FluentProofs.Resolver
open FluentModel FluentModel.Syntax FluentModel.Resolver
open FluentProofs.ResolverRefine FluentProofs.Bidi

/-- the counter is within the limit, or it is exactly one past the limit and the guard has tripped -/
def ScopeOk (sc : Scope) : Prop :=
  sc.placeables ≤ Generated.maxPlaceables ∨
    (sc.placeables = Generated.maxPlaceables + 1 ∧ sc.dirty = true)

/-- 1 when `dirty` flips from `false` to `true` between `a` and `b`, else 0 -/
def flip (a b : Scope) : Nat := if a.dirty = false ∧ b.dirty = true then 1 else 0

/-- what every call of the mutual block does to the scope -/
structure Step (a b : Scope) : Prop where
  ok : ScopeOk a → ScopeOk b
  placeables : a.placeables ≤ b.placeables
  dirty : a.dirty = true → b.dirty = true
  /-- the log only grows, and `tooManyPlaceables` is appended exactly when `dirty` flips -/
  errors : ∃ l, b.errors = a.errors ++ l ∧ l.count RErr.tooManyPlaceables = flip a b
  /-- the arguments of the enclosing term call are back in force after the call -/
  localArgs : b.localArgs = a.localArgs

/-- the three fields `Step`/`ScopeOk` talk about agree -/
def Same (a b : Scope) : Prop := a.placeables = b.placeables ∧ a.dirty = b.dirty ∧ a.errors = b.errors

theorem ScopeOk.congr {a b : Scope} (h : Same a b) : ScopeOk a → ScopeOk b := by
  obtain ⟨h1, h2, _⟩ := h
  unfold ScopeOk; rw [h1, h2]; exact id

theorem Same.symm {a b : Scope} (h : Same a b) : Same b a := ⟨h.1.symm, h.2.1.symm, h.2.2.symm⟩

theorem Step.congr {a a' b b' : Scope} (h : Step a b) (ha : Same a a') (hb : Same b b')
    (hl : b'.localArgs = a'.localArgs) : Step a' b' := by
  obtain ⟨l, h1, h2⟩ := h.errors
  refine ⟨fun x => ScopeOk.congr hb (h.ok (ScopeOk.congr ha.symm x)), ?_, ?_, ⟨l, ?_, ?_⟩, hl⟩
  · rw [← ha.1, ← hb.1]; exact h.placeables
  · rw [← ha.2.1, ← hb.2.1]; exact h.dirty
  · rw [← ha.2.2, ← hb.2.2]; exact h1
  · unfold flip at *; rw [← ha.2.1, ← hb.2.1]; exact h2

theorem flip_self (a : Scope) : flip a a = 0 := by
  unfold flip; cases a.dirty <;> rfl

theorem Step.refl (a : Scope) : Step a a :=
  ⟨id, Nat.le_refl _, id, ⟨[], (List.append_nil _).symm, (flip_self a).symm⟩, rfl⟩

theorem Step.trans {a b c : Scope} (h1 : Step a b) (h2 : Step b c) : Step a c := by
  obtain ⟨l1, e1, c1⟩ := h1.errors
  obtain ⟨l2, e2, c2⟩ := h2.errors
  refine ⟨fun x => h2.ok (h1.ok x), Nat.le_trans h1.placeables h2.placeables, fun x => h2.dirty (h1.dirty x),
    ⟨l1 ++ l2, by rw [e2, e1, List.append_assoc], ?_⟩, h2.localArgs.trans h1.localArgs⟩
  rw [List.count_append, c1, c2]
  have d1 := h1.dirty
  have d2 := h2.dirty
  unfold flip
  cases ha : a.dirty <;> cases hb : b.dirty <;> cases hc : c.dirty <;> simp_all

theorem Step.addError (a : Scope) (e : RErr) (he : e ≠ .tooManyPlaceables) : Step a (a.addError e) :=
  ⟨id, Nat.le_refl _, id, ⟨[e], rfl, by rw [List.count_singleton, if_neg (by simpa using he)]; exact (flip_self a).symm⟩, rfl⟩

theorem Step.errors_of_dirty {a b : Scope} (h : Step a b) (hd : a.dirty = true) :
    ∃ l, b.errors = a.errors ++ l ∧ RErr.tooManyPlaceables ∉ l := by
  obtain ⟨l, hl, hc⟩ := h.errors
  have hf : flip a b = 0 := by unfold flip; rw [hd]; rfl
  rw [hf] at hc
  exact ⟨l, hl, List.count_eq_zero.1 hc⟩

/-- `Run` without the frame of the resolution stack (`Step` for `Call`) and promising no panic only from a `ScopeOk`
scope (not from a dirty one): see `Run.good` -/
def Good (env : Env) (sc : Scope) {α : Type} (r : RR (α × Scope)) : Prop :=
  match r with
  | .ok p => Step sc p.2
  | .panic _ => ScopeOk sc → ∃ n, env.category n = none
  | .fuel => True

@[simp] theorem good_ok (env : Env) (sc : Scope) {α : Type} (x : α) (sc' : Scope) :
    Good env sc (RR.ok (x, sc')) = Step sc sc' := rfl
@[simp] theorem good_panic (env : Env) (sc : Scope) {α : Type} (m : String) :
    Good env sc (RR.panic m : RR (α × Scope)) = (ScopeOk sc → ∃ n, env.category n = none) := rfl
@[simp] theorem good_fuel (env : Env) (sc : Scope) {α : Type} :
    Good env sc (RR.fuel : RR (α × Scope)) = True := rfl

theorem Good.panic_cast {env : Env} {a : Scope} {α β : Type} {m : String}
    (g : Good env a (RR.panic m : RR (α × Scope))) : Good env a (RR.panic m : RR (β × Scope)) := g

/-- what a call does to the scope: `Step`, and a resolution stack that was not empty is left as it was (the
top-level `maybe_track` pushes the pattern once and never pops it) -/
structure Call (a b : Scope) : Prop extends Step a b where
  travelled : a.travelled ≠ [] → b.travelled = a.travelled

theorem Call.refl (a : Scope) : Call a a := ⟨Step.refl a, fun _ => rfl⟩

theorem Call.trans {a b c : Scope} (h1 : Call a b) (h2 : Call b c) : Call a c :=
  ⟨h1.toStep.trans h2.toStep, fun h => by
    have hb := h1.travelled h
    rw [h2.travelled (by rw [hb]; exact h), hb]⟩

theorem Call.addError (a : Scope) (e : RErr) (he : e ≠ .tooManyPlaceables) : Call a (a.addError e) :=
  ⟨Step.addError a e he, fun _ => rfl⟩

/-- `track`: the pattern is pushed for the call and popped afterwards -/
theorem Call.pop {a b : Scope} {p : Pattern Bytes} (h : Call { a with travelled := a.travelled ++ [p] } b) :
    Call a { b with travelled := b.travelled.dropLast } :=
  ⟨h.toStep.congr ⟨rfl, rfl, rfl⟩ ⟨rfl, rfl, rfl⟩ h.localArgs, fun _ => by
    have := h.travelled (by simp)
    show b.travelled.dropLast = a.travelled
    rw [this]; simp⟩

/-- a term reference: the call's own arguments are installed and the caller's put back -/
theorem Call.restore {a b : Scope} {l : Option ArgList} (h : Call { a with localArgs := l } b) :
    Call a { b with localArgs := a.localArgs } :=
  ⟨h.toStep.congr ⟨rfl, rfl, rfl⟩ ⟨rfl, rfl, rfl⟩ rfl, h.travelled⟩

/-- entering a placeable below the limit: the counter is bumped, `maybe_track` -/
theorem Call.enter {a : Scope} (whole : Pattern Bytes) (hd : a.dirty = false)
    (hb : a.placeables + 1 ≤ Generated.maxPlaceables) : Call a (trackScope whole a) := by
  rw [trackScope_eq]
  refine ⟨⟨fun _ => .inl hb, Nat.le_succ _, id, ⟨[], (List.append_nil _).symm, ?_⟩, rfl⟩,
    fun h => effStack_of_ne_nil whole h⟩
  show 0 = flip a ⟨a.localArgs, a.placeables + 1, effStack a.travelled whole, a.errors, a.dirty⟩
  unfold flip; rw [hd]; rfl

/-- the placeable that takes the counter over the limit: `dirty` is set and the limit reported -/
theorem Call.limit {a : Scope} (hd : a.dirty = false) (hl : a.placeables + 1 > Generated.maxPlaceables) :
    Call a (({ a with placeables := a.placeables + 1, dirty := true } : Scope).addError .tooManyPlaceables) := by
  refine ⟨⟨fun hok => ?_, Nat.le_succ _, fun _ => rfl, ⟨[.tooManyPlaceables], rfl, ?_⟩, rfl⟩, fun _ => rfl⟩
  · rcases hok with h | ⟨_, h⟩
    · exact .inr ⟨by show a.placeables + 1 = _; omega, rfl⟩
    · rw [hd] at h; cases h
  · show 1 = flip a _
    unfold flip; rw [hd]; rfl

/-- a scope in which the `u8` counter cannot overflow: the counter is within the limit, or no placeable is
counted any more -/
def Safe (sc : Scope) : Prop := ScopeOk sc ∨ sc.dirty = true

theorem Step.safe {a b : Scope} (h : Step a b) : Safe a → Safe b
  | .inl x => .inl (h.ok x)
  | .inr x => .inr (h.dirty x)

/-- what the result `r` of a call started in `sc` satisfies, for every function of the block (`inv_all`): a returned
scope is related to `sc` by `Call`; a panic means the plural rules are partial or `sc` was not `Safe` -/
def Run (env : Env) (sc : Scope) {α : Type} (r : RR (α × Scope)) : Prop :=
  match r with
  | .ok p => Call sc p.2
  | .panic _ => Safe sc → ∃ n, env.category n = none
  | .fuel => True

theorem Run.good {env : Env} {a : Scope} {α : Type} {r : RR (α × Scope)} (h : Run env a r) : Good env a r := by
  cases r with
  | ok p => exact h.toStep
  | panic m => exact fun x => h (.inl x)
  | fuel => trivial

theorem Run.trans {env : Env} {a b : Scope} {α : Type} {r : RR (α × Scope)} (h : Call a b) (g : Run env b r) :
    Run env a r := by
  cases r with
  | ok p => exact h.trans g
  | panic m => exact fun x => g (h.toStep.safe x)
  | fuel => trivial

/-- sequencing, where the first call is started in a scope `a'` prepared from `a` (an entry pushed on the stack,
the arguments of a term call installed) and the continuation undoes the preparation -/
theorem Run.bind_from {env : Env} {a a' : Scope} {α β : Type} {r : RR (α × Scope)} {k : α × Scope → RR (β × Scope)}
    (h : Run env a' r) (hs : Safe a → Safe a') (hk : ∀ x b, Call a' b → Run env a (k (x, b))) :
    Run env a (r.bind k) := by
  cases r with
  | ok p => exact hk p.1 p.2 h
  | panic m => exact fun x => h (hs x)
  | fuel => trivial

theorem Run.bind {env : Env} {a : Scope} {α β : Type} {r : RR (α × Scope)} {k : α × Scope → RR (β × Scope)}
    (h : Run env a r) (hk : ∀ x b, Run env b (k (x, b))) : Run env a (r.bind k) :=
  h.bind_from id fun x b hc => Run.trans hc (hk x b)

theorem Run.call_of_ok {env : Env} {a b : Scope} {α : Type} {r : RR (α × Scope)} {x : α}
    (g : Run env a r) (hr : r = .ok (x, b)) : Call a b := by
  subst hr; exact g

theorem Run.step_of_ok {env : Env} {a b : Scope} {α : Type} {r : RR (α × Scope)} {x : α}
    (g : Run env a r) (hr : r = .ok (x, b)) : Step a b := (g.call_of_ok hr).toStep

theorem Run.not_panic {env : Env} {a : Scope} {α : Type} {r : RR (α × Scope)} {m : String}
    (g : Run env a r) (hok : Safe a) (hcat : ∀ n, env.category n ≠ none) : r ≠ .panic m := by
  intro hr; subst hr
  obtain ⟨k, hk⟩ := g hok
  exact hcat k hk

structure Inv (env : Env) (n : Nat) : Prop where
  writeElems : ∀ whole len els w sc, Run env sc (writeElems env n whole len els w sc)
  writePattern : ∀ p w sc, Run env sc (writePattern env n p w sc)
  track : ∀ p e w sc, Run env sc (track env n p e w sc)
  writeExpr : ∀ e w sc, Run env sc (writeExpr env n e w sc)
  writeDefault : ∀ vs w sc, Run env sc (writeDefault env n vs w sc)
  writeInline : ∀ e w sc, Run env sc (writeInline env n e w sc)
  resolveInline : ∀ e sc, Run env sc (resolveInline env n e sc)
  getArguments : ∀ a sc, Run env sc (getArguments env n a sc)
  resolveList : ∀ es sc, Run env sc (resolveList env n es sc)
  resolveNamed : ∀ es sc, Run env sc (resolveNamed env n es sc)

theorem inv_zero (env : Env) : Inv env 0 := by
  constructor <;> intros <;> simp only [writeElems_zero, writePattern_zero, track_zero, writeExpr_zero, writeDefault_zero,
    writeInline_zero, resolveInline_zero, getArguments_zero, resolveList_zero, resolveNamed_zero] <;> trivial

section step
variable {env : Env} {n : Nat} (hmax : Generated.maxPlaceables ≤ 254) (IH : Inv env n)
include IH

include hmax in
theorem writeElems_run (whole : Pattern Bytes) (len : Nat) (els : List (PatElem Bytes)) (w : Bytes) (sc : Scope) :
    Run env sc (writeElems env (n + 1) whole len els w sc) := by
  cases els with
  | nil => rw [writeElems_nil]; exact Call.refl _
  | cons el rest =>
    cases el with
    | text v =>
      rw [writeElems_text]
      by_cases hd : sc.dirty = true
      · rw [if_pos hd]; exact Call.refl _
      · rw [if_neg hd]; exact IH.writeElems _ _ _ _ _
    | placeable e =>
      rw [writeElems_placeable]
      by_cases hd : sc.dirty = true
      · rw [if_pos hd]; exact Call.refl _
      rw [if_neg hd]
      have hd : sc.dirty = false := Bool.eq_false_iff.2 hd
      by_cases h255 : sc.placeables + 1 > 255
      · rw [if_pos h255]
        -- the `u8` counter overflows only from a scope that is neither within the limit nor dirty
        rintro (h | h)
        · rcases h with h | ⟨_, h⟩
          · omega
          · rw [hd] at h; cases h
        · rw [hd] at h; cases h
      rw [if_neg h255]
      by_cases hl : sc.placeables + 1 > Generated.maxPlaceables
      · rw [if_pos hl]; exact Call.limit hd hl
      · rw [if_neg hl]
        exact (Run.trans (Call.enter whole hd (Nat.le_of_not_gt hl)) (IH.writeExpr _ _ _)).bind
          fun _ _ => IH.writeElems _ _ _ _ _

theorem writePattern_run (p : Pattern Bytes) (w : Bytes) (sc : Scope) : Run env sc (writePattern env (n + 1) p w sc) := by
  rw [writePattern_succ]; exact IH.writeElems _ _ _ _ _

theorem track_run (p : Pattern Bytes) (e : Inline Bytes) (w : Bytes) (sc : Scope) :
    Run env sc (track env (n + 1) p e w sc) := by
  rw [track_succ]
  split
  · exact Call.addError _ _ (by simp)
  · exact (IH.writePattern p w _).bind_from id fun _ _ h => Call.pop h

theorem writeDefault_run (vs : List (Variant Bytes)) (w : Bytes) (sc : Scope) :
    Run env sc (writeDefault env (n + 1) vs w sc) := by
  rw [writeDefault_succ]
  split
  · exact IH.writePattern _ _ _
  · exact Call.addError _ _ (by simp)

theorem selectTail_run (vs : List (Variant Bytes)) (w : Bytes) (sc : Scope) (s : Value) :
    Run env sc (selectTail env n vs w sc s) := by
  rcases chosen_cases env vs s with h | ⟨_, v, _, _, h⟩ | ⟨m, x, h, hx⟩
  · rw [selectTail_none h]; exact IH.writeDefault _ _ _
  · rw [selectTail_some h]; exact IH.writePattern _ _ _
  · rw [selectTail_panic h]; exact fun _ => ⟨x, hx⟩

/-- the call's own arguments are installed for the term's pattern only: `Call.restore` -/
theorem termTail_run (id : Bytes) (attr : Option Bytes)
    (args : Option (List (Inline Bytes) × List (Bytes × Inline Bytes))) (w : Bytes) (named : ArgList) (sc : Scope) :
    Run env sc (termTail env n id attr args w named sc) := by
  refine Run.bind_from (a' := { sc with localArgs := some named }) ?_ (fun h => h) fun _ _ h => Call.restore h
  split
  · exact IH.track _ _ _ _
  · exact Call.addError _ _ (by simp)

theorem writeExpr_run (e : Expr Bytes) (w : Bytes) (sc : Scope) : Run env sc (writeExpr env (n + 1) e w sc) := by
  cases e with
  | inline e => rw [writeExpr_inline]; exact IH.writeInline _ _ _
  | select sel vs =>
    rw [writeExpr_select]
    exact (IH.resolveInline sel sc).bind fun _ _ => selectTail_run IH _ _ _ _

theorem getArguments_run (a : Option (List (Inline Bytes) × List (Bytes × Inline Bytes))) (sc : Scope) :
    Run env sc (getArguments env (n + 1) a sc) := by
  cases a with
  | none => rw [getArguments_none]; exact Call.refl _
  | some pn =>
    obtain ⟨pos, named⟩ := pn
    rw [getArguments_some]
    exact (IH.resolveList pos sc).bind fun _ _ => (IH.resolveNamed named _).bind fun _ _ => Call.refl _

theorem resolveList_run (es : List (Inline Bytes)) (sc : Scope) : Run env sc (resolveList env (n + 1) es sc) := by
  cases es with
  | nil => rw [resolveList_nil]; exact Call.refl _
  | cons e es =>
    rw [resolveList_cons]
    exact (IH.resolveInline e sc).bind fun _ _ => (IH.resolveList es _).bind fun _ _ => Call.refl _

theorem resolveNamed_run (es : List (Bytes × Inline Bytes)) (sc : Scope) :
    Run env sc (resolveNamed env (n + 1) es sc) := by
  cases es with
  | nil => rw [resolveNamed_nil]; exact Call.refl _
  | cons ke es =>
    obtain ⟨k, e⟩ := ke
    rw [resolveNamed_cons]
    exact (IH.resolveInline e sc).bind fun _ _ => (IH.resolveNamed es _).bind fun _ _ => Call.refl _

theorem writeInline_run (e : Inline Bytes) (w : Bytes) (sc : Scope) : Run env sc (writeInline env (n + 1) e w sc) := by
  cases e with
  | str v => rw [writeInline_str]; exact Call.refl _
  | num v => rw [writeInline_num]; exact Call.refl _
  | msg id attr =>
    rw [writeInline_msg]
    split
    · exact IH.track _ _ _ _
    · exact Call.addError _ _ (by simp)
    · exact Call.addError _ _ (by simp)
  | term id attr args =>
    rw [writeInline_term]
    exact (IH.getArguments args sc).bind fun _ _ => termTail_run IH _ _ _ _ _ _
  | fn id pos named =>
    rw [writeInline_fn]
    refine (IH.getArguments _ sc).bind fun x sc1 => ?_
    cases env.fn id with
    | some f => exact Call.refl _
    | none => exact Call.addError _ _ (by simp)
  | var id =>
    rw [writeInline_var]
    split
    · split <;> exact Call.refl _
    · split
      · exact Call.refl _
      · exact Call.addError _ _ (by simp)
  | placeable e => rw [writeInline_placeable]; exact IH.writeExpr _ _ _

theorem resolveInline_run (e : Inline Bytes) (sc : Scope) : Run env sc (resolveInline env (n + 1) e sc) := by
  have viaWrite : ∀ e, Run env sc (viaWrite env n e sc) :=
    fun e => (IH.writeInline e [] sc).bind fun _ _ => Call.refl _
  cases e with
  | str v => rw [resolveInline_str]; exact Call.refl _
  | num v => rw [resolveInline_num]; exact Call.refl _
  | var id =>
    rw [resolveInline_var]
    split
    · exact Call.refl _
    · split
      · exact Call.refl _
      · exact Call.addError _ _ (by simp)
  | fn id pos named =>
    rw [resolveInline_fn]
    refine (IH.getArguments _ sc).bind fun x sc1 => ?_
    cases env.fn id with
    | some f => exact Call.refl _
    | none => exact Call.addError _ _ (by simp)
  | msg id attr => rw [resolveInline_msg]; exact viaWrite _
  | term id attr args => rw [resolveInline_term]; exact viaWrite _
  | placeable e => rw [resolveInline_placeable]; exact viaWrite _

end step

theorem inv_all (hmax : Generated.maxPlaceables ≤ 254) (env : Env) : ∀ n, Inv env n := by
  intro n
  induction n with
  | zero => exact inv_zero env
  | succ n IH =>
    exact ⟨writeElems_run hmax IH, writePattern_run IH, track_run IH, writeExpr_run IH, writeDefault_run IH,
      writeInline_run IH, resolveInline_run IH, getArguments_run IH, resolveList_run IH, resolveNamed_run IH⟩

theorem scopeOk_init : ScopeOk ({} : Scope) := Or.inl (Nat.zero_le _)

theorem resolvePattern_run (hmax : Generated.maxPlaceables ≤ 254) (env : Env) (fuel : Nat) (p : Pattern Bytes)
    (sc : Scope) : Run env sc (resolvePattern env fuel p sc) :=
  resolvePattern_cases (T := Run env sc) env fuel p sc (fun _ _ => Call.refl _)
    fun _ => (inv_all hmax env fuel).writePattern _ _ _

theorem final_scope {sc : Scope} (h : Step ({} : Scope) sc) :
    ScopeOk sc ∧ sc.errors.count RErr.tooManyPlaceables = (if sc.dirty then 1 else 0) := by
  refine ⟨h.ok scopeOk_init, ?_⟩
  obtain ⟨l, h1, h2⟩ := h.errors
  have : ({} : Scope).errors = [] := rfl
  rw [h1, this, List.nil_append, h2]
  unfold flip
  have : ({} : Scope).dirty = false := rfl
  rw [this]
  cases sc.dirty <;> simp

/-- either entry point reports the limit at most once per call -/
theorem entry_tooMany (hmax : Generated.maxPlaceables ≤ 254) {env : Env} {fuel : Nat} {p : Pattern Bytes} {w : Bytes}
    {errs : List RErr} (h : formatPattern env fuel p = .ok (w, errs) ∨ writePatternTop env fuel p = .ok (w, errs)) :
    errs.count RErr.tooManyPlaceables ≤ 1 :=
  entry_ok (X := fun _ errs => errs.count RErr.tooManyPlaceables ≤ 1) (fun _ _ => Nat.zero_le _)
    (fun w sc hr => by
      rw [(final_scope (((inv_all hmax env fuel).writePattern p [] {}).step_of_ok hr)).2]; split <;> omega) h

end FluentProofs.Resolver

namespace FluentProofs.ResolverRefine
open FluentModel FluentModel.Syntax FluentModel.Num FluentModel.Resolver
open FluentProofs.Resolver

/-!
## what a call does once the scope is `dirty` (the placeable limit was exceeded)

`dirty` is never reset; from then on `writeElems` returns at once, so no further placeable is counted and
`tooManyPlaceables` is never logged again.  The code still runs to the end of the enclosing
constructs (remaining call arguments are resolved, fallbacks are printed), so it may append *other*
errors.  `Ext log sc'` says exactly that of the scope `sc'` a call ends in, `log` being the log at the moment
`dirty` was set; `DirtyOk log r` lifts it to a call result (`.fuel` is allowed: fuel sufficiency is C06's business;
`.panic` is excluded when the plural rules are total).  Both are read off
the invariant `Resolver.Run` of every call.
-/

/-- `sc'` is a dirty scope whose error log extends `log` by entries none of which is `tooManyPlaceables` -/
def Ext (log : List RErr) (sc' : Scope) : Prop :=
  sc'.dirty = true ∧ ∃ extra, sc'.errors = log ++ extra ∧ RErr.tooManyPlaceables ∉ extra

theorem Ext.refl {sc : Scope} (h : sc.dirty = true) : Ext sc.errors sc := ⟨h, [], by simp, by simp⟩

theorem Ext.trans {l : List RErr} {b c : Scope} (h1 : Ext l b) (h2 : Ext b.errors c) : Ext l c := by
  obtain ⟨_, e1, he1, hn1⟩ := h1
  obtain ⟨hd, e2, he2, hn2⟩ := h2
  exact ⟨hd, e1 ++ e2, by simp [he2, he1], by simp [hn1, hn2]⟩

theorem Ext.step {l : List RErr} {a b : Scope} (h : Ext l a) (hs : Step a b) : Ext l b :=
  h.trans ⟨hs.dirty h.1, hs.errors_of_dirty h.1⟩

/-- result of a model call started in (or having reached) a dirty scope: it does not panic; if it returns
(it may run out of fuel: fuel sufficiency is C06) the scope is still dirty and the log extends `log`
without a second `tooManyPlaceables` -/
def DirtyOk {α : Type} (log : List RErr) : RR (α × Scope) → Prop
  | .fuel => True
  | .panic _ => False
  | .ok (_, sc') => Ext log sc'

/-- the plural rules of the bundle's first locale exist (otherwise `key.matches` panics) -/
def CategoryTotal (env : Env) : Prop := ∀ n, (env.category n).isSome = true

theorem CategoryTotal.ne_none {env : Env} (hc : CategoryTotal env) (n : FluentNumber) : env.category n ≠ none :=
  fun e => by have := hc n; rw [e] at this; cases this

theorem _root_.FluentProofs.Resolver.Run.dirtyOk {env : Env} (hc : CategoryTotal env) {lg : List RErr} {sc : Scope} (h : Ext lg sc) {α : Type}
    {r : RR (α × Scope)} (hr : Run env sc r) : DirtyOk lg r := by
  match r, hr with
  | .ok (_, sc'), hr => exact h.step hr.toStep
  | .panic m, hr => exact absurd rfl (hr.not_panic (.inr h.1) hc.ne_none)
  | .fuel, _ => trivial

theorem DirtyOk.bind {α β : Type} {lg : List RErr} {r : RR (α × Scope)} {k : α × Scope → RR (β × Scope)}
    (h : DirtyOk lg r) (hk : ∀ x sc', Ext lg sc' → DirtyOk lg (k (x, sc'))) : DirtyOk lg (r.bind k) := by
  match r, h with
  | .ok (x, sc'), h => exact hk x sc' h
  | .fuel, _ => trivial

/-!
## every call leaves `local_args` (and a non-empty `travelled`) as it found them

This is the code-level content of "the term's own arguments are back in force when a nested call returns":
whatever a call does (normal return, cycle, missing reference, limit exceeded), if it returns then
`localArgs` is what it was, and so is `travelled` unless it was empty (the top-level `maybe_track` pushes the
pattern once and never pops it).  Unconditional: no hypothesis on the scope, the bundle or the fuel.
It is the part of `Resolver.Call` that does not speak of the counter and the log.
-/

/-- `sc'` has the `localArgs` of `sc`, and its `travelled` if that was non-empty -/
def Fr (sc sc' : Scope) : Prop :=
  sc'.localArgs = sc.localArgs ∧ (sc.travelled ≠ [] → sc'.travelled = sc.travelled)

theorem Fr.refl (sc : Scope) : Fr sc sc := ⟨rfl, fun _ => rfl⟩

theorem Fr.addError {a b : Scope} (h : Fr a b) (e : RErr) : Fr a (b.addError e) := h

theorem Fr.congr {a b b' : Scope} (h : Fr a b) (h1 : b'.localArgs = b.localArgs) (h2 : b'.travelled = b.travelled) :
    Fr a b' := ⟨h1.trans h.1, fun hne => h2.trans (h.2 hne)⟩

theorem _root_.FluentProofs.Resolver.Call.fr {a b : Scope} (h : Call a b) : Fr a b := ⟨h.localArgs, h.travelled⟩

theorem _root_.FluentProofs.Resolver.Run.fr {env : Env} {sc sc' : Scope} {α : Type} {r : RR (α × Scope)} {x : α} (hr : Run env sc r)
    (h : r = .ok (x, sc')) : Fr sc sc' := (hr.call_of_ok h).fr

end FluentProofs.ResolverRefine

import FluentProofs.SerializerRoundtrip
import FluentProofs.SerializerML2
import FluentProofs.SerializerWritePattern
/-!
# Serializer round trip: the select-free statements (C04: `inline_roundtrip`, `pattern_roundtrip_singleline`)

For expressions without select and patterns without line break the writer writes `inlineBytes e` resp. ` ` + `patBytes es` as one
literal, `get_inline_expression` reads `inlineBytes e` back with the nesting budget `fuelInline e`, and `get_pattern` reads a
single-line pattern back as the special case of the class pattern (`getPattern_mlFuel`) whose placeables are `{ i }` / `{{ i }}`
around select-free inline expressions.
-/
namespace FluentProofs.Ser
open FluentModel FluentModel.Syntax FluentModel.Syntax.Ser FluentProofs.Parser

/-- ` i }` behind an opening brace: the blank at `p1`, the expression in `[p1 + 1, m)`, ` }` at `m` -/
theorem getPlaceable_spaced {s : Src} (hs : AsciiThenBoundary s) (i : Inline Bytes) (hv : validInner (.inline i) = true)
    {p1 m : Nat} (k : Nat) (h0 : s[p1]? = some 32) (hI : AtTo s (p1 + 1) (inlineBytes i) m) (h32 : s[m]? = some 32)
    (h125 : s[m + 1]? = some 125) (hk : fuelInline i ≤ k) :
    ∃ e', getPlaceable s (k + 2) p1 = .ok (.inline e') (m + 1 + 1) ∧ e'.mapS (spanBytes s) = i := by
  have hi := validInner_inline hv
  obtain ⟨b, hb, hnb⟩ := inlineBytes_head i hi
  have hsb : skipBlank s p1 = p1 + 1 := by
    rw [skipBlank_space s p1 h0]; exact skipBlank_notBlank (hI.head hb) hnb
  obtain ⟨hsb2, hfol⟩ := skipBlank_endPos_gen i s _ 125 h32 h125 (by decide) (by decide) (by decide) (by decide) (by decide)
  obtain ⟨e', he, hm⟩ := getInline_bytes hs i hi k hI hfol hk
  exact ⟨e', getPlaceable_inline s k p1 (p1 + 1) e' _ _ hsb he hsb2 h125 (notTermAttr_of_valid hv e' _ hm), hm⟩

/-- `{ i }}` behind an opening brace -/
theorem getPlaceable_double {s : Src} (hs : AsciiThenBoundary s) (i : Inline Bytes) (hv : validInner (.inline i) = true)
    {p1 m : Nat} (k : Nat) (h0 : s[p1]? = some 123) (h1 : s[p1 + 1]? = some 32) (hI : AtTo s (p1 + 1 + 1) (inlineBytes i) m)
    (h32 : s[m]? = some 32) (h125 : s[m + 1]? = some 125) (h125' : s[m + 1 + 1]? = some 125) (hk : fuelInline i ≤ k) :
    ∃ e', getPlaceable s (k + 5) p1 = .ok (.inline (.placeable (.inline e'))) (m + 1 + 1 + 1) ∧
      e'.mapS (spanBytes s) = i := by
  obtain ⟨e', he, hm⟩ := getPlaceable_spaced hs i hv k h1 hI h32 h125 hk
  have hin : getInline s (k + 3) false p1 = .ok (.placeable (.inline e')) (m + 1 + 1) := by
    rw [getInline_at_brace h0, inlineNested, he]; rfl
  have hsb : skipBlank s p1 = p1 := skipBlank_at h0 (by decide) (by decide) (by decide)
  exact ⟨e', getPlaceable_inline s (k + 3) p1 p1 _ _ _ hsb hin (skipBlank_at h125' (by decide) (by decide) (by decide)) h125'
    (by intro a b c h; cases h), hm⟩

/-- a placeable element of a single-line pattern in `[p, q)` -/
theorem getPlaceable_elem {s : Src} (hs : AsciiThenBoundary s) (e : Expr Bytes) (hv : validInner e = true) {p q : Nat} (n : Nat)
    (h : AtTo s p (elemBytes (.placeable e)) q) (hn : fuelElem (.placeable e) ≤ n) :
    ∃ ex, getPlaceable s n (p + 1) = .ok ex q ∧ ex.mapS (spanBytes s) = e := by
  rcases validInner_cases hv with ⟨j, rfl, hvj⟩ | ⟨i, rfl, hvi, hb, hf, _⟩
  · simp only [elemBytes, innerBytes, fuelElem, fuelInner] at h hn
    obtain ⟨k, rfl⟩ : ∃ k, n = k + 5 := ⟨n - 5, by omega⟩
    obtain ⟨_, h⟩ := atTo_cons.mp h
    obtain ⟨h0, h⟩ := atTo_cons.mp h
    obtain ⟨h1, h⟩ := atTo_cons.mp h
    obtain ⟨m, hI, h⟩ := atTo_append.mp h
    obtain ⟨h32, h⟩ := atTo_cons.mp h
    obtain ⟨h125, h⟩ := atTo_cons.mp h
    obtain ⟨h125', h⟩ := atTo_cons.mp h
    obtain rfl := atTo_nil.mp h
    obtain ⟨e', he, hm⟩ := getPlaceable_double hs j hvj k h0 h1 hI h32 h125 h125' (by omega)
    exact ⟨.inline (.placeable (.inline e')), he, by simp [Expr.mapS, Inline.mapS, hm]⟩
  · rw [hb] at h
    rw [hf] at hn
    obtain ⟨k, rfl⟩ : ∃ k, n = k + 2 := ⟨n - 2, by omega⟩
    obtain ⟨_, h⟩ := atTo_cons.mp h
    obtain ⟨h0, h⟩ := atTo_cons.mp h
    obtain ⟨m, hI, h⟩ := atTo_append.mp h
    obtain ⟨h32, h⟩ := atTo_cons.mp h
    obtain ⟨h125, h⟩ := atTo_cons.mp h
    obtain rfl := atTo_nil.mp h
    obtain ⟨e', he, hm⟩ := getPlaceable_spaced hs i hvi k h0 hI h32 h125 (by omega)
    exact ⟨.inline e', he, by simp [Expr.mapS, hm]⟩

theorem plRT_inline (L : Nat) (i : Inline Bytes) (hv : validInner (.inline i) = true) : PlRT L (.inline i) := by
  have htxt : exprText L (.inline i) = elemBytes (.placeable (.inline i)) := exprText_inline_valid L i hv
  obtain ⟨tl, htl⟩ := elemBytes_placeable_head (.inline i) hv
  have hlast := elemBytes_inline_last i hv
  refine ⟨by rw [htxt, htl]; rfl, by rw [htxt]; exact hlast, ?_, ?_⟩
  · intro w nl hw
    have hser := serElement_inline_eq i hv w
    have hne : elemBytes (.placeable (.inline i)) ≠ [] := by rw [htl]; simp
    obtain ⟨hb, hw1⟩ := wsc_writeLiteral_plain hw _ hne (by rw [htl]; simp) (by rw [hlast]; decide)
    refine ⟨_, hser, by rw [htxt]; exact hb, ?_⟩
    have : endsNl (elemBytes (.placeable (.inline i))) = false := by simp [endsNl, hlast]
    rwa [this] at hw1
  · intro s p n hs hat hn
    rw [htxt] at hat hn ⊢
    have hfu := fuelElem_le (.placeable (.inline i)) (by simpa [validElem] using hv)
    exact getPlaceable_elem hs (.inline i) hv n hat.atTo (by omega)

theorem plParse_valid (L : Nat) (x : Expr Bytes) (hv : validInner x = true) :
    PlParse (fun x => fuelElem (.placeable x)) L x := by
  cases x with
  | select a b => simp [validInner] at hv
  | inline i =>
    have htxt := exprText_inline_valid L i hv
    obtain ⟨tl, htl⟩ := elemBytes_placeable_head (.inline i) hv
    refine ⟨by rw [htxt, htl]; rfl, by rw [htxt]; exact elemBytes_inline_last i hv, ?_⟩
    intro s p n hs hat hn
    rw [htxt] at hat ⊢
    exact getPlaceable_elem hs (.inline i) hv n hat.atTo hn

/-- **single-line pattern round trip at the `get_pattern` level.**  On a source that contains
`" " ++ patBytes es ++ "\n"` at `p` (what `serialize_pattern` writes after `=`) and continues with the
end of input or a line that does not continue the pattern, `get_pattern` returns a pattern that
resolves to `es` and stops after the line feed. -/
theorem getPattern_singleline {s : Src} (hs : AsciiThenBoundary s) (es : List (PatElem Bytes))
    (hv : validSingleLine es = true) (p n : Nat) (h : At s p (32 :: (patBytes es ++ [10])))
    (hend : LineEndOK s (p + 1 + (patBytes es).length + 1)) (hn : fuelPat es + 1 ≤ n) :
    ∃ els, getPattern s n p = .ok (some els) (p + 1 + (patBytes es).length + 1) ∧
      mapPat (spanBytes s) els = es := by
  have hve := validSingleLine_elems hv
  have hm := isMultiline_valid es hve
  have htxt := patText_valid es hv
  have hlev : elemLevel 0 es = 0 := by simp [elemLevel, hm]
  have hfu := loopFuel_le_fuelPat es hve
  have hsn : startsOnNewLine es = false := by simp [startsOnNewLine, hm]
  exact getPattern_mlFuel hs (fun x => fuelElem (.placeable x)) 0 es (mlPattern_valid es hv)
    (fun x hx => by rw [hlev]; exact plParse_valid 0 x (by simpa [validElem] using hve _ hx)) n
    (E := p + 1 + (patBytes es).length)
    (by rw [htxt]; exact ⟨((at_append _ _ _ _).mp (show At s p ((32 :: patBytes es) ++ [10]) from h)).1, by simp; omega⟩)
    (by have := ((at_append _ _ _ _).mp (show At s p ((32 :: patBytes es) ++ [10]) from h)).2
        simpa [at_cons, Nat.add_assoc, Nat.add_comm 1] using this)
    ⟨Nat.le_refl _, fun j h1 h2 => absurd h2 (Nat.not_lt_of_le h1), hend.stopper⟩
    (by rw [hsn]; omega)

theorem serInline_empty (e : Inline Bytes) (hv : validInline e = true) :
    (serInline {} e).map (fun w => w.buffer.toList) = some (inlineBytes e) := by
  rw [(serInline_eq_bytes e hv {}).1]
  simp [Writer.writeLiteral, endsWith, Writer.pushAll]

/-- **`inline_roundtrip`.**  Let `e` be a valid inline expression (`validInline`, decidable) and
`w` any writer.  The serializer writes one literal `out` (`= inlineBytes e`), and on every source
`s` (with the `&str` invariant) that contains `out` at `p` and continues with something that cannot
extend the expression (`Follow`), `get_inline_expression` returns a tree `e'` that resolves to `e`
(all seven expression forms, call arguments with positional and named arguments, nested
placeables) and stops at `endPos e s (p + out.length)`: exactly behind `out`, except that a
message/term reference without arguments also swallows the blanks that follow
(`get_call_arguments` calls `skip_blank` before looking for `(`). -/
theorem inline_roundtrip (e : Inline Bytes) (hv : validInline e = true) (w : Writer) :
    ∃ out, serInline w e = some (w.writeLiteral out) ∧
      ∀ (s : Src) (p fuel : Nat), AsciiThenBoundary s → At s p out → Follow s (p + out.length) →
        fuelInline e ≤ fuel →
        ∃ e', getInline s fuel false p = .ok e' (endPos e s (p + out.length)) ∧ e'.mapS (spanBytes s) = e :=
  ⟨inlineBytes e, (serInline_eq_bytes e hv w).1, fun _ _ fuel hs h hf hfu => getInline_bytes hs e hv fuel h.atTo hf hfu⟩

/-- **Concrete form.**  Serialise `e` from the empty writer to `out`, embed it as
`pre ++ out ++ rest` where `rest` starts with `,`, `)`, `}` or `:`; then the parser started at
`pre.length` returns `e` and stops exactly at `rest`. -/
theorem inline_roundtrip_source (e : Inline Bytes) (hv : validInline e = true) (pre rest : Bytes) (c : UInt8)
    (hc : c = 44 ∨ c = 41 ∨ c = 125 ∨ c = 58) (hrest : rest.head? = some c) (fuel : Nat) (hfuel : fuelInline e ≤ fuel) :
    ∃ out, (serInline {} e).map (fun w => w.buffer.toList) = some out ∧
      (AsciiThenBoundary (pre ++ out ++ rest).toArray →
        ∃ e', getInline (pre ++ out ++ rest).toArray fuel false pre.length = .ok e' (pre.length + out.length) ∧
          e'.mapS (spanBytes (pre ++ out ++ rest).toArray) = e) := by
  refine ⟨inlineBytes e, serInline_empty e hv, fun hs => ?_⟩
  have hq : (pre ++ inlineBytes e ++ rest).toArray[pre.length + (inlineBytes e).length]? = some c := by
    have := get_toArray_rest pre (inlineBytes e) rest 0
    rw [Nat.add_zero] at this
    rw [this]
    cases rest <;> simp_all
  obtain ⟨hf, hsb⟩ := follow_of_byte c hq hc
  obtain ⟨e', he, hm⟩ := getInline_bytes hs e hv fuel (at_toArray pre _ rest).atTo hf hfuel
  rw [endPos_stay e _ _ hsb] at he
  exact ⟨e', he, hm⟩

end FluentProofs.Ser

import FluentProofs.ParserScan
import FluentProofs.ParserSteps
/-!
# The head of a line, and what `get_pattern`'s loop does in front of one

At a line start the loop of `get_pattern` skips the blanks and looks at one byte.  `LineHead s p k o` names what stands
at `p`: `k` spaces, then `o` — the end of input or a byte that is not a space; every position has exactly one.  The
model's `patPre` and `patBreak` are functions of the role and of this head (`patPre_other`, `patPre_lineStart`,
`patBreak_eq`); the other statements about them are meant to be read off these.
-/
namespace FluentProofs.Parser
open FluentModel.Syntax

structure LineHead (s : Src) (p k : Nat) (o : Option UInt8) : Prop where
  sbi : skipBlankInline s p = p + k
  byte : s[p + k]? = o

theorem lineHead (s : Src) (p : Nat) : ∃ k o, LineHead s p k o :=
  ⟨skipBlankInline s p - p, _, (Nat.add_sub_cancel' (skipBlankInline_first s p).le).symm, rfl⟩

section
variable {s : Src} {p k : Nat} {o : Option UInt8}

theorem LineHead.spaces (H : LineHead s p k o) : ∀ j, p ≤ j → j < p + k → s[j]? = some 32 :=
  fun j h1 h2 => Decidable.not_not.mp ((skipBlankInline_first s p).skips j h1 (H.sbi ▸ h2))

theorem LineHead.space (H : LineHead s p k o) {j : Nat} (hj : j < k) : s[p + j]? = some 32 :=
  H.spaces (p + j) (Nat.le_add_right p j) (Nat.add_lt_add_left hj p)

theorem LineHead.ne32 (H : LineHead s p k o) : o ≠ some 32 := by
  have := (skipBlankInline_first s p).stops
  rwa [H.sbi, H.byte] at this

theorem LineHead.stop (H : LineHead s p k o) : s[p + k]? ≠ some 32 := H.byte ▸ H.ne32

theorem LineHead.of_run (hsp : ∀ j, j < k → s[p + j]? = some 32) (ho : s[p + k]? = o) (h32 : o ≠ some 32) :
    LineHead s p k o :=
  ⟨(skipBlankInline_first s p).unique ⟨Nat.le_add_right p k, fun j h1 h2 h => by
      have := hsp (j - p) (by omega); rw [show p + (j - p) = j by omega] at this; exact h this,
    by rw [ho]; exact h32⟩, ho⟩

end

theorem LineHead.unique {s : Src} {p k k' : Nat} {o o' : Option UInt8} (h : LineHead s p k o) (h' : LineHead s p k' o') :
    k' = k ∧ o' = o := by
  have hk : k' = k := Nat.add_left_cancel (h'.sbi.symm.trans h.sbi)
  subst hk
  exact ⟨rfl, h'.byte.symm.trans h.byte⟩

theorem LineHead.copy {s₁ s₂ : Src} {p₁ p₂ k : Nat} {o : Option UInt8} (h : LineHead s₁ p₁ k o)
    (hc : ∀ j, j ≤ k → s₂[p₂ + j]? = s₁[p₁ + j]?) : LineHead s₂ p₂ k o :=
  .of_run (fun j hj => by rw [hc j (Nat.le_of_lt hj)]; exact h.space hj) (by rw [hc k (Nat.le_refl k)]; exact h.byte) h.ne32

theorem patPre_other {s : Src} {st : PatState} (p : Nat) (hr : st.role ≠ .lineStart) : patPre s st p = some (0, p) := by
  simp [patPre, hr]

theorem patPre_lineStart {s : Src} {st : PatState} {p k : Nat} {o : Option UInt8} (hr : st.role = .lineStart)
    (H : LineHead s p k o) :
    patPre s st p =
      match (generalizing := false) o with
      | none => none
      | some b =>
        if k = 0 then (if isEol s p then some (0, p) else none)
        else if isBytePatternContinuation b then some (k, p + k) else none := by
  have hkk : p + k - p = k := by omega
  simp only [patPre, hr, H.sbi, H.byte, hkk, beq_self_eq_true, if_true]
  cases o with
  | none => rfl
  | some b =>
    simp only []
    by_cases hk0 : k = 0
    · subst hk0
      simp only [Nat.add_zero, beq_self_eq_true, if_true]
      cases isEol s p <;> rfl
    · have : (k == 0) = false := by simpa using hk0
      simp only [this, hk0, Bool.false_eq_true, if_false]
      cases isBytePatternContinuation b <;> rfl

theorem patBreak_eq {s : Src} {p k : Nat} {o : Option UInt8} (H : LineHead s p k o) :
    patBreak s p = match (generalizing := false) o with
      | none => p + k
      | some b => if k = 0 then p else if isBytePatternContinuation b then p + k else p := by
  have hkk : p + k - p = k := by omega
  simp only [patBreak, H.sbi, H.byte, hkk]
  cases o with
  | none => rfl
  | some b =>
    simp only []
    by_cases hk0 : k = 0
    · subst hk0; simp
    · have : (k == 0) = false := by simpa using hk0
      simp only [this, hk0, Bool.false_eq_true, if_false]
      cases isBytePatternContinuation b <;> rfl

theorem patPre_eq_some {s : Src} {st : PatState} {p indent p1 : Nat} (h : patPre s st p = some (indent, p1)) :
    (st.role ≠ .lineStart ∧ indent = 0 ∧ p1 = p) ∨
    (st.role = .lineStart ∧ p1 = p + indent ∧ ∃ b, LineHead s p indent (some b) ∧
      ((indent = 0 ∧ isEol s p = true) ∨ (0 < indent ∧ isBytePatternContinuation b = true))) := by
  by_cases hr : st.role = .lineStart
  · obtain ⟨k, o, H⟩ := lineHead s p
    rw [patPre_lineStart hr H] at h
    cases o with
    | none => cases h
    | some b =>
      simp only [] at h
      by_cases hk0 : k = 0
      · rw [if_pos hk0] at h
        subst hk0
        by_cases he : isEol s p = true
        · rw [if_pos he] at h
          obtain ⟨rfl, rfl⟩ := Prod.mk.inj (Option.some.inj h)
          exact Or.inr ⟨hr, rfl, b, H, Or.inl ⟨rfl, he⟩⟩
        · rw [if_neg he] at h; cases h
      · rw [if_neg hk0] at h
        by_cases hc : isBytePatternContinuation b = true
        · rw [if_pos hc] at h
          obtain ⟨rfl, rfl⟩ := Prod.mk.inj (Option.some.inj h)
          exact Or.inr ⟨hr, rfl, b, H, Or.inr ⟨by omega, hc⟩⟩
        · rw [if_neg hc] at h; cases h
  · rw [patPre_other p hr] at h
    obtain ⟨rfl, rfl⟩ := Prod.mk.inj (Option.some.inj h)
    exact Or.inl ⟨hr, rfl, rfl⟩

theorem patPre_some {s : Src} {st : PatState} {p indent p1 : Nat} (h : patPre s st p = some (indent, p1)) :
    p + indent = p1 ∧ (p1 = p ∨ p1 = skipBlankInline s p ∧ p1 < s.size) := by
  rcases patPre_eq_some h with ⟨_, rfl, rfl⟩ | ⟨_, rfl, b, H, _⟩
  · exact ⟨rfl, Or.inl rfl⟩
  · exact ⟨rfl, Or.inr ⟨H.sbi.symm, (Array.getElem?_eq_some_iff.mp H.byte).1⟩⟩

end FluentProofs.Parser

import FluentProofs.ParserLoops
/-!
# The two entry loops as one loop over a step

`StepR` is what one iteration of an entry loop does relative to the accumulators: what it appends to the body and to the
errors, the comment left pending, the blank-line count, the next cursor — or a panic, or fuel exhaustion of the entry
parser.  `loopStep s F` is the step of `parseLoop`, `loopStepRt s F` that of `parseRuntimeLoop` (no comment is ever pending
there).  `runLoop size step`: while the cursor is before `size`, do one `step`; at the end flush the pending comment.  Both
loops of the model are instances (`parseLoop_eq_run`, `parseRuntimeLoop_eq_run`), so a fact about the loops is a fact about
`runLoop` instantiated twice: an invariant kept by every step holds at the end (`runLoop_inv`), and two loops whose steps
keep a relation end in related results (`runLoop_sim`).
-/
namespace FluentProofs.Parser
open FluentModel.Syntax

def mapD {α β : Type} (f : α → β) : Outcome α → Outcome β
  | .done a => .done (f a)
  | .panic m => .panic m
  | .outOfFuel => .outOfFuel

@[simp] theorem mapD_done {α β : Type} (f : α → β) (a : α) : mapD f (.done a) = .done (f a) := rfl
@[simp] theorem mapD_panic {α β : Type} (f : α → β) (m : String) : mapD f (.panic m : Outcome α) = .panic m := rfl
@[simp] theorem mapD_fuel {α β : Type} (f : α → β) : mapD f (.outOfFuel : Outcome α) = .outOfFuel := rfl

theorem mapD_mapD {α β γ : Type} (f : α → β) (g : β → γ) (o : Outcome α) : mapD g (mapD f o) = mapD (g ∘ f) o := by
  cases o <;> rfl

theorem mapD_eq_done {α β : Type} {f : α → β} {o : Outcome α} {b : β} (h : mapD f o = .done b) :
    ∃ a, o = .done a ∧ f a = b := by
  cases o with
  | done a => exact ⟨a, rfl, by simpa using h⟩
  | panic m => cases h
  | outOfFuel => cases h

/-- a loop only appends to its accumulators: started with `body` and `errs` it ends with `mapD (prep body errs)` of what it
ends with when started with empty ones (`runLoop_acc_eq`) -/
def prep (body : List (Entry Span)) (errs : List PErr) (r : List (Entry Span) × List PErr) :
    List (Entry Span) × List PErr := (body ++ r.1, errs ++ r.2)

inductive StepR where
  | next (addBody : List (Entry Span)) (addErrs : List PErr) (lc : Option (List Span)) (cnt p : Nat)
  | panic (m : String)
  | fuel

/-- the junk iteration, as both loops do it: where recovery ends, the Junk entry behind what `front` puts in front of it
(the flushed comment), the error with its slice -/
def junkStep (s : Src) (front : List (Entry Span)) (cnt : Nat → Nat) (p : Nat) (e : PErr) (q : Nat) : StepR :=
  match skipToNextEntryStart s p q with
  | none => .panic "skip_to_next_entry_start slice"
  | some q1 =>
    match slice s p q1 with
    | some content =>
      .next (front ++ [.junk content]) [{ clampErr e q1 with slice := some (p, q1) }] none (cnt q1) (skipBlankBlock s q1).1
    | none => .panic "junk slice"

theorem junkStep_next {s : Src} {front : List (Entry Span)} {cnt : Nat → Nat} {p : Nat} {e : PErr} {q : Nat}
    {ab : List (Entry Span)} {ae : List PErr} {lc' : Option (List Span)} {cnt' p' : Nat}
    (h : junkStep s front cnt p e q = .next ab ae lc' cnt' p') :
    ∃ q1 content, skipToNextEntryStart s p q = some q1 ∧ slice s p q1 = some content ∧ ab = front ++ [.junk content] ∧
      ae = [{ clampErr e q1 with slice := some (p, q1) }] ∧ lc' = none ∧ cnt' = cnt q1 ∧ p' = (skipBlankBlock s q1).1 := by
  unfold junkStep at h
  cases hq1 : skipToNextEntryStart s p q with
  | none => rw [hq1] at h; cases h
  | some q1 =>
    rw [hq1] at h
    simp only [] at h
    cases hsl : slice s p q1 with
    | none => rw [hsl] at h; cases h
    | some content =>
      rw [hsl] at h
      cases h
      exact ⟨q1, content, rfl, hsl, rfl, rfl, rfl, rfl, rfl⟩

/-- one iteration of `parseLoop` at `p < s.size`, relative to the accumulators -/
def loopStep (s : Src) (F : Nat) (lc : Option (List Span)) (cnt p : Nat) : StepR :=
  match getEntry s F p with
  | .ok e q => .next (recorded lc cnt e) [] (pendingAfter e) (skipBlankBlock s q).2 (skipBlankBlock s q).1
  | .err e q => junkStep s (flushC lc) (fun q1 => (skipBlankBlock s q1).2) p e q
  | .panic m => .panic m
  | .fuel => .fuel

theorem loopStep_ok {s : Src} {F : Nat} {lc : Option (List Span)} {cnt p : Nat} {e : Entry Span} {q : Nat}
    (h : getEntry s F p = .ok e q) :
    loopStep s F lc cnt p = .next (recorded lc cnt e) [] (pendingAfter e) (skipBlankBlock s q).2 (skipBlankBlock s q).1 := by
  unfold loopStep; rw [h]

theorem loopStep_err_eq {s : Src} {F : Nat} {lc : Option (List Span)} {cnt p : Nat} {e : PErr} {q : Nat}
    (h : getEntry s F p = .err e q) :
    loopStep s F lc cnt p = junkStep s (flushC lc) (fun q1 => (skipBlankBlock s q1).2) p e q := by
  unfold loopStep; rw [h]

theorem parseLoop_loopStep (s : Src) (F N : Nat) (body : List (Entry Span)) (errs : List PErr) (lc : Option (List Span))
    (cnt p : Nat) :
    parseLoop s F (N + 1) body errs lc cnt p =
      if p < s.size then
        (match loopStep s F lc cnt p with
         | .next ab ae lc' cnt' p' => parseLoop s F N (body ++ ab) (errs ++ ae) lc' cnt' p'
         | .panic m => .panic m
         | .fuel => .outOfFuel)
      else .done (body ++ flushC lc, errs) := by
  rw [parseLoop_unfold]
  split
  · cases hge : getEntry s F p with
    | ok e q => simp only [loopStep_ok hge, List.append_nil]
    | err e q =>
      simp only [loopStep_err_eq hge, junkThen, junkStep]
      cases skipToNextEntryStart s p q with
      | none => rfl
      | some q1 =>
        simp only []
        cases FluentModel.Syntax.slice s p q1 <;> simp only [List.append_assoc]
    | panic m => unfold loopStep; rw [hge]
    | fuel => unfold loopStep; rw [hge]
  · rfl

theorem loopStep_fuel {s : Src} {F : Nat} {lc : Option (List Span)} {cnt p : Nat} (h : getEntry s F p = .fuel) :
    loopStep s F lc cnt p = .fuel := by
  unfold loopStep; rw [h]

theorem loopStep_err {s : Src} {F : Nat} {lc : Option (List Span)} {cnt p : Nat} {e : PErr} {q : Nat}
    (h : getEntry s F p = .err e q) (ab : List (Entry Span)) (ae : List PErr) (lc' : Option (List Span)) (cnt' p' : Nat)
    (hst : loopStep s F lc cnt p = .next ab ae lc' cnt' p') : ae ≠ [] := by
  rw [loopStep_err_eq h] at hst
  obtain ⟨_, _, _, _, _, rfl, _⟩ := junkStep_next hst
  exact List.cons_ne_nil _ _

theorem loopStep_next_ok {s : Src} {F : Nat} {lc : Option (List Span)} {cnt p : Nat} {ab : List (Entry Span)}
    {lc' : Option (List Span)} {cnt' p' : Nat} (hst : loopStep s F lc cnt p = .next ab [] lc' cnt' p') :
    ∃ e q, getEntry s F p = .ok e q := by
  cases hge : getEntry s F p with
  | ok e q => exact ⟨e, q, rfl⟩
  | err e q => exact absurd rfl (loopStep_err hge _ _ _ _ _ hst)
  | panic m => unfold loopStep at hst; rw [hge] at hst; cases hst
  | fuel => unfold loopStep at hst; rw [hge] at hst; cases hst

theorem parseLoop_zero (s : Src) (F : Nat) (body : List (Entry Span)) (errs : List PErr) (lc : Option (List Span))
    (cnt p : Nat) : parseLoop s F 0 body errs lc cnt p = .outOfFuel := by
  simp only [parseLoop]

theorem parseRuntimeLoop_zero (s : Src) (F : Nat) (body : List (Entry Span)) (errs : List PErr) (p : Nat) :
    parseRuntimeLoop s F 0 body errs p = .outOfFuel := by
  simp only [parseRuntimeLoop]

/-- one iteration of `parseRuntimeLoop` at `p < s.size`, relative to the accumulators -/
def loopStepRt (s : Src) (F p : Nat) : StepR :=
  match getEntryRuntime s F p with
  | .ok o q => .next o.toList [] none 0 (skipBlankBlock s q).1
  | .err e q => junkStep s [] (fun _ => 0) p e q
  | .panic m => .panic m
  | .fuel => .fuel

theorem loopStepRt_ok {s : Src} {F p : Nat} {o : Option (Entry Span)} {q : Nat} (h : getEntryRuntime s F p = .ok o q) :
    loopStepRt s F p = .next o.toList [] none 0 (skipBlankBlock s q).1 := by
  unfold loopStepRt; rw [h]

theorem loopStepRt_err_eq {s : Src} {F p : Nat} {e : PErr} {q : Nat} (h : getEntryRuntime s F p = .err e q) :
    loopStepRt s F p = junkStep s [] (fun _ => 0) p e q := by
  unfold loopStepRt; rw [h]

/-- what a step that goes on did: an entry was parsed (nothing of what it appends is Junk, no error), or `get_entry` failed
and recovery found the end of the Junk -/
def StepCase {α : Type} (s : Src) (p : Nat) (re : R α) (ab : List (Entry Span)) (ae : List PErr) (p' : Nat) : Prop :=
  (∃ e q, re = .ok e q ∧ p' = (skipBlankBlock s q).1 ∧ junkSpans ab = [] ∧ ae = []) ∨
  (∃ e q q1 content, re = .err e q ∧ skipToNextEntryStart s p q = some q1 ∧ p' = (skipBlankBlock s q1).1 ∧
    slice s p q1 = some content ∧ junkSpans ab = [content] ∧ ae = [{ clampErr e q1 with slice := some (p, q1) }])

theorem loopStep_next {s : Src} {F : Nat} {lc : Option (List Span)} {cnt p : Nat} {ab : List (Entry Span)} {ae : List PErr}
    {lc' : Option (List Span)} {cnt' p' : Nat} (h : loopStep s F lc cnt p = .next ab ae lc' cnt' p') :
    (∃ e q, getEntry s F p = .ok e q ∧ ab = recorded lc cnt e ∧ ae = [] ∧ lc' = pendingAfter e ∧
        cnt' = (skipBlankBlock s q).2 ∧ p' = (skipBlankBlock s q).1) ∨
    (∃ e q q1 content, getEntry s F p = .err e q ∧ skipToNextEntryStart s p q = some q1 ∧
        slice s p q1 = some content ∧ ab = flushC lc ++ [.junk content] ∧
        ae = [{ clampErr e q1 with slice := some (p, q1) }] ∧ lc' = none ∧
        cnt' = (skipBlankBlock s q1).2 ∧ p' = (skipBlankBlock s q1).1) := by
  cases hge : getEntry s F p with
  | ok e q => rw [loopStep_ok hge] at h; cases h; exact Or.inl ⟨e, q, rfl, rfl, rfl, rfl, rfl, rfl⟩
  | err e q =>
    rw [loopStep_err_eq hge] at h
    obtain ⟨q1, content, h1, h2, h3, h4, h5, h6, h7⟩ := junkStep_next h
    exact Or.inr ⟨e, q, q1, content, rfl, h1, h2, h3, h4, h5, h6, h7⟩
  | panic m => unfold loopStep at h; rw [hge] at h; cases h
  | fuel => rw [loopStep_fuel hge] at h; cases h

theorem loopStepRt_next {s : Src} {F p : Nat} {ab : List (Entry Span)} {ae : List PErr} {lc' : Option (List Span)}
    {cnt' p' : Nat} (h : loopStepRt s F p = .next ab ae lc' cnt' p') :
    (∃ o q, getEntryRuntime s F p = .ok o q ∧ ab = o.toList ∧ ae = [] ∧ p' = (skipBlankBlock s q).1) ∨
    (∃ e q q1 content, getEntryRuntime s F p = .err e q ∧ skipToNextEntryStart s p q = some q1 ∧
        slice s p q1 = some content ∧ ab = [.junk content] ∧ ae = [{ clampErr e q1 with slice := some (p, q1) }] ∧
        p' = (skipBlankBlock s q1).1) := by
  cases hge : getEntryRuntime s F p with
  | ok o q => rw [loopStepRt_ok hge] at h; cases h; exact Or.inl ⟨o, q, rfl, rfl, rfl, rfl⟩
  | err e q =>
    rw [loopStepRt_err_eq hge] at h
    obtain ⟨q1, content, h1, h2, h3, h4, _, _, h7⟩ := junkStep_next h
    exact Or.inr ⟨e, q, q1, content, rfl, h1, h2, h3, h4, h7⟩
  | panic m => unfold loopStepRt at h; rw [hge] at h; cases h
  | fuel => unfold loopStepRt at h; rw [hge] at h; cases h

theorem loopStep_case {s : Src} {F : Nat} {lc : Option (List Span)} {cnt p : Nat} {ab : List (Entry Span)} {ae : List PErr}
    {lc' : Option (List Span)} {cnt' p' : Nat} (h : loopStep s F lc cnt p = .next ab ae lc' cnt' p') :
    StepCase s p (getEntry s F p) ab ae p' := by
  rcases loopStep_next h with ⟨e, q, hge, rfl, rfl, _, _, rfl⟩ | ⟨e, q, q1, content, hge, h1, h2, rfl, rfl, _, _, rfl⟩
  · exact Or.inl ⟨e, q, hge, rfl,
      (junkSpans_recorded lc cnt e).trans (junkSpans_single_nonjunk e (getEntry_not_junk s F p e q hge)), rfl⟩
  · exact Or.inr ⟨e, q, q1, content, hge, h1, rfl, h2, by rw [junkSpans_append, junkSpans_flushC]; rfl, rfl⟩

theorem loopStepRt_case {s : Src} {F p : Nat} {ab : List (Entry Span)} {ae : List PErr} {lc' : Option (List Span)}
    {cnt' p' : Nat} (h : loopStepRt s F p = .next ab ae lc' cnt' p') : StepCase s p (getEntryRuntime s F p) ab ae p' := by
  rcases loopStepRt_next h with ⟨o, q, hge, rfl, rfl, rfl⟩ | ⟨e, q, q1, content, hge, h1, h2, rfl, rfl, rfl⟩
  · refine Or.inl ⟨o, q, hge, rfl, ?_, rfl⟩
    cases o with
    | none => rfl
    | some ent => exact junkSpans_single_nonjunk ent (getEntryRuntime_not_junk s F p ent q hge)
  · exact Or.inr ⟨e, q, q1, content, hge, h1, rfl, h2, rfl, rfl⟩

theorem loopStepRt_state {s : Src} {F p : Nat} {ab : List (Entry Span)} {ae : List PErr} {lc' : Option (List Span)}
    {cnt' p' : Nat} (h : loopStepRt s F p = .next ab ae lc' cnt' p') : lc' = none ∧ cnt' = 0 := by
  cases hge : getEntryRuntime s F p with
  | ok o q => rw [loopStepRt_ok hge] at h; cases h; exact ⟨rfl, rfl⟩
  | err e q =>
    rw [loopStepRt_err_eq hge] at h
    obtain ⟨_, _, _, _, _, _, h1, h2, _⟩ := junkStep_next h
    exact ⟨h1, h2⟩
  | panic m => unfold loopStepRt at h; rw [hge] at h; cases h
  | fuel => unfold loopStepRt at h; rw [hge] at h; cases h

def runLoop (size : Nat) (step : Option (List Span) → Nat → Nat → StepR) :
    Nat → List (Entry Span) → List PErr → Option (List Span) → Nat → Nat → Outcome (List (Entry Span) × List PErr)
  | 0, _, _, _, _, _ => .outOfFuel
  | N + 1, body, errs, lc, cnt, p =>
    if p < size then
      match step lc cnt p with
      | .next ab ae lc' cnt' p' => runLoop size step N (body ++ ab) (errs ++ ae) lc' cnt' p'
      | .panic m => .panic m
      | .fuel => .outOfFuel
    else .done (body ++ flushC lc, errs)

theorem parseLoop_eq_run (s : Src) (F : Nat) : ∀ (N : Nat) (body : List (Entry Span)) (errs : List PErr)
    (lc : Option (List Span)) (cnt p : Nat),
    parseLoop s F N body errs lc cnt p = runLoop s.size (loopStep s F) N body errs lc cnt p := by
  intro N
  induction N with
  | zero => intros; rw [parseLoop_zero]; rfl
  | succ N ih =>
    intro body errs lc cnt p
    rw [parseLoop_loopStep, runLoop]
    split
    · cases loopStep s F lc cnt p with
      | next ab ae lc' cnt' p' => exact ih _ _ _ _ _
      | panic m => rfl
      | fuel => rfl
    · rfl

theorem parseRuntimeLoop_eq_run (s : Src) (F : Nat) : ∀ (N : Nat) (body : List (Entry Span)) (errs : List PErr) (p : Nat),
    parseRuntimeLoop s F N body errs p = runLoop s.size (fun _ _ => loopStepRt s F) N body errs none 0 p := by
  intro N
  induction N with
  | zero => intros; rw [parseRuntimeLoop_zero]; rfl
  | succ N ih =>
    intro body errs p
    rw [parseRuntimeLoop_unfold, runLoop]
    split
    · cases hge : getEntryRuntime s F p with
      | ok o q => simp only [loopStepRt_ok hge, List.append_nil]; exact ih _ _ _
      | err er q =>
        simp only [loopStepRt_err_eq hge, junkThen, junkStep]
        cases skipToNextEntryStart s p q with
        | none => rfl
        | some q1 =>
          simp only []
          cases slice s p q1 with
          | none => rfl
          | some content => simp only [List.nil_append]; exact ih _ _ _
      | panic m =>
        have e : loopStepRt s F p = .panic m := by unfold loopStepRt; rw [hge]
        simp only [e]
      | fuel =>
        have e : loopStepRt s F p = .fuel := by unfold loopStepRt; rw [hge]
        simp only [e]
    · simp only [flushC, List.append_nil]

section
variable {size : Nat} {step : Option (List Span) → Nat → Nat → StepR}

theorem runLoop_unfold (N : Nat) (body : List (Entry Span)) (errs : List PErr) (lc : Option (List Span)) (cnt p : Nat) :
    runLoop size step (N + 1) body errs lc cnt p =
      if p < size then
        match step lc cnt p with
        | .next ab ae lc' cnt' p' => runLoop size step N (body ++ ab) (errs ++ ae) lc' cnt' p'
        | .panic m => .panic m
        | .fuel => .outOfFuel
      else .done (body ++ flushC lc, errs) := rfl

theorem runLoop_done_next {N : Nat} {body : List (Entry Span)} {errs : List PErr} {lc : Option (List Span)} {cnt p : Nat}
    {r : List (Entry Span) × List PErr} (hp : p < size) (h : runLoop size step (N + 1) body errs lc cnt p = .done r) :
    ∃ ab ae lc' cnt' p', step lc cnt p = .next ab ae lc' cnt' p' ∧
      runLoop size step N (body ++ ab) (errs ++ ae) lc' cnt' p' = .done r := by
  rw [runLoop_unfold, if_pos hp] at h
  cases hst : step lc cnt p with
  | next ab ae lc' cnt' p' => rw [hst] at h; exact ⟨ab, ae, lc', cnt', p', rfl, h⟩
  | panic m => rw [hst] at h; cases h
  | fuel => rw [hst] at h; cases h

theorem runLoop_done_end {N : Nat} {body : List (Entry Span)} {errs : List PErr} {lc : Option (List Span)} {cnt p : Nat}
    {r : List (Entry Span) × List PErr} (hp : size ≤ p) (h : runLoop size step (N + 1) body errs lc cnt p = .done r) :
    r = (body ++ flushC lc, errs) := by
  rw [runLoop_unfold, if_neg (Nat.not_lt.mpr hp)] at h
  cases h; rfl

theorem runLoop_acc_eq : ∀ (N : Nat) (body : List (Entry Span)) (errs : List PErr) (lc : Option (List Span)) (cnt p : Nat),
    runLoop size step N body errs lc cnt p = mapD (prep body errs) (runLoop size step N [] [] lc cnt p) := by
  intro N
  induction N with
  | zero => intros; rfl
  | succ N ih =>
    intro body errs lc cnt p
    rw [runLoop_unfold, runLoop_unfold]
    split
    · cases step lc cnt p with
      | next ab ae lc' cnt' p' =>
        simp only []
        rw [ih (body ++ ab), ih ([] ++ ab), mapD_mapD]
        congr 1; funext r; simp only [prep, Function.comp, List.nil_append, List.append_assoc]
      | panic m => rfl
      | fuel => rfl
    · simp only [mapD_done, prep, List.nil_append, List.append_nil]

theorem runLoop_noerr {N : Nat} {body : List (Entry Span)} {errs : List PErr} {lc : Option (List Span)} {cnt p : Nat}
    {b : List (Entry Span)} (h : runLoop size step N body errs lc cnt p = .done (b, [])) : errs = [] := by
  rw [runLoop_acc_eq] at h
  obtain ⟨r, _, hr⟩ := mapD_eq_done h
  simp only [prep, Prod.mk.injEq] at hr
  exact (List.append_eq_nil_iff.mp hr.2).1

theorem runLoop_done_noerr_next {N : Nat} {body : List (Entry Span)} {lc : Option (List Span)} {cnt p : Nat}
    {b : List (Entry Span)} (hp : p < size) (h : runLoop size step (N + 1) body [] lc cnt p = .done (b, [])) :
    ∃ ab lc' cnt' p', step lc cnt p = .next ab [] lc' cnt' p' ∧ runLoop size step N (body ++ ab) [] lc' cnt' p' = .done (b, []) := by
  obtain ⟨ab, ae, lc', cnt', p', hst, h'⟩ := runLoop_done_next hp h
  obtain rfl : ae = [] := by simpa using runLoop_noerr h'
  exact ⟨ab, lc', cnt', p', hst, h'⟩

theorem runLoop_mono_N : ∀ (N N' : Nat), N ≤ N' → ∀ (body : List (Entry Span)) (errs : List PErr) (lc : Option (List Span))
    (cnt p : Nat) (r : List (Entry Span) × List PErr),
    runLoop size step N body errs lc cnt p = .done r → runLoop size step N' body errs lc cnt p = .done r := by
  intro N
  induction N with
  | zero => intro N' _ body errs lc cnt p r h; cases h
  | succ N ih =>
    intro N' hN body errs lc cnt p r h
    obtain ⟨N', rfl⟩ : ∃ k, N' = k + 1 := ⟨N' - 1, by omega⟩
    by_cases hp : p < size
    · obtain ⟨ab, ae, lc', cnt', p', hst, h'⟩ := runLoop_done_next hp h
      rw [runLoop_unfold, if_pos hp, hst]
      exact ih N' (by omega) _ _ _ _ _ r h'
    · rw [runLoop_done_end (Nat.le_of_not_lt hp) h, runLoop_unfold, if_neg hp]

theorem runLoop_inv (I : List (Entry Span) → List PErr → Option (List Span) → Nat → Nat → Prop)
    {Q : List (Entry Span) × List PErr → Prop}
    (hnext : ∀ b e lc cnt p ab ae lc' cnt' p', I b e lc cnt p → p < size → step lc cnt p = .next ab ae lc' cnt' p' →
      I (b ++ ab) (e ++ ae) lc' cnt' p')
    (hend : ∀ b e lc cnt p, I b e lc cnt p → size ≤ p → Q (b ++ flushC lc, e)) :
    ∀ (N : Nat) (b : List (Entry Span)) (e : List PErr) (lc : Option (List Span)) (cnt p : Nat)
      (r : List (Entry Span) × List PErr), I b e lc cnt p → runLoop size step N b e lc cnt p = .done r → Q r := by
  intro N
  induction N with
  | zero => intro b e lc cnt p r _ h; cases h
  | succ N ih =>
    intro b e lc cnt p r hI h
    by_cases hp : p < size
    · obtain ⟨ab, ae, lc', cnt', p', hst, h'⟩ := runLoop_done_next hp h
      exact ih _ _ _ _ _ r (hnext b e lc cnt p ab ae lc' cnt' p' hI hp hst) h'
    · rw [runLoop_done_end (Nat.le_of_not_lt hp) h]
      exact hend b e lc cnt p hI (Nat.le_of_not_lt hp)

end

theorem runLoop_cnt {size : Nat} {f : Nat → StepR} (N : Nat) (body : List (Entry Span)) (errs : List PErr)
    (lc : Option (List Span)) (cnt cnt' p : Nat) :
    runLoop size (fun _ _ => f) N body errs lc cnt p = runLoop size (fun _ _ => f) N body errs lc cnt' p := by
  cases N <;> rfl

/-- Two loops.  In every pair of related states either the left loop is not at its end and its step alone keeps the
relation, or the same for the right loop, or both are at their ends together — then `Q` holds of the results — or neither
is, and the two steps together keep the relation.  Then two finished runs from related states end in `Q`. -/
theorem runLoop_sim {sizeF sizeR : Nat} {stepF stepR : Option (List Span) → Nat → Nat → StepR}
    (Rel : List (Entry Span) → List PErr → Option (List Span) → Nat → Nat →
      List (Entry Span) → List PErr → Option (List Span) → Nat → Nat → Prop)
    {Q : List (Entry Span) × List PErr → List (Entry Span) × List PErr → Prop}
    (h : ∀ bf ef lf cf pf br er lr cr pr, Rel bf ef lf cf pf br er lr cr pr →
      (pf < sizeF ∧ ∀ ab ae l' c' p', stepF lf cf pf = .next ab ae l' c' p' →
        Rel (bf ++ ab) (ef ++ ae) l' c' p' br er lr cr pr) ∨
      (pr < sizeR ∧ ∀ ab ae l' c' p', stepR lr cr pr = .next ab ae l' c' p' →
        Rel bf ef lf cf pf (br ++ ab) (er ++ ae) l' c' p') ∨
      ((pf < sizeF ↔ pr < sizeR) ∧
        (sizeF ≤ pf → Q (bf ++ flushC lf, ef) (br ++ flushC lr, er)) ∧
        ∀ ab ae l' c' p' ab' ae' l'' c'' p'', pf < sizeF → stepF lf cf pf = .next ab ae l' c' p' →
          stepR lr cr pr = .next ab' ae' l'' c'' p'' →
          Rel (bf ++ ab) (ef ++ ae) l' c' p' (br ++ ab') (er ++ ae') l'' c'' p'')) :
    ∀ (k n m : Nat), n + m ≤ k → ∀ bf ef lf cf pf br er lr cr pr rf rr, Rel bf ef lf cf pf br er lr cr pr →
      runLoop sizeF stepF n bf ef lf cf pf = .done rf → runLoop sizeR stepR m br er lr cr pr = .done rr → Q rf rr := by
  intro k
  induction k with
  | zero =>
    intro n m hk bf ef lf cf pf br er lr cr pr rf rr _ hf _
    obtain rfl : n = 0 := by omega
    cases hf
  | succ k ih =>
    intro n m hk bf ef lf cf pf br er lr cr pr rf rr hR hf hr
    cases n with
    | zero => cases hf
    | succ n =>
    cases m with
    | zero => cases hr
    | succ m =>
    rcases h bf ef lf cf pf br er lr cr pr hR with ⟨hp, h1⟩ | ⟨hp, h1⟩ | ⟨hiff, hQ, h1⟩
    · obtain ⟨ab, ae, l', c', p', hst, hf'⟩ := runLoop_done_next hp hf
      exact ih n (m + 1) (by omega) _ _ _ _ _ _ _ _ _ _ rf rr (h1 ab ae l' c' p' hst) hf' hr
    · obtain ⟨ab, ae, l', c', p', hst, hr'⟩ := runLoop_done_next hp hr
      exact ih (n + 1) m (by omega) _ _ _ _ _ _ _ _ _ _ rf rr (h1 ab ae l' c' p' hst) hf hr'
    · by_cases hp : pf < sizeF
      · obtain ⟨ab, ae, l', c', p', hst, hf'⟩ := runLoop_done_next hp hf
        obtain ⟨ab', ae', l'', c'', p'', hst', hr'⟩ := runLoop_done_next (hiff.mp hp) hr
        exact ih n m (by omega) _ _ _ _ _ _ _ _ _ _ rf rr (h1 _ _ _ _ _ _ _ _ _ _ hp hst hst') hf' hr'
      · rw [runLoop_done_end (Nat.le_of_not_lt hp) hf,
          runLoop_done_end (Nat.le_of_not_lt fun c => hp (hiff.mpr c)) hr]
        exact hQ (Nat.le_of_not_lt hp)

end FluentProofs.Parser

namespace FluentModel.Syntax
open FluentProofs.Parser

theorem Acc.flushed {s : Src} {b : List (Entry Span)} {e : List PErr} (h : Acc s b e) (lc : Option (List Span)) :
    Acc s (b ++ flushC lc) e :=
  h.of_junkSpans (by rw [junkSpans_append, junkSpans_flushC, List.append_nil])

theorem Acc.step {α : Type} {s : Src} {b : List (Entry Span)} {e : List PErr} (h : Acc s b e) {p : Nat} {re : R α}
    {ab : List (Entry Span)} {ae : List PErr} {p' : Nat} (hc : StepCase s p re ab ae p') : Acc s (b ++ ab) (e ++ ae) := by
  rcases hc with ⟨_, _, _, _, hj, rfl⟩ | ⟨er, q, q1, content, _, hq1, _, hsl, hj, rfl⟩
  · rw [List.append_nil]; exact h.of_junkSpans (by rw [junkSpans_append, hj, List.append_nil])
  · exact (h.push_junk er p q q1 content hq1 hsl).of_junkSpans (by
      rw [junkSpans_append, junkSpans_append, hj]; rfl)

/-- **C03 (full parser loop)**: the accounting invariant is preserved by the entry loop. -/
theorem parseLoop_acc (s : Src) (fuel : Nat) (n : Nat) (body : List (Entry Span)) (errors : List PErr)
    (lc : Option (List Span)) (lbc p : Nat) (h : Acc s body errors) :
    ∀ b e, parseLoop s fuel n body errors lc lbc p = .done (b, e) → Acc s b e := by
  intro b e hd
  rw [parseLoop_eq_run] at hd
  exact runLoop_inv (fun b e _ _ _ => Acc s b e) (Q := fun r => Acc s r.1 r.2)
    (fun _ _ _ _ _ _ _ _ _ _ hI _ hs => hI.step (loopStep_case hs)) (fun _ _ lc _ _ hI _ => hI.flushed lc)
    n _ _ _ _ _ _ h hd

/-- **C03 (runtime parser loop)** -/
theorem parseRuntimeLoop_acc (s : Src) (fuel : Nat) (n : Nat) (body : List (Entry Span)) (errors : List PErr)
    (p : Nat) (h : Acc s body errors) :
    ∀ b e, parseRuntimeLoop s fuel n body errors p = .done (b, e) → Acc s b e := by
  intro b e hd
  rw [parseRuntimeLoop_eq_run] at hd
  exact runLoop_inv (fun b e _ _ _ => Acc s b e) (Q := fun r => Acc s r.1 r.2)
    (fun _ _ _ _ _ _ _ _ _ _ hI _ hs => hI.step (loopStepRt_case hs)) (fun _ _ lc _ _ hI _ => hI.flushed lc)
    n _ _ _ _ _ _ h hd

end FluentModel.Syntax

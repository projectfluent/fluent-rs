import FluentProofs.ParserHoareAst
import FluentProofs.ParserLineHead
/-!
# The eight mutually recursive parser functions never panic, never run out of fuel and return valid spans (C01)

`Specs s n` is the joint statement at fuel `n`: each function, started at `p ≤ s.size` (the two pattern functions: at a char
boundary) with fuel `4 * (s.size - p) + k ≤ n`, is `Good` (no panic, no `fuel`, the cursor stays in bounds) and its spans are `VSpan`s.
The constant `k` is the function's rank: how many calls it may still make without moving the cursor.
`specs_all` is the induction on the fuel, along the step equations of `ParserSteps`.
-/
namespace FluentProofs.Parser
open FluentModel.Syntax

abbrev VI (s : Src) := allInline (VSpan s)
abbrev VE (s : Src) := allExpr (VSpan s)
abbrev VP (s : Src) := allPat (VSpan s)

structure Specs (s : Src) (n : Nat) : Prop where
  patternLoop : ∀ st p, p ≤ s.size → Bnd s p → (∀ ph ∈ st.elements, PhOk s ph) → 4 * (s.size - p) + 1 ≤ n →
    Good s p (getPatternLoop s n st p) (fun st' q => Bnd s q ∧ ∀ ph ∈ st'.elements, PhOk s ph)
  pattern : ∀ p, p ≤ s.size → Bnd s p → 4 * (s.size - p) + 2 ≤ n →
    Good s p (getPattern s n p) (fun o q => Bnd s q ∧ ∀ els, o = some els → VP s els)
  placeable : ∀ p, p ≤ s.size → 4 * (s.size - p) + 3 ≤ n →
    Good s p (getPlaceable s n p) (fun e q => Bnd s q ∧ VE s e)
  expression : ∀ p, p ≤ s.size → 4 * (s.size - p) + 2 ≤ n →
    Good s p (getExpression s n p) (fun e _ => VE s e)
  inline : ∀ ol p, p ≤ s.size → 4 * (s.size - p) + 1 ≤ n →
    Good s p (getInline s n ol p) (fun e q => p < q ∧ VI s e)
  callArguments : ∀ p, p ≤ s.size → 4 * (s.size - p) + 1 ≤ n →
    Good s p (getCallArguments s n p)
      (fun o _ => ∀ pos named, o = some (pos, named) → allInl (VSpan s) pos ∧ allNamed (VSpan s) named)
  callArgsLoop : ∀ pos named p, p ≤ s.size → allInl (VSpan s) pos → allNamed (VSpan s) named →
    4 * (s.size - p) + 2 ≤ n →
    Good s p (getCallArgsLoop s n pos named p) (fun r _ => allInl (VSpan s) r.1 ∧ allNamed (VSpan s) r.2)
  variants : ∀ hd acc p, p ≤ s.size → allVariants (VSpan s) acc → 4 * (s.size - p) + 1 ≤ n →
    Good s p (getVariants s n hd acc p) (fun vs _ => allVariants (VSpan s) vs)

/-- the fuel hypothesis of `Specs` for a function of rank `k` started at `p`, under a name: the step lemmas
move it along with the three lemmas below, so that the other arithmetic never sees its subtraction -/
def Fuel (s : Src) (p k n : Nat) : Prop := 4 * (s.size - p) + k ≤ n

theorem Fuel.pred {s : Src} {p k n : Nat} (h : Fuel s p (k + 1) (n + 1)) : Fuel s p k n := by
  unfold Fuel at *; omega

theorem Fuel.mono {s : Src} {p q k k' n : Nat} (h : Fuel s p k n) (hpq : p ≤ q) (hk : k' ≤ k) : Fuel s q k' n := by
  unfold Fuel at *; omega

theorem Fuel.step {s : Src} {p q k k' n : Nat} (h : Fuel s p k n) (hpq : p < q) (hq : q ≤ s.size) (hk : k' ≤ k + 4) :
    Fuel s q k' n := by
  unfold Fuel at *; omega

theorem placeable_step {s : Src} (hs : AsciiThenBoundary s) {n : Nat} (IH : Specs s n) (p : Nat) (hp : p ≤ s.size)
    (hf : Fuel s p 3 (n + 1)) :
    Good s p (getPlaceable s (n + 1) p) (fun e q => Bnd s q ∧ VE s e) := by
  rw [getPlaceable_unfold]
  have hA := skipBlank_after s p
  have h1 := hA.le
  refine (IH.expression _ (hA.le_size hp) (hf.pred.mono h1 (by decide))).bind h1 fun e q h3 h4 h5 => ?_
  have hA2 := skipBlankInline_after s q
  have h6 := hA2.le
  refine (expectByte_good s _ 125 (hA2.le_size h4)).bind (by omega) fun _ q2 _ h9 ⟨h10, h11⟩ => ?_
  subst h10
  split
  · exact .err (by omega) h9
  · exact .ok (by omega) h9 ⟨bnd_succ hs h11 (by decide), h5⟩

theorem After.patStart (s : Src) (p : Nat) : After s p (patStart s p).2 := by
  unfold FluentProofs.Parser.patStart
  have hA1 := skipBlankInline_after s p
  cases hE : skipEol s (skipBlankInline s p) with
  | none => exact hA1
  | some q => exact (hA1.trans (skipEol_after hE)).trans (skipBlankBlock_after s q)

theorem pattern_step {s : Src} (hs : AsciiThenBoundary s) {n : Nat} (IH : Specs s n) (p : Nat) (hp : p ≤ s.size)
    (hb : Bnd s p) (hf : Fuel s p 2 (n + 1)) :
    Good s p (getPattern s (n + 1) p) (fun o q => Bnd s q ∧ ∀ els, o = some els → VP s els) := by
  rw [getPattern_unfold]
  have hA := After.patStart s p
  have h1 := hA.le
  refine (IH.patternLoop _ _ (hA.le_size hp) (hA.bnd hs hb) (by simp) (hf.pred.mono h1 (by decide))).bind h1 fun st q h3 h4 ⟨h5, h6⟩ => ?_
  unfold patClose
  split
  · rename_i lnb _
    obtain ⟨r, hr', hv⟩ := finishElements_ok hs st.keptCommonIndent lnb 0 st.elements h6
    rw [hr']
    exact .ok (by omega) h4 ⟨h5, fun els he => by cases he; exact hv⟩
  · exact .ok (by omega) h4 ⟨h5, fun els he => by cases he⟩

theorem callArguments_step {s : Src} {n : Nat} (IH : Specs s n) (p : Nat) (hp : p ≤ s.size)
    (hf : Fuel s p 1 (n + 1)) :
    Good s p (getCallArguments s (n + 1) p)
      (fun o _ => ∀ pos named, o = some (pos, named) → allInl (VSpan s) pos ∧ allNamed (VSpan s) named) := by
  rw [getCallArguments_unfold]
  have hA := skipBlank_after s p
  have h1 := hA.le
  have h2 := hA.le_size hp
  split
  · rename_i h'
    have hlt := get_lt h'
    have hA2 := skipBlank_after s (skipBlank s p + 1)
    have h3 := hA2.le
    have h4 := hA2.le_size (by omega)
    refine (IH.callArgsLoop [] [] _ h4 trivial trivial (hf.step (by omega) h4 (by decide)).pred).bind (by omega)
      fun r q _ h6 h7 => ?_
    refine (expectByte_good s q 41 h6).bind (by omega) fun _ q2 _ h9 _ => ?_
    exact .ok (by omega) h9 fun pos named he => by cases he; exact h7
  · exact .ok h1 h2 fun pos named he => by cases he

theorem expression_step {s : Src} {n : Nat} (IH : Specs s n) (p : Nat) (hp : p ≤ s.size)
    (hf : Fuel s p 2 (n + 1)) :
    Good s p (getExpression s (n + 1) p) (fun e _ => VE s e) := by
  rw [getExpression_unfold]
  refine (IH.inline false p hp hf.pred).bind (Nat.le_refl _) fun exp q _ h2 ⟨h3, h4⟩ => ?_
  have hA := skipBlank_after s q
  have h5 := hA.le
  have h6 := hA.le_size h2
  unfold exprTail
  split
  · rename_i hc
    have hlt := get_lt hc.2
    split
    · exact .err (by omega) h6
    · have hA2 := skipBlankInline_after s (skipBlank s q + 2)
      have h7 := hA2.le
      have h8 := hA2.le_size (by omega)
      split
      · exact .err (by omega) h8
      · rename_i q3 hq3
        have hA3 := (skipEol_after hq3).trans (skipBlank_after s q3)
        have h9 := hA3.le
        refine (IH.variants false [] _ (hA3.le_size h8) trivial (hf.step (by omega) (hA3.le_size h8) (by decide)).pred).bind (by omega) fun vs q5 _ h12 h13 => ?_
        exact .ok (by omega) h12 ⟨h4, h13⟩
  · split
    · exact .err (by omega) h6
    · exact .ok (by omega) h6 h4

theorem isNumberStart_asc {s : Src} {p : Nat} (h : isNumberStart s p = true) : Asc s p := by
  unfold isNumberStart at h
  split at h
  · rename_i b hb
    refine ⟨b, hb, ?_⟩
    simp only [Bool.or_eq_true, beq_iff_eq] at h
    rcases h with h | h
    · exact isDigit_lt b h
    · subst h; decide
  · simp at h

theorem variantKey_good {s : Src} (hs : AsciiThenBoundary s) (p : Nat) (hp : p ≤ s.size) :
    Good s p (variantKey s p) (fun k q => p < q ∧ allVKey (VSpan s) k) := by
  rw [variantKey_eq]
  split
  · rename_i h
    exact (getNumberLiteral_good hs p (isNumberStart_asc h)).bind (Nat.le_refl _) fun sp q h1 h2 ⟨h3, _, h5⟩ =>
      .ok h1 h2 ⟨h3, h5⟩
  · exact (getIdentifier_good hs p hp).bind (Nat.le_refl _) fun sp q h1 h2 ⟨h3, _, h5, _⟩ => .ok h1 h2 ⟨h3, h5⟩

theorem variantTail_good {s : Src} (hs : AsciiThenBoundary s) {n : Nat} (IH : Specs s n) (hd dflt : Bool)
    (acc : List (Variant Span)) (lo p : Nat) (hlo : lo ≤ p) (hp : p ≤ s.size)
    (hacc : allVariants (VSpan s) acc) (hf : Fuel s p 4 n) :
    Good s lo (variantTail s n hd dflt acc p) (fun vs _ => allVariants (VSpan s) vs) := by
  unfold variantTail
  have hA2 := skipBlank_after s p
  have h3 := hA2.le
  refine (variantKey_good hs _ (hA2.le_size hp)).bind (by omega) fun key q _ h6 ⟨h7, h8⟩ => ?_
  have hA3 := skipBlank_after s q
  have h9 := hA3.le
  refine (expectByte_good s _ 93 (hA3.le_size h6)).bind (by omega) fun _ q2 _ h12 ⟨h13, h14⟩ => ?_
  subst h13
  refine (IH.pattern _ h12 (bnd_succ hs h14 (by decide)) (hf.step (by omega) h12 (by decide))).bind (by omega) fun o q3 _ h16 ⟨_, h18⟩ => ?_
  cases o with
  | none => exact .err (by omega) h16
  | some value =>
    have hA4 := skipBlank_after s q3
    have h19 := hA4.le
    refine (IH.variants _ _ _ (hA4.le_size h16) ?_ (hf.step (by omega) (hA4.le_size h16) (by decide))).mono (by omega)
      (fun _ _ _ _ h => h)
    rw [allVariants_append]
    exact ⟨hacc, h8, h18 value rfl⟩

theorem variants_step {s : Src} (hs : AsciiThenBoundary s) {n : Nat} (IH : Specs s n) (hd : Bool)
    (acc : List (Variant Span)) (p : Nat) (hp : p ≤ s.size)
    (hacc : allVariants (VSpan s) acc) (hf : Fuel s p 1 (n + 1)) :
    Good s p (getVariants s (n + 1) hd acc p) (fun vs _ => allVariants (VSpan s) vs) := by
  rw [getVariants_unfold]
  split
  · rename_i h42
    have := get_lt h42
    split
    · exact .err (by omega) (by omega)
    · split
      · rename_i h91
        have := get_lt h91
        exact variantTail_good hs IH _ _ acc p (p + 2) (by omega) (by omega) hacc (hf.step (by omega) (by omega) (by decide)).pred
      · exact .err (by omega) (by omega)
  · split
    · rename_i h91
      have := get_lt h91
      exact variantTail_good hs IH _ _ acc p (p + 1) (by omega) (by omega) hacc (hf.step (by omega) (by omega) (by decide)).pred
    · split
      · exact .ok (Nat.le_refl _) hp hacc
      · exact .err (Nat.le_refl _) hp

theorem After.argSep (s : Src) (q : Nat) : After s q (argSep s q) :=
  ((skipBlank_after s q).trans (takeByteIf_after s _ 44 (by decide))).trans (skipBlank_after s _)

theorem callArgsLoop_step {s : Src} {n : Nat} (IH : Specs s n)
    (pos : List (Inline Span)) (named : List (Span × Inline Span)) (p : Nat) (hp : p ≤ s.size)
    (hpos : allInl (VSpan s) pos) (hnamed : allNamed (VSpan s) named) (hf : Fuel s p 2 (n + 1)) :
    Good s p (getCallArgsLoop s (n + 1) pos named p) (fun r _ => allInl (VSpan s) r.1 ∧ allNamed (VSpan s) r.2) := by
  rw [getCallArgsLoop_unfold]
  split
  · have next_ok : ∀ pos' named' q', p < q' → q' ≤ s.size → allInl (VSpan s) pos' → allNamed (VSpan s) named' →
        Good s p (getCallArgsLoop s n pos' named' (argSep s q'))
          (fun r _ => allInl (VSpan s) r.1 ∧ allNamed (VSpan s) r.2) := by
      intro pos' named' q' h1 h2 h3 h4
      have hA := After.argSep s q'
      have h5 := hA.le
      exact (IH.callArgsLoop pos' named' _ (hA.le_size h2) h3 h4 (hf.step (by omega) (hA.le_size h2) (by decide)).pred).mono
        (by omega) (fun _ _ _ _ h => h)
    refine (IH.inline false p hp hf.pred).bind (Nat.le_refl _) fun exp q _ h2 ⟨h3, h4⟩ => ?_
    have hA := skipBlank_after s q
    have h5 := hA.le
    have h6 := hA.le_size h2
    have hpos' : allInl (VSpan s) (pos ++ [exp]) := (allInl_append _ _ _).mpr ⟨hpos, h4⟩
    unfold argTail
    split
    · rename_i id
      split
      · rename_i hc
        have hlt := get_lt hc
        split
        · exact .err (by omega) h6
        · have hA2 := skipBlank_after s (skipBlank s q + 1)
          have h7 := hA2.le
          have h8 := hA2.le_size (by omega)
          refine (IH.inline true _ h8 (hf.step (by omega) h8 (by decide)).pred).bind (by omega) fun val q3 _ h10 ⟨h11, h12⟩ => ?_
          refine next_ok _ _ q3 (by omega) h10 hpos ?_
          rw [allNamed_append]
          exact ⟨hnamed, h4.1, h12⟩
      · split
        · exact .err (by omega) h6
        · exact next_ok _ _ _ (by omega) h6 hpos' hnamed
    · split
      · exact .err (by omega) h2
      · exact next_ok _ _ _ (by omega) h2 hpos' hnamed
  · exact .ok (Nat.le_refl _) hp ⟨hpos, hnamed⟩

theorem inline_step {s : Src} (hs : AsciiThenBoundary s) {n : Nat} (IH : Specs s n) (ol : Bool) (p : Nat) (hp : p ≤ s.size)
    (hf : Fuel s p 1 (n + 1)) :
    Good s p (getInline s (n + 1) ol p) (fun e q => p < q ∧ VI s e) := by
  have optAll : ∀ {attr : Option Span}, (∀ sp, attr = some sp → VSpan s sp) → OptAll (VSpan s) attr := by
    intro attr h
    cases attr with
    | none => trivial
    | some a => exact h a rfl
  refine getInline_cases (motive := fun r => Good s p r _) s n ol p ?_ ?_ ?_ ?_ ?_ ?_ ?_
  · exact fun k => .err (Nat.le_refl _) hp
  · intro hb
    have hlt := get_lt hb
    refine (scanString_good hs (p + 1) (by omega)).bind (by omega) fun _ q h1 h2 _ => ?_
    split
    · rename_i h6
      have := get_lt h6
      have hb1 : Bnd s (p + 1) := bnd_succ hs hb (by decide)
      have hb2 : Bnd s q := bnd_of_ascii h6 (by decide)
      rw [slice_ok h1 hb1 hb2]
      exact .ok (by omega) (by omega) ⟨by omega, vspan_mk h1 hb1 hb2⟩
    · exact .err (by omega) h2
  · intro b hb hd
    have hasc : Asc s p := ⟨b, hb, by rcases hd with hd | rfl; exact isDigit_lt b hd; decide⟩
    exact (getNumberLiteral_good hs p hasc).bind (Nat.le_refl _) fun sp q h1 h2 ⟨h3, _, h5⟩ => .ok h1 h2 ⟨h3, h5⟩
  · intro hb _ hc
    have hlt := get_lt hb
    obtain ⟨b', hb', ha'⟩ := (isIdentifierStart_iff s (p + 1)).mp hc
    refine (getIdentifierUnchecked_good hs (p + 1) b' hb' ha').bind (by omega) fun id q h1 h2 ⟨_, h4, _⟩ => ?_
    refine (getAttributeAccessor_good hs q h2).bind (by omega) fun attr q1 h6 h7 h8 => ?_
    refine (IH.callArguments q1 h7 (hf.step (by omega) h7 (by decide)).pred).bind (by omega) fun args q2 h9 h10 h11 => ?_
    refine .ok (by omega) h10 ⟨by omega, ?_⟩
    cases args with
    | none => exact ⟨h4, optAll h8⟩
    | some pn => exact ⟨h4, optAll h8, h11 pn.1 pn.2 rfl⟩
  · intro hb _
    have hlt := get_lt hb
    exact (getIdentifier_good hs (p + 1) (by omega)).bind (by omega) fun id q h1 h2 ⟨_, _, h5, _⟩ =>
      .ok (by omega) h2 ⟨by omega, h5⟩
  · intro b hb ha
    have hlt := get_lt hb
    refine (getIdentifierUnchecked_good hs p b hb ha).bind (by omega) fun id q h1 h2 ⟨_, h4, _⟩ => ?_
    refine (IH.callArguments q h2 (hf.step (by omega) h2 (by decide)).pred).bind (by omega) fun args q1 h6 h7 h8 => ?_
    cases args with
    | some pn =>
      simp only []
      split
      · exact .err (by omega) h7
      · exact .ok (by omega) h7 ⟨by omega, h4, h8 pn.1 pn.2 rfl⟩
    | none =>
      exact (getAttributeAccessor_good hs q1 h7).bind (by omega) fun attr q2 h9 h10 h11 =>
        .ok (by omega) h10 ⟨by omega, h4, optAll h11⟩
  · intro hb _
    have hlt := get_lt hb
    exact (IH.placeable (p + 1) hlt (hf.step (Nat.lt_succ_self p) hlt (by decide)).pred).bind (by omega) fun e q h1 h2 ⟨_, h4⟩ =>
      .ok (by omega) h2 ⟨by omega, h4⟩

/-- a whitespace-only line is only recorded when it ended in a line feed -/
theorem wsline_lf {role : TextPos} {nb : Bool} {term : Termination} {pl : Bool}
    (hc2 : (role != .lineStart || nb || term == .lineFeed || pl) = true)
    (hc3 : (role == .lineStart && !nb && !pl) = true) : term = .lineFeed := by
  simp only [Bool.and_eq_true, Bool.not_eq_eq_eq_not, Bool.not_true, beq_iff_eq] at hc3
  simpa [hc3.1.1, hc3.1.2, hc3.2] using hc2

theorem st2Of_ok {s : Src} (st : PatState) (p indent start stop : Nat) (nb : Bool) (term : Termination)
    (hel : ∀ ph ∈ st.elements, PhOk s ph) (hel1 : PhOk s (Placeholder.text p stop indent st.role))
    (hle : start ≤ stop) (hbs : Bnd s start) (hbe : Bnd s stop)
    (hlf : term = .lineFeed → 1 ≤ stop ∧ s[stop - 1]? = some 10) :
    ∃ st2, st2Of s st p indent start stop nb term = some st2 ∧ ∀ ph ∈ st2.elements, PhOk s ph := by
  rcases st2Of_cases s st p indent start stop nb term with ⟨ci, h⟩ | ⟨ci, _, hc2, h⟩
  · exact ⟨_, h, hel⟩
  · rw [h]
    generalize (st.role == .lineStart && term == .placeableStart && start == stop) = pl at hc2
    have h1 : ∃ e, elOf st p indent stop nb pl = some e ∧ PhOk s e := by
      unfold elOf
      split
      · rename_i hc3
        obtain ⟨u1, u2⟩ := hlf (wsline_lf hc2 hc3)
        refine ⟨Placeholder.text (stop - 1) stop 0 st.role, by simp only [usub, u1, if_true, Option.map_some], ?_⟩
        exact ⟨by omega, hbe, bnd_of_ascii u2 (by decide), fun j hj => by omega⟩
      · exact ⟨_, rfl, hel1⟩
    have h2 : ∃ sv, survivesOf s start stop nb = some sv := by
      unfold survivesOf
      split
      · rw [slice_ok hle hbs hbe]; exact ⟨_, rfl⟩
      · exact ⟨_, rfl⟩
    obtain ⟨e, he, hpe⟩ := h1
    obtain ⟨sv, hsv⟩ := h2
    rw [he, hsv]
    refine ⟨_, rfl, ?_⟩
    intro ph hph
    simp only [patPush, List.mem_append, List.mem_singleton] at hph
    rcases hph with hph | rfl
    · exact hel ph hph
    · exact hpe

theorem patBreak_cases (s : Src) (p : Nat) : patBreak s p = p ∨ patBreak s p = skipBlankInline s p := by
  obtain ⟨k, o, H⟩ := lineHead s p
  rw [patBreak_eq H, H.sbi]
  cases o with
  | none => exact Or.inr rfl
  | some b =>
    simp only []
    split
    · exact Or.inl rfl
    · split
      · exact Or.inr rfl
      · exact Or.inl rfl

theorem patternLoop_step {s : Src} (hs : AsciiThenBoundary s) {n : Nat} (IH : Specs s n) (st : PatState) (p : Nat)
    (hp : p ≤ s.size) (hb : Bnd s p) (hel : ∀ ph ∈ st.elements, PhOk s ph) (hf : Fuel s p 1 (n + 1)) :
    Good s p (getPatternLoop s (n + 1) st p) (fun st' q => Bnd s q ∧ ∀ ph ∈ st'.elements, PhOk s ph) := by
  have hA := skipBlankInline_after s p
  refine patLoop_cases (motive := fun r => Good s p r _) s n st p ?_ ?_ ?_ ?_
  · exact fun _ => .ok (Nat.le_refl _) hp ⟨hb, hel⟩
  · intro hlt _
    refine (IH.placeable (p + 1) hlt (hf.step (Nat.lt_succ_self p) hlt (by decide)).pred).bind (by omega)
      fun e q h1 h2 ⟨h3, h4⟩ => ?_
    refine (IH.patternLoop _ q h2 h3 ?_ (hf.step (by omega) h2 (by decide)).pred).mono (by omega) (fun _ _ _ _ h => h)
    intro ph hph
    simp only [patPlaced, List.mem_append, List.mem_singleton] at hph
    rcases hph with hph | rfl
    · exact hel ph hph
    · exact h4
  · intro _ _ _
    rcases patBreak_cases s p with h | h <;> rw [h]
    · exact .ok (Nat.le_refl _) hp ⟨hb, hel⟩
    · exact .ok hA.le (hA.le_size hp) ⟨hA.bnd hs hb, hel⟩
  · intro indent p1 hlt h123 hpre
    obtain ⟨f2, f0⟩ := patPre_some hpre
    have f1 : p1 < s.size := by rcases f0 with rfl | ⟨_, h⟩; exact hlt; exact h
    have f3 : Bnd s p1 := by rcases f0 with rfl | ⟨rfl, _⟩; exact hb; exact hA.bnd hs hb
    have f4 : ∀ j, j < indent → s[p + j]? = some 32 := by
      intro j hj
      rcases f0 with rfl | ⟨rfl, _⟩
      · omega
      · exact skipBlankInline_spaces s p (p + j) (by omega) (by omega)
    refine (getTextSlice_good hs p1 f1).bind (by omega) fun ⟨start, stop, nb, term⟩ q h1 h2 ⟨t1, t2, t3, t4, t5, t6⟩ => ?_
    simp only [] at t1 t2 t3 t6
    have hprog : p < q := by
      rcases t5 with t5 | t5
      · omega
      · by_cases hpp : p1 = p
        · subst hpp; exact (h123 t5).elim
        · omega
    have hel1 : PhOk s (Placeholder.text p stop indent st.role) := ⟨by omega, t3, hb, f4⟩
    obtain ⟨st2, hs2, hs3⟩ := st2Of_ok st p indent start stop nb term hel hel1 (by omega) (t1 ▸ f3) t3 t6
    unfold patAfterText
    simp only [hs2]
    exact (IH.patternLoop { st2 with role := patRole term } q h2 t4 hs3 (hf.step hprog h2 (by decide)).pred).mono
      (by omega) (fun _ _ _ _ h => h)

theorem specs_all {s : Src} (hs : AsciiThenBoundary s) (n : Nat) : Specs s n := by
  induction n with
  | zero =>
    refine ⟨?_, ?_, ?_, ?_, ?_, ?_, ?_, ?_⟩ <;> intros <;> omega
  | succ n ih =>
    exact {
      patternLoop := fun st p h1 h2 h3 h4 => patternLoop_step hs ih st p h1 h2 h3 h4
      pattern := fun p h1 h2 h3 => pattern_step hs ih p h1 h2 h3
      placeable := fun p h1 h2 => placeable_step hs ih p h1 h2
      expression := fun p h1 h2 => expression_step ih p h1 h2
      inline := fun ol p h1 h2 => inline_step hs ih ol p h1 h2
      callArguments := fun p h1 h2 => callArguments_step ih p h1 h2
      callArgsLoop := fun pos named p h1 h2 h3 h4 => callArgsLoop_step ih pos named p h1 h2 h3 h4
      variants := fun hd acc p h1 h2 h3 => variants_step hs ih hd acc p h1 h2 h3 }

theorem getPattern_good {s : Src} (hs : AsciiThenBoundary s) (p : Nat) (hp : p ≤ s.size) (hb : Bnd s p) :
    Good s p (getPattern s (exprFuel s) p) (fun o q => Bnd s q ∧ ∀ els, o = some els → VP s els) :=
  (specs_all hs (exprFuel s)).pattern p hp hb (by unfold exprFuel; omega)

end FluentProofs.Parser

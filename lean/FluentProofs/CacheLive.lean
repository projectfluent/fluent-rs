import FluentProofs.Cache
/-!
# Lemmas about the cache LTS: wake-up bookkeeping (no lost wake-up), progress, bounded drain

`WakeInv x s` is the bookkeeping invariant of `pending_wakes`, stated as the code makes it true.
`x = some c` is the intermediate form that holds while consumer `c` is being polled (after the executor
cleared `woken c`, before `poll_next` has either delivered or re-registered `c`'s waker).

Wakers are shared: consumer `c` is polled with the waker of task `s.grp c`, and waker `w` wakes every
consumer `t` with `s.grp t = w`.  `pending_wakes` and the source hold waker ids; everything below holds
for every waker assignment `grp` (`grp = id`: one waker per consumer).
-/
namespace FluentProofs.Cache
open FluentModel.Cache

variable {α : Type}

/-- a request that returned `Pending` and whose task has not been woken since -/
def Parked (s : St α) (t : Task) : Prop := (s.cons t).waiting = true ∧ (s.cons t).woken = false

/-- waker `w` belongs to (at least) one waiting request that stands at the end of the cache: some
consumer polled with `w` waits there -/
def Backed (s : St α) (w : Task) : Prop :=
  ∃ t, s.grp t = w ∧ (s.cons t).waiting = true ∧ (s.cons t).curr = s.items.length

theorem Backed.transfer {s s' : St α} {w : Task} (hg : s'.grp = s.grp)
    (hi : s'.items.length = s.items.length)
    (hc : ∀ t, (s.cons t).waiting = true → (s.cons t).curr = s.items.length →
      (s'.cons t).waiting = true ∧ (s'.cons t).curr = (s.cons t).curr)
    (h : Backed s w) : Backed s' w := by
  obtain ⟨t, h1, h2, h3⟩ := h
  have := hc t h2 h3
  exact ⟨t, by rw [hg]; exact h1, this.1, by rw [this.2, hi]; exact h3⟩

theorem Backed.modCons {s : St α} {c w : Task} (f : Consumer α → Consumer α)
    (hf : (s.cons c).waiting = true → (s.cons c).curr = s.items.length →
      (f (s.cons c)).waiting = true ∧ (f (s.cons c)).curr = (s.cons c).curr) :
    Backed s w → Backed (s.modCons c f) w := by
  refine Backed.transfer rfl rfl fun t h1 h2 => ?_
  by_cases ht : t = c
  · subst ht; simpa using hf h1 h2
  · simp [ht, h1]

structure WakeInv (x : Option Task) (s : St α) : Prop where
  /-- only requests in flight wait -/
  act : ∀ t, (s.cons t).waiting = true → (s.cons t).active = true
  /-- every waker in `pending_wakes` belongs to a waiting request that stands at the end of the cache -/
  pend : ∀ w, w ∈ s.pending → Backed s w
  /-- every parked request stands at the end of the cache and its waker `grp t` is in `pending_wakes` -/
  park : ∀ t, x ≠ some t → Parked s t → (s.cons t).curr = s.items.length ∧ s.grp t ∈ s.pending
  /-- the waker the source holds is the last one registered (also in `pending_wakes`), a request polled
  with it waits at the end of the cache, and the source really is pending -/
  srcw : ∀ w, s.src.waker = some w → s.src.need ≠ 0 ∧ Backed s w ∧ s.pending.getLast? = some w
  /-- while anybody is parked, either the source holds a waker, or a waiting request at the end of
  the cache is runnable (or is the one being polled right now) -/
  hope : (∃ t, x ≠ some t ∧ Parked s t) → s.src.waker ≠ none ∨
      ∃ w, (s.cons w).waiting = true ∧ (s.cons w).curr = s.items.length ∧
        ((s.cons w).woken = true ∨ x = some w)

theorem wakeInv_init (script : List (Nat × α)) (e : Nat) (grp : Task → Task := id) :
    WakeInv none (init script e grp) := by
  constructor <;> simp [init, Parked]

theorem wakeInv_leave {s : St α} {c : Task} (f : Consumer α → Consumer α)
    (hne : (s.cons c).waiting = true → (s.cons c).curr ≠ s.items.length) (hf : (f (s.cons c)).waiting = false)
    (hs : WakeInv (some c) s) : WakeInv none (s.modCons c f) := by
  have hb : ∀ w, Backed s w → Backed (s.modCons c f) w := fun w =>
    Backed.modCons f fun h1 h2 => absurd h2 (hne h1)
  refine ⟨?_, ?_, ?_, ?_, ?_⟩
  · intro t; by_cases ht : t = c
    · subst ht; simp [hf]
    · simpa [ht] using hs.act t
  · intro w hw; exact hb w (hs.pend w hw)
  · intro t _ hp
    by_cases ht : t = c
    · subst ht; simp [Parked, hf] at hp
    · have : Parked s t := by simpa [Parked, ht] using hp
      simpa [ht] using hs.park t (by simp [Ne.symm ht]) this
  · intro w hw
    have h := hs.srcw w hw
    exact ⟨h.1, hb w h.2.1, h.2.2⟩
  · rintro ⟨t, _, hp⟩
    have ht : t ≠ c := by
      intro e; subst e; simp [Parked, hf] at hp
    have hp' : Parked s t := by simpa [Parked, ht] using hp
    rcases hs.hope ⟨t, by simp [Ne.symm ht], hp'⟩ with h | ⟨w, hw1, hw2, hw3⟩
    · exact Or.inl h
    · have hwc : w ≠ c := fun e => hne (e ▸ hw1) (e ▸ hw2)
      refine Or.inr ⟨w, ?_, ?_, Or.inl ?_⟩
      · simpa [hwc] using hw1
      · simpa [hwc] using hw2
      · rcases hw3 with h | h
        · simpa [hwc] using h
        · exact absurd (Option.some.inj h).symm hwc

theorem no_parked_after_ready {s : St α} {c : Task} (hs : WakeInv (some c) s) (src' : Source α)
    (f : Consumer α → Consumer α) (its : List α) (hf : (f ((St.wakeAll { s with src := src', pending := [] } s.pending).cons c)).waiting = false)
    (t : Task) :
    ¬ Parked (St.modCons { (St.wakeAll { s with src := src', pending := [] } s.pending) with items := its } c f) t := by
  intro hp
  by_cases ht : t = c
  · subst ht; simp [Parked, hf] at hp
  · simp only [Parked, modCons_cons, ht, if_false, wakeAll_cons, Bool.or_eq_false_iff, decide_eq_false_iff_not] at hp
    have := hs.park t (by simp [Ne.symm ht]) ⟨hp.1, hp.2.1⟩
    exact hp.2.2 this.2

theorem wakeInv_ready {s : St α} {c : Task} (hs : WakeInv (some c) s) (hn : s.src.need = 0) (src' : Source α)
    (hw' : src'.waker = s.src.waker) (f : Consumer α → Consumer α) (its : List α)
    (hf : (f ((St.wakeAll { s with src := src', pending := [] } s.pending).cons c)).waiting = false) :
    WakeInv none (St.modCons { (St.wakeAll { s with src := src', pending := [] } s.pending) with items := its } c f) := by
  have hw : s.src.waker = none := by
    cases hw : s.src.waker with
    | none => rfl
    | some w => exact absurd hn (hs.srcw w hw).1
  have hnp := no_parked_after_ready hs src' f its hf
  refine ⟨?_, ?_, ?_, ?_, ?_⟩
  · intro t; by_cases ht : t = c
    · subst ht; simp [hf]
    · simpa [ht, wakeAll_cons] using hs.act t
  · intro t htp; simp at htp
  · intro t _ hp; exact absurd hp (hnp t)
  · intro w h; simp [hw', hw] at h
  · rintro ⟨t, _, hp⟩; exact absurd hp (hnp t)

theorem backed_park {s : St α} {c w : Task} (src' : Source α) (p : List Task) :
    Backed s w → Backed (St.modCons { s with src := src', pending := p } c park) w :=
  Backed.modCons (s := { s with src := src', pending := p }) park fun _ _ => ⟨rfl, rfl⟩

theorem backed_park_self {s : St α} {c : Task} (src' : Source α) (p : List Task)
    (h : (s.cons c).curr = s.items.length) :
    Backed (St.modCons { s with src := src', pending := p } c park) (s.grp c) :=
  ⟨c, rfl, by simp, by simp [h]⟩

theorem wakeInv_pollNext {s : St α} {c : Task} (hact : (s.cons c).active = true)
    (hs : WakeInv (some c) s) : WakeInv none (pollNext s c).1 := by
  have hc := pollNext_cases s c
  generalize pollNext s c = r at hc
  cases hc with
  | cached h => exact wakeInv_leave _ (fun _ => by omega) rfl hs
  | over h => exact wakeInv_leave _ (fun _ => by omega) rfl hs
  | pend src' h hp =>
    obtain ⟨hn, rfl⟩ := poll_pending hp
    have hself := backed_park_self (s := s) (c := c)
      { s.src with waker := some (s.grp c), polls := s.src.polls + 1 } (s.pending ++ [s.grp c]) h
    refine ⟨?_, ?_, ?_, ?_, ?_⟩
    · intro t; by_cases ht : t = c
      · subst ht; simp [hact]
      · simpa [ht] using hs.act t
    · intro w hw
      have hw' : w ∈ s.pending ∨ w = s.grp c := by simpa using hw
      rcases hw' with hw' | rfl
      · exact backed_park _ _ (hs.pend w hw')
      · exact hself
    · intro t _ hp
      by_cases ht : t = c
      · subst ht; simp [h]
      · have hp' : Parked s t := by simpa [Parked, ht] using hp
        have := hs.park t (by simp [Ne.symm ht]) hp'
        simp [ht, this]
    · intro w hw
      have hw' : w = s.grp c := by simpa using hw.symm
      subst hw'
      refine ⟨?_, hself, by simp⟩
      simpa [Source.need] using hn
    · intro _; left; simp
  | item src' it h hp =>
    obtain ⟨hn, n, r, hr, rfl⟩ := poll_ready_some hp
    exact wakeInv_ready hs hn { s.src with rest := r, polls := s.src.polls + 1, pulls := s.src.pulls + 1 } rfl
      (deliver ((s.cons c).curr + 1) [it]) (s.items ++ [it]) rfl
  | ended src' h hp =>
    obtain ⟨hn, hr, he, rfl⟩ := poll_ready_none hp
    exact wakeInv_ready hs hn { s.src with polls := s.src.polls + 1 } rfl
      (advance ((s.cons c).curr + 1)) (St.wakeAll _ s.pending).items rfl

/-- the executor takes task `c` off its run queue (clears `woken c`) and is about to poll it -/
theorem wakeInv_clearWoken {s : St α} (c : Task) (hs : WakeInv none s) :
    WakeInv (some c) (clearWoken s c) := by
  unfold clearWoken
  have hb : ∀ w, Backed s w → Backed (s.modCons c fun k => { k with woken := false }) w := fun w =>
    Backed.modCons _ fun h1 _ => ⟨h1, rfl⟩
  refine ⟨?_, ?_, ?_, ?_, ?_⟩
  · intro t; by_cases ht : t = c
    · subst ht; simpa using hs.act t
    · simpa [ht] using hs.act t
  · intro w hw; exact hb w (hs.pend w hw)
  · intro t hx hp
    have ht : t ≠ c := fun e => hx (by rw [e])
    have hp' : Parked s t := by simpa [Parked, ht] using hp
    simpa [ht] using hs.park t (by simp) hp'
  · intro w hw
    have h := hs.srcw w hw
    exact ⟨h.1, hb w h.2.1, h.2.2⟩
  · rintro ⟨t, hx, hp⟩
    have ht : t ≠ c := fun e => hx (by rw [e])
    have hp' : Parked s t := by simpa [Parked, ht] using hp
    rcases hs.hope ⟨t, by simp, hp'⟩ with h | ⟨w, hw1, hw2, hw3⟩
    · exact Or.inl h
    · by_cases hwc : w = c
      · subst hwc
        exact Or.inr ⟨w, by simpa using hw1, by simpa using hw2, Or.inr rfl⟩
      · refine Or.inr ⟨w, by simpa [hwc] using hw1, by simpa [hwc] using hw2, Or.inl ?_⟩
        rcases hw3 with h | h
        · simpa [hwc] using h
        · cases h

/-- a poll that does not clear the flag first (a further `poll_next` inside the same task poll, or
any extra poll): the weaker intermediate invariant follows from the full one -/
theorem wakeInv_weaken {s : St α} (c : Task) (hs : WakeInv none s) : WakeInv (some c) s := by
  refine ⟨hs.act, hs.pend, fun t _ hp => hs.park t (by simp) hp, hs.srcw, ?_⟩
  rintro ⟨t, _, hp⟩
  rcases hs.hope ⟨t, by simp, hp⟩ with h | ⟨w, hw1, hw2, hw3⟩
  · exact Or.inl h
  · refine Or.inr ⟨w, hw1, hw2, ?_⟩
    rcases hw3 with h | h
    · exact Or.inl h
    · cases h

theorem wakeInv_step {s : St α} (l : Label) (hs : WakeInv none s) : WakeInv none (step s l) := by
  have hc := step_cases s l
  generalize step s l = s' at hc ⊢
  cases hc with
  | busy | waits | asleep | ready => exact hs
  | start c d h =>
    exact wakeInv_leave _ (fun k => by rw [hs.act c k] at h; cases h) rfl (wakeInv_weaken c hs)
  | finish c h => exact wakeInv_leave _ (fun k => by rw [h] at k; cases k) h (wakeInv_weaken c hs)
  | poll c h => exact wakeInv_pollNext h (wakeInv_weaken c hs)
  | pollFresh c h => exact wakeInv_pollNext (by simpa [clearWoken] using h) (wakeInv_clearWoken c hs)
  | fired src' hw _ _ _ _ _ hwn =>
    -- nobody registered: only the script moves
    refine ⟨hs.act, hs.pend, hs.park, fun w hw' => by simp [hwn] at hw', fun hp => ?_⟩
    exact Or.inr ((hs.hope hp).resolve_left fun k => k hw)
  | firedWake src' w hw _ _ _ _ _ hwn =>
    have hsw := hs.srcw w hw
    have hb : ∀ w', Backed s w' → Backed (St.wake { s with src := src' } w) w' := by
      intro w'
      refine Backed.transfer rfl rfl fun t h1 h2 => ?_
      by_cases ht : s.grp t = w <;> simp [ht, h1]
    refine ⟨fun t => ?_, fun w' hw' => hb w' (hs.pend w' hw'), fun t _ hp => ?_,
      fun w' hw' => by simp [hwn] at hw', fun _ => ?_⟩
    · by_cases ht : s.grp t = w <;> simpa [ht] using hs.act t
    · by_cases ht : s.grp t = w
      · simp [Parked, ht] at hp
      · have hp' : Parked s t := by simpa [Parked, ht] using hp
        simpa [ht] using hs.park t (by simp) hp'
    · -- the source's waker belongs to a waiting request at the end of the cache: it is runnable now
      obtain ⟨t, hg, h1, h2⟩ := hsw.2.1
      exact Or.inr ⟨t, by simpa [hg] using h1, by simpa [hg] using h2, Or.inl (by simp [hg])⟩

theorem wakeInv_run {s : St α} (ls : List Label) (hs : WakeInv none s) : WakeInv none (run s ls) := by
  induction ls generalizing s with
  | nil => exact hs
  | cons l r ih => exact ih (wakeInv_step l hs)

/-- Progress: while a request is waiting, either a waiting request's task is runnable, or the source is
pending and holds the waker `grp t` of a parked request `t` (so the source's next event makes that
request's task runnable). -/
theorem progress_of_wakeInv {s : St α} (hs : WakeInv none s) (c : Task) (hc : (s.cons c).waiting = true) :
    (∃ t, (s.cons t).waiting = true ∧ (s.cons t).woken = true) ∨
    (s.src.need ≠ 0 ∧ ∃ t, s.src.waker = some (s.grp t) ∧ Parked s t) := by
  cases hcw : (s.cons c).woken with
  | true => exact Or.inl ⟨c, hc, hcw⟩
  | false =>
    rcases hs.hope ⟨c, by simp, hc, hcw⟩ with h | ⟨w, hw1, _, hw3⟩
    · cases hw : s.src.waker with
      | none => exact absurd hw h
      | some w =>
        obtain ⟨hn, ⟨t, hg, ht1, _⟩, _⟩ := hs.srcw w hw
        cases hww : (s.cons t).woken with
        | true => exact Or.inl ⟨t, ht1, hww⟩
        | false => exact Or.inr ⟨hn, t, by rw [hg], ht1, hww⟩
    · rcases hw3 with h | h
      · exact Or.inl ⟨w, hw1, h⟩
      · cases h



/-- number of tasks `< k` whose request waits -/
def nWaiting (k : Nat) (s : St α) : Nat := (List.range k).countP fun t => (s.cons t).waiting
/-- number of tasks `< k` whose request waits and whose waker has fired (runnable) -/
def nRunnable (k : Nat) (s : St α) : Nat :=
  (List.range k).countP fun t => (s.cons t).waiting && (s.cons t).woken

/-- the measure, for wakers that are each shared by at most `g` of the consumers `< k`.  Where the weights come
from (`measure_decreases`): a source event lowers `totalNeed` by one and can make up to `g` waiting requests
runnable, hence `g + 1`; a poll that answers takes its request out of the waiting set and may wake all the others
(`nRunnable ≤ nWaiting ≤ k`), hence `k + 1`; a poll that parks again only clears its own `woken` flag, and no poll
changes `totalNeed`. -/
def measureG (g k : Nat) (s : St α) : Nat :=
  (g + 1) * totalNeed s.src + (k + 1) * nWaiting k s + nRunnable k s

/-- the measure for wakers that are not shared (`g = 1`) -/
def measure (k : Nat) (s : St α) : Nat :=
  2 * totalNeed s.src + (k + 1) * nWaiting k s + nRunnable k s

theorem measureG_one (k : Nat) (s : St α) : measureG 1 k s = measure k s := rfl

/-- every waker is shared by at most `g` of the consumers `< k` -/
def GroupBound (g k : Nat) (grp : Task → Task) : Prop :=
  ∀ w, (List.range k).countP (fun t => decide (grp t = w)) ≤ g

/-- a step a fair executor / an eventually-yielding source takes: poll a task `< k` whose waiting
request has been woken, or deliver an event to a pending source -/
def Useful (k : Nat) (s : St α) : Label → Prop
  | .poll c fresh => fresh = true ∧ c < k ∧ (s.cons c).waiting = true ∧ (s.cons c).woken = true
  | .fire => s.src.need ≠ 0
  | _ => False

theorem countP_update (p p' : Nat → Bool) (k c : Nat) (hc : c < k) (h : ∀ t, t ≠ c → p' t = p t) :
    (List.range k).countP p' + (p c).toNat = (List.range k).countP p + (p' c).toNat := by
  induction k with
  | zero => omega
  | succ k ih =>
    simp only [List.range_succ, List.countP_append, List.countP_cons, List.countP_nil]
    by_cases hk : c = k
    · subst hk
      have : (List.range c).countP p' = (List.range c).countP p := by
        apply List.countP_congr
        intro t ht
        have : t ≠ c := by have := List.mem_range.1 ht; omega
        simp [h t this]
      rw [this]
      cases p c <;> cases p' c <;> simp
    · have := ih (by omega)
      have hk' := h k (Ne.symm hk)
      rw [hk']
      omega

theorem countP_range_le (p : Nat → Bool) (k : Nat) : (List.range k).countP p ≤ k := by
  have := List.countP_le_length (p := p) (l := List.range k)
  simpa using this

theorem groupBound_self (k : Nat) (grp : Task → Task) : GroupBound k k grp :=
  fun _ => countP_range_le _ k

theorem groupBound_id (k : Nat) : GroupBound 1 k id := by
  intro w
  induction k with
  | zero => simp
  | succ k ih =>
    simp only [List.range_succ, List.countP_append, List.countP_cons, List.countP_nil, id]
    by_cases hk : k = w
    · subst hk
      have : (List.range k).countP (fun t => decide (t = k)) = 0 := by
        apply List.countP_eq_zero.2
        intro t ht
        have := List.mem_range.1 ht
        simp; omega
      simp [this]
    · simp only [id] at ih
      simp [hk]; exact ih

theorem countP_le_add (l : List Nat) (p' p q : Nat → Bool)
    (h : ∀ t ∈ l, p' t = true → p t = true ∨ q t = true) :
    l.countP p' ≤ l.countP p + l.countP q := by
  induction l with
  | nil => simp
  | cons a r ih =>
    have ih := ih (fun t ht => h t (List.mem_cons_of_mem _ ht))
    have ha := h a (List.mem_cons_self ..)
    simp only [List.countP_cons]
    cases hp' : p' a with
    | false => simp; omega
    | true =>
      rcases ha hp' with h1 | h1
      · simp [h1]; omega
      · simp [h1]; omega

theorem nRunnable_le_nWaiting (k : Nat) (s : St α) : nRunnable k s ≤ nWaiting k s := by
  unfold nRunnable nWaiting
  apply List.countP_mono_left
  intro t _ h
  simp only [Bool.and_eq_true] at h
  exact h.1

theorem totalNeed_poll {src src' : Source α} {w : Task} {r : PollRes α}
    (h : src.poll w = (src', r)) : totalNeed src' = totalNeed src := by
  cases r with
  | pending => obtain ⟨_, rfl⟩ := poll_pending h; rfl
  | ready v =>
    cases v with
    | none => obtain ⟨_, _, _, rfl⟩ := poll_ready_none h; rfl
    | some it =>
      obtain ⟨hn, n, r, hr, rfl⟩ := poll_ready_some h
      have : n = 0 := by simpa [Source.need, hr] using hn
      subst this
      simp [totalNeed, hr]

theorem nWaiting_update (k : Nat) (s s' : St α) (c : Task) (hc : c < k)
    (h : ∀ t, t ≠ c → (s'.cons t).waiting = (s.cons t).waiting) :
    nWaiting k s' + ((s.cons c).waiting).toNat = nWaiting k s + ((s'.cons c).waiting).toNat :=
  countP_update (fun t => (s.cons t).waiting) (fun t => (s'.cons t).waiting) k c hc h

theorem nRunnable_update (k : Nat) (s s' : St α) (c : Task) (hc : c < k)
    (h : ∀ t, t ≠ c → ((s'.cons t).waiting && (s'.cons t).woken) = ((s.cons t).waiting && (s.cons t).woken)) :
    nRunnable k s' + ((s.cons c).waiting && (s.cons c).woken).toNat
      = nRunnable k s + ((s'.cons c).waiting && (s'.cons c).woken).toNat :=
  countP_update (fun t => (s.cons t).waiting && (s.cons t).woken)
    (fun t => (s'.cons t).waiting && (s'.cons t).woken) k c hc h

theorem nWaiting_congr (k : Nat) (s s' : St α)
    (h : ∀ t, (s'.cons t).waiting = (s.cons t).waiting) : nWaiting k s' = nWaiting k s := by
  unfold nWaiting
  exact List.countP_congr (fun t _ => by simp [h t])

theorem nRunnable_congr (k : Nat) (s s' : St α)
    (h : ∀ t, t < k → ((s'.cons t).waiting && (s'.cons t).woken) = ((s.cons t).waiting && (s.cons t).woken)) :
    nRunnable k s' = nRunnable k s := by
  unfold nRunnable
  exact List.countP_congr (fun t ht => by rw [h t (List.mem_range.1 ht)])

theorem toNat_le_one (b : Bool) : b.toNat ≤ 1 := by cases b <;> simp

theorem arith_leave {k M W V W' V' : Nat} (hW : W' + 1 = W) (hWk : W ≤ k) (hV : V' ≤ W') :
    M + (k + 1) * W' + V' < M + (k + 1) * W + V := by
  subst hW; rw [Nat.mul_succ]; omega

theorem arith_fire {g N N' M V V' : Nat} (hN : N' + 1 = N) (hV : V' ≤ V + g) :
    (g + 1) * N' + M + V' < (g + 1) * N + M + V := by
  subst hN; rw [Nat.mul_succ]; omega

theorem measure_decreases {g k : Nat} {s : St α} {l : Label} (hs : WakeInv none s)
    (hg : GroupBound g k s.grp) (hu : Useful k s l) :
    measureG g k (step s l) < measureG g k s := by
  have hc := step_cases s l
  generalize step s l = s' at hc ⊢
  cases hc with
  | busy | start | waits | finish => exact hu.elim
  | asleep c fresh h => rw [hs.act c hu.2.2.1] at h; cases h
  | poll c h => cases hu.1
  | ready h => exact absurd h hu
  | fired src' _ _ hN =>
    have hW : nWaiting k { s with src := src' } = nWaiting k s := rfl
    have hV : nRunnable k { s with src := src' } = nRunnable k s := rfl
    simp only [measureG, hW, hV]
    exact arith_fire hN (Nat.le_add_right _ _)
  | firedWake src' w _ _ hN =>
    have hW : nWaiting k (St.wake { s with src := src' } w) = nWaiting k s :=
      nWaiting_congr k s _ (by
        intro t
        by_cases ht : s.grp t = w
        · simp [ht]
        · simp [ht])
    -- the waker makes at most its `g` consumers runnable
    have hV : nRunnable k (St.wake { s with src := src' } w) ≤ nRunnable k s + g := by
      refine Nat.le_trans (countP_le_add _ _ (fun t => (s.cons t).waiting && (s.cons t).woken)
        (fun t => decide (s.grp t = w)) ?_) (Nat.add_le_add_left (hg w) _)
      intro t _ h
      by_cases ht : s.grp t = w
      · exact Or.inr (by simp [ht])
      · exact Or.inl (by simpa [ht] using h)
    have hsrc : (St.wake { s with src := src' } w).src = src' := rfl
    simp only [measureG, hsrc, hW]
    exact arith_fire hN hV
  | pollFresh c _ =>
    obtain ⟨-, hck, hcw, hcwk⟩ := hu
    -- clearing the flag makes `c` not runnable
    have hW1 : nWaiting k (clearWoken s c) = nWaiting k s :=
      nWaiting_congr k s _ (by
        intro t
        by_cases ht : t = c
        · subst ht; simp [clearWoken]
        · simp [clearWoken, ht])
    have hV1 : nRunnable k (clearWoken s c) + 1 = nRunnable k s := by
      have := nRunnable_update k s (clearWoken s c) c hck (by intro t ht; simp [clearWoken, ht])
      simpa [clearWoken, hcw, hcwk] using this
    have hN1 : totalNeed (clearWoken s c).src = totalNeed s.src := rfl
    have hcw1 : ((clearWoken s c).cons c).waiting = true := by simpa [clearWoken] using hcw
    have hcn1 : ((clearWoken s c).cons c).woken = false := by simp [clearWoken]
    generalize clearWoken s c = s1 at hW1 hV1 hN1 hcw1 hcn1
    have hWk : nWaiting k s ≤ k := countP_range_le _ k
    -- `c` leaves the waiting set, all other waiting flags stay
    have leave : ∀ s' : St α, (s'.cons c).waiting = false →
        (∀ t, t ≠ c → (s'.cons t).waiting = (s1.cons t).waiting) →
        totalNeed s'.src = totalNeed s1.src → measureG g k s' < measureG g k s := by
      intro s' h1 h2 h3
      have := nWaiting_update k s1 s' c hck h2
      simp only [h1, hcw1, Bool.toNat_true, Bool.toNat_false] at this
      have hW : nWaiting k s' + 1 = nWaiting k s := by omega
      simp only [measureG, h3, hN1]
      exact arith_leave hW hWk (nRunnable_le_nWaiting k s')
    have hc := pollNext_cases s1 c
    generalize pollNext s1 c = r at hc
    cases hc with
    | cached h => exact leave _ (by simp) (by intro t ht; simp [ht]) rfl
    | over h => exact leave _ (by simp) (by intro t ht; simp [ht]) rfl
    | item src' it h hp =>
      exact leave _ (by simp) (by intro t ht; simp [ht, wakeAll_cons]) (by simpa using totalNeed_poll hp)
    | ended src' h hp =>
      exact leave _ (by simp) (by intro t ht; simp [ht, wakeAll_cons]) (by simpa using totalNeed_poll hp)
    | pend src' h hp =>
      have hN := totalNeed_poll hp
      have hW : nWaiting k (St.modCons { s1 with src := src', pending := s1.pending ++ [s1.grp c] } c park)
          = nWaiting k s1 :=
        nWaiting_congr k s1 _ (by
          intro t
          by_cases ht : t = c
          · subst ht; simp [hcw1]
          · simp [ht])
      have hV : nRunnable k (St.modCons { s1 with src := src', pending := s1.pending ++ [s1.grp c] } c park)
          = nRunnable k s1 :=
        nRunnable_congr k s1 _ (by
          intro t _
          by_cases ht : t = c
          · subst ht; simp [hcn1]
          · simp [ht])
      have hsrc : (St.modCons { s1 with src := src', pending := s1.pending ++ [s1.grp c] } c park).src = src' := rfl
      simp only [measureG, hsrc, hV, hW, hN, hW1]
      rw [← hN1]
      omega

/-- a run in which every step is useful at the moment it is taken -/
def UsefulRun (k : Nat) : St α → List Label → Prop
  | _, [] => True
  | s, l :: r => Useful k s l ∧ UsefulRun k (step s l) r

/-- Bounded drain: from a state satisfying the wake-up invariant, an executor that only takes useful
steps (polls woken waiting tasks, lets the pending source deliver events) can take at most
`measureG g k s` of them, where no waker is shared by more than `g` of the consumers `< k`. -/
theorem usefulRun_length_le {g k : Nat} {s : St α} (ls : List Label) (hs : WakeInv none s)
    (hg : GroupBound g k s.grp)
    (hu : UsefulRun k s ls) : ls.length + measureG g k (run s ls) ≤ measureG g k s := by
  induction ls generalizing s with
  | nil => simp [run]
  | cons l r ih =>
    have h1 := measure_decreases hs hg hu.1
    have h2 := ih (wakeInv_step l hs) (by rw [step_grp]; exact hg) hu.2
    have h3 : run s (l :: r) = run (step s l) r := rfl
    rw [h3, List.length_cons]
    omega


theorem useful_exists {k : Nat} {s : St α} (hs : WakeInv none s)
    (hk : ∀ t, (s.cons t).waiting = true → t < k) (c : Task) (hc : (s.cons c).waiting = true) :
    ∃ l, Useful k s l := by
  rcases progress_of_wakeInv hs c hc with ⟨w, h1, h2⟩ | ⟨hn, _⟩
  · exact ⟨.poll w true, rfl, hk w h1, h1, h2⟩
  · exact ⟨.fire, hn⟩

/-- when a poll of the source is `Ready`, every registered waker is called: nobody stays parked -/
theorem ready_wakes_all {s : St α} (hs : WakeInv none s) (c : Task) (fresh : Bool)
    (ha : (s.cons c).active = true) (hcur : (s.cons c).curr = s.items.length) (hn : s.src.need = 0)
    (t : Task) : ¬ Parked (step s (.poll c fresh)) t := by
  simp only [step, ha, if_true]
  have key : ∀ s1 : St α, WakeInv (some c) s1 → (s1.cons c).curr = s1.items.length → s1.src.need = 0 →
      ¬ Parked (pollNext s1 c).1 t := by
    intro s1 hs1 hcur1 hn1
    have hc := pollNext_cases s1 c
    generalize pollNext s1 c = r at hc
    cases hc with
    | cached h => omega
    | over h => omega
    | pend src' h hp => exact absurd hn1 (poll_pending hp).1
    | item src' it h hp => exact no_parked_after_ready hs1 _ _ _ rfl t
    | ended src' h hp => exact no_parked_after_ready hs1 src' (advance ((s1.cons c).curr + 1)) s1.items rfl t
  cases fresh
  · exact key s (wakeInv_weaken c hs) hcur hn
  · exact key (clearWoken s c) (wakeInv_clearWoken c hs) (by simpa [clearWoken] using hcur) hn

end FluentProofs.Cache

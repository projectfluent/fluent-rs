import FluentProofs.ParserBasics
/-!
# What `get_text_slice` returns, as bytes (C04, "parser output is in the class")

`TextBytes s a b`: the bytes of a text slice with the blanks in front of it — no braces, `\n` only as the last byte and not
behind a `\r`; `Surv`: the placeholder survives the trim of the last element.  Both facts about one call of `get_pattern` start
from these: every text is a `lineText` (`SerializerLineSplit`) and the shape of the pattern (`SerializerOutShape1` …).  The file
stands under both, so that the shape of one result does not depend on the walk that lifts facts to the whole tree
(`SerializerOutDeep`), which `SerializerLineSplit` ends with.
-/
namespace FluentProofs.Ser
open FluentModel FluentModel.Syntax FluentProofs.Parser

theorem trimEnd_mono (s : Src) (start start' stop : Nat) (hs : start' ≤ start) (hle : start ≤ stop)
    (hsurv : (trimEnd s ⟨start, stop⟩).stop ≠ start) :
    (trimEnd s ⟨start', stop⟩).stop = (trimEnd s ⟨start, stop⟩).stop ∧ start < (trimEnd s ⟨start, stop⟩).stop ∧
      (trimEnd s ⟨start, stop⟩).stop ≤ stop := by
  unfold trimEnd at hsurv ⊢
  simp only at hsurv ⊢
  obtain ⟨a1, a2, a3, a4⟩ := trimEndGo_result s start (stop - start) stop hle
  obtain ⟨b1, b2, b3, b4⟩ := trimEndGo_result s start' (stop - start') stop (by omega)
  generalize trimEndGo s start (stop - start) stop = R at *
  generalize trimEndGo s start' (stop - start') stop = R' at *
  have hR : start < R := by omega
  refine ⟨?_, hR, a2⟩
  rcases Nat.lt_trichotomy R' R with h | h | h
  · exact absurd (b3 (R - 1) (by omega) (by omega)) (a4 (by omega) hR)
  · exact h
  · exact absurd (a3 (R' - 1) (by omega) (by omega)) (b4 (by omega) (by omega))

/-- the bytes of `[a, b)`: no braces, `\n` only as the last byte, and that `\n` not directly behind a `\r`
(a `\r` that is not followed by `\n` is an ordinary text byte) -/
def TextBytes (s : Src) (a b : Nat) : Prop :=
  b ≤ s.size ∧ (∀ j, a ≤ j → j < b → s[j]? ≠ some 123 ∧ s[j]? ≠ some 125) ∧
    (∀ j, a ≤ j → j + 1 < b → s[j]? ≠ some 10) ∧
    (∀ j, a ≤ j → j + 1 < b → s[j]? = some 13 → s[j + 1]? ≠ some 10)

section slice
variable {s : Src} {p stop : Nat} {nb : Bool} {term : Termination} {q : Nat}

theorem Slice.bounds (hS : Slice s p stop nb term q) : p ≤ stop ∧ stop ≤ s.size := by
  obtain ⟨e, hpe, hes, _, h⟩ := hS
  rcases h with ⟨_, _, rfl, _⟩ | ⟨_, _, rfl, _⟩ | ⟨_, h10, _, rfl, _⟩ | ⟨_, _, hlt, _, rfl, _⟩
  · exact ⟨hpe, hes⟩
  · exact ⟨hpe, hes⟩
  · have := get_lt h10; omega
  · omega

theorem Slice.textBytes (hS : Slice s p stop nb term q) {a : Nat} (hsp : ∀ j, a ≤ j → j < p → s[j]? = some 32) :
    TextBytes s a stop := by
  have hb := hS.bounds
  obtain ⟨e, hpe, hes, hcl, h⟩ := hS
  have hse : stop ≤ e + 1 ∧ (stop = e + 1 → s[e]? = some 10 ∧ (p < e → s[e - 1]? ≠ some 13)) := by
    rcases h with ⟨_, _, rfl, _⟩ | ⟨_, _, rfl, _⟩ | ⟨_, h10, hn, rfl, _⟩ | ⟨_, _, _, _, rfl, _⟩
    · exact ⟨by omega, fun h0 => by omega⟩
    · exact ⟨by omega, fun h0 => by omega⟩
    · exact ⟨by omega, fun _ => ⟨h10, hn⟩⟩
    · exact ⟨by omega, fun h0 => by omega⟩
  refine ⟨hb.2, ?_, ?_, ?_⟩
  · intro j j1 j2
    by_cases hj : j < p
    · rw [hsp j j1 hj]; exact ⟨by decide, by decide⟩
    · by_cases hje : j < e
      · exact (hcl j (by omega) hje).2
      · have : j = e := by omega
        subst this
        rw [(hse.2 (by omega)).1]; exact ⟨by decide, by decide⟩
  · intro j j1 j2
    by_cases hj : j < p
    · rw [hsp j j1 hj]; decide
    · exact (hcl j (by omega) (by omega)).1
  · intro j j1 j2 h13
    by_cases hj : j < p
    · rw [hsp j j1 hj] at h13; cases h13
    · by_cases hje : j + 1 < e
      · exact (hcl (j + 1) (by omega) hje).1
      · exfalso
        have : e = j + 1 := by omega
        subst this
        exact (hse.2 (by omega)).2 (by omega) (by rwa [Nat.add_sub_cancel])

end slice

def Surv (s : Src) : Placeholder → Prop
  | .placeable _ => True
  | .text a b ind _ => a + ind ≤ b ∧ (trimEnd s ⟨a + ind, b⟩).stop ≠ a + ind

theorem surv_of_survives {s : Src} {p indent start stop : Nat} {nb : Bool} {role : TextPos}
    (hst : start = p + indent) (h : survivesOf s start stop nb = some true) : Surv s (.text p stop indent role) := by
  unfold survivesOf at h
  split at h
  · simp only [Option.map_eq_some_iff] at h
    obtain ⟨sp, hsl, hsp⟩ := h
    obtain ⟨rfl, hvs⟩ := slice_eq_some hsl
    subst hst
    exact ⟨hvs.1, by simpa using hsp⟩
  · simp at h

end FluentProofs.Ser

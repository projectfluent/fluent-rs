import FluentProofs.SpecPatLoop
/-!
# Attributes, Message, Term (C02, T3: entries)

`Attribute*`, `Message` and `Term` against `get_attributes`, `get_message`, `get_term`.  The three share their beginning
(`keyThen_ref`) and their value (`value_ref`: the pattern layer, and the cursor `Lands` where the blank lines after the
grammar's rest end); `EntryFollow` is what must follow the last pattern of an entry for `get_attributes` to stop there.
The end of the file names the grammar's abstract pass `assemble` (`parse_eq_assemble`) for `SpecResource`.
-/
namespace FluentProofs.SpecEntries
open FluentModel FluentModel.Syntax FluentModel.SpecGrammar FluentProofs.Parser FluentProofs.SpecLex
open FluentProofs.SpecRefine FluentProofs.PatFlat FluentProofs.PatLoop FluentProofs.SpecSteps FluentProofs.SpecBlank

def jAttr (s : Src) (a : Attribute Span) : Attribute Bytes := ⟨spanBytes s a.id, jPat s a.value⟩
def jAttrs (s : Src) (l : List (Attribute Span)) : List (Attribute Bytes) := l.map (jAttr s)

/-- what follows an entry's last pattern: what follows a pattern, and not an attribute -/
def EntryFollow (r : List UInt8) : Prop := PatFollow r ∧ ∀ t, blankOpt r ≠ 46 :: t

theorem patFollow_of_dot {r t : List UInt8} (hl : (lineEnd r).isSome = true) (h : blankOpt r = 46 :: t) : PatFollow r := by
  refine ⟨hl, fun b t' h' => ?_⟩
  rw [h] at h'
  injection h' with e1 _
  subst e1
  exact ⟨by decide, Or.inl rfl⟩

theorem keyThen_eq_ok {β : Type} {i r : List UInt8} {k : Bytes → Inp → PR β} {a : β} (h : keyThen i k = .ok a r) :
    ∃ id r0 r1, identifier i = some (id, r0) ∧ spaces r0 = 61 :: r1 ∧ k id r1 = .ok a r := by
  unfold keyThen at h
  split at h
  · rename_i id r0 hid
    split at h
    · rename_i r1 heq; exact ⟨id, r0, r1, hid, heq, h⟩
    · cases h
  · cases h

theorem attributeP_inv {sf : Nat} {i r : List UInt8} {a : Attribute Bytes} (h : attributeP sf i = .ok a r) :
    ∃ r0 r1, lineEnd i = some r0 ∧ blankOpt r0 = 46 :: r1 ∧
      keyThen r1 (fun id r3 => (pattern sf (spaces r3)).bind fun p r4 => .ok ⟨id, p⟩ r4) = .ok a r := by
  rw [attributeP_unfold] at h
  split at h
  · cases h
  · rename_i r0 h0
    split at h
    · rename_i r1 h1; exact ⟨r0, r1, h0, h1, h⟩
    · cases h

theorem attributeP_head {sf : Nat} {i r : List UInt8} {a : Attribute Bytes} (h : attributeP sf i = .ok a r) :
    (lineEnd i).isSome = true ∧ ∃ t, blankOpt i = 46 :: t := by
  obtain ⟨r0, r1, h0, h1, _⟩ := attributeP_inv h
  exact ⟨by rw [h0]; rfl, r1, (blankOpt_lineEnd h0).trans h1⟩

theorem attributesP_inv {sf n : Nat} {i r4 : List UInt8} {as : List (Attribute Bytes)}
    (h : attributesP sf (n + 1) i = .ok as r4) :
    (as = [] ∧ r4 = i) ∨
    ∃ a r more, attributeP sf i = .ok a r ∧ attributesP sf n r = .ok more r4 ∧ as = a :: more := by
  rw [attributesP_unfold] at h
  rcases PR.seq_eq_ok h with ⟨a, r, ha, h⟩ | ⟨_, h⟩
  · obtain ⟨more, r', hm, h⟩ := PR.bind_eq_ok h
    cases h
    exact Or.inr ⟨a, r, more, ha, hm, rfl⟩
  · cases h
    exact Or.inl ⟨rfl, rfl⟩

theorem attributesP_follow {sf n : Nat} {i r4 : List UInt8} {as : List (Attribute Bytes)}
    (h : attributesP sf n i = .ok as r4) (hfol : EntryFollow r4) : PatFollow i := by
  cases n with
  | zero => cases h
  | succ n =>
    rcases attributesP_inv h with ⟨_, rfl⟩ | ⟨a, r, _, ha, _, _⟩
    · exact hfol.1
    · obtain ⟨g1, t, g2⟩ := attributeP_head ha
      exact patFollow_of_dot g1 g2

/-- the cursor `q`, at or after `p`, is where the blank lines after the grammar's rest `r` end -/
def Lands (s : Src) (p q : Nat) (r : List UInt8) : Prop :=
  rest s q = afterBlank r ∧ q ≤ s.size ∧ Bnd s q ∧ p ≤ q

theorem Lands.mono {s : Src} {p p' q : Nat} {r : List UInt8} (h : Lands s p q r) (hp : p' ≤ p) : Lands s p' q r :=
  ⟨h.1, h.2.1, h.2.2.1, Nat.le_trans hp h.2.2.2⟩

/-- `Identifier blank_inline? "="`, the beginning that `Attribute`, `Message` and `Term` share, against
`get_identifier`, `skip_blank_inline`, `expect_byte(b'=')` -/
theorem keyThen_ref {s : Src} (hs : AsciiThenBoundary s) {β : Type} {p : Nat} {k : Bytes → Inp → PR β} {a : β}
    {r : List UInt8} (h : keyThen (rest s p) k = .ok a r) :
    ∃ q q2, getIdentifier s p = .ok ⟨p, q⟩ q ∧ expectByte s (skipBlankInline s q) 61 = .ok () q2 ∧
      k (spanBytes s ⟨p, q⟩) (rest s q2) = .ok a r ∧ p < q2 ∧ q2 ≤ s.size ∧ Bnd s q2 := by
  obtain ⟨id, r0, r1, hid, heq, hk⟩ := keyThen_eq_ok h
  obtain ⟨q, i1, i2, _, rfl, rfl, _⟩ := identifier_fwd hs hid
  rw [spaces_eq_skipBlankInline] at heq
  obtain ⟨h61, rfl⟩ := rest_cons_iff.mp heq
  exact ⟨q, skipBlankInline s q + 1, i1, expectByte_pos h61, hk,
    Nat.lt_succ_of_le (Nat.le_trans (Nat.le_of_lt i2) (skipBlankInline_after s q).le), get_lt h61,
    bnd_succ hs h61 (by decide)⟩

theorem value_ref {s : Src} (hs : AsciiThenBoundary s) (hSurv : Surv s) {sf pf p0 : Nat} {pat : Pattern Bytes}
    {r3 : List UInt8} (hpat : pattern sf (spaces (rest s p0)) = .ok pat r3) (hfol : PatFollow r3) (hp0 : p0 ≤ s.size)
    (hb : Bnd s p0) (hpf : 4 * (s.size - p0) + 2 ≤ pf) :
    ∃ pat' q3, getPattern s pf p0 = .ok (some pat') q3 ∧ jPat s pat' = pat ∧ Lands s p0 q3 r3 := by
  obtain ⟨pat', q3, g1, g2, g3, g4, g5⟩ := patternRef_all hs hSurv sf pf p0 pat r3 hpat hfol hp0 hb hpf
  have := ((specs_all hs pf).pattern p0 hp0 hb hpf).of_ok g1
  exact ⟨pat', q3, g1, g2, g5, g3, this.2.2.1, g4⟩

theorem attribute_ref {s : Src} (hs : AsciiThenBoundary s) (hSurv : Surv s) {sf pf p1 : Nat} {i r : List UInt8}
    {a : Attribute Bytes} (ha : attributeP sf i = .ok a r) (hfol : PatFollow r) (hsp : rest s p1 = blankOpt i)
    (hpf : 4 * (s.size - p1) + 2 ≤ pf) :
    ∃ a' q, s[p1]? = some 46 ∧ getAttribute s pf (p1 + 1) = .ok a' q ∧ jAttr s a' = a ∧ Lands s (p1 + 1) q r := by
  obtain ⟨r0, r1, h0, h1, h⟩ := attributeP_inv ha
  rw [blankOpt_lineEnd h0, h1] at hsp
  obtain ⟨h46, rfl⟩ := rest_cons_iff.mp hsp
  obtain ⟨q, q2, i1, i2, h, i5, i6, i7⟩ := keyThen_ref hs h
  obtain ⟨pat, _, hpat, h⟩ := PR.bind_eq_ok h
  cases h
  obtain ⟨pat', q3, g1, g2, g⟩ :=
    value_ref hs hSurv hpat hfol i6 i7 (fuel_mono hpf (Nat.le_of_lt (Nat.lt_of_succ_lt i5)))
  exact ⟨⟨⟨p1 + 1, q⟩, pat'⟩, q3, h46, by simp only [getAttribute_eq, i1, i2, g1, R.bind_ok], by rw [jAttr, g2],
    g.mono (Nat.le_of_lt i5)⟩

def AttrsRef (s : Src) (sf : Nat) (n : Nat) : Prop :=
  ∀ pf n' p i acc as r4, attributesP sf n i = .ok as r4 → EntryFollow r4 → (lineEnd i).isSome = true →
    rest s p = afterBlank i → p ≤ s.size → Bnd s p → 4 * (s.size - p) + 2 ≤ pf → s.size - p + 1 ≤ n' →
    ∃ as' q, getAttributesGo s pf n' acc p = .ok (acc ++ as') q ∧ jAttrs s as' = as ∧ rest s q = afterBlank r4 ∧
      q ≤ s.size ∧ Bnd s q ∧ p ≤ q

theorem attrsRef {s : Src} (hs : AsciiThenBoundary s) (hSurv : Surv s) (sf : Nat) : ∀ n, AttrsRef s sf n := by
  intro n
  induction n with
  | zero => intro pf n' p i acc as r4 h; cases h
  | succ n ih =>
    intro pf n' p i acc as r4 hA hfol hle hrest hp hbp hpf hn'
    cases n' with
    | zero => exact absurd hn' (Nat.not_succ_le_zero _)
    | succ n0 =>
      have hA1 := skipBlankInline_after s p
      have hsp : rest s (skipBlankInline s p) = blankOpt i := by
        rw [← spaces_eq_skipBlankInline, hrest, afterBlank_spaces]
      rcases attributesP_inv hA with ⟨rfl, rfl⟩ | ⟨a, r, more, ha, hmore, rfl⟩
      · refine ⟨[], p, ?_, rfl, hrest, hp, hbp, Nat.le_refl _⟩
        rw [getAttributesGo_unfold, if_neg fun h46 => hfol.2 _ (hsp.symm.trans (rest_cons h46)), List.append_nil]
      · have hfr := attributesP_follow hmore hfol
        obtain ⟨a', q, h46, hga, hja, hq, hqs, hbq, hpq⟩ := attribute_ref hs hSurv ha hfr hsp (fuel_mono hpf hA1.le)
        have hpq' : p < q := Nat.lt_of_le_of_lt hA1.le hpq
        obtain ⟨as', q', f1, f2, f3, f4, f5, f6⟩ :=
          ih pf n0 q r (acc ++ [a']) more r4 hmore hfol hfr.1 hq hqs hbq (fuel_mono hpf (Nat.le_of_lt hpq'))
            (rounds_next hn' hpq' hqs)
        refine ⟨a' :: as', q', ?_, by rw [jAttrs, List.map_cons, hja, ← jAttrs, f2], f3, f4, f5,
          Nat.le_trans (Nat.le_of_lt hpq') f6⟩
        rw [getAttributesGo_unfold, if_pos h46, hga]
        exact f1.trans (by rw [List.append_assoc]; rfl)

theorem getPattern_none {s : Src} (hs : AsciiThenBoundary s) {pf p0 : Nat} {t : List UInt8} (hp0 : p0 ≤ s.size)
    (hb0 : Bnd s p0) (hl : (lineEnd (spaces (rest s p0))).isSome = true) (hd : blankOpt (spaces (rest s p0)) = 46 :: t)
    (hn : 4 * (s.size - p0) + 2 ≤ pf) :
    ∃ q, getPattern s pf p0 = .ok none q ∧ Lands s p0 q (spaces (rest s p0)) := by
  have hfol := patFollow_of_dot hl hd
  have hX := (lineEnd_isSome_cases hl).resolve_left fun h0 => by rw [h0] at hd; cases hd
  rw [spaces_eq_skipBlankInline] at hfol hX ⊢
  -- `get_pattern` starts as it does in front of a value: after the line break, on the next line that is not blank
  obtain ⟨k, hsync, hinit⟩ := patStart_sync hs hp0 hb0
  cases hse : skipEol s (skipBlankInline s p0) with
  | none =>
    rw [patStart_inline hse] at hinit
    exact absurd rfl (hinit.mid nofun hX)
  | some q0 =>
    rw [patStart_block hse] at hsync hinit
    cases pf with
    | zero => exact absurd hn (Nat.not_succ_le_zero _)
    | succ n =>
      obtain ⟨q, g1, g2, g3⟩ := end_s2 (n := n) (st := ⟨[], none, none, .lineStart, none⟩) rfl hsync.bnd.le
        ((hinit.lineStart rfl).resolve_left fun h => h rfl) (hsync.scan rfl) hX hfol
        (Nat.le_of_succ_le_succ (Nat.le_trans (Nat.le_add_left 2 _) hn))
      have hgp : getPattern s (n + 1) p0 = .ok none q := by
        rw [getPattern_block hse, g1]; rfl
      have hgood := ((specs_all hs (n + 1)).pattern p0 hp0 hb0 hn).of_ok hgp
      exact ⟨q, hgp, g2, g3, hgood.2.2.1, hgood.1⟩

def jMsg (s : Src) (m : Message Span) : Message Bytes :=
  ⟨spanBytes s m.id, m.value.map (jPat s), jAttrs s m.attributes, m.comment.map (List.map (spanBytes s))⟩
def jTerm (s : Src) (t : Term Span) : Term Bytes :=
  ⟨spanBytes s t.id, jPat s t.value, jAttrs s t.attributes, t.comment.map (List.map (spanBytes s))⟩

theorem attrs_tail {s : Src} (hs : AsciiThenBoundary s) (hSurv : Surv s) {sf pf p q3 : Nat} {r3 r4 : List UInt8}
    {as : List (Attribute Bytes)} (hat : attributesP sf sf r3 = .ok as r4) (hfol : EntryFollow r4)
    (hle : (lineEnd r3).isSome = true) (hq : Lands s p q3 r3) (hpf : 4 * (s.size - q3) + 2 ≤ pf) :
    ∃ as' q5, getAttributes s pf (skipBlankBlock s q3).1 = .ok as' q5 ∧ jAttrs s as' = as ∧ Lands s p q5 r4 := by
  rw [skipBlankBlock_stay hq.2.1 (by rw [hq.1]; exact afterBlank_canon r3)]
  obtain ⟨as', q5, f1, f2, f⟩ := attrsRef hs hSurv sf sf pf (s.size - q3 + 1) q3 r3 [] as r4 hat hfol hle hq.1 hq.2.1
    hq.2.2.1 hpf (Nat.le_refl _)
  exact ⟨as', q5, f1, f2, Lands.mono f hq.2.2.2⟩

theorem messageP_head {sf : Nat} {i r : List UInt8} {m : Message Bytes} (h : messageP sf i = .ok m r) :
    ∃ b t, i = b :: t ∧ isAlphaC b = true := by
  rw [messageP_unfold] at h
  obtain ⟨_, _, _, hid, _⟩ := keyThen_eq_ok h
  exact identifier_head hid

theorem termP_head {sf : Nat} {i r : List UInt8} {m : Term Bytes} (h : termP sf i = .ok m r) : ∃ t, i = 45 :: t := by
  rw [termP_unfold] at h
  split at h
  · exact ⟨_, rfl⟩
  · cases h

theorem message_ref {s : Src} (hs : AsciiThenBoundary s) (hSurv : Surv s) {sf pf es p : Nat} {msg : Message Bytes}
    {r4 : List UInt8} (h : messageP sf (rest s p) = .ok msg r4) (hfol : EntryFollow r4)
    (hpf : 4 * (s.size - p) + 2 ≤ pf) :
    ∃ m' q, getMessage s pf es p = .ok m' q ∧ jMsg s m' = msg ∧ rest s q = afterBlank r4 ∧ q ≤ s.size ∧ Bnd s q ∧ p < q := by
  rw [messageP_unfold] at h
  obtain ⟨q, q2, i1, i2, h, i5, i6, i7⟩ := keyThen_ref hs h
  have hpf2 := fuel_mono hpf (Nat.le_of_lt i5)
  rcases PR.seq_eq_ok h with ⟨pat, r3, hpat, h⟩ | ⟨_, h⟩
  · obtain ⟨as, _, hat, h⟩ := PR.bind_eq_ok h
    cases h
    have hfol3 := attributesP_follow hat hfol
    obtain ⟨pat', q3, g1, g2, g⟩ := value_ref hs hSurv hpat hfol3 i6 i7 hpf2
    obtain ⟨as', q5, f1, f2, f⟩ := attrs_tail hs hSurv hat hfol hfol3.1 (g.mono i5) (fuel_mono hpf2 g.2.2.2)
    exact ⟨⟨⟨p, q⟩, some pat', as', none⟩, q5, by simp only [getMessage_eq, i1, i2, g1, f1, R.bind_ok]; rfl,
      by rw [jMsg, f2]; simp only [Option.map, g2], f⟩
  · -- attributes only, at least one: after `=` a line end
    obtain ⟨as, _, hat, h⟩ := PR.bind_eq_ok h
    cases as with
    | nil => cases h
    | cons a more =>
      cases h
      obtain ⟨hl2, t2, hd2⟩ : (lineEnd (spaces (rest s q2))).isSome = true ∧ ∃ t, blankOpt (spaces (rest s q2)) = 46 :: t := by
        cases sf with
        | zero => cases hat
        | succ k =>
          rcases attributesP_inv hat with ⟨e, _⟩ | ⟨_, _, _, ha, _⟩
          · cases e
          · exact attributeP_head ha
      obtain ⟨q3, g1, g⟩ := getPattern_none hs i6 i7 hl2 hd2 hpf2
      obtain ⟨as', q5, f1, f2, f⟩ := attrs_tail hs hSurv hat hfol hl2 (g.mono i5) (fuel_mono hpf2 g.2.2.2)
      have hne' : as'.isEmpty = false := by
        cases as' with
        | nil => cases f2
        | cons _ _ => rfl
      exact ⟨⟨⟨p, q⟩, none, as', none⟩, q5, by simp only [getMessage_eq, i1, i2, g1, f1, R.bind_ok, hne']; rfl, by rw [jMsg, f2]; rfl, f⟩

theorem spaces_idem (i : List UInt8) : spaces (spaces i) = spaces i := by
  induction i with
  | nil => rfl
  | cons b r ih =>
    by_cases hb : b = 32
    · subst hb; exact ih
    · rw [spaces_cons_ne r hb, spaces_cons_ne r hb]

theorem term_ref {s : Src} (hs : AsciiThenBoundary s) (hSurv : Surv s) {sf pf es p : Nat} {trm : Term Bytes}
    {r4 : List UInt8} (h : termP sf (rest s p) = .ok trm r4) (hfol : EntryFollow r4)
    (hpf : 4 * (s.size - p) + 2 ≤ pf) :
    ∃ t' q, getTerm s pf es p = .ok t' q ∧ jTerm s t' = trm ∧ rest s q = afterBlank r4 ∧ q ≤ s.size ∧ Bnd s q ∧ p < q := by
  rw [termP_unfold] at h
  split at h
  · rename_i r0 h0
    obtain ⟨h45, rfl⟩ := rest_cons_iff.mp h0
    obtain ⟨q, q2, i1, i2, h, i5, i6, i7⟩ := keyThen_ref hs h
    obtain ⟨pat, r3, hpat, h⟩ := PR.bind_eq_ok h
    obtain ⟨as, _, hat, h⟩ := PR.bind_eq_ok h
    cases h
    -- `get_term` skips the spaces after `=` itself, before `get_pattern` does
    have hA2 := skipBlankInline_after s q2
    rw [← spaces_idem, spaces_eq_skipBlankInline] at hpat
    have hp2 : p + 1 ≤ skipBlankInline s q2 := Nat.le_trans (Nat.le_of_lt i5) hA2.le
    have hpf2 := fuel_mono hpf (Nat.le_of_succ_le hp2)
    have hfol3 := attributesP_follow hat hfol
    obtain ⟨pat', q3, g1, g2, g⟩ := value_ref hs hSurv hpat hfol3 (hA2.le_size i6) (hA2.bnd hs i7) hpf2
    obtain ⟨as', q5, f1, f2, f⟩ := attrs_tail hs hSurv hat hfol hfol3.1 (g.mono hp2) (fuel_mono hpf2 g.2.2.2)
    exact ⟨⟨⟨p + 1, q⟩, pat', as', none⟩, q5, by simp only [getTerm_eq, expectByte_pos h45, i1, i2, g1, f1, R.bind_ok],
      by rw [jTerm, f2, g2]; rfl, f⟩
  · cases h

def assemble (raw : List (Option (Entry Bytes))) : Resource Bytes := dropBlanks (attachComments (joinComments raw))

theorem parse_eq_assemble (i : List UInt8) :
    SpecGrammar.parse i = (resourceRaw (fuelFor i) (i.length + 1) i).map assemble := rfl

theorem assemble_nil : assemble [] = [] := rfl

theorem joinComments_none (X : List (Option (Entry Bytes))) : joinComments (none :: X) = none :: joinComments X := rfl

theorem assemble_none (X : List (Option (Entry Bytes))) : assemble (none :: X) = assemble X := rfl

theorem assemble_message (m : Message Bytes) (X : List (Option (Entry Bytes))) :
    assemble (some (.message m) :: X) = .message m :: assemble X := rfl

theorem assemble_term (t : Term Bytes) (X : List (Option (Entry Bytes))) :
    assemble (some (.term t) :: X) = .term t :: assemble X := rfl

/-- the level of the comment line the list begins with; `0` if it begins with none -/
def headLevel : List (Option (Entry Bytes)) → Nat
  | some (.comment _) :: _ => 1
  | some (.groupComment _) :: _ => 2
  | some (.resourceComment _) :: _ => 3
  | _ => 0

end FluentProofs.SpecEntries

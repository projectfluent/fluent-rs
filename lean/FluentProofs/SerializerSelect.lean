import FluentProofs.SerializerML2
/-!
# Serializer round trip: `get_variants` reads the variant list back (C04, parser half)

`get_expression` / `get_placeable` in front of `->`, one variant (`*`, `[key]`, the value by `get_pattern`) and the list written
one level deeper with the closing brace behind it, given `PatRT (L + 1)` of the values.
-/
namespace FluentProofs.Ser
open FluentModel FluentModel.Syntax FluentModel.Syntax.Ser FluentProofs.Parser

theorem skipBlank_run (s : Src) (k p : Nat) (b : UInt8) (hsp : ∀ j, j < k → s[p + j]? = some 32)
    (hb : s[p + k]? = some b) (h1 : b ≠ 32) (h2 : b ≠ 10) (h3 : b ≠ 13) : skipBlank s p = p + k :=
  (skipBlank_first s p).unique ⟨Nat.le_add_right _ _, (fun j h1 h2 hj => by
    have := hsp (j - p) (by omega)
    rw [show p + (j - p) = j by omega] at this
    exact hj (Or.inl this)), (by
    rw [BlankAt, hb]
    rintro (h | h | ⟨h, _⟩) <;> cases h <;> contradiction)⟩

theorem getExpression_select (s : Src) (k p1 : Nat) (e' : Inline Span) (pe pa : Nat) (vs' : List (Variant Span))
    (q5 : Nat) (he : getInline s k false p1 = .ok e' pe) (hshape : selShape e') (hsb : skipBlank s pe = pa)
    (h45 : s[pa]? = some 45) (h62 : s[pa + 1]? = some 62) (h10 : s[pa + 2]? = some 10)
    (hvs : getVariants s k false [] (skipBlank s (pa + 3)) = .ok vs' q5) :
    getExpression s (k + 1) p1 = .ok (.select e' vs') q5 := by
  have hsbi : skipBlankInline s (pa + 2) = pa + 2 := skipBlankInline_of_ne (by rw [h10]; decide)
  have heol : skipEol s (pa + 2) = some (pa + 3) := by simp [skipEol, h10]
  have hsel : selectorError e' = none := by
    cases e' with
    | term a b c => cases b with
      | some b => rfl
      | none => exact hshape.elim
    | msg a b => exact hshape.elim
    | placeable e => exact hshape.elim
    | _ => rfl
  rw [getExpression_unfold, he]
  simp only [R.bind_ok, hsb, exprTail, h45, h62, and_self, if_true, hsel, hsbi, heol, hvs]

theorem getPlaceable_select (s : Src) (k p0 p1 : Nat) (e' : Inline Span) (pe pa : Nat) (vs' : List (Variant Span))
    (q5 : Nat) (hsb0 : skipBlank s p0 = p1) (he : getInline s k false p1 = .ok e' pe) (hshape : selShape e')
    (hsb : skipBlank s pe = pa) (h45 : s[pa]? = some 45) (h62 : s[pa + 1]? = some 62) (h10 : s[pa + 2]? = some 10)
    (hvs : getVariants s k false [] (skipBlank s (pa + 3)) = .ok vs' q5) (h125 : s[q5]? = some 125) :
    getPlaceable s (k + 2) p0 = .ok (.select e' vs') (q5 + 1) := by
  have hex := getExpression_select s k p1 e' pe pa vs' q5 he hshape hsb h45 h62 h10 hvs
  have hsbi : skipBlankInline s q5 = q5 := skipBlankInline_of_ne (by rw [h125]; decide)
  rw [getPlaceable_unfold, hsb0, hex]
  simp [hsbi, expectByte, isCurrentByte, h125]

theorem variantKey_at {s : Src} (hs : AsciiThenBoundary s) {key : VKey Bytes} (hk : validKey key = true) {p q : Nat}
    (h : AtTo s p (keyBytes key) q) (h93 : s[q]? = some 93) :
    ∃ key', variantKey s p = .ok key' q ∧ key'.mapS (spanBytes s) = key := by
  have hstop : ∀ pred : UInt8 → Bool, pred 93 = false → NoPredAt s pred q := fun pred h c hc => by
    rw [h93] at hc; cases hc; exact h
  cases key with
  | ident n =>
    have h : AtTo s p n q := h
    obtain ⟨b, h0, hb⟩ := at_ident_head hk h.txt
    obtain ⟨_, f2, f3, _⟩ := alpha_facts b hb
    have hns : isNumberStart s p = false := by simp [isNumberStart, h0, f2, f3]
    refine ⟨.ident ⟨p, q⟩, ?_, by simp [VKey.mapS, h.span]⟩
    unfold variantKey
    simp only [hns, Bool.false_eq_true, if_false, getIdentifier_at hs hk h (hstop _ (by decide))]
  | num v =>
    have h : AtTo s p v q := h
    have hns : isNumberStart s p = true := by
      rcases validNumber_head hk with ⟨d, rest, rfl, hd⟩ | ⟨d, rest, rfl, hd⟩
      · simp [isNumberStart, (atTo_cons.mp h).1, hd]
      · simp [isNumberStart, (atTo_cons.mp h).1]
    refine ⟨.num ⟨p, q⟩, ?_, by simp [VKey.mapS, h.span]⟩
    unfold variantKey
    simp only [hns, if_true, getNumberLiteral_at hs hk h (hstop _ (by decide))]

/-- one variant: `*` or nothing at `P`, `[` at `B`, the key in `[B + 1, m)`, `]` at `m`, the value read by `get_pattern` -/
theorem getVariants_step {s : Src} (hs : AsciiThenBoundary s) (n P : Nat) {B m : Nat} (hd dflt : Bool)
    (acc : List (Variant Span)) {key : VKey Bytes} (hk : validKey key = true) (value' : List (PatElem Span)) (q3 : Nat)
    (hP : if dflt then s[P]? = some 42 ∧ hd = false else True) (hB : P + (if dflt then 1 else 0) = B)
    (h91 : s[B]? = some 91) (hK : AtTo s (B + 1) (keyBytes key) m) (h93 : s[m]? = some 93)
    (hpat : getPattern s n (m + 1) = .ok (some value') q3) :
    ∃ key', key'.mapS (spanBytes s) = key ∧
      getVariants s (n + 1) hd acc P = getVariants s n (hd || dflt) (acc ++ [.mk key' value' dflt]) (skipBlank s q3) := by
  obtain ⟨key', hvk, hmk⟩ := variantKey_at hs hk hK h93
  refine ⟨key', hmk, ?_⟩
  obtain ⟨b, hb, b1, b2, b3⟩ := keyBytes_head key hk
  have hsb1 : skipBlank s (B + 1) = B + 1 := skipBlank_at (hK.head hb) b1 b2 b3
  have hsb2 : skipBlank s m = m := skipBlank_at h93 (by decide) (by decide) (by decide)
  have hexp : expectByte s m 93 = .ok () (m + 1) := by simp [expectByte, isCurrentByte, h93]
  have htail : ∀ hd', variantTail s n hd' dflt acc (B + 1) =
      getVariants s n hd' (acc ++ [.mk key' value' dflt]) (skipBlank s q3) := by
    intro hd'
    rw [variantTail, hsb1, hvk]
    simp only [R.bind_ok, hsb2, hexp, hpat]
  rw [getVariants_unfold]
  cases dflt with
  | true =>
    simp only [if_true] at hP hB
    subst hB
    rw [if_pos hP.1, hP.2, if_neg (by decide), if_pos h91]
    exact htail true
  | false =>
    simp only [Bool.false_eq_true, if_false, Nat.add_zero] at hB
    subst hB
    rw [if_neg (by rw [h91]; decide), if_pos h91, Bool.or_false]
    exact htail hd

theorem getVariants_end (s : Src) (n P : Nat) (acc : List (Variant Span)) (h125 : s[P]? = some 125) :
    getVariants s (n + 1) true acc P = .ok acc P := by
  rw [getVariants_unfold, if_neg (by rw [h125]; decide), if_neg (by rw [h125]; decide), if_pos rfl]

/-- the line behind a variant's value — the next variant, or the blanks in front of the closing brace — stops `get_pattern` -/
theorem stopper_after_variant {s : Src} {L G : Nat} {rest : List (Variant Bytes)} {q E : Nat}
    (h : AtTo s q (variantsText (L + 1) rest ++ spacesL G) E) (h125 : s[E]? = some 125) : Stopper s q := by
  cases rest with
  | nil =>
    obtain ⟨rfl, hsp⟩ := atTo_spaces (show AtTo s q (spacesL G) E from h)
    by_cases hL : G = 0
    · subst hL
      exact Or.inr (Or.inl ⟨125, h125, by decide, by decide, fun h => absurd h (by decide), by decide⟩)
    · exact Or.inr (Or.inr ⟨G, 125, by omega, hsp, h125, Or.inr (Or.inr (Or.inr rfl))⟩)
  | cons v vs =>
    obtain ⟨key, value, dflt⟩ := v
    rw [variantsText_cons, List.append_assoc] at h
    obtain ⟨B, hPre, h⟩ := atTo_append.mp h
    right; right
    cases dflt with
    | true =>
      obtain ⟨m, hS, h42⟩ := atTo_append (A := spacesL (4 * (L + 1) - 1)) |>.mp hPre
      obtain ⟨rfl, hsp⟩ := atTo_spaces hS
      exact ⟨4 * (L + 1) - 1, 42, by omega, hsp, (atTo_cons.mp h42).1, Or.inr (Or.inr (Or.inl rfl))⟩
    | false =>
      obtain ⟨rfl, hsp⟩ := atTo_spaces (show AtTo s q (spacesL (4 * (L + 1))) B from hPre)
      exact ⟨4 * (L + 1), 91, by omega, hsp, (atTo_cons.mp h).1, Or.inr (Or.inl rfl)⟩

/-- the variants, one level deeper, and the blanks in front of the closing brace in `[LS, E)`; the brace at `E` -/
theorem getVariants_text {s : Src} (hs : AsciiThenBoundary s) (L : Nat) (vs : List (Variant Bytes))
    (hv : ∀ v ∈ vs, validKey (variantKey' v) = true ∧ PatRT (L + 1) (variantValue v)) :
    ∀ (G LS E n : Nat) (hd : Bool) (acc : List (Variant Span)),
      AtTo s LS (variantsText (L + 1) vs ++ spacesL G) E → s[E]? = some 125 →
      (vs.filter isDefault).length + (if hd then 1 else 0) = 1 →
      4 * (variantsText (L + 1) vs).length + 9 ≤ n →
      ∃ vs', getVariants s n hd acc (skipBlank s LS) = .ok (acc ++ vs') E ∧ mapVariants (spanBytes s) vs' = vs := by
  induction vs with
  | nil =>
    intro G LS E n hd acc hat h125 hcount hn
    obtain ⟨m, rfl⟩ : ∃ m, n = m + 1 := ⟨n - 1, by omega⟩
    obtain ⟨rfl, hsp⟩ := atTo_spaces (show AtTo s LS (spacesL G) E from hat)
    obtain rfl : hd = true := by cases hd <;> simp_all
    rw [skipBlank_run s G LS 125 hsp h125 (by decide) (by decide) (by decide), getVariants_end s m _ acc h125]
    exact ⟨[], by simp, rfl⟩
  | cons v rest ih =>
    intro G LS E n hd acc hat h125 hcount hn
    obtain ⟨key, value, dflt⟩ := v
    obtain ⟨m, rfl⟩ : ∃ m, n = m + 1 := ⟨n - 1, by omega⟩
    have hv0 := hv (.mk key value dflt) (List.mem_cons_self)
    simp only [variantKey', variantValue] at hv0
    have hvr : ∀ v ∈ rest, validKey (variantKey' v) = true ∧ PatRT (L + 1) (variantValue v) :=
      fun v hvm => hv v (List.mem_cons_of_mem _ hvm)
    have hlen : (variantsText (L + 1) (.mk key value dflt :: rest)).length =
        4 * (L + 1) + 1 + (keyBytes key).length + 1 + (patText (L + 1) value).length + 1 +
          (variantsText (L + 1) rest).length := by
      rw [variantsText_cons]; cases dflt <;> simp [spacesL] <;> omega
    -- the indentation (with `*`) in `[LS, B)`, `[` at `B`, the key in `[B + 1, m₁)`, `]` at `m₁`, the value in `[m₁ + 1, m₂)`,
    -- its line feed at `m₂`, the other variants from `m₂ + 1` on
    rw [variantsText_cons, List.append_assoc] at hat
    obtain ⟨B, hPre, h⟩ := atTo_append.mp hat
    simp only [List.cons_append, List.append_assoc] at h
    obtain ⟨h91, h⟩ := atTo_cons.mp h
    obtain ⟨m₁, hK, h⟩ := atTo_append.mp h
    obtain ⟨h93, h⟩ := atTo_cons.mp h
    obtain ⟨m₂, hPt, h⟩ := atTo_append.mp h
    obtain ⟨h10, hRest⟩ := atTo_cons.mp h
    have hP : skipBlank s LS + (if dflt then 1 else 0) = B ∧
        (if dflt then s[skipBlank s LS]? = some 42 ∧ hd = false else True) := by
      cases dflt with
      | true =>
        obtain ⟨c₀, hS, h42⟩ := atTo_append (A := spacesL (4 * (L + 1) - 1)) |>.mp hPre
        obtain ⟨rfl, hsp⟩ := atTo_spaces hS
        obtain ⟨h42, hB⟩ := atTo_cons.mp h42
        have hsb := skipBlank_run s (4 * (L + 1) - 1) LS 42 hsp h42 (by decide) (by decide) (by decide)
        refine ⟨by rw [hsb]; exact atTo_nil.mp hB, by rw [hsb]; exact h42, ?_⟩
        simp only [List.filter_cons, isDefault, if_true, List.length_cons] at hcount
        cases hd
        · rfl
        · simp at hcount
      | false =>
        obtain ⟨rfl, hsp⟩ := atTo_spaces (show AtTo s LS (spacesL (4 * (L + 1))) B from hPre)
        exact ⟨by rw [skipBlank_run s (4 * (L + 1)) LS 91 hsp h91 (by decide) (by decide) (by decide)]; rfl, trivial⟩
    obtain ⟨value', hpat, hmv⟩ := hv0.2.parse_atTo hs hPt h10
      ⟨Nat.le_refl _, fun j h1 h2 => absurd h2 (Nat.not_lt_of_le h1), stopper_after_variant hRest h125⟩
      (show 4 * (m₂ + 1 - (m₁ + 1)) + 8 ≤ m by have := hPt.len; omega)
    obtain ⟨key', hmk, hstep⟩ := getVariants_step hs m (skipBlank s LS) hd dflt acc hv0.1 value' _ hP.2 hP.1 h91 hK h93 hpat
    obtain ⟨vs', hloop, hmvs⟩ := ih hvr G (m₂ + 1) E m (hd || dflt) (acc ++ [.mk key' value' dflt]) hRest h125
      (defaultCount_cons key value dflt hd rest hcount) (by omega)
    refine ⟨.mk key' value' dflt :: vs', ?_, by simp [mapVariants, Variant.mapS, hmk, hmv, hmvs]⟩
    rw [hstep, hloop, List.append_assoc, List.singleton_append]

end FluentProofs.Ser

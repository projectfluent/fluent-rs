import FluentModel.Localization
/-!
# C18 lemmas: the invariant of `Localization` histories

`Shape s op s'` lists what one operation of the model can do to the state (`step_shape`); `Inv` is kept by every
shape: the cached bundle set was built from the current ids and mode (and locales, unless the provider was mutated
without notice), and every handle given out (cached, held by a caller, used by a request in flight) is an entry of
the log of generator calls.  The last part is about histories: without a change at most one more generator call
(`exec_epoch`); held handles only grow, and so do the requests in flight while none finishes.
-/
namespace FluentProofs.Localization
open FluentModel.Fallback FluentModel.Localization

variable {V L K R : Type} [DecidableEq V]

/-- the generator calls recorded in a log, in order -/
def callsOf (log : List (GenEvent V L)) : List (Built V L) :=
  log.filterMap fun e => match e with
    | .call b => some b
    | .prefetch _ => none

omit [DecidableEq V] in
theorem callsOf_append_call (log : List (GenEvent V L)) (b : Built V L) :
    callsOf (log ++ [.call b]) = callsOf log ++ [b] := by
  simp [callsOf, List.filterMap_append]

omit [DecidableEq V] in
theorem callsOf_append_prefetch (log : List (GenEvent V L)) (n : Nat) :
    callsOf (log ++ [.prefetch n]) = callsOf log := by
  simp [callsOf, List.filterMap_append]

/-- no two resource ids with the same value -/
def NodupVals (ids : List (ResId V)) : Prop := (ids.map (·.value)).Nodup

theorem nodupVals_insertId (ids : List (ResId V)) (r : ResId V) (h : NodupVals ids) :
    NodupVals (insertId ids r) := by
  unfold insertId
  split
  · exact h
  · rename_i hn
    unfold NodupVals at *
    simp only [List.map_append, List.map_cons, List.map_nil]
    rw [List.nodup_append]
    refine ⟨h, by simp, ?_⟩
    intro a ha b hb
    simp only [List.mem_singleton] at hb
    subst hb
    intro hab
    subst hab
    apply hn
    simp only [List.mem_map] at ha
    obtain ⟨x, hx, hxv⟩ := ha
    simp only [List.any_eq_true, decide_eq_true_eq]
    exact ⟨x, hx, hxv⟩

theorem nodupVals_extendIds (rs ids : List (ResId V)) (h : NodupVals ids) : NodupVals (extendIds ids rs) := by
  unfold extendIds
  induction rs generalizing ids with
  | nil => exact h
  | cons r rs ih => exact ih _ (nodupVals_insertId ids r h)

omit [DecidableEq V] in
theorem nodupVals_filter (ids : List (ResId V)) (p : ResId V → Bool) (h : NodupVals ids) :
    NodupVals (ids.filter p) := by
  unfold NodupVals at *
  exact List.Nodup.sublist (List.Sublist.map _ List.filter_sublist) h

theorem extendIds_of_nodup (acc rs : List (ResId V)) (h : NodupVals (acc ++ rs)) :
    extendIds acc rs = acc ++ rs := by
  induction rs generalizing acc with
  | nil => simp [extendIds]
  | cons r rs ih =>
    have hr : (acc.any fun x => decide (x.value = r.value)) = false := by
      unfold NodupVals at h
      simp only [List.map_append, List.map_cons] at h
      rw [List.nodup_append] at h
      obtain ⟨_, _, h3⟩ := h
      cases hany : acc.any fun x => decide (x.value = r.value) with
      | false => rfl
      | true =>
        simp only [List.any_eq_true, decide_eq_true_eq] at hany
        obtain ⟨x, hx, hxv⟩ := hany
        exact absurd hxv (h3 x.value (List.mem_map.2 ⟨x, hx, rfl⟩) r.value (by simp))
    have : extendIds acc (r :: rs) = extendIds (acc ++ [r]) rs := by
      simp [extendIds, List.foldl_cons, insertId, hr]
    rw [this, ih (acc ++ [r]) (by simpa using h)]
    simp

/-- **the invariant** maintained by every operation -/
structure Inv (s : St V L K) : Prop where
  nodup : NodupVals s.resIds
  /-- a cached bundle set was built from the current ids and mode, and — unless the provider was mutated
  without notification — the current locales -/
  fresh : ∀ h, s.bundles = some h →
    h.built.ids = s.resIds ∧ h.built.sync = s.sync ∧ (s.dirty = false → h.built.locales = s.locales)
  /-- generator calls since the last change: one iff a bundle set is cached -/
  epoch : s.epochBuilds = if s.bundles.isSome then 1 else 0
  clean : s.bundles = none → s.dirty = false
  /-- the log holds one generator call per `Rc` ever created, in order of creation; the three fields below say of
  every `Rc` still reachable that the call with its id is the one it was built by -/
  calls : (callsOf s.log).length = s.nextId
  cachedLogged : ∀ h, s.bundles = some h → (callsOf s.log)[h.id]? = some h.built
  heldLogged : ∀ h ∈ s.held, (callsOf s.log)[h.id]? = some h.built
  inflightLogged : ∀ p ∈ s.inflight, (callsOf s.log)[p.1.id]? = some p.1.built

theorem inv_init (ids : List (ResId V)) (sync : Bool) (locales : List L) :
    Inv (St.init (K := K) ids sync locales) := by
  refine ⟨?_, ?_, ?_, ?_, ?_, ?_, ?_, ?_⟩ <;> simp [St.init, callsOf]
  exact nodupVals_extendIds ids [] (by simp [NodupVals])

omit [DecidableEq V] in
theorem inv_change (s : St V L K) (hI : Inv s) (ids : List (ResId V)) (sync : Bool) (hn : NodupVals ids) :
    Inv (({ s with resIds := ids, sync := sync } : St V L K).onChange) :=
  ⟨hn, nofun, rfl, fun _ => rfl, hI.calls, nofun, hI.heldLogged, hI.inflightLogged⟩

theorem getElem?_append_of_some {α : Type} (l r : List α) (i : Nat) (a : α) (h : l[i]? = some a) :
    (l ++ r)[i]? = some a := by
  rw [List.getElem?_append_left (List.getElem?_eq_some_iff.1 h).1]; exact h

omit [DecidableEq V] in
theorem inv_getOrInit (s : St V L K) (hI : Inv s) :
    Inv s.getOrInit.1 ∧ s.getOrInit.1.bundles = some s.getOrInit.2 := by
  unfold St.getOrInit
  cases hb : s.bundles with
  | some h => exact ⟨by simpa using hI, by simp [hb]⟩
  | none =>
    have hd := hI.clean hb
    refine ⟨⟨?_, ?_, ?_, ?_, ?_, ?_, ?_, ?_⟩, rfl⟩
    · exact hI.nodup
    · intro h hh
      simp only [Option.some.injEq] at hh
      subst hh
      exact ⟨rfl, rfl, fun _ => rfl⟩
    · have := hI.epoch
      simp [hb] at this
      simp [this]
    · intro hnone; simp at hnone
    · simp [callsOf_append_call, hI.calls]
    · intro h hh
      simp only [Option.some.injEq] at hh
      subst hh
      simp only [callsOf_append_call]
      rw [← hI.calls]
      simp
    · intro h hh
      simp only [callsOf_append_call]
      exact getElem?_append_of_some _ _ _ _ (hI.heldLogged h hh)
    · intro p hp
      simp only [callsOf_append_call]
      exact getElem?_append_of_some _ _ _ _ (hI.inflightLogged p hp)

omit [DecidableEq V] in
theorem inv_logPrefetch (s : St V L K) (hI : Inv s) (n : Nat) :
    Inv { s with log := s.log ++ [.prefetch n] } := by
  refine ⟨hI.nodup, hI.fresh, hI.epoch, hI.clean, ?_, ?_, ?_, ?_⟩ <;> simp only [callsOf_append_prefetch]
  · exact hI.calls
  · exact hI.cachedLogged
  · exact hI.heldLogged
  · exact hI.inflightLogged

/-- operations that end an epoch: `on_change` is called (by `set_async` only when the mode was sync; it is counted
here in either mode) -/
def isChange : Op V L K → Bool
  | .add _ | .addMany _ | .remove _ | .removeMany _ | .onChange | .setAsync => true
  | _ => false

def isFinish : Op V L K → Bool
  | .finish => true
  | _ => false

/-- the arguments the generator would be given now -/
def current (s : St V L K) : Built V L := { sync := s.sync, locales := s.locales, ids := s.resIds }

omit [DecidableEq V] in
theorem getOrInit_cases (s : St V L K) :
    (∃ h, s.bundles = some h ∧ s.getOrInit = (s, h)) ∨
    (s.bundles = none ∧
      s.getOrInit = ({ s with bundles := some ⟨s.nextId, current s⟩, nextId := s.nextId + 1,
                              log := s.log ++ [.call (current s)], epochBuilds := s.epochBuilds + 1 },
                     ⟨s.nextId, current s⟩)) := by
  unfold St.getOrInit current
  cases hb : s.bundles with
  | some h => exact Or.inl ⟨h, rfl, rfl⟩
  | none => exact Or.inr ⟨rfl, rfl⟩

/-- the state after a successful operation, by kind: a change of ids / mode followed by `on_change`; nothing; the
provider mutated behind the `Localization`'s back; `bundles()` (cached, or built now), possibly followed by a
prefetch entry in the log or by one more `Rc` kept by the caller; a request begun; a request finished -/
inductive Shape (s : St V L K) : Op V L K → St V L K → Prop
  | change (op : Op V L K) (hc : isChange op = true) (ids : List (ResId V)) (sync : Bool)
      (hn : NodupVals s.resIds → NodupVals ids) :
      Shape s op (({ s with resIds := ids, sync := sync } : St V L K).onChange)
  | same (op : Op V L K) : Shape s op s
  | locales (ls : List L) :
      Shape s (.setLocales ls) { s with locales := ls, dirty := s.dirty || s.bundles.isSome }
  | used (op : Op V L K) : Shape s op s.getOrInit.1
  | prefetched (op : Op V L K) :
      Shape s op { s.getOrInit.1 with log := s.getOrInit.1.log ++ [.prefetch s.getOrInit.2.id] }
  | held : Shape s .hold { s.getOrInit.1 with held := s.getOrInit.1.held ++ [s.getOrInit.2] }
  | begun (n : Nat) (key : K) (h : Handle V L) (hh : s.held[n]? = some h) :
      Shape s (.begin n key) { s with inflight := s.inflight ++ [(h, key)] }
  | finished (p : Handle V L × K) (rest : List (Handle V L × K)) (hq : s.inflight = p :: rest) :
      Shape s .finish { s with inflight := rest }

variable (answer : Built V L → K → R)

theorem step_shape {s s' : St V L K} {op : Op V L K} {o : Obs V L R}
    (h : step answer s op = .done (s', o)) : Shape s op s' := by
  have done_eq : ∀ {a : St V L K} {b : Obs V L R}, Outcome.done (a, b) = .done (s', o) → a = s' :=
    fun e => (Prod.mk.inj (Outcome.done.inj e)).1
  cases op with
  | add r => exact done_eq h ▸ .change _ rfl _ s.sync (nodupVals_insertId _ _)
  | addMany rs => exact done_eq h ▸ .change _ rfl _ s.sync (nodupVals_extendIds _ _)
  | remove r => exact done_eq h ▸ .change _ rfl _ s.sync (nodupVals_filter _ _)
  | removeMany rs => exact done_eq h ▸ .change _ rfl _ s.sync (nodupVals_filter _ _)
  | setLocales ls => exact done_eq h ▸ .locales ls
  | onChange => exact done_eq h ▸ .change _ rfl s.resIds s.sync id
  | setAsync =>
    simp only [step] at h
    split at h
    · exact done_eq h ▸ .change _ rfl s.resIds false id
    · exact done_eq h ▸ .same _
  | prefetchSync =>
    simp only [step] at h
    split at h
    · exact done_eq h ▸ .prefetched _
    · cases h
  | prefetchAsync =>
    simp only [step] at h
    split at h
    · cases h
    · exact done_eq h ▸ .prefetched _
  | bundles => exact done_eq h ▸ .used _
  | req key => exact done_eq h ▸ .used _
  | hold => exact done_eq h ▸ .held
  | askHeld n key =>
    simp only [step] at h
    split at h <;> exact done_eq h ▸ .same _
  | begin n key =>
    simp only [step] at h
    split at h
    · rename_i hd hget; exact done_eq h ▸ .begun n key hd hget
    · exact done_eq h ▸ .same _
  | finish =>
    simp only [step] at h
    split at h
    · rename_i hd key rest hq; exact done_eq h ▸ .finished _ rest hq
    · exact done_eq h ▸ .same _

theorem exec_induction (P : St V L K → Prop) (ops : List (Op V L K))
    (hstep : ∀ op ∈ ops, ∀ s s' o, P s → step answer s op = .done (s', o) → P s')
    (s s' : St V L K) (h0 : P s) (h : exec answer s ops = .done s') : P s' := by
  induction ops generalizing s with
  | nil => cases h; exact h0
  | cons op ops ih =>
    simp only [exec] at h
    cases hs : step answer s op with
    | panic site => rw [hs] at h; cases h
    | done r =>
      rw [hs] at h
      exact ih (fun op' hop' => hstep op' (List.mem_cons_of_mem _ hop')) r.1
        (hstep op List.mem_cons_self s r.1 r.2 h0 hs) h

theorem inv_step (s s' : St V L K) (op : Op V L K) (o : Obs V L R)
    (hI : Inv s) (h : step answer s op = .done (s', o)) : Inv s' := by
  cases step_shape answer h with
  | change _ _ ids sync hn => exact inv_change s hI ids sync (hn hI.nodup)
  | same => exact hI
  | locales ls =>
    refine ⟨hI.nodup, ?_, hI.epoch, ?_, hI.calls, hI.cachedLogged, hI.heldLogged, hI.inflightLogged⟩
    · intro hd hh
      obtain ⟨h1, h2, _⟩ := hI.fresh hd hh
      refine ⟨h1, h2, ?_⟩
      simp [show s.bundles = some hd from hh]
    · intro hnone
      have : s.bundles = none := hnone
      simp [this, hI.clean this]
  | used => exact (inv_getOrInit s hI).1
  | prefetched => exact inv_logPrefetch _ (inv_getOrInit s hI).1 _
  | held =>
    obtain ⟨hI', hb⟩ := inv_getOrInit s hI
    refine ⟨hI'.nodup, hI'.fresh, hI'.epoch, hI'.clean, hI'.calls, hI'.cachedLogged, ?_, hI'.inflightLogged⟩
    intro hd hh
    rcases List.mem_append.1 hh with hh | hh
    · exact hI'.heldLogged hd hh
    · cases List.mem_singleton.1 hh; exact hI'.cachedLogged _ hb
  | begun n key hd hget =>
    refine ⟨hI.nodup, hI.fresh, hI.epoch, hI.clean, hI.calls, hI.cachedLogged, hI.heldLogged, ?_⟩
    intro p hp
    rcases List.mem_append.1 hp with hp | hp
    · exact hI.inflightLogged p hp
    · cases List.mem_singleton.1 hp; exact hI.heldLogged _ (List.mem_of_getElem? hget)
  | finished p rest hq =>
    refine ⟨hI.nodup, hI.fresh, hI.epoch, hI.clean, hI.calls, hI.cachedLogged, hI.heldLogged, ?_⟩
    intro p hp
    exact hI.inflightLogged p (by rw [hq]; exact List.mem_cons_of_mem _ hp)

theorem inv_exec (ops : List (Op V L K)) (s s' : St V L K)
    (hI : Inv s) (h : exec answer s ops = .done s') : Inv s' :=
  exec_induction answer Inv ops (fun op _ s s' o hI h => inv_step answer s s' op o hI h) s s' hI h

theorem step_calls (s s' : St V L K) (op : Op V L K) (o : Obs V L R)
    (h : step answer s op = .done (s', o)) :
    callsOf s'.log = callsOf s.log ∨
      (s.bundles = none ∧ callsOf s'.log = callsOf s.log ++ [current s] ∧ current s' = current s ∧
        s'.bundles = some ⟨s.nextId, current s⟩) := by
  -- `bundles()`, and what may follow it, which leaves the generator calls, the arguments and the cache alone
  have used : ∀ s' : St V L K, callsOf s'.log = callsOf s.getOrInit.1.log → current s' = current s.getOrInit.1 →
      s'.bundles = s.getOrInit.1.bundles →
      callsOf s'.log = callsOf s.log ∨
        (s.bundles = none ∧ callsOf s'.log = callsOf s.log ++ [current s] ∧ current s' = current s ∧
          s'.bundles = some ⟨s.nextId, current s⟩) := by
    intro s' h1 h2 h3
    rw [h1, h2, h3]
    rcases getOrInit_cases s with ⟨hd, hb, hg⟩ | ⟨hb, hg⟩ <;> rw [hg]
    · exact Or.inl rfl
    · exact Or.inr ⟨hb, callsOf_append_call _ _, rfl, rfl⟩
  cases step_shape answer h with
  | change | same | locales | begun | finished => exact Or.inl rfl
  | used => exact used _ rfl rfl rfl
  | prefetched => exact used _ (callsOf_append_prefetch _ _) rfl rfl
  | held => exact used _ rfl rfl rfl

theorem step_keeps_cached (s s' : St V L K) (op : Op V L K) (o : Obs V L R)
    (hc : isChange op = false) (h : step answer s op = .done (s', o)) (hd : Handle V L)
    (hb : s.bundles = some hd) : s'.bundles = some hd := by
  have hg : s.getOrInit.1.bundles = some hd := by simp [St.getOrInit, hb]
  cases step_shape answer h with
  | change _ hc' => rw [hc] at hc'; cases hc'
  | same | locales | begun | finished => exact hb
  | used | prefetched | held => exact hg

omit [DecidableEq V] in
theorem getOrInit_held (s : St V L K) : s.getOrInit.1.held = s.held ∧ s.getOrInit.1.inflight = s.inflight := by
  rcases getOrInit_cases s with ⟨hd, _, hg⟩ | ⟨_, hg⟩ <;> rw [hg] <;> exact ⟨rfl, rfl⟩

theorem step_held (s s' : St V L K) (op : Op V L K) (o : Obs V L R)
    (h : step answer s op = .done (s', o)) : ∃ more, s'.held = s.held ++ more := by
  cases step_shape answer h with
  | change | same | locales | begun | finished => exact ⟨[], (List.append_nil _).symm⟩
  | used | prefetched => exact ⟨[], by rw [List.append_nil]; exact (getOrInit_held s).1⟩
  | held => exact ⟨[_], by rw [← (getOrInit_held s).1]⟩

theorem step_inflight (s s' : St V L K) (op : Op V L K) (o : Obs V L R)
    (hf : isFinish op = false) (h : step answer s op = .done (s', o)) :
    ∃ more, s'.inflight = s.inflight ++ more := by
  cases step_shape answer h with
  | change | same | locales => exact ⟨[], (List.append_nil _).symm⟩
  | used | prefetched | held => exact ⟨[], by rw [List.append_nil]; exact (getOrInit_held s).2⟩
  | begun n key hd => exact ⟨[(hd, key)], rfl⟩
  | finished => cases hf

theorem exec_epoch (ops : List (Op V L K)) (s s' : St V L K)
    (hops : ∀ op ∈ ops, isChange op = false) (h : exec answer s ops = .done s') :
    (s.bundles.isSome → callsOf s'.log = callsOf s.log) ∧
    (callsOf s'.log = callsOf s.log ∨ ∃ b, callsOf s'.log = callsOf s.log ++ [b]) := by
  -- so far: no call, and what was cached still is; or one call, which left a bundle set cached
  have key := exec_induction answer
    (fun t => (callsOf t.log = callsOf s.log ∧ (s.bundles.isSome → t.bundles.isSome)) ∨
      (s.bundles = none ∧ t.bundles.isSome ∧ ∃ b, callsOf t.log = callsOf s.log ++ [b]))
    ops ?_ s s' (Or.inl ⟨rfl, id⟩) h
  · rcases key with ⟨h1, _⟩ | ⟨h1, _, h3⟩
    · exact ⟨fun _ => h1, Or.inl h1⟩
    · exact ⟨fun hs => (by rw [h1] at hs; cases hs), Or.inr h3⟩
  · intro op hop t t' o ht hs
    have keeps : t.bundles.isSome → t'.bundles.isSome ∧ callsOf t'.log = callsOf t.log := by
      intro hsome
      obtain ⟨hd, hb⟩ := Option.isSome_iff_exists.1 hsome
      have hb' := step_keeps_cached answer t t' op o (hops op hop) hs hd hb
      refine ⟨by rw [hb']; rfl, (step_calls answer t t' op o hs).resolve_right fun k => ?_⟩
      rw [hb] at k; cases k.1
    rcases ht with ⟨h1, h2⟩ | ⟨h1, h2, b, h3⟩
    · rcases step_calls answer t t' op o hs with hsame | ⟨hnone, hadd, _, hb1⟩
      · exact Or.inl ⟨hsame.trans h1, fun hsome => (keeps (h2 hsome)).1⟩
      · refine Or.inr ⟨?_, by rw [hb1]; rfl, current t, by rw [hadd, h1]⟩
        cases hb : s.bundles with
        | none => rfl
        | some hd => have := h2 (by rw [hb]; rfl); rw [hnone] at this; cases this
    · exact Or.inr ⟨h1, (keeps h2).1, b, (keeps h2).2.trans h3⟩

theorem exec_held (ops : List (Op V L K)) (s s' : St V L K)
    (h : exec answer s ops = .done s') : ∃ more, s'.held = s.held ++ more :=
  exec_induction answer (fun t => ∃ more, t.held = s.held ++ more) ops
    (fun op _ t t' o ⟨m1, h1⟩ hs =>
      let ⟨m2, h2⟩ := step_held answer t t' op o hs
      ⟨m1 ++ m2, by rw [h2, h1, List.append_assoc]⟩)
    s s' ⟨[], (List.append_nil _).symm⟩ h

theorem exec_inflight (ops : List (Op V L K)) (s s' : St V L K)
    (hops : ∀ op ∈ ops, isFinish op = false) (h : exec answer s ops = .done s') :
    ∃ more, s'.inflight = s.inflight ++ more :=
  exec_induction answer (fun t => ∃ more, t.inflight = s.inflight ++ more) ops
    (fun op hop t t' o ⟨m1, h1⟩ hs =>
      let ⟨m2, h2⟩ := step_inflight answer t t' op o (hops op hop) hs
      ⟨m1 ++ m2, by rw [h2, h1, List.append_assoc]⟩)
    s s' ⟨[], (List.append_nil _).symm⟩ h

end FluentProofs.Localization

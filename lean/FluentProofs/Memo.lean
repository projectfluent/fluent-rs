import FluentModel.Memo
/-!
Lemmas for C14, part 1: finite-map laws and one `IntlLangMemoizer` (sequential histories).

`withTryGet_hit/_miss_err/_miss_ok` say what one lookup does in each of its three cases; `LInv` (a key is constructed
successfully at most once, and callbacks run against the cached instance) is kept by every lookup.  The last part is
for C15: with a pure `construct` (`PInv`) and callbacks whose result does not depend on the world, a history returns
`pureOutcome` of each lookup, whatever the cache holds (`lookup_eq_construct_run`).
-/
namespace FluentModel.Memo
set_option linter.unusedSectionVars false

section AList
variable {κ β : Type} [DecidableEq κ]

theorem aget_aset (m : List (κ × β)) (k : κ) (v : β) (k' : κ) :
    aget (aset m k v) k' = if k' = k then some v else aget m k' := by
  induction m with
  | nil =>
    by_cases h : k' = k
    · subst h; simp [aset, aget]
    · have : ¬ k = k' := fun e => h e.symm
      simp [aset, aget, h, this]
  | cons p r ih =>
    obtain ⟨k₁, v₁⟩ := p
    by_cases h1 : k₁ = k
    · subst h1
      by_cases h : k' = k₁
      · subst h; simp [aset, aget]
      · have : ¬ k₁ = k' := fun e => h e.symm
        simp [aset, aget, h, this]
    · by_cases h : k' = k
      · subst h; simp [aset, aget, h1, ih]
      · simp [aset, aget, h1, ih, h]

theorem aget_aerase (m : List (κ × β)) (k k' : κ) :
    aget (aerase m k) k' = if k' = k then none else aget m k' := by
  induction m with
  | nil => simp [aerase, aget]
  | cons p r ih =>
    obtain ⟨k₁, v₁⟩ := p
    unfold aerase at ih ⊢
    by_cases h1 : k₁ = k
    · subst h1
      by_cases h : k' = k₁
      · subst h; simpa [List.filter_cons] using ih
      · have : ¬ k₁ = k' := fun e => h e.symm
        simpa [List.filter_cons, aget, this, h] using ih
    · by_cases h : k' = k
      · subst h
        simp only [List.filter_cons, ne_eq, h1, not_false_eq_true, decide_true, if_true, aget, if_false]
        simpa using ih
      · simp only [List.filter_cons, ne_eq, h1, not_false_eq_true, decide_true, if_true, aget]
        rw [ih]; simp [h]

end AList

section Lang
variable {σ L τ α ι ε ρ : Type} [DecidableEq τ] [DecidableEq α]

theorem cacheOf_aset (m : List (τ × List (α × ι))) (t : τ) (c : List (α × ι)) (t' : τ) :
    cacheOf (aset m t c) t' = if t' = t then c else cacheOf m t' := by
  unfold cacheOf
  rw [aget_aset]
  by_cases h : t' = t <;> simp [h]

/-- writing the per-type cache back unchanged (`or_insert_with` / `into_mut`) changes no lookup -/
theorem find_touch (m : List (τ × List (α × ι))) (t t' : τ) (a : α) :
    find (aset m t (cacheOf m t)) t' a = find m t' a := by
  unfold find
  rw [cacheOf_aset]
  by_cases h : t' = t <;> simp [h]

/-- `entry.insert(val)` -/
theorem find_insert (m : List (τ × List (α × ι))) (t t' : τ) (a a' : α) (i : ι) :
    find (aset m t (aset (cacheOf m t) a i)) t' a' =
      if t' = t ∧ a' = a then some i else find m t' a' := by
  unfold find
  rw [cacheOf_aset]
  by_cases h : t' = t
  · subst h
    simp only [if_true, true_and]
    rw [aget_aset]
  · simp [h]

variable (X : Ext σ L τ α ι ε) (lang : L) (m : LMemo L τ α ι ε) (w : σ) (op : Op σ τ α ι ρ)

theorem withTryGet_hit {i : ι} (h : find m.map op.ty op.args = some i) :
    (withTryGet X lang m w op).out = .ok (op.cb i w).1 ∧
    (withTryGet X lang m w op).ev = none ∧
    (withTryGet X lang m w op).world = (op.cb i w).2 ∧
    (withTryGet X lang m w op).memo.log = m.log ∧
    (withTryGet X lang m w op).memo.calls = (op.ty, op.args, i) :: m.calls ∧
    ∀ t a, find (withTryGet X lang m w op).memo.map t a = find m.map t a := by
  unfold find at h
  unfold withTryGet
  simp only [h]
  refine ⟨by trivial, by trivial, by trivial, by trivial, by trivial, ?_⟩
  intro t a
  exact find_touch m.map op.ty t a

theorem withTryGet_miss_err {e : ε} (h : find m.map op.ty op.args = none)
    (hc : (X.construct w lang op.ty op.args).1 = .error e) :
    (withTryGet X lang m w op).out = .err e ∧
    (withTryGet X lang m w op).ev = some ⟨lang, op.ty, op.args, .error e⟩ ∧
    (withTryGet X lang m w op).world = (X.construct w lang op.ty op.args).2 ∧
    (withTryGet X lang m w op).memo.log = ⟨lang, op.ty, op.args, .error e⟩ :: m.log ∧
    (withTryGet X lang m w op).memo.calls = m.calls ∧
    ∀ t a, find (withTryGet X lang m w op).memo.map t a = find m.map t a := by
  unfold find at h
  unfold withTryGet
  simp only [h, hc]
  refine ⟨by trivial, by trivial, by trivial, by trivial, by trivial, ?_⟩
  intro t a
  exact find_touch m.map op.ty t a

theorem withTryGet_miss_ok {i : ι} (h : find m.map op.ty op.args = none)
    (hc : (X.construct w lang op.ty op.args).1 = .ok i) :
    (withTryGet X lang m w op).out = .ok (op.cb i (X.construct w lang op.ty op.args).2).1 ∧
    (withTryGet X lang m w op).ev = some ⟨lang, op.ty, op.args, .ok i⟩ ∧
    (withTryGet X lang m w op).world = (op.cb i (X.construct w lang op.ty op.args).2).2 ∧
    (withTryGet X lang m w op).memo.log = ⟨lang, op.ty, op.args, .ok i⟩ :: m.log ∧
    (withTryGet X lang m w op).memo.calls = (op.ty, op.args, i) :: m.calls ∧
    ∀ t a, find (withTryGet X lang m w op).memo.map t a =
      if t = op.ty ∧ a = op.args then some i else find m.map t a := by
  unfold find at h
  unfold withTryGet
  simp only [h, hc]
  refine ⟨by trivial, by trivial, by trivial, by trivial, by trivial, ?_⟩
  intro t a
  exact find_insert m.map op.ty t op.args a i

theorem withTryGet_cases :
    (∃ i, find m.map op.ty op.args = some i) ∨
    (find m.map op.ty op.args = none ∧ ∃ e, (X.construct w lang op.ty op.args).1 = .error e) ∨
    (find m.map op.ty op.args = none ∧ ∃ i, (X.construct w lang op.ty op.args).1 = .ok i) := by
  cases h : find m.map op.ty op.args with
  | some i => exact Or.inl ⟨i, rfl⟩
  | none =>
    cases hc : (X.construct w lang op.ty op.args).1 with
    | error e => exact Or.inr (Or.inl ⟨rfl, e, rfl⟩)
    | ok i => exact Or.inr (Or.inr ⟨rfl, i, rfl⟩)

/-- successful construct events for key `(t, a)` -/
def okEvents (m : LMemo L τ α ι ε) (t : τ) (a : α) : List (Event L τ α ι ε) :=
  m.log.filter fun e => e.okFor t a

/-- * every construct event carries the memoizer's language;
    * a key that is not cached has no successful construct event, a cached key has exactly one, and it is the
      event that produced the cached instance (constructed with that key's type and arguments);
    * every callback that ever ran for a key ran against the instance cached for that key. -/
structure LInv (lang : L) (m : LMemo L τ α ι ε) : Prop where
  lang_ok : ∀ e ∈ m.log, e.lang = lang
  cached : ∀ t a, match find m.map t a with
    | none => okEvents m t a = []
    | some i => okEvents m t a = [⟨lang, t, a, .ok i⟩]
  calls_ok : ∀ t a i, (t, a, i) ∈ m.calls → find m.map t a = some i

theorem LInv_empty : LInv lang (LMemo.empty : LMemo L τ α ι ε) := by
  refine ⟨?_, ?_, ?_⟩
  · intro e he; simp [LMemo.empty] at he
  · intro t a; simp [LMemo.empty, find, cacheOf, aget, okEvents]
  · intro t a i h; simp [LMemo.empty] at h

theorem okFor_err (t t' : τ) (a a' : α) (e : ε) :
    Event.okFor (⟨lang, t, a, .error e⟩ : Event L τ α ι ε) t' a' = false := by
  simp [Event.okFor]

theorem okFor_ok (t t' : τ) (a a' : α) (i : ι) :
    Event.okFor (⟨lang, t, a, .ok i⟩ : Event L τ α ι ε) t' a' = (decide (t = t') && decide (a = a')) := by
  simp [Event.okFor]

theorem okEvents_cons_err {m m' : LMemo L τ α ι ε} {t : τ} {a : α} {e : ε}
    (hlog : m'.log = ⟨lang, t, a, .error e⟩ :: m.log) (t' : τ) (a' : α) : okEvents m' t' a' = okEvents m t' a' := by
  simp [okEvents, hlog, okFor_err]

theorem okEvents_cons_ok {m m' : LMemo L τ α ι ε} {t : τ} {a : α} {i : ι}
    (hlog : m'.log = ⟨lang, t, a, .ok i⟩ :: m.log) (t' : τ) (a' : α) :
    okEvents m' t' a' = if t' = t ∧ a' = a then ⟨lang, t, a, .ok i⟩ :: okEvents m t' a' else okEvents m t' a' := by
  by_cases hk : t' = t ∧ a' = a
  · simp [okEvents, hlog, okFor_ok, hk]
  · have : ¬ (t = t' ∧ a = a') := fun k => hk ⟨k.1.symm, k.2.symm⟩
    simp [okEvents, hlog, okFor_ok, hk, this]

theorem LInv_step (hi : LInv lang m) : LInv lang (withTryGet X lang m w op).memo := by
  have hlang : ∀ {m' : LMemo L τ α ι ε} {r}, m'.log = ⟨lang, op.ty, op.args, r⟩ :: m.log →
      ∀ e ∈ m'.log, e.lang = lang := by
    intro m' r hlog e he
    rw [hlog] at he
    rcases List.mem_cons.1 he with rfl | he
    · rfl
    · exact hi.lang_ok e he
  rcases withTryGet_cases X lang m w op with ⟨i, h⟩ | ⟨h, e, hc⟩ | ⟨h, i, hc⟩
  · obtain ⟨-, -, -, hlog, hcalls, hfind⟩ := withTryGet_hit X lang m w op h
    generalize (withTryGet X lang m w op).memo = m' at hlog hcalls hfind ⊢
    refine ⟨by rw [hlog]; exact hi.lang_ok, fun t a => ?_, fun t a i' hm => ?_⟩
    · rw [hfind, show okEvents _ t a = okEvents m t a by unfold okEvents; rw [hlog]]; exact hi.cached t a
    · rw [hcalls] at hm; rw [hfind]
      rcases List.mem_cons.1 hm with heq | hm
      · cases heq; exact h
      · exact hi.calls_ok t a i' hm
  · obtain ⟨-, -, -, hlog, hcalls, hfind⟩ := withTryGet_miss_err X lang m w op h hc
    generalize (withTryGet X lang m w op).memo = m' at hlog hcalls hfind ⊢
    refine ⟨hlang hlog, fun t a => ?_, fun t a i' hm => ?_⟩
    · rw [hfind, okEvents_cons_err lang hlog]; exact hi.cached t a
    · rw [hcalls] at hm; rw [hfind]; exact hi.calls_ok t a i' hm
  · obtain ⟨-, -, -, hlog, hcalls, hfind⟩ := withTryGet_miss_ok X lang m w op h hc
    generalize (withTryGet X lang m w op).memo = m' at hlog hcalls hfind ⊢
    -- the new key was absent, so its only successful event is the new one; other keys are as before
    have hkey : ∀ t a, t = op.ty ∧ a = op.args → okEvents m t a = [] := by
      rintro t a ⟨rfl, rfl⟩
      have := hi.cached op.ty op.args
      rwa [h] at this
    refine ⟨hlang hlog, fun t a => ?_, fun t a i' hm => ?_⟩
    · rw [hfind, okEvents_cons_ok lang hlog]
      by_cases hk : t = op.ty ∧ a = op.args
      · rw [if_pos hk, if_pos hk, hkey t a hk, hk.1, hk.2]
      · rw [if_neg hk, if_neg hk]; exact hi.cached t a
    · rw [hcalls] at hm; rw [hfind]
      rcases List.mem_cons.1 hm with heq | hm
      · cases heq; exact if_pos ⟨rfl, rfl⟩
      · -- an earlier callback ran for a cached key, and the new key was not cached
        have hf := hi.calls_ok t a i' hm
        rw [if_neg fun hk => by rw [hk.1, hk.2, h] at hf; cases hf]
        exact hf

theorem LInv_runOps (ops : List (Op σ τ α ι ρ)) (hi : LInv lang m) :
    LInv lang (runOps X lang ops m w).2.1 := by
  induction ops generalizing m w with
  | nil => exact hi
  | cons op rest ih =>
    simp only [runOps]
    exact ih _ _ (LInv_step X lang m w op hi)

theorem LInv.at_most_once {lang : L} {m : LMemo L τ α ι ε} (hi : LInv lang m) (t : τ) (a : α) :
    (okEvents m t a).length ≤ 1 := by
  have := hi.cached t a
  cases h : find m.map t a with
  | none => rw [h] at this; simp [this]
  | some i => rw [h] at this; simp [this]

theorem LInv.call_instance {lang : L} {m : LMemo L τ α ι ε} (hi : LInv lang m) (t : τ) (a : α) (i : ι)
    (h : (t, a, i) ∈ m.calls) : okEvents m t a = [⟨lang, t, a, .ok i⟩] := by
  have := hi.cached t a
  rw [hi.calls_ok t a i h] at this
  exact this

/-- every cached instance is what the pure `construct` returns for its key -/
def PInv (f : L → τ → α → Except ε ι) (lang : L) (m : LMemo L τ α ι ε) : Prop :=
  ∀ t a i, find m.map t a = some i → f lang t a = .ok i

theorem PInv_empty (f : L → τ → α → Except ε ι) : PInv f lang (LMemo.empty : LMemo L τ α ι ε) := by
  intro t a i h; simp [LMemo.empty, find, cacheOf, aget] at h

theorem PInv_step (f : L → τ → α → Except ε ι) (hpure : ∀ w l t a, (X.construct w l t a).1 = f l t a)
    (hp : PInv f lang m) : PInv f lang (withTryGet X lang m w op).memo := by
  rcases withTryGet_cases X lang m w op with ⟨i, h⟩ | ⟨h, e, hc⟩ | ⟨h, i, hc⟩
  · obtain ⟨_, _, _, _, _, hfind⟩ := withTryGet_hit X lang m w op h
    intro t a i' hf; rw [hfind] at hf; exact hp t a i' hf
  · obtain ⟨_, _, _, _, _, hfind⟩ := withTryGet_miss_err X lang m w op h hc
    intro t a i' hf; rw [hfind] at hf; exact hp t a i' hf
  · obtain ⟨_, _, _, _, _, hfind⟩ := withTryGet_miss_ok X lang m w op h hc
    intro t a i' hf; rw [hfind] at hf
    by_cases hk : t = op.ty ∧ a = op.args
    · obtain ⟨rfl, rfl⟩ := hk
      simp at hf; subst hf
      rw [← hpure w]; exact hc
    · simp [hk] at hf; exact hp t a i' hf

theorem lookup_eq_construct_step (f : L → τ → α → Except ε ι)
    (hpure : ∀ w l t a, (X.construct w l t a).1 = f l t a) (hp : PInv f lang m) :
    match f lang op.ty op.args with
    | .ok i => ∃ w', (withTryGet X lang m w op).out = .ok (op.cb i w').1
    | .error e => (withTryGet X lang m w op).out = .err e := by
  rcases withTryGet_cases X lang m w op with ⟨i, h⟩ | ⟨h, e, hc⟩ | ⟨h, i, hc⟩
  · rw [hp _ _ _ h]
    exact ⟨w, (withTryGet_hit X lang m w op h).1⟩
  · rw [← hpure w, hc]
    exact (withTryGet_miss_err X lang m w op h hc).1
  · rw [← hpure w, hc]
    exact ⟨_, (withTryGet_miss_ok X lang m w op h hc).1⟩

/-- the transparent outcome of one lookup -/
def pureOutcome (f : L → τ → α → Except ε ι) (lang : L) (w₀ : σ) (op : Op σ τ α ι ρ) : Outcome ε ρ :=
  match f lang op.ty op.args with
  | .ok i => .ok (op.cb i w₀).1
  | .error e => .err e

theorem lookup_eq_construct_run (f : L → τ → α → Except ε ι)
    (hpure : ∀ w l t a, (X.construct w l t a).1 = f l t a) (w₀ : σ)
    (ops : List (Op σ τ α ι ρ)) (hcb : ∀ op ∈ ops, ∀ i w w', (op.cb i w).1 = (op.cb i w').1)
    (hp : PInv f lang m) :
    (runOps X lang ops m w).1 = ops.map (pureOutcome f lang w₀) := by
  induction ops generalizing m w with
  | nil => rfl
  | cons op rest ih =>
    simp only [runOps, List.map_cons]
    have hrest : ∀ op' ∈ rest, ∀ i w w', (op'.cb i w).1 = (op'.cb i w').1 :=
      fun op' h => hcb op' (List.mem_cons_of_mem _ h)
    rw [ih _ _ hrest (PInv_step X lang m w op f hpure hp)]
    congr 1
    have := lookup_eq_construct_step X lang m w op f hpure hp
    unfold pureOutcome
    cases hf : f lang op.ty op.args with
    | ok i =>
      rw [hf] at this
      obtain ⟨w', hw'⟩ := this
      rw [hw', hcb op List.mem_cons_self i w' w₀]
    | error e => rw [hf] at this; exact this

end Lang
end FluentModel.Memo

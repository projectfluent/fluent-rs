import FluentModel.Fallback
/-!
# C16 lemmas, part 1: specification vocabulary and the single-key walk

The specification side talks about an ordered list of `(locale, bundle result)` pairs `lbs`
("any ordered locale list and any per-locale bundles"); the model runs on `lbs.map (·.2)` and finds
the locale in `bundle.locales[0]`.  `PerLocale lbs` says that the two agree.
-/
namespace FluentProofs.Fallback
open FluentModel.Fallback

variable {I L A N T RE BE : Type}

/-- the i-th bundle is the bundle of the i-th locale (`bundle.locales[0]`) -/
def PerLocale (lbs : List (L × BundleResult I L A N T RE BE)) : Prop :=
  ∀ p ∈ lbs, p.2.bundleOf.locales.head? = some p.1

theorem PerLocale.cons {p : L × BundleResult I L A N T RE BE} {lbs} (h : PerLocale (p :: lbs)) :
    p.2.bundleOf.locales.head? = some p.1 ∧ PerLocale lbs :=
  ⟨h p (by simp), fun q hq => h q (by simp [hq])⟩

theorem PerLocale.nil : PerLocale ([] : List (L × BundleResult I L A N T RE BE)) := by
  intro p hp; cases hp

theorem locale0_of {b : Bundle I L A N T RE} {l : L} (h : b.locales.head? = some l) :
    locale0 b = .done l := by
  unfold locale0
  cases hb : b.locales with
  | nil => simp [hb] at h
  | cons x xs => simp [hb] at h; simp [h]

/-- the formatted value of key `k` in this locale's bundle, if the bundle has the message with a value -/
def answerOf (k : Key I A) (p : L × BundleResult I L A N T RE BE) : Option (Fmt T RE) :=
  match p.2.bundleOf.getMessage k.id with
  | none => none
  | some m => m.value.map fun v => v k.args

/-- the locale can answer a value request for `k` -/
def answers (k : Key I A) (p : L × BundleResult I L A N T RE BE) : Bool := (answerOf k p).isSome

/-- the locale has the message (with or without a value) -/
def hasMessage (k : Key I A) (p : L × BundleResult I L A N T RE BE) : Bool :=
  (p.2.bundleOf.getMessage k.id).isSome

/-- errors carried by a partially broken bundle, as `LocalizationError::Bundle` -/
def carriedErrs (p : L × BundleResult I L A N T RE BE) : List (LocErr I L RE BE) :=
  p.2.carried.map LocErr.bundle

/-- the entry naming a locale that lacked the value (`MissingValue`) or the message (`MissingMessage`) -/
def missEntry (k : Key I A) (p : L × BundleResult I L A N T RE BE) : LocErr I L RE BE :=
  if hasMessage k p then .missingValue k.id (some p.1) else .missingMessage k.id (some p.1)

/-- what a locale that could not answer contributes: its carried errors, then its entry -/
def missErrs (k : Key I A) (p : L × BundleResult I L A N T RE BE) : List (LocErr I L RE BE) :=
  carriedErrs p ++ [missEntry k p]

/-- the `Resolver` entry of the answering locale: present iff the resolver reported errors -/
def resolverEntry (id : I) (l : L) (errs : List RE) : List (LocErr I L RE BE) :=
  if errs.isEmpty then [] else [.resolver id l errs]

/-- the final locale-less entry -/
def finalEntry (k : Key I A) (sawMessage : Bool) : LocErr I L RE BE :=
  if sawMessage then .missingValue k.id none else .missingMessage k.id none

/-- the first locale (in the given order) that can answer, with its formatting -/
def firstAnswer (k : Key I A) (lbs : List (L × BundleResult I L A N T RE BE)) :
    Option ((L × BundleResult I L A N T RE BE) × Fmt T RE) :=
  lbs.findSome? fun p => (answerOf k p).map fun f => (p, f)

/-- the locales walked before the first one that can answer (all of them if none can) -/
def before (k : Key I A) (lbs : List (L × BundleResult I L A N T RE BE)) :
    List (L × BundleResult I L A N T RE BE) :=
  lbs.takeWhile fun p => !answers (T := T) (RE := RE) k p

/-- **Specification of a single value request** (result, errors pushed, bundles consumed);
`found` is the initial `found_message` flag (`false` for a request). -/
def valueSpecFrom (k : Key I A) (found : Bool) (lbs : List (L × BundleResult I L A N T RE BE)) :
    Option T × List (LocErr I L RE BE) × Nat :=
  match firstAnswer (T := T) k lbs with
  | some (p, f) =>
    (some f.text,
     (before (T := T) (RE := RE) k lbs).flatMap (missErrs k) ++ carriedErrs p ++ resolverEntry k.id p.1 f.errs,
     (before (T := T) (RE := RE) k lbs).length + 1)
  | none =>
    (none,
     lbs.flatMap (missErrs k) ++ [finalEntry k (found || lbs.any (hasMessage k))],
     lbs.length)

abbrev valueSpec (k : Key I A) (lbs : List (L × BundleResult I L A N T RE BE)) :
    Option T × List (LocErr I L RE BE) × Nat :=
  valueSpecFrom k false lbs

theorem unwrapBundle_eq (p : L × BundleResult I L A N T RE BE) (errors : List (LocErr I L RE BE)) :
    unwrapBundle p.2 errors = (p.2.bundleOf, errors ++ carriedErrs p) := by
  unfold unwrapBundle carriedErrs BundleResult.bundleOf BundleResult.carried
  cases p.2 <;> simp

theorem valueSpecFrom_nil (k : Key I A) (found : Bool) :
    valueSpecFrom (L := L) (N := N) (T := T) (RE := RE) (BE := BE) k found [] = (none, [finalEntry k found], 0) := by
  simp [valueSpecFrom, firstAnswer]

theorem valueSpecFrom_cons_answer (k : Key I A) (found : Bool) (p : L × BundleResult I L A N T RE BE)
    (rest : List (L × BundleResult I L A N T RE BE)) (f : Fmt T RE) (ha : answerOf k p = some f) :
    valueSpecFrom k found (p :: rest) = (some f.text, carriedErrs p ++ resolverEntry k.id p.1 f.errs, 1) := by
  simp [valueSpecFrom, firstAnswer, before, answers, ha]

theorem valueSpecFrom_cons_miss (k : Key I A) (found : Bool) (p : L × BundleResult I L A N T RE BE)
    (rest : List (L × BundleResult I L A N T RE BE)) (ha : answerOf k p = none) :
    valueSpecFrom k found (p :: rest) =
      ((valueSpecFrom k (found || hasMessage k p) rest).1,
       missErrs k p ++ (valueSpecFrom k (found || hasMessage k p) rest).2.1,
       (valueSpecFrom k (found || hasMessage k p) rest).2.2 + 1) := by
  simp only [valueSpecFrom, firstAnswer, before, answers, ha, List.findSome?_cons, Option.map_none,
    List.takeWhile_cons, Option.isSome_none, Bool.not_false, if_true, List.flatMap_cons, List.any_cons,
    List.length_cons]
  cases List.findSome? (fun p => Option.map (fun f => (p, f)) (answerOf k p)) rest with
  | none => simp [Bool.or_assoc]
  | some pf => simp

/-- the loop of `format_value_from_inner!`, from any loop state -/
theorem valueLoop_spec (k : Key I A) (lbs : List (L × BundleResult I L A N T RE BE))
    (h : PerLocale lbs) (found : Bool) (errors : List (LocErr I L RE BE)) (used : Nat) :
    valueLoop k.id k.args (lbs.map (·.2)) found errors used =
      .done ((valueSpecFrom k found lbs).1, errors ++ (valueSpecFrom k found lbs).2.1,
             used + (valueSpecFrom k found lbs).2.2) := by
  induction lbs generalizing found errors used with
  | nil =>
    cases found <;> simp [valueLoop, valueSpecFrom_nil, finalEntry]
  | cons p rest ih =>
    obtain ⟨hl, hrest⟩ := h.cons
    have hloc := locale0_of hl
    simp only [List.map_cons, valueLoop, unwrapBundle_eq]
    cases hm : p.2.bundleOf.getMessage k.id with
    | none =>
      have ha : answerOf k p = none := by simp [answerOf, hm]
      have hh : hasMessage k p = false := by simp [hasMessage, hm]
      simp only [hloc, Outcome.bind, ih hrest, valueSpecFrom_cons_miss k found p rest ha]
      simp [hh, missErrs, missEntry, Nat.add_assoc, Nat.add_comm]
    | some m =>
      have hh : hasMessage k p = true := by simp [hasMessage, hm]
      cases hv : m.value with
      | none =>
        have ha : answerOf k p = none := by simp [answerOf, hm, hv]
        simp only [hloc, Outcome.bind, ih hrest, valueSpecFrom_cons_miss k found p rest ha]
        simp [hv, hh, missErrs, missEntry, Nat.add_assoc, Nat.add_comm]
      | some v =>
        have ha : answerOf k p = some (v k.args) := by simp [answerOf, hm, hv]
        simp only [valueSpecFrom_cons_answer k found p rest _ ha]
        cases he : (v k.args).errs.isEmpty <;> simp [hv, he, hloc, Outcome.bind, resolverEntry, List.append_assoc]

theorem formatValueFromInner_spec (k : Key I A) (lbs : List (L × BundleResult I L A N T RE BE))
    (h : PerLocale lbs) (errors : List (LocErr I L RE BE)) :
    formatValueFromInner (lbs.map (·.2)) k.id k.args errors =
      .done ((valueSpec k lbs).1, errors ++ (valueSpec k lbs).2.1, (valueSpec k lbs).2.2) := by
  simpa [formatValueFromInner] using valueLoop_spec k lbs h false errors 0

theorem firstAnswer_eq_none (k : Key I A) (lbs : List (L × BundleResult I L A N T RE BE)) :
    firstAnswer k lbs = none ↔ ∀ q ∈ lbs, answers k q = false := by
  simp [firstAnswer, answers]

theorem firstAnswer_append_of_none (k : Key I A) (pre : List (L × BundleResult I L A N T RE BE))
    (hpre : ∀ q ∈ pre, answers k q = false) (rest) :
    firstAnswer k (pre ++ rest) = firstAnswer k rest := by
  have h := (firstAnswer_eq_none k pre).2 hpre
  unfold firstAnswer at h ⊢
  rw [List.findSome?_append, h, Option.none_or]

theorem before_append_of_none (k : Key I A) (pre : List (L × BundleResult I L A N T RE BE))
    (hpre : ∀ q ∈ pre, answers k q = false) (rest) :
    before k (pre ++ rest) = pre ++ before k rest := by
  unfold before
  exact List.takeWhile_append_of_pos fun q hq => by simp [hpre q hq]

theorem valueSpec_first (k : Key I A) (pre post : List (L × BundleResult I L A N T RE BE))
    (p : L × BundleResult I L A N T RE BE) (f : Fmt T RE)
    (hpre : ∀ q ∈ pre, answers k q = false) (hp : answerOf k p = some f) :
    valueSpec k (pre ++ p :: post) =
      (some f.text,
       pre.flatMap (missErrs k) ++ carriedErrs p ++ resolverEntry k.id p.1 f.errs,
       pre.length + 1) := by
  have h1 := firstAnswer_append_of_none k pre hpre (p :: post)
  have h2 := before_append_of_none k pre hpre (p :: post)
  have h3 : firstAnswer k (p :: post) = some (p, f) := by simp [firstAnswer, hp]
  have h4 : before k (p :: post) = [] := by simp [before, answers, hp]
  simp [valueSpec, valueSpecFrom, h1, h2, h3, h4]

theorem valueSpec_none (k : Key I A) (lbs : List (L × BundleResult I L A N T RE BE))
    (h : ∀ q ∈ lbs, answers k q = false) :
    valueSpec k lbs =
      (none, lbs.flatMap (missErrs k) ++ [finalEntry k (lbs.any (hasMessage k))], lbs.length) := by
  have := (firstAnswer_eq_none k lbs).2 h
  simp [valueSpec, valueSpecFrom, this]

theorem valueSpec_result_none_iff (k : Key I A) (lbs : List (L × BundleResult I L A N T RE BE)) :
    (valueSpec k lbs).1 = none ↔ ∀ q ∈ lbs, answers k q = false := by
  rw [← firstAnswer_eq_none]
  unfold valueSpec valueSpecFrom
  cases firstAnswer k lbs <;> simp

end FluentProofs.Fallback

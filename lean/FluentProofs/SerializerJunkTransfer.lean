import FluentProofs.SerializerJunkSrc
import FluentProofs.SerializerJunkText
import FluentProofs.SerializerOutCrValid
import FluentProofs.SerializerSources
import FluentProofs.ParserLocalSimTop
/-!
# Serializer lemmas: from the source to every text that holds the same Junk (C04)

If the tree `t` is `SrcGood` in the source `s` (its Junk entries fail and recover in `s` as recorded), then its class form
`t.map (nE s)` is `JGood`: the same Junk texts fail and recover in the same way in EVERY source that holds them followed by
the serialised following entries (`junk_transfer`, `attr_transfer`: the two-source simulation).  With it the written normal
form of every parse tree is `JGood`, for both options (without `with_junk` it holds entries of the class only), and
`roundtrip_junk_tree` gives the round trip of every source.
-/
namespace FluentProofs.Ser
open FluentModel FluentModel.Syntax FluentModel.Syntax.Ser FluentProofs.Parser

theorem bar_of_bytes {s : Src} {P : Nat} {b : UInt8} {rest : Bytes} (hb : isReal b = true)
    (hall : ∀ c ∈ b :: rest, isIdentByte c = true) (hls : LS s P) (hat : At s P (b :: rest ++ [32, 61])) :
    Bar s P (P + (b :: rest).length + 1) := by
  rw [at_append] at hat
  obtain ⟨hatid, hat2⟩ := hat
  simp only [at_cons] at hat2
  have hatid' := hatid
  rw [at_cons] at hatid'
  refine ⟨hls, by omega, ⟨b, hatid'.1, hb⟩, ?_, hat2.2.1⟩
  intro i h1 h2
  by_cases hi : i < P + (b :: rest).length
  · have hlt : i - P < (b :: rest).length := by omega
    have hg := at_get hatid (i - P) hlt
    rw [show P + (i - P) = i by omega] at hg
    exact ⟨_, hg, Or.inl (hall _ (List.getElem_mem hlt))⟩
  · obtain rfl : i = P + (b :: rest).length := by omega
    exact ⟨32, hat2.1, Or.inr rfl⟩

theorem bar_of_ident {s : Src} {P : Nat} {id : Bytes} (hid : validIdent id = true) (hls : LS s P)
    (hat : At s P (id ++ [32, 61])) : ∃ E, Bar s P E := by
  obtain ⟨b, rest, rfl, hb, hrest⟩ := validIdent_head hid
  refine ⟨_, bar_of_bytes (isAlpha_ident_real b hb).2 (fun c hc => ?_) hls hat⟩
  rcases List.mem_cons.mp hc with rfl | hc
  · exact (isAlpha_ident_real _ hb).1
  · exact hrest c hc

theorem bar_of_term {s : Src} {P : Nat} {id : Bytes} (hid : validIdent id = true) (hls : LS s P)
    (hat : At s P (45 :: (id ++ [32, 61]))) : ∃ E, Bar s P E := by
  obtain ⟨b, rest, rfl, hb, hrest⟩ := validIdent_head hid
  refine ⟨_, bar_of_bytes (b := 45) (rest := b :: rest) (by decide) (fun c hc => ?_) hls hat⟩
  rcases List.mem_cons.mp hc with rfl | hc
  · decide
  · rcases List.mem_cons.mp hc with rfl | hc
    · exact (isAlpha_ident_real _ hb).1
    · exact hrest c hc

theorem tailB_of_text {s : Src} {P : Nat} (e : Entry Bytes) (he : rtEntry e = true) (hls : LS s P)
    (hat : At s P (entryText false e)) : TailB s P := by
  by_cases hk : hashHead e = true
  · left
    have := entryText_head_hash e he hk
    exact at_head hat this
  · right
    cases e with
    | message m =>
      simp only [rtEntry, Bool.and_eq_true] at he
      have hc : m.comment = none := by
        cases hcm : m.comment with
        | none => rfl
        | some c => simp [hashHead, hcm] at hk
      simp only [entryText, hc, optCommentText, List.nil_append, List.append_assoc] at hat
      exact bar_of_ident he.1.1.1 hls
        (at_append_left (a := m.id ++ [32, 61]) (by simpa [List.append_assoc] using hat))
    | term t =>
      simp only [rtEntry, Bool.and_eq_true] at he
      have hc : t.comment = none := by
        cases hcm : t.comment with
        | none => rfl
        | some c => simp [hashHead, hcm] at hk
      simp only [entryText, hc, optCommentText, List.nil_append, List.append_assoc] at hat
      refine bar_of_term he.1.1.1 hls ?_
      rw [at_cons] at hat ⊢
      exact ⟨hat.1, at_append_left (a := t.id ++ [32, 61]) (by simpa [List.append_assoc] using hat.2)⟩
    | comment c => simp [hashHead] at hk
    | groupComment c => simp [hashHead] at hk
    | resourceComment c => simp [hashHead] at hk
    | junk c => simp [rtEntry] at he

theorem nE_junk (s : Src) (sp : Span) : nE s (.junk sp) = .junk (spanBytes s sp) := rfl

theorem nE_isJunk {s : Src} {e : Entry Span} (hj : e.isJunk = false) : isJunk (nE s e) = false := by
  cases e <;> first | rfl | (simp [Entry.isJunk] at hj)

theorem cont_lt {s : Src} {p : Nat} {es : List (Entry Span)} (hc : Cont s p es) (hne : es ≠ []) : p < s.size := by
  cases es with
  | nil => exact absurd rfl hne
  | cons e es =>
    by_cases hj : e.isJunk = true
    · obtain ⟨sp, rfl⟩ := eq_junk_of_isJunkS hj
      obtain ⟨h1, h2, h3, _⟩ := hc
      omega
    · rw [cont_nonjunk (by simpa using hj)] at hc
      exact hc.1

theorem getLast?_at {s : Src} {P : Nat} {c : Bytes} (hat : At s P c) (hne : c ≠ []) : c.getLast? = s[P + c.length - 1]? := by
  have hx := List.getLast?_eq_some_getLast hne
  rw [hx, at_getLast hat hx]

theorem LS_copy {s s₂ : Src} {p P₂ : Nat} {c : Bytes} (h1 : At s p c) (h2 : At s₂ P₂ c) (hne : c ≠ [])
    (hls : LS s (p + c.length)) : LS s₂ (P₂ + c.length) := by
  apply LS_after h2.atTo
  rw [getLast?_at h1 hne]
  have := List.length_pos_iff.mpr hne
  exact hls.resolve_left (by omega)

theorem copy_append {s s₂ : Src} {p P₂ L : Nat} {c : Bytes} (h1 : At s p c) (h2 : At s₂ P₂ c)
    (h : Copy s s₂ (p + c.length) (P₂ + c.length) L) : Copy s s₂ p P₂ (c.length + L) := by
  refine ⟨fun i hi => ?_, by rw [← Nat.add_assoc, ← Nat.add_assoc]; exact h.tail⟩
  by_cases hi1 : i < c.length
  · rw [at_get h1 i hi1, at_get h2 i hi1]
  · have := h.agree (i - c.length) (by omega)
    rwa [show P₂ + c.length + (i - c.length) = P₂ + i by omega,
      show p + c.length + (i - c.length) = p + i by omega] at this

theorem at_junk {s : Src} {sp : Span} (hlt : sp.start < sp.stop) (hle : sp.stop ≤ s.size) :
    At s sp.start (spanBytes s sp) ∧ sp.stop = sp.start + (spanBytes s sp).length ∧ spanBytes s sp ≠ [] := by
  have hlen : (spanBytes s sp).length = sp.stop - sp.start := spanBytes_length s sp.start sp.stop hle
  exact ⟨at_span sp.start sp.stop, by omega, spanBytes_ne_nil hlt hle⟩

/-- what stands at `p` in the source, where the entries `es` follow, is copied (`Copy`) in every source that holds the written
form of `es` at a line start: `L` is the length of the Junk entries `es` begins with, which are written verbatim; behind them
both sources end, or the next entry starts with `#` or an entry head in both -/
theorem run_copy {s : Src} (es : List (Entry Span)) : ∀ (p : Nat), Cls s es → Cont s p es →
    ∃ L, ∀ (s₂ : Src) (P₂ : Nat), At s₂ P₂ (resTextJ false (es.map (nE s))) →
        P₂ + (resTextJ false (es.map (nE s))).length = s₂.size → (es ≠ [] → LS s₂ P₂) → Copy s s₂ p P₂ L := by
  induction es with
  | nil =>
    intro p _ hc
    refine ⟨0, fun s₂ P₂ _ hsz _ => ?_⟩
    simp only [List.map_nil, resTextJ, List.length_nil, Nat.add_zero] at hsz
    have hc : s.size ≤ p := hc
    have h1 : s[p]? = none := by simp; omega
    have h2 : s₂[P₂]? = none := by simp; omega
    refine ⟨fun i hi => ?_, Or.inl h1⟩
    obtain rfl : i = 0 := by omega
    rw [Nat.add_zero, Nat.add_zero, h1, h2]
  | cons e es ih =>
    intro p hcls hc
    by_cases hj : e.isJunk = true
    · obtain ⟨sp, rfl⟩ := eq_junk_of_isJunkS hj
      obtain ⟨rfl, hlt, hle, hlse, hcont⟩ := hc
      obtain ⟨hatc, hstop, hne⟩ := at_junk hlt hle
      rw [hstop] at hcont hlse
      obtain ⟨L', hL'⟩ := ih _ (fun e he => hcls e (List.mem_cons_of_mem _ he)) hcont
      refine ⟨(spanBytes s sp).length + L', fun s₂ P₂ hat hsz hls₂ => ?_⟩
      simp only [List.map_cons, nE_junk, resTextJ_junk] at hat hsz
      rw [at_append] at hat
      rw [List.length_append] at hsz
      exact copy_append hatc hat.1 (hL' s₂ _ hat.2 (by omega)
        (fun hne' => LS_copy hatc hat.1 hne (hlse.ls (cont_lt hcont hne'))))
    · have hj' : e.isJunk = false := by simpa using hj
      rw [cont_nonjunk hj'] at hc
      obtain ⟨hlt, hls, htb, hhead⟩ := hc
      have hrt : rtEntry (nE s e) = true := hcls.rt List.mem_cons_self hj'
      refine ⟨0, fun s₂ P₂ hat hsz hls₂ => ?_⟩
      simp only [List.map_cons] at hat hsz
      rw [resTextJ_entry false (nE s e) _ hrt] at hat hsz
      have hat1 := at_append_left hat
      refine ⟨fun i hi => ?_, Or.inr ⟨hls, htb, tailB_of_text (nE s e) hrt (hls₂ (by simp)) hat1⟩⟩
      obtain rfl : i = 0 := by omega
      rw [Nat.add_zero, Nat.add_zero, hhead]
      cases htx : entryText false (nE s e) with
      | nil => have := entryText_ne false (nE s e) hrt; rw [htx] at this; simp at this
      | cons x xs => rw [htx, at_cons] at hat1; simp [hat1.1]

theorem blockStop_inv {s : Src} {P : Nat} (h : BlockStop s P) (hlt : P < s.size) :
    ∃ k b, LineHead s P k (some b) ∧ b ≠ 10 ∧ (b = 13 → s[P + k + 1]? ≠ some 10) := by
  obtain ⟨k, o, H⟩ := lineHead s P
  have h0 := h 0 0
  rw [skipBlankBlockGo, H.sbi] at h0
  cases hE : skipEol s (P + k) with
  | some q' =>
    rw [hE] at h0
    simp only [skipBlankBlockGo] at h0
    injection h0 with _ h2
    omega
  | none =>
    rw [hE] at h0
    cases o with
    | none =>
      -- blanks up to the end of input are a blank line
      have : ¬ P + k < s.size := by have := H.byte; simp at this; omega
      simp only [this, if_false] at h0
      injection h0 with h1 _
      omega
    | some b =>
      have hb := H.byte
      refine ⟨k, b, H, fun h10 => ?_, fun h13 h10' => ?_⟩
      · subst h10; simp [skipEol, hb] at hE
      · subst h13; simp [skipEol, hb, h10'] at hE

theorem junk_text_facts {s : Src} {sp : Span} (hjs : JunkSrc s sp) :
    ∃ k0 b, LineHead s sp.start k0 (some b) ∧ b ≠ 10 ∧ sp.start + k0 < sp.stop ∧
      firstNonSpace (spanBytes s sp) = some (k0, b) ∧ crOK (spanBytes s sp) k0 b = true := by
  have hlt : sp.start < s.size := by have := hjs.lt; have := hjs.le; omega
  obtain ⟨k0, b, H, h4, h5⟩ := blockStop_inv hjs.block hlt
  have hin : sp.start + k0 < sp.stop := by
    apply Classical.byContradiction
    intro hn
    rcases hjs.ends with hls | hsz
    · rcases hls with h0 | h10
      · have := hjs.lt; omega
      · have hpos := hjs.lt
        by_cases he : sp.stop - 1 = sp.start + k0
        · rw [he, H.byte] at h10; injection h10 with h10; exact h4 h10
        · have := H.space (j := sp.stop - 1 - sp.start) (by omega)
          rw [show sp.start + (sp.stop - 1 - sp.start) = sp.stop - 1 by omega, h10] at this
          cases this
    · have := get_lt H.byte; omega
  obtain ⟨hat, hstop, _⟩ := at_junk hjs.lt hjs.le
  refine ⟨k0, b, H, h4, hin, (firstNonSpace_iff hat).mpr ⟨by omega, H⟩, ?_⟩
  -- a `\r` at `k0` is not followed by `\n` in the Junk text
  simp only [crOK, Bool.or_eq_true, bne_iff_ne, ne_eq]
  by_cases h13 : b = 13
  · right
    by_cases hk1 : k0 + 1 < (spanBytes s sp).length
    · rw [List.getElem?_eq_getElem hk1, ← at_get hat (k0 + 1) hk1, ← Nat.add_assoc]
      exact h5 h13
    · rw [List.getElem?_eq_none (by omega)]; nofun
  · exact Or.inl h13

theorem stopperText_of_stopper {c : Bytes} {s : Src} {P k : Nat} {b : UInt8} (hat : At s P c)
    (hf : firstNonSpace c = some (k, b)) (h10 : b ≠ 10) (hcr : crOK c k b = true) (hlt : P < s.size)
    (h : Stopper s P) : stopperText c = true := by
  obtain ⟨_, H⟩ := (firstNonSpace_iff hat).mp hf
  rcases h with h | ⟨b', hb', n1, _, _, n4⟩ | ⟨k', b', hk, hsp, hb', hset⟩
  · omega
  · obtain ⟨rfl, hb⟩ := (LineHead.of_run (k := 0) (fun j hj => by omega) hb' (by simpa using n1)).unique H
    cases hb
    simp only [stopperText, hf, Bool.and_eq_true, bne_iff_ne, ne_eq]
    exact ⟨⟨h10, hcr⟩, n4⟩
  · obtain ⟨rfl, hb⟩ := (LineHead.of_run hsp hb'
      (by rcases hset with h | h | h | h <;> subst h <;> decide)).unique H
    cases hb
    obtain ⟨k, rfl⟩ : ∃ k', k = k' + 1 := ⟨k - 1, by omega⟩
    simp only [stopperText, hf, Bool.or_eq_true, beq_iff_eq]
    rcases hset with h | h | h | h
    · exact Or.inl (Or.inl (Or.inl h))
    · exact Or.inl (Or.inl (Or.inr h))
    · exact Or.inl (Or.inr h)
    · exact Or.inr h

/-- the clause of `JGood` about the parser, for a Junk `sp` of the source: by `run_copy` the text in `s₂` is a copy of the
source from `sp.start` on, so `junk_transfer` and `attr_transfer` carry the failing run and the recovery over to `s₂` -/
theorem junk_clause {s : Src} (hs : AsciiThenBoundary s) {sp : Span} {es : List (Entry Span)} {prev : Bool}
    (hjs : JunkSrc s sp) (hmt : prev = true → EntryStop s sp.start) (hcont : Cont s sp.stop es) (hcls : Cls s es)
    (s₂ : Src) (P : Nat) (hs₂ : AsciiThenBoundary s₂) (hls₂ : LS s₂ P)
    (hat : At s₂ P (spanBytes s sp ++ resTextJ false (es.map (nE s))))
    (hsz : P + (spanBytes s sp ++ resTextJ false (es.map (nE s))).length = s₂.size) :
    JunkAt s₂ P (spanBytes s sp) ∧ (prev = true → AttrStopAt s₂ P) := by
  obtain ⟨hatc, hstop, hne⟩ := at_junk hjs.lt hjs.le
  obtain ⟨L, hL⟩ := run_copy es sp.stop hcls hcont
  rw [at_append] at hat
  obtain ⟨hat1, hat2⟩ := hat
  rw [List.length_append] at hsz
  have hcpos : 0 < (spanBytes s sp).length := List.length_pos_iff.mpr hne
  rw [hstop] at hL
  -- the Junk and the Junk run behind it
  have hcopy : Copy s s₂ sp.start P ((spanBytes s sp).length + L) :=
    copy_append hatc hat1 (hL s₂ _ hat2 (by omega)
      (fun hne' => LS_copy hatc hat1 hne (by rw [← hstop]; exact hjs.ends.ls (cont_lt hcont hne'))))
  have ha₁ : sp.start < s.size := by have := hjs.lt; have := hjs.le; omega
  have ha₂ : P ≤ s₂.size := by omega
  have hb₁ := bnd_of_LS hs hjs.ls
  have hb₂ := bnd_of_LS hs₂ hls₂
  constructor
  · obtain ⟨e, q, hr, hk⟩ := hjs.fail
    rw [hstop] at hk
    exact junk_transfer hs hs₂ ha₁ ha₂ hb₁ hb₂ hjs.ls hls₂ hcopy (by omega) hr hk
  · intro hp
    obtain ⟨k0, b, H, f4, f7, _, _⟩ := junk_text_facts hjs
    -- the same first line in the text
    have H₂ : LineHead s₂ P k0 (some b) := H.copy fun j hj => hcopy.agree j (by omega)
    apply attrStopAt_of
    rw [H₂.sbi]
    rcases attrStop_inv (hmt hp).attrs with hnd | ⟨e, q, he⟩
    · left
      rw [H.sbi, H.byte] at hnd
      rw [H₂.byte]
      exact hnd
    · right
      rw [H.sbi] at he
      refine attr_transfer hs hs₂ (Nat.le_of_lt ha₁) ha₂ hb₁ hb₂ hjs.ls hls₂ hcopy (j := k0 + 1) (fun hnone => ?_)
        (by have := get_lt H.byte; omega) he
      -- a `#` or an entry head follows: the Junk ends with a line feed, which is not the byte at `k0`
      rcases hjs.ends with hls | hsz'
      · have h10 : s[sp.stop - 1]? = some 10 := hls.resolve_left (by omega)
        have : sp.start + k0 ≠ sp.stop - 1 := by
          intro he'; have f2 := H.byte; rw [he', h10] at f2; injection f2 with f2; exact f4 f2.symm
        omega
      · exact absurd (by simp; omega) hnone

/-- induction along the tree: the byte clauses of `JGood` for a Junk are read off its span in the source
(`junk_text_facts`), the parser clause is `junk_clause`, the other entries are of the class -/
theorem jgood_of_srcGood {s : Src} (hs : AsciiThenBoundary s) :
    ∀ (t : List (Entry Span)) (prev : Bool), Cls s t → SrcGood s prev t → JGood prev (t.map (nE s)) := by
  intro t
  induction t with
  | nil => intro _ _ _; trivial
  | cons e es ih =>
    intro prev hcls hsg
    have hcls' : Cls s es := fun x hx => hcls x (List.mem_cons_of_mem _ hx)
    by_cases hj : e.isJunk = true
    · obtain ⟨sp, rfl⟩ := eq_junk_of_isJunkS hj
      obtain ⟨hjs, hmt, hcont, hrest⟩ := hsg
      obtain ⟨hatc, hstop, hne⟩ := at_junk hjs.lt hjs.le
      obtain ⟨k0, b, _, f4, _, f8, hcrok⟩ := junk_text_facts hjs
      refine ⟨hne, ?_, ?_, fun hp => ?_, junk_clause hs hjs hmt hcont hcls', ih false hcls' hrest⟩
      · -- a trailing `\n`, or the last entry
        rcases hjs.ends with hls | hsz
        · left
          rw [getLast?_at hatc hne, ← hstop]
          exact hls.resolve_left (by have := hjs.lt; omega)
        · right
          apply Classical.byContradiction
          intro hes
          have := cont_lt hcont (fun h0 => hes (by rw [h0]; rfl))
          omega
      · simp only [nonBlankStart, f8, Bool.and_eq_true, bne_iff_ne, ne_eq]
        exact ⟨f4, hcrok⟩
      · exact stopperText_of_stopper hatc f8 f4 hcrok (by have := hjs.lt; have := hjs.le; omega) (hmt hp).stopper
    · have hj' : e.isJunk = false := by simpa using hj
      rw [SrcGood.nonjunk hj'] at hsg
      exact (JGood.cons_iff (nE_isJunk hj')).mpr ⟨hcls.rt List.mem_cons_self hj', ih _ hcls' hsg⟩

theorem noJunk_normSafe (r : Resource Bytes) : ∀ e ∈ normSafe false r, isJunk e = false := by
  intro e he
  simp only [normSafe, nRes, List.mem_map, List.mem_filter, Bool.false_or, Bool.not_eq_true'] at he
  obtain ⟨x, ⟨_, hx⟩, rfl⟩ := he
  rw [isJunk_nEntry]; exact hx

/-- **round trip of a tree whose written normal form is `JGood`, both options**: `r` and `normSafe r` are written alike
(`serialize_normSafe`); without `with_junk` no Junk entry is left in `normSafe r` nor in what is parsed back, and then the
option makes no difference (`serialize_noJunk`), so this is `roundtrip_junk_tree` -/
theorem roundtrip_normSafe (withJunk : Bool) (r : Resource Bytes) (hg : JGood false (normSafe withJunk r)) :
    ∃ out, serialize withJunk r = some out ∧
      (AsciiThenBoundary out.toArray →
        ∃ t' errs', parse out.toArray = .done (t', errs') ∧
          norm withJunk (resolve out.toArray t') = norm withJunk r ∧
          serialize withJunk (resolve out.toArray t') = some out) := by
  have hw : ∀ r', (withJunk = false → ∀ e ∈ r', isJunk e = false) → serialize withJunk r' = serialize true r' := by
    intro r' h
    cases withJunk with
    | true => rfl
    | false => exact serialize_noJunk false r' (h rfl)
  have hN : withJunk = false → ∀ e ∈ normSafe withJunk r, isJunk e = false := fun h => h ▸ noJunk_normSafe r
  obtain ⟨out, h1, h2⟩ := roundtrip_junk_tree _ hg
  refine ⟨out, by rw [← serialize_normSafe, hw _ hN]; exact h1, fun hs => ?_⟩
  obtain ⟨t', errs', h3, h4, h5, _⟩ := h2 hs
  refine ⟨t', errs', h3, by rw [h4, norm_canon, norm_normSafe], ?_⟩
  rw [hw _ fun h e he => ?_]
  · exact h5
  · rw [h4] at he
    obtain ⟨x, hx, rfl⟩ := List.mem_map.mp he
    rw [isJunk_canon]; exact hN h x hx

/-- **C04 round trip for EVERY source** (lone `\r` included) **and both options**: serialising the parse tree gives a
text that parses to a tree equal to the original one under `norm`, and serialising that tree reproduces the text.  The
written normal form of the tree is `JGood`: with `with_junk` by the transfer of its Junk from the source
(`jgood_of_srcGood`), without it because nothing but entries of the class is written (`JGood.of_rt`) -/
theorem roundtrip_source_all (str : String) (withJunk : Bool) (t : Resource Span) (errs : List PErr)
    (hp : parse str.toUTF8.data = .done (t, errs)) :
    ∃ out, serialize withJunk (resolve str.toUTF8.data t) = some out ∧
      ∃ t' errs', parse out.toArray = .done (t', errs') ∧
        norm withJunk (resolve out.toArray t') = norm withJunk (resolve str.toUTF8.data t) ∧
        serialize withJunk (resolve out.toArray t') = some out := by
  have hs := asciiThenBoundary_of_string str
  have hg : JGood false (normSafe withJunk (resolve str.toUTF8.data t)) := by
    cases withJunk with
    | true =>
      have hcls : Cls _ t := rtEntry_normSafe_of_parse_all _ t errs hp
      have hsg := parse_srcGood hs hp
      rw [normSafe_resolve]
      exact jgood_of_srcGood hs t false hcls hsg
    | false =>
      refine JGood.of_rt false _ fun e he => ?_
      have hrt := roundTrippable_normSafe_of_parse_all _ t errs hp false (fun h => by cases h)
      simp only [RoundTrippable, List.all_eq_true, Bool.or_eq_true, Bool.and_eq_true] at hrt
      rcases hrt e he with h | ⟨_, h⟩
      · exact h
      · rw [noJunk_normSafe _ e he] at h; cases h
  obtain ⟨out, h1, h2⟩ := roundtrip_normSafe withJunk _ hg
  exact ⟨out, h1, h2 (serialize_atb_of_parse str t errs hp withJunk out h1)⟩

end FluentProofs.Ser

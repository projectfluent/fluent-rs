import FluentProofs.ParserHoareExpr
import FluentProofs.ParserLoops
/-!
# C01 above the expressions: attributes, messages, terms, entries and the two entry loops

The Hoare lemmas (`Good`) for `get_attribute` … `get_entry` with the fuel the driver passes (`exprFuel s`), `EntryPost` / `RtPost`
for the two dispatchers, and both entry loops: from every start they end in `.done` with valid slices (`Done`; `parseLoop_done`,
`parseRuntimeLoop_done`, by induction on the iteration budget), hence so do `parse` and `parseRuntime` (`parse_done`,
`parseRuntime_done`).
-/
namespace FluentProofs.Parser
open FluentModel.Syntax

theorem getAttribute_good {s : Src} (hs : AsciiThenBoundary s) (p : Nat) (hp : p ≤ s.size) :
    Good s p (getAttribute s (exprFuel s) p) (fun a q => p < q ∧ Bnd s q ∧ allAttr (VSpan s) a) := by
  rw [getAttribute_eq]
  refine (getIdentifier_good hs p hp).bind (Nat.le_refl _) fun id q _ h2 ⟨h3, _, h5, _⟩ => ?_
  have hA := skipBlankInline_after s q
  have h6 := hA.le
  refine (expectByte_good s _ 61 (hA.le_size h2)).bind (by omega) fun _ q2 _ h9 ⟨h10, h11⟩ => ?_
  subst h10
  refine (getPattern_good hs _ h9 (bnd_succ hs h11 (by decide))).bind (by omega) fun o q3 h12 h13 ⟨h14, h15⟩ => ?_
  cases o with
  | none => exact .err (by omega) h13
  | some pat => exact .ok (by omega) h13 ⟨by omega, h14, h5, h15 pat rfl⟩

theorem getAttributesGo_good {s : Src} (hs : AsciiThenBoundary s) (n : Nat) (acc : List (Attribute Span)) (p : Nat)
    (hp : p ≤ s.size) (hb : Bnd s p) (hn : s.size + 1 ≤ n + p) (hacc : ∀ a ∈ acc, allAttr (VSpan s) a) :
    Good s p (getAttributesGo s (exprFuel s) n acc p) (fun attrs q => Bnd s q ∧ ∀ a ∈ attrs, allAttr (VSpan s) a) := by
  induction n generalizing acc p with
  | zero => omega
  | succ n ih =>
    rw [getAttributesGo_unfold]
    have hA := skipBlankInline_after s p
    have h1 := hA.le
    have hstop : Good s p (R.ok acc p) (fun attrs q => Bnd s q ∧ ∀ a ∈ attrs, allAttr (VSpan s) a) :=
      .ok (Nat.le_refl _) hp ⟨hb, hacc⟩
    by_cases h46 : s[skipBlankInline s p]? = some 46
    · rw [if_pos h46]
      have hlt := get_lt h46
      have hg := getAttribute_good hs (skipBlankInline s p + 1) (by omega)
      cases hr : getAttribute s (exprFuel s) (skipBlankInline s p + 1) with
      | ok a q =>
        rw [hr] at hg
        obtain ⟨h3, h4, h5, h6, h7⟩ := hg
        refine (ih _ q h4 h6 (by omega) ?_).mono (by omega) (fun _ _ _ _ h => h)
        intro x hx
        simp only [List.mem_append, List.mem_singleton] at hx
        rcases hx with hx | rfl
        · exact hacc x hx
        · exact h7
      | err e q => exact hstop
      | panic m => rw [hr] at hg; exact hg.elim
      | fuel => rw [hr] at hg; exact hg.elim
    · rw [if_neg h46]; exact hstop

theorem getAttributes_good {s : Src} (hs : AsciiThenBoundary s) (p : Nat) (hp : p ≤ s.size) (hb : Bnd s p) :
    Good s p (getAttributes s (exprFuel s) p) (fun attrs q => Bnd s q ∧ ∀ a ∈ attrs, allAttr (VSpan s) a) :=
  getAttributesGo_good hs _ [] p hp hb (by omega) (by simp)

/-- postcondition of an entry parser started at `p`: either it failed right at `p` on a byte that junk
recovery will step over, or it consumed at least one byte -/
def EntryPost (s : Src) (p : Nat) (r : R (Entry Span)) : Prop :=
  (∃ e, r = .err e p ∧ ∀ b, s[p]? = some b → isEntryByte b = false) ∨
  Good s (p + 1) r (fun e q => Bnd s q ∧ allEntry (VSpan s) e)

/-- the common end of `get_message` and `get_term`: the attributes after the value that ended at `q3`, then `f` -/
theorem attributes_good {α : Type} {s : Src} (hs : AsciiThenBoundary s) {lo q3 : Nat} (hlo : lo ≤ q3) (h13 : q3 ≤ s.size)
    (h14 : Bnd s q3) {f : List (Attribute Span) → Nat → R α} {Q : α → Nat → Prop}
    (hf : ∀ attrs q5, lo ≤ q5 → q5 ≤ s.size → Bnd s q5 → (∀ a ∈ attrs, allAttr (VSpan s) a) → Good s lo (f attrs q5) Q) :
    Good s lo ((getAttributes s (exprFuel s) (skipBlankBlock s q3).1).bind f) Q := by
  have hA2 := skipBlankBlock_after s q3
  have h16 := hA2.le
  exact (getAttributes_good hs _ (hA2.le_size h13) (hA2.bnd hs h14)).bind (by omega)
    fun attrs q5 h18 h19 ⟨h20, h21⟩ => hf attrs q5 (by omega) h19 h20 h21

theorem getMessage_good {s : Src} (hs : AsciiThenBoundary s) (es p : Nat) :
    (isIdentifierStart s p = false ∧ ∃ e, getMessage s (exprFuel s) es p = .err e p) ∨
    Good s (p + 1) (getMessage s (exprFuel s) es p) (fun m q => Bnd s q ∧ allEntry (VSpan s) (.message m)) := by
  rw [getMessage_eq]
  by_cases hst : isIdentifierStart s p = true
  · right
    obtain ⟨b, hb, ha⟩ := (isIdentifierStart_iff s p).mp hst
    have hid : getIdentifier s p = getIdentifierUnchecked s (p + 1) := by simp only [getIdentifier, hst]; rfl
    rw [hid]
    refine (getIdentifierUnchecked_good hs p b hb ha).bind (Nat.le_refl _) fun id q _ h2 ⟨_, h5, _⟩ => ?_
    have hA := skipBlankInline_after s q
    have h6 := hA.le
    refine (expectByte_good s _ 61 (hA.le_size h2)).bind (by omega) fun _ q2 _ h9 ⟨h10, h11⟩ => ?_
    subst h10
    refine (getPattern_good hs _ h9 (bnd_succ hs h11 (by decide))).bind (by omega) fun o q3 h12 h13 ⟨h14, h15⟩ => ?_
    refine attributes_good hs (by omega) h13 h14 fun attrs q5 h18 h19 h20 h21 => ?_
    split
    · exact .err h18 h19
    · exact .ok h18 h19 ⟨h20, h5, h15, h21, fun c hc => by cases hc⟩
  · left
    have hst : isIdentifierStart s p = false := by simpa using hst
    exact ⟨hst, _, by simp only [getIdentifier, hst]; rfl⟩

theorem getTerm_good {s : Src} (hs : AsciiThenBoundary s) (es p : Nat) (h45 : s[p]? = some 45) :
    Good s (p + 1) (getTerm s (exprFuel s) es p) (fun t q => Bnd s q ∧ allEntry (VSpan s) (.term t)) := by
  rw [getTerm_eq]
  have hlt := get_lt h45
  rw [expectByte_pos h45, R.bind_ok]
  refine (getIdentifier_good hs (p + 1) (by omega)).bind (Nat.le_refl _) fun id q _ h2 ⟨h3, _, h5, _⟩ => ?_
  have hA := skipBlankInline_after s q
  have h6 := hA.le
  refine (expectByte_good s _ 61 (hA.le_size h2)).bind (by omega) fun _ q2 _ h9 ⟨h10, h11⟩ => ?_
  subst h10
  have hA1 := skipBlankInline_after s (skipBlankInline s q + 1)
  have h10 := hA1.le
  refine (getPattern_good hs _ (hA1.le_size h9) (hA1.bnd hs (bnd_succ hs h11 (by decide)))).bind (by omega)
    fun o q3 h12 h13 ⟨h14, h15⟩ => ?_
  refine attributes_good hs (by omega) h13 h14 fun attrs q5 h18 h19 h20 h21 => ?_
  cases o with
  | none => exact .err h18 h19
  | some v => exact .ok h18 h19 ⟨h20, h5, h15 v rfl, h21, fun c hc => by cases hc⟩

theorem not_entry_byte {s : Src} {p : Nat} (h35 : s[p]? ≠ some 35) (h45 : s[p]? ≠ some 45)
    (hid : isIdentifierStart s p = false) : ∀ b, s[p]? = some b → isEntryByte b = false := by
  intro b hb
  have h1 : isAlpha b = false := by
    unfold isIdentifierStart at hid
    simpa [hb] using hid
  have h2 : b ≠ 35 := fun h => h35 (h ▸ hb)
  have h3 : b ≠ 45 := fun h => h45 (h ▸ hb)
  simp [isEntryByte, h1, h2, h3]

theorem getEntry_post {s : Src} (hs : AsciiThenBoundary s) (p : Nat) (_ : p < s.size) :
    EntryPost s p (getEntry s (exprFuel s) p) := by
  rw [getEntry_unfold]
  by_cases h35 : s[p]? = some 35
  · rw [if_pos h35]
    right
    refine (getComment_good hs p h35).bind (Nat.le_refl _) fun r q h1 h2 ⟨h3, h4, h5, h6⟩ => ?_
    rcases entryOfComment_cases r q with ⟨e, he, hsh⟩ | ⟨hn, _⟩
    · rw [he]
      refine .ok h1 h2 ⟨h3, ?_⟩
      rcases hsh with rfl | rfl | rfl <;> exact h6
    · exact absurd ⟨h4, h5⟩ hn
  · rw [if_neg h35]
    by_cases h45 : s[p]? = some 45
    · rw [if_pos h45]
      right
      exact (getTerm_good hs p p h45).bind (Nat.le_refl _) fun t q h1 h2 ⟨h3, h4⟩ => .ok h1 h2 ⟨h3, h4⟩
    · rw [if_neg h45]
      rcases getMessage_good hs p p with ⟨h1, e, h2⟩ | h
      · left
        rw [h2]
        exact ⟨e, rfl, not_entry_byte h35 h45 h1⟩
      · right
        exact h.bind (Nat.le_refl _) fun t q h1 h2 ⟨h3, h4⟩ => .ok h1 h2 ⟨h3, h4⟩

/-- an error's recorded slice is a valid byte range -/
def ErrOk (s : Src) (e : PErr) : Prop := ∀ a b, e.slice = some (a, b) → VSpan s ⟨a, b⟩

/-- the loop finished, and every string in the result is a valid slice of the source -/
def Done (s : Src) (o : Outcome (List (Entry Span) × List PErr)) : Prop :=
  ∃ r, o = .done r ∧ (∀ e ∈ r.1, allEntry (VSpan s) e) ∧ (∀ e ∈ r.2, ErrOk s e)

theorem forall_mem_append {α : Type} {P : α → Prop} {l l' : List α} (h : ∀ x ∈ l, P x) (h' : ∀ x ∈ l', P x) :
    ∀ x ∈ l ++ l', P x :=
  List.forall_mem_append.mpr ⟨h, h'⟩

theorem forall_mem_append_singleton {α : Type} {P : α → Prop} {l : List α} {a : α} (h : ∀ x ∈ l, P x) (ha : P a) :
    ∀ x ∈ l ++ [a], P x :=
  forall_mem_append h fun _ hx => List.mem_singleton.mp hx ▸ ha

theorem junkThen_done {s : Src} {p q : Nat} (e : PErr) (hlt : p < s.size) (hb : Bnd s p)
    (h1 : p ≤ q) (h2 : q ≤ s.size) (h3 : q = p → ∀ b, s[p]? = some b → isEntryByte b = false)
    {k : Span → PErr → Nat → Outcome (List (Entry Span) × List PErr)}
    (hk : ∀ content e' q1, p < q1 → Bnd s q1 → VSpan s content → ErrOk s e' → Done s (k content e' q1)) :
    Done s (junkThen s p e q k) := by
  obtain ⟨q1, e1, e2, e3⟩ := skipToNextEntryStart_spec s p q h1 h2 hlt h3
  unfold junkThen
  simp only [e1]
  rw [slice_ok (by omega) hb e3]
  refine hk _ _ q1 e2 e3 (vspan_mk (by omega) hb e3) ?_
  intro a b hab
  simp only [Option.some.injEq, Prod.mk.injEq] at hab
  obtain ⟨rfl, rfl⟩ := hab
  exact vspan_mk (by omega) hb e3

theorem flushC_all {s : Src} {lc : Option (List Span)} (hlc : ∀ c, lc = some c → ∀ l ∈ c, VSpan s l) :
    ∀ x ∈ flushC lc, allEntry (VSpan s) x := by
  intro x hx
  cases lc with
  | none => cases hx
  | some c => simp only [flushC, List.mem_singleton] at hx; subst hx; exact hlc c rfl

theorem recorded_all {s : Src} {lc : Option (List Span)} (hlc : ∀ c, lc = some c → ∀ l ∈ c, VSpan s l) (lbc : Nat)
    {e : Entry Span} (he : allEntry (VSpan s) e) : ∀ x ∈ recorded lc lbc e, allEntry (VSpan s) x := by
  have hp := flushC_all hlc
  cases e with
  | message m =>
    cases lc with
    | none => intro x hx; simp only [recorded, List.mem_singleton] at hx; subst hx; exact he
    | some c =>
      simp only [recorded]
      split <;> intro x hx <;> simp only [List.mem_cons, List.not_mem_nil, or_false] at hx
      · subst hx; exact ⟨he.1, he.2.1, he.2.2.1, fun c' hc' => by cases hc'; exact hlc c rfl⟩
      · rcases hx with rfl | rfl
        · exact hlc c rfl
        · exact he
  | term t =>
    cases lc with
    | none => intro x hx; simp only [recorded, List.mem_singleton] at hx; subst hx; exact he
    | some c =>
      simp only [recorded]
      split <;> intro x hx <;> simp only [List.mem_cons, List.not_mem_nil, or_false] at hx
      · subst hx; exact ⟨he.1, he.2.1, he.2.2.1, fun c' hc' => by cases hc'; exact hlc c rfl⟩
      · rcases hx with rfl | rfl
        · exact hlc c rfl
        · exact he
  | comment c => exact hp
  | groupComment c => exact forall_mem_append_singleton hp he
  | resourceComment c => exact forall_mem_append_singleton hp he
  | junk c => exact forall_mem_append_singleton hp he

theorem parseLoop_done {s : Src} (hs : AsciiThenBoundary s) (n : Nat) (body : List (Entry Span)) (errors : List PErr)
    (lc : Option (List Span)) (lbc p : Nat) (hp : p ≤ s.size) (hb : Bnd s p) (hn : s.size + 1 ≤ n + p)
    (hbody : ∀ e ∈ body, allEntry (VSpan s) e) (herr : ∀ e ∈ errors, ErrOk s e)
    (hlc : ∀ c, lc = some c → ∀ l ∈ c, VSpan s l) :
    Done s (parseLoop s (exprFuel s) n body errors lc lbc p) := by
  induction n generalizing body errors lc lbc p with
  | zero => omega
  | succ n ih =>
    rw [parseLoop_unfold]
    have hpend : ∀ x ∈ body ++ flushC lc, allEntry (VSpan s) x := forall_mem_append hbody (flushC_all hlc)
    by_cases hlt : p < s.size
    · rw [if_pos hlt]
      have cont_err : ∀ e q, p ≤ q → q ≤ s.size → (q = p → ∀ b, s[p]? = some b → isEntryByte b = false) →
          Done s (junkThen s p e q fun content e' q1 =>
            parseLoop s (exprFuel s) n (body ++ flushC lc ++ [.junk content]) (errors ++ [e']) none
              (skipBlankBlock s q1).2 (skipBlankBlock s q1).1) := by
        intro e q h1 h2 h3
        refine junkThen_done e hlt hb h1 h2 h3 fun content e' q1 e2 e3 hc he' => ?_
        have hA := skipBlankBlock_after s q1
        exact ih _ _ none _ _ (hA.le_size e3.le) (hA.bnd hs e3) (by have := hA.le; omega)
          (forall_mem_append_singleton hpend hc) (forall_mem_append_singleton herr he') (by simp)
      rcases getEntry_post hs p hlt with ⟨e, hr, hne⟩ | hg
      · rw [hr]; exact cont_err e p (Nat.le_refl _) hp (fun _ => hne)
      · cases hr : getEntry s (exprFuel s) p with
        | ok e q =>
          rw [hr] at hg
          obtain ⟨h1, h2, h3, h4⟩ := hg
          have hA := skipBlankBlock_after s q
          refine ih _ errors _ _ _ (hA.le_size h2) (hA.bnd hs h3) (by have := hA.le; omega)
            (forall_mem_append hbody (recorded_all hlc lbc h4)) herr ?_
          intro c hc
          cases e <;> cases hc
          exact h4
        | err e q => rw [hr] at hg; exact cont_err e q (by have := hg.1; omega) hg.2 (fun h => by have := hg.1; omega)
        | panic m => rw [hr] at hg; exact hg.elim
        | fuel => rw [hr] at hg; exact hg.elim
    · rw [if_neg hlt]
      exact ⟨_, rfl, hpend, herr⟩

/-- postcondition of `get_entry_runtime` started at `p < size` (the cursor may be `size + 1` after a
skipped comment) -/
def RtPost (s : Src) (p : Nat) (r : R (Option (Entry Span))) : Prop :=
  (∃ e, r = .err e p ∧ ∀ b, s[p]? = some b → isEntryByte b = false) ∨
  (∃ o q, r = .ok o q ∧ p < q ∧ q ≤ s.size + 1 ∧ (q ≤ s.size → Bnd s q) ∧ ∀ e, o = some e → allEntry (VSpan s) e) ∨
  (∃ e q, r = .err e q ∧ p < q ∧ q ≤ s.size)

theorem getEntryRuntime_post {s : Src} (hs : AsciiThenBoundary s) (p : Nat) (hp : p < s.size) :
    RtPost s p (getEntryRuntime s (exprFuel s) p) := by
  -- a parsed message or term, wrapped in `some`
  have wrap : ∀ {α : Type} {r : R α} {f : α → Entry Span},
      Good s (p + 1) r (fun a q => Bnd s q ∧ allEntry (VSpan s) (f a)) →
      RtPost s p (r.bind fun a q => .ok (some (f a)) q) := by
    intro α r f h
    right
    cases r with
    | ok a q => exact Or.inl ⟨_, _, rfl, h.1, by have := h.2.1; omega, fun _ => h.2.2.1, fun e he => by cases he; exact h.2.2.2⟩
    | err e q => exact Or.inr ⟨_, _, rfl, h.1, h.2⟩
    | panic m => exact h.elim
    | fuel => exact h.elim
  rw [getEntryRuntime_unfold]
  by_cases h35 : s[p]? = some 35
  · rw [if_pos h35]
    have := skipComment_spec hs p (by omega)
    exact Or.inr (Or.inl ⟨none, _, rfl, this.1, this.2.1, this.2.2, by simp⟩)
  · rw [if_neg h35]
    by_cases h45 : s[p]? = some 45
    · rw [if_pos h45]; exact wrap (getTerm_good hs p p h45)
    · rw [if_neg h45]
      rcases getMessage_good hs p p with ⟨h1, e, h2⟩ | h
      · left
        rw [h2]
        exact ⟨e, rfl, not_entry_byte h35 h45 h1⟩
      · exact wrap h

theorem parseRuntimeLoop_done {s : Src} (hs : AsciiThenBoundary s) (n : Nat) (body : List (Entry Span)) (errors : List PErr)
    (p : Nat) (hb : p ≤ s.size → Bnd s p) (hn : s.size - p + 1 ≤ n)
    (hbody : ∀ e ∈ body, allEntry (VSpan s) e) (herr : ∀ e ∈ errors, ErrOk s e) :
    Done s (parseRuntimeLoop s (exprFuel s) n body errors p) := by
  induction n generalizing body errors p with
  | zero => omega
  | succ n ih =>
    rw [parseRuntimeLoop_unfold]
    by_cases hlt : p < s.size
    · rw [if_pos hlt]
      have hbp := hb (by omega)
      have cont_ok : ∀ body' q, p < q → (q ≤ s.size → Bnd s q) → (∀ e ∈ body', allEntry (VSpan s) e) →
          Done s (parseRuntimeLoop s (exprFuel s) n body' errors (skipBlankBlock s q).fst) := by
        intro body' q h1 h3 h4
        have hA := skipBlankBlock_after s q
        refine ih body' errors _ ?_ (by have := hA.le; omega) h4 herr
        intro hle
        have := hA.le
        exact hA.bnd hs (h3 (by omega))
      have cont_err : ∀ e q, p ≤ q → q ≤ s.size → (q = p → ∀ b, s[p]? = some b → isEntryByte b = false) →
          Done s (junkThen s p e q fun content e' q1 =>
            parseRuntimeLoop s (exprFuel s) n (body ++ [.junk content]) (errors ++ [e']) (skipBlankBlock s q1).1) := by
        intro e q h1 h2 h3
        refine junkThen_done e hlt hbp h1 h2 h3 fun content e' q1 e2 e3 hc he' => ?_
        have hA := skipBlankBlock_after s q1
        exact ih _ _ _ (fun _ => hA.bnd hs e3) (by have := hA.le; omega) (forall_mem_append_singleton hbody hc)
          (forall_mem_append_singleton herr he')
      rcases getEntryRuntime_post hs p hlt with ⟨e, hr, hne⟩ | ⟨o, q, hr, h1, h2, h3, h4⟩ | ⟨e, q, hr, h1, h2⟩ <;> rw [hr]
      · exact cont_err _ p (Nat.le_refl _) (by omega) (fun _ => hne)
      · refine cont_ok _ q h1 h3 (forall_mem_append hbody fun x hx => ?_)
        cases o with
        | none => cases hx
        | some e => simp only [Option.toList, List.mem_singleton] at hx; exact hx ▸ h4 e rfl
      · exact cont_err _ q (by omega) h2 (fun h => by omega)
    · rw [if_neg hlt]
      exact ⟨_, rfl, hbody, herr⟩

theorem parse_done {s : Src} (hs : AsciiThenBoundary s) : Done s (parse s) := by
  have hb := (skipBlankBlock_after s 0).bnd hs (bnd_zero s)
  exact parseLoop_done hs (s.size + 1) [] [] none 0 _ hb.le hb (by omega) (by simp) (by simp) (by simp)

theorem parseRuntime_done {s : Src} (hs : AsciiThenBoundary s) : Done s (parseRuntime s) := by
  have hb := (skipBlankBlock_after s 0).bnd hs (bnd_zero s)
  exact parseRuntimeLoop_done hs (s.size + 1) [] [] _ (fun _ => hb) (by omega) (by simp) (by simp)

end FluentProofs.Parser

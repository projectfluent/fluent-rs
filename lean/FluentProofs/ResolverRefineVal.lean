import FluentProofs.ConstTieResolver
import FluentProofs.Resolver
import FluentProofs.ResolverSpec
/-!
# The simulation: what the reference semantics says of a call is what the resolver model computes

`SimAll env f` — for each of the eight functions of `ResolverSpec` at fuel `f`, started from the abstraction of a
clean scope `sc` (`locals = sc.localArgs`, `stack = sc.travelled`, `count = sc.placeables`, `log = sc.errors`), and
the corresponding model call with ANY fuel `≥ 3 * f` (the model has the extra hops `writePattern`, `writeDefault`):

* a `.val out count' log'` outcome: the model returns `.ok (w ++ out, sc')` where `sc'` is `sc` with
  `placeables := count'`, `errors := log'` and every other field unchanged (`upd`; so `localArgs` and `travelled`
  are restored, `dirty` is still false);
* a `.limit lg` outcome: the model does not panic (the plural rules existing: on this path the code still evaluates
  `key.matches`), and if it returns (it keeps running to the end of the enclosing constructs, which may need more fuel
  than the aborted spec evaluation used — fuel sufficiency is C06) then `dirty = true` and `errors = lg ++ extra`
  with no `tooManyPlaceables` in `extra`.

The element loop is stated differently (`SimAll.elems`, with `SimElems`): it starts from any scope that is not dirty and
within the limit, on the stack `effStack sc.travelled whole` on which `maybe_track` may have pushed the pattern, and the scope
it returns has as `travelled` either the scope's own or that stack.

One induction on `f` (`simAll`); both outcomes go through `SimOut.bind`, the limit outcome resting on `Run.dirtyOk`.
`format_sim` is `SimAll.elems` at the entry point, from which `Props/C07` gets its entry-point theorems.  `SimOut` and its
lemmas stand in the namespace `C07` because the statements of `Props/C07` are written with it.
-/

namespace FluentProofs.C07
open FluentModel FluentModel.Syntax FluentModel.Num FluentModel.Resolver FluentModel.ResolverSpec
open FluentProofs.ResolverRefine

/-- What the model call `r` must be, given the spec outcome `o` of the corresponding call (the two cases of the head comment).
`R` relates the two results; `A count' log' sc'` describes the scope the model returns — in the simulation it says that `sc'`
is abstracted by the SAME context as the scope before the call.  On `.limit lg`, `lg` is exactly the model's log at the moment
`dirty` was set. -/
def SimOut {α β : Type} (env : Env) (A : Nat → List RErr → Scope → Prop) (R : α → β → Prop) (o : Out α)
    (r : RR (β × Scope)) : Prop :=
  match o with
  | .val a count' log' => ∃ b sc', r = .ok (b, sc') ∧ R a b ∧ A count' log' sc'
  | .limit lg => CategoryTotal env → DirtyOk lg r
  | .panic _ => True
  | .fuel => True

variable {env : Env} {α β γ δ : Type} {A A' : Nat → List RErr → Scope → Prop}

theorem SimOut.mono {R : α → β → Prop} {o : Out α} {r : RR (β × Scope)} (h : SimOut env A R o r)
    (hA : ∀ n l sc', A n l sc' → A' n l sc') : SimOut env A' R o r := by
  match o, h with
  | .val a n l, ⟨b, sc', hr, hab, hs⟩ => exact ⟨b, sc', hr, hab, hA n l sc' hs⟩
  | .limit lg, h => exact h
  | .panic _, _ => trivial
  | .fuel, _ => trivial

/-- sequencing.  On the limit outcome the model goes on from a dirty scope: `hd`, which `Run.dirtyOk` provides for
every continuation made of model calls. -/
theorem SimOut.bind {R : α → β → Prop} {R' : γ → δ → Prop} {o : Out α} {r : RR (β × Scope)}
    {ks : α → Nat → List RErr → Out γ} {km : β × Scope → RR (δ × Scope)} (h : SimOut env A R o r)
    (hv : ∀ a n l b sc', R a b → A n l sc' → SimOut env A' R' (ks a n l) (km (b, sc')))
    (hd : CategoryTotal env → ∀ lg b sc', Ext lg sc' → DirtyOk lg (km (b, sc'))) :
    SimOut env A' R' (o.bind ks) (r.bind km) := by
  match o, h with
  | .val a n l, ⟨b, sc', hr, hab, hs⟩ => subst hr; exact hv a n l b sc' hab hs
  | .limit lg, h => exact fun hc => (h hc).bind fun b sc' he => hd hc lg b sc' he
  | .panic _, _ => trivial
  | .fuel, _ => trivial

theorem SimOut.map_spec {R : α → β → Prop} {R' : γ → β → Prop} {o : Out α} {r : RR (β × Scope)} {g : α → γ}
    (h : SimOut env A R o r) (hR : ∀ a b, R a b → R' (g a) b) :
    SimOut env A R' (o.bind fun a n l => .val (g a) n l) r := by
  match o, h with
  | .val a n l, ⟨b, sc', hr, hab, hs⟩ => exact ⟨b, sc', hr, hR a b hab, hs⟩
  | .limit lg, h => exact h
  | .panic _, _ => trivial
  | .fuel, _ => trivial

theorem SimOut.map_model {R : α → β → Prop} {o : Out α} {r : RR (β × Scope)} {g : Scope → Scope}
    (h : SimOut env A R o r) (hA : ∀ n l sc', A n l sc' → A' n l (g sc'))
    (hg : ∀ sc', (g sc').dirty = sc'.dirty ∧ (g sc').errors = sc'.errors) :
    SimOut env A' R o (r.bind fun (b, sc') => .ok (b, g sc')) := by
  match o, h with
  | .val a n l, ⟨b, sc', hr, hab, hs⟩ => subst hr; exact ⟨b, g sc', rfl, hab, hA n l sc' hs⟩
  | .limit lg, h =>
    exact fun hc => (h hc).bind fun b sc' he => by
      obtain ⟨h1, x, h2, h3⟩ := he
      exact ⟨(hg sc').1.trans h1, x, (hg sc').2.trans h2, h3⟩
  | .panic _, _ => trivial
  | .fuel, _ => trivial

end FluentProofs.C07

namespace FluentProofs.ResolverRefine
open FluentModel FluentModel.Syntax FluentModel.Num FluentModel.Resolver FluentModel.ResolverSpec
open FluentProofs.Resolver FluentProofs.Bidi FluentProofs.C07

abbrev mx : Nat := Generated.maxPlaceables

/-- a scope in which a call may start: the limit has not been exceeded, the counter is within the limit, and some
pattern is being resolved (true everywhere below the top-level `Pattern::write`) -/
structure Clean (sc : Scope) : Prop where
  clean : sc.dirty = false
  bound : sc.placeables ≤ mx
  stack : sc.travelled ≠ []

/-- `sc` after a call that returned normally: new counter and log, every other field as before -/
def upd (sc : Scope) (count : Nat) (log : List RErr) : Scope := ⟨sc.localArgs, count, sc.travelled, log, false⟩

theorem upd_clean {sc : Scope} (h : Clean sc) {count : Nat} (log : List RErr) (hc : count ≤ mx) :
    Clean (upd sc count log) := ⟨rfl, hc, h.stack⟩

theorem upd_self {sc : Scope} (hd : sc.dirty = false) : upd sc sc.placeables sc.errors = sc := by
  cases sc; cases hd; rfl

theorem upd_addError {sc : Scope} (hd : sc.dirty = false) (e : RErr) :
    upd sc sc.placeables (sc.errors ++ [e]) = sc.addError e := by
  cases sc; cases hd; rfl

/-- the spec context that abstracts a scope -/
abbrev ctxOf (env : Env) (sc : Scope) : Ctx := ⟨env, sc.localArgs, sc.travelled⟩

/-- the simulation of one call started in the clean scope `sc`: on a normal outcome the scope is `upd sc` -/
abbrev Sim (env : Env) (sc : Scope) {α β : Type} (R : α → β → Prop) (o : Out α) (r : RR (β × Scope)) : Prop :=
  SimOut env (fun n l sc' => n ≤ mx ∧ sc' = upd sc n l) R o r

/-- … of the element loop of `whole`, where `maybe_track` may have pushed the pattern -/
abbrev SimElems (env : Env) (sc : Scope) (st : List (Pattern Bytes)) (w : Bytes) (o : Out Bytes)
    (r : RR (Bytes × Scope)) : Prop :=
  SimOut env (fun n l sc' => n ≤ mx ∧ ∃ t', (t' = sc.travelled ∨ t' = st) ∧ sc' = ⟨sc.localArgs, n, t', l, false⟩)
    (fun out b => b = w ++ out) o r

variable {env : Env}

theorem Sim.same {α β : Type} {R : α → β → Prop} {sc : Scope} (hg : Clean sc) {a : α} {b : β} (h : R a b) :
    Sim env sc R (.val a sc.placeables sc.errors) (.ok (b, sc)) :=
  ⟨b, sc, rfl, h, hg.bound, (upd_self hg.clean).symm⟩

theorem Sim.addError {α β : Type} {R : α → β → Prop} {sc : Scope} (hg : Clean sc) {a : α} {b : β} (h : R a b)
    (e : RErr) : Sim env sc R (.val a sc.placeables (sc.errors ++ [e])) (.ok (b, sc.addError e)) :=
  ⟨b, _, rfl, h, hg.bound, (upd_addError hg.clean e).symm⟩

theorem Sim.write {sc : Scope} (hg : Clean sc) (w out : Bytes) :
    Sim env sc (fun out b => b = w ++ out) (.val out sc.placeables sc.errors) (.ok (w ++ out, sc)) :=
  Sim.same (R := fun out b => b = w ++ out) hg rfl

theorem Sim.write_err {sc : Scope} (hg : Clean sc) (w out : Bytes) (e : RErr) :
    Sim env sc (fun out b => b = w ++ out) (.val out sc.placeables (sc.errors ++ [e])) (.ok (w ++ out, sc.addError e)) :=
  Sim.addError (R := fun out b => b = w ++ out) hg rfl e

theorem Sim.value {α : Type} {sc : Scope} (hg : Clean sc) (v : α) :
    Sim env sc Eq (.val v sc.placeables sc.errors) (.ok (v, sc)) := Sim.same hg rfl

theorem Sim.value_err {α : Type} {sc : Scope} (hg : Clean sc) (v : α) (e : RErr) :
    Sim env sc Eq (.val v sc.placeables (sc.errors ++ [e])) (.ok (v, sc.addError e)) := Sim.addError hg rfl e

structure SimAll (env : Env) (f : Nat) : Prop where
  elems : ∀ whole len es sc st, sc.dirty = false → sc.placeables ≤ mx → st = effStack sc.travelled whole →
    ∀ k, 3 * f ≤ k → ∀ w, SimElems env sc st w
      (evalElems ⟨env, sc.localArgs, st⟩ f len es sc.placeables sc.errors) (writeElems env k whole len es w sc)
  ref : ∀ p src sc, Clean sc → ∀ k, 3 * f ≤ k → ∀ w, Sim env sc (fun out b => b = w ++ out)
    (evalRef (ctxOf env sc) f p src sc.placeables sc.errors) (track env k p src w sc)
  expr : ∀ e sc, Clean sc → ∀ k, 3 * f ≤ k → ∀ w, Sim env sc (fun out b => b = w ++ out)
    (evalExpr (ctxOf env sc) f e sc.placeables sc.errors) (writeExpr env k e w sc)
  inline : ∀ e sc, Clean sc → ∀ k, 3 * f ≤ k → ∀ w, Sim env sc (fun out b => b = w ++ out)
    (evalInline (ctxOf env sc) f e sc.placeables sc.errors) (writeInline env k e w sc)
  value : ∀ e sc, Clean sc → ∀ k, 3 * f ≤ k → Sim env sc Eq
    (evalValue (ctxOf env sc) f e sc.placeables sc.errors) (resolveInline env k e sc)
  args : ∀ a sc, Clean sc → ∀ k, 3 * f ≤ k → Sim env sc Eq
    (evalArgs (ctxOf env sc) f a sc.placeables sc.errors) (getArguments env k a sc)
  list : ∀ es sc, Clean sc → ∀ k, 3 * f ≤ k → Sim env sc Eq
    (evalList (ctxOf env sc) f es sc.placeables sc.errors) (resolveList env k es sc)
  named : ∀ es sc, Clean sc → ∀ k, 3 * f ≤ k → Sim env sc Eq
    (evalNamed (ctxOf env sc) f es sc.placeables sc.errors) (resolveNamed env k es sc)

theorem simAll_zero (env : Env) : SimAll env 0 := by
  constructor <;> intros <;> simp only [evalElems_zero, evalRef_zero, evalExpr_zero, evalInline_zero, evalValue_zero,
    evalArgs_zero, evalList_zero, evalNamed_zero] <;> trivial

theorem inv (env : Env) (k : Nat) : Inv env k := inv_all ConstTie.max_placeables_fits_u8 env k

section step
variable {f k : Nat} (IH : SimAll env f) (hk : 3 * f ≤ k)
include IH hk

/-- a whole pattern entered from a clean scope (`travelled` is not empty there, so `maybe_track` does nothing) -/
theorem pattern_sim (v : Pattern Bytes) (sc : Scope) (hg : Clean sc) (w : Bytes) :
    Sim env sc (fun out b => b = w ++ out)
      (evalElems (ctxOf env sc) f v.length v sc.placeables sc.errors) (writePattern env (k + 1) v w sc) := by
  rw [writePattern_succ]
  refine (IH.elems v v.length v sc sc.travelled hg.clean hg.bound (effStack_of_ne_nil _ hg.stack).symm k hk w).mono
    fun n l sc' h => ⟨h.1, ?_⟩
  obtain ⟨t', ht, rfl⟩ := h.2
  rcases ht with rfl | rfl <;> rfl

theorem selectTail_sim (vs : List (Variant Bytes)) (s : Value) (sc : Scope) (hg : Clean sc) (w : Bytes) :
    Sim env sc (fun out b => b = w ++ out)
      (evalTail (ctxOf env sc) f vs s sc.placeables sc.errors) (selectTail env (k + 2) vs w sc s) := by
  rcases chosen_cases env vs s with h | ⟨_, v, _, _, h⟩ | ⟨m, _, h, _⟩
  · rw [selectTail_none h, writeDefault_succ, evalTail_none h]
    cases defaultVariant vs with
    | some v => exact pattern_sim IH hk v sc hg w
    | none => exact Sim.addError (R := fun out b => b = w ++ out) hg (List.append_nil w).symm _
  · rw [selectTail_some h, evalTail_some h]
    exact pattern_sim IH (Nat.le_succ_of_le hk) v sc hg w
  · rw [evalTail_panic h]; trivial

theorem writeElems_sim (whole : Pattern Bytes) (len : Nat) (es : List (PatElem Bytes)) (sc : Scope)
    (st : List (Pattern Bytes)) (hd : sc.dirty = false) (hb : sc.placeables ≤ mx)
    (hst : st = effStack sc.travelled whole) (w : Bytes) :
    SimElems env sc st w (evalElems ⟨env, sc.localArgs, st⟩ (f + 1) len es sc.placeables sc.errors)
      (writeElems env (k + 3) whole len es w sc) := by
  have hk2 : 3 * f ≤ k + 2 := Nat.le_add_right_of_le hk
  have hnd : ¬ sc.dirty = true := by rw [hd]; exact Bool.false_ne_true
  cases es with
  | nil =>
    rw [evalElems_nil, writeElems_nil]
    exact ⟨w, sc, rfl, (List.append_nil w).symm, hb, sc.travelled, .inl rfl, (upd_self hd).symm⟩
  | cons el rest =>
    cases el with
    | text v =>
      rw [evalElems_text, writeElems_text, if_neg hnd]
      exact (IH.elems whole len rest sc st hd hb hst (k + 2) hk2 (w ++ tr env v)).map_spec
        fun _ _ h => by rw [h, List.append_assoc]
    | placeable e =>
      have h255 : ¬ sc.placeables + 1 > 255 := by
        have := ConstTie.max_placeables_fits_u8
        have : sc.placeables ≤ Generated.maxPlaceables := hb
        omega
      rw [evalElems_placeable, writeElems_placeable, if_neg hnd, if_neg h255]
      by_cases hl : sc.placeables + 1 > Generated.maxPlaceables
      · -- the limit trips: the spec aborts with the log the model has at this moment
        rw [if_pos hl, if_pos hl]
        exact fun _ => Ext.refl rfl
      rw [if_neg hl, if_neg hl]
      have hts : trackScope whole sc = ⟨sc.localArgs, sc.placeables + 1, st, sc.errors, false⟩ := by
        rw [trackScope_eq, ← hst, hd]
      rw [hts]
      have hg2 : Clean ⟨sc.localArgs, sc.placeables + 1, st, sc.errors, false⟩ :=
        ⟨rfl, Nat.le_of_not_gt hl, hst ▸ effStack_ne_nil _ _⟩
      refine (IH.expr e _ hg2 (k + 2) hk2 (w ++ openMark env len e)).bind
        (fun s c1 l1 w2 sc3 hw hs => ?_) fun hc lg _ sc3 he => Run.dirtyOk hc he ((inv env _).writeElems _ _ _ _ _)
      obtain ⟨hb1, rfl⟩ := hs
      subst hw
      -- the expression returned normally, so no `{error}` fallback is written
      have hfb : fallback e (upd ⟨sc.localArgs, sc.placeables + 1, st, sc.errors, false⟩ c1 l1) = [] := rfl
      refine ((IH.elems whole len rest (upd ⟨sc.localArgs, sc.placeables + 1, st, sc.errors, false⟩ c1 l1) st rfl hb1
        (hst ▸ (effStack_idem _ _).symm) (k + 2) hk2 _).map_spec
        (g := fun r => openMark env len e ++ s ++ closeMark env len e ++ r) fun _ _ h => ?_).mono
        fun n l sc' h => ⟨h.1, ?_⟩
      · rw [h, hfb]; simp only [List.append_assoc, List.append_nil]
      · obtain ⟨t', ht, rfl⟩ := h.2
        exact ⟨t', .inr (ht.elim id id), rfl⟩

theorem track_sim (p : Pattern Bytes) (src : Inline Bytes) (sc : Scope) (hg : Clean sc) (w : Bytes) :
    Sim env sc (fun out b => b = w ++ out)
      (evalRef (ctxOf env sc) (f + 1) p src sc.placeables sc.errors) (track env (k + 3) p src w sc) := by
  rw [evalRef_succ, track_succ]
  by_cases hc : travelledContains sc.travelled p = true
  · rw [if_pos hc, if_pos hc]; exact Sim.write_err hg w _ _
  · rw [if_neg hc, if_neg hc, writePattern_succ]
    -- the pushed entry is on the spec's stack for the same elements, and popped by the model afterwards
    refine (IH.elems p p.length p ⟨sc.localArgs, sc.placeables, sc.travelled ++ [p], sc.errors, sc.dirty⟩
      (sc.travelled ++ [p]) hg.clean hg.bound (effStack_of_ne_nil _ (by simp)).symm (k + 1)
      (Nat.le_succ_of_le hk) w).map_model (g := fun sc1 => { sc1 with travelled := sc1.travelled.dropLast })
      (fun n l sc' h => ⟨h.1, ?_⟩) fun _ => ⟨rfl, rfl⟩
    obtain ⟨t', ht, rfl⟩ := h.2
    have : t' = sc.travelled ++ [p] := ht.elim id id
    subst this
    show (⟨sc.localArgs, n, (sc.travelled ++ [p]).dropLast, l, false⟩ : Scope) = upd sc n l
    rw [List.dropLast_concat]; rfl

theorem writeExpr_sim (e : Expr Bytes) (sc : Scope) (hg : Clean sc) (w : Bytes) :
    Sim env sc (fun out b => b = w ++ out)
      (evalExpr (ctxOf env sc) (f + 1) e sc.placeables sc.errors) (writeExpr env (k + 3) e w sc) := by
  have hk2 : 3 * f ≤ k + 2 := Nat.le_add_right_of_le hk
  cases e with
  | inline e => rw [evalExpr_inline, writeExpr_inline]; exact IH.inline e sc hg _ hk2 w
  | select sel vs =>
    rw [evalExpr_select, writeExpr_select]
    refine (IH.value sel sc hg _ hk2).bind (fun s c1 l1 _ sc1 hs h1 => ?_)
      fun hc lg _ sc1 he => Run.dirtyOk hc he (selectTail_run (inv env _) _ _ _ _)
    obtain ⟨hb1, rfl⟩ := h1
    subst hs
    exact selectTail_sim IH hk vs s _ (upd_clean hg l1 hb1) w

theorem writeInline_sim (e : Inline Bytes) (sc : Scope) (hg : Clean sc) (w : Bytes) :
    Sim env sc (fun out b => b = w ++ out)
      (evalInline (ctxOf env sc) (f + 1) e sc.placeables sc.errors) (writeInline env (k + 3) e w sc) := by
  have hk2 : 3 * f ≤ k + 2 := Nat.le_add_right_of_le hk
  cases e with
  | str v => rw [evalInline_str, writeInline_str]; exact Sim.write hg w _
  | num v => rw [evalInline_num, writeInline_num]; exact Sim.write hg w _
  | placeable e => rw [evalInline_placeable, writeInline_placeable]; exact IH.expr e sc hg _ hk2 w
  | var id =>
    rw [evalInline_var, writeInline_var]
    dsimp only
    cases sc.localArgs with
    | some l => dsimp only; cases l.get id <;> exact Sim.write hg w _
    | none =>
      dsimp only
      cases env.args.bind (·.get id) with
      | some v => exact Sim.write hg w _
      | none => exact Sim.write_err hg w _ _
  | msg id attr =>
    rw [evalInline_msg, writeInline_msg]
    show Sim env sc _ (match msgTarget env id attr with | .pattern p => _ | .noValue => _ | .missing => _) _
    cases msgTarget env id attr with
    | pattern p => exact IH.ref p _ sc hg _ hk2 w
    | noValue => exact Sim.write_err hg w _ _
    | missing => exact Sim.write_err hg w _ _
  | fn id pos named =>
    rw [evalInline_fn, writeInline_fn]
    refine (IH.args _ sc hg _ hk2).bind (fun x c1 l1 _ sc1 hx h1 => ?_) fun hc lg x sc1 he => ?_
    · obtain ⟨hb1, rfl⟩ := h1
      subst hx
      show Sim env _ _ (match env.fn id with | some fn => _ | .none => _) (match env.fn id with | some f => _ | .none => _)
      cases env.fn id with
      | some fn => exact ⟨_, _, rfl, rfl, hb1, rfl⟩
      | none => exact ⟨_, _, rfl, rfl, hb1, rfl⟩
    · show DirtyOk lg (match env.fn id with | some f => _ | .none => _)
      cases env.fn id with
      | some fn => exact he
      | none => exact he.step (Step.addError _ _ nofun)
  | term id attr args =>
    rw [evalInline_term, writeInline_term]
    refine (IH.args args sc hg _ hk2).bind (fun x c1 l1 _ sc1 hx h1 => ?_)
      fun hc lg x sc1 he => Run.dirtyOk hc he (termTail_run (inv env _) _ _ _ _ _ _)
    obtain ⟨hb1, rfl⟩ := h1
    subst hx
    -- the term's pattern is resolved in the scope with the call's own arguments; `termTail` puts the caller's back
    show Sim env _ _ (match termTarget env id attr with | some p => _ | .none => _) _
    unfold termTail
    cases termTarget env id attr with
    | some p =>
      exact (IH.ref p _ ⟨some x.2, c1, sc.travelled, l1, false⟩ ⟨rfl, hb1, hg.stack⟩ _ hk2 w).map_model
        (g := fun sc3 => { sc3 with localArgs := sc.localArgs })
        (fun n l sc' h => ⟨h.1, by rw [h.2]; rfl⟩) fun _ => ⟨rfl, rfl⟩
    | none => exact ⟨_, _, rfl, rfl, hb1, rfl⟩

theorem resolveInline_sim (e : Inline Bytes) (sc : Scope) (hg : Clean sc) :
    Sim env sc Eq (evalValue (ctxOf env sc) (f + 1) e sc.placeables sc.errors) (resolveInline env (k + 3) e sc) := by
  have hk2 : 3 * f ≤ k + 2 := Nat.le_add_right_of_le hk
  have viaWrite : Sim env sc Eq (viaEval (ctxOf env sc) f e sc.placeables sc.errors) (viaWrite env (k + 2) e sc) :=
    (IH.inline e sc hg _ hk2 []).bind (fun s c1 l1 b sc1 hb h1 => ⟨_, _, rfl, by rw [hb]; rfl, h1⟩)
      fun hc lg _ sc1 he => he
  cases e with
  | str v => rw [evalValue_str, resolveInline_str]; exact Sim.value hg _
  | num v => rw [evalValue_num, resolveInline_num]; exact Sim.value hg _
  | var id =>
    rw [evalValue_var, resolveInline_var]
    dsimp only
    cases sc.localArgs with
    | some l => exact Sim.value hg _
    | none =>
      dsimp only
      cases env.args.bind (·.get id) with
      | some v => exact Sim.value hg _
      | none => exact Sim.value_err hg _ _
  | fn id pos named =>
    rw [evalValue_fn, resolveInline_fn]
    refine (IH.args _ sc hg _ hk2).bind (fun x c1 l1 _ sc1 hx h1 => ?_) fun hc lg x sc1 he => ?_
    · obtain ⟨hb1, rfl⟩ := h1
      subst hx
      show Sim env _ _ (match env.fn id with | some fn => _ | .none => _) (match env.fn id with | some f => _ | .none => _)
      cases env.fn id with
      | some fn => exact ⟨_, _, rfl, rfl, hb1, rfl⟩
      | none => exact ⟨_, _, rfl, rfl, hb1, rfl⟩
    · show DirtyOk lg (match env.fn id with | some f => _ | .none => _)
      cases env.fn id with
      | some fn => exact he
      | none => exact he.step (Step.addError _ _ nofun)
  | msg id attr => rw [evalValue_msg, resolveInline_msg]; exact viaWrite
  | term id attr args => rw [evalValue_term, resolveInline_term]; exact viaWrite
  | placeable e => rw [evalValue_placeable, resolveInline_placeable]; exact viaWrite

theorem getArguments_sim (a : Option (List (Inline Bytes) × List (Bytes × Inline Bytes))) (sc : Scope) (hg : Clean sc) :
    Sim env sc Eq (evalArgs (ctxOf env sc) (f + 1) a sc.placeables sc.errors) (getArguments env (k + 3) a sc) := by
  have hk2 : 3 * f ≤ k + 2 := Nat.le_add_right_of_le hk
  cases a with
  | none => rw [evalArgs_none, getArguments_none]; exact Sim.value hg _
  | some pn =>
    obtain ⟨pos, named⟩ := pn
    rw [evalArgs_some, getArguments_some]
    refine (IH.list pos sc hg _ hk2).bind (fun vs c1 l1 _ sc1 hv h1 => ?_)
      fun hc lg _ sc1 he => (Run.dirtyOk hc he ((inv env _).resolveNamed named sc1)).bind fun _ _ h => h
    obtain ⟨hb1, rfl⟩ := h1
    subst hv
    exact (IH.named named _ (upd_clean hg l1 hb1) _ hk2).bind
      (fun ns c2 l2 _ sc2 hn h2 => ⟨_, _, rfl, by rw [hn], h2⟩) fun _ _ _ _ he => he

theorem resolveList_sim (es : List (Inline Bytes)) (sc : Scope) (hg : Clean sc) :
    Sim env sc Eq (evalList (ctxOf env sc) (f + 1) es sc.placeables sc.errors) (resolveList env (k + 3) es sc) := by
  have hk2 : 3 * f ≤ k + 2 := Nat.le_add_right_of_le hk
  cases es with
  | nil => rw [evalList_nil, resolveList_nil]; exact Sim.value hg _
  | cons e es =>
    rw [evalList_cons, resolveList_cons]
    refine (IH.value e sc hg _ hk2).bind (fun v c1 l1 _ sc1 hv h1 => ?_)
      fun hc lg _ sc1 he => (Run.dirtyOk hc he ((inv env _).resolveList es sc1)).bind fun _ _ h => h
    obtain ⟨hb1, rfl⟩ := h1
    subst hv
    exact (IH.list es _ (upd_clean hg l1 hb1) _ hk2).bind
      (fun vs c2 l2 _ sc2 hn h2 => ⟨_, _, rfl, by rw [hn], h2⟩) fun _ _ _ _ he => he

theorem resolveNamed_sim (es : List (Bytes × Inline Bytes)) (sc : Scope) (hg : Clean sc) :
    Sim env sc Eq (evalNamed (ctxOf env sc) (f + 1) es sc.placeables sc.errors) (resolveNamed env (k + 3) es sc) := by
  have hk2 : 3 * f ≤ k + 2 := Nat.le_add_right_of_le hk
  cases es with
  | nil => rw [evalNamed_nil, resolveNamed_nil]; exact Sim.value hg _
  | cons ke es =>
    obtain ⟨n, e⟩ := ke
    rw [evalNamed_cons, resolveNamed_cons]
    refine (IH.value e sc hg _ hk2).bind (fun v c1 l1 _ sc1 hv h1 => ?_)
      fun hc lg _ sc1 he => (Run.dirtyOk hc he ((inv env _).resolveNamed es sc1)).bind fun _ _ h => h
    obtain ⟨hb1, rfl⟩ := h1
    subst hv
    exact (IH.named es _ (upd_clean hg l1 hb1) _ hk2).bind
      (fun vs c2 l2 _ sc2 hn h2 => ⟨_, _, rfl, by rw [hn], h2⟩) fun _ _ _ _ he => he

end step

theorem simAll (env : Env) : ∀ f, SimAll env f := by
  intro f
  induction f with
  | zero => exact simAll_zero env
  | succ f IH =>
    -- a model fuel `≥ 3 * (f + 1)` is `k + 3` with `3 * f ≤ k`
    have fuel : ∀ {P : Nat → Prop}, (∀ k, 3 * f ≤ k → P (k + 3)) → ∀ k', 3 * (f + 1) ≤ k' → P k' := by
      intro P h k' hk'
      obtain ⟨k, rfl⟩ : ∃ k, k' = k + 3 := ⟨k' - 3, by omega⟩
      exact h k (by omega)
    exact ⟨fun whole len es sc st hd hb hst => fuel fun k hk => writeElems_sim IH hk whole len es sc st hd hb hst,
      fun p src sc hg => fuel fun k hk => track_sim IH hk p src sc hg,
      fun e sc hg => fuel fun k hk => writeExpr_sim IH hk e sc hg,
      fun e sc hg => fuel fun k hk => writeInline_sim IH hk e sc hg,
      fun e sc hg => fuel fun k hk => resolveInline_sim IH hk e sc hg,
      fun a sc hg => fuel fun k hk => getArguments_sim IH hk a sc hg,
      fun es sc hg => fuel fun k hk => resolveList_sim IH hk es sc hg,
      fun es sc hg => fuel fun k hk => resolveNamed_sim IH hk es sc hg⟩

theorem format_sim (env : Env) (fuel : Nat) (p : Pattern Bytes) (k : Nat) (hk : 3 * fuel ≤ k) :
    SimElems env {} [p] [] (ResolverSpec.format env fuel p) (writeElems env k p p.length p [] {}) :=
  (simAll env fuel).elems p p.length p {} [p] rfl (Nat.zero_le _) rfl k hk []

theorem format_fuel_pos {env : Env} {fuel : Nat} {p : Pattern Bytes} (h : ResolverSpec.format env fuel p ≠ .fuel) :
    1 ≤ fuel := by
  match fuel with
  | 0 => exact absurd evalElems_zero h
  | k + 1 => exact Nat.succ_pos k

theorem format_text (env : Env) (fuel : Nat) (v : Bytes) :
    ResolverSpec.format env fuel [.text v] = .fuel ∨ ResolverSpec.format env fuel [.text v] = .val (tr env v) 0 [] := by
  unfold ResolverSpec.format
  match fuel with
  | 0 => left; rw [evalElems_zero]
  | 1 => left; rw [evalElems_text, evalElems_zero]; rfl
  | k + 2 => right; rw [evalElems_text, evalElems_nil]; exact congrArg (Out.val · 0 []) (List.append_nil _)

end FluentProofs.ResolverRefine

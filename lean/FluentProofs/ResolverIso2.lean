import FluentProofs.ResolverIso
import FluentProofs.ResolverEqns
/-!
# C09: the output language of the resolver model (one induction over the mutual block)

`Atom`s are the places of a pattern where the resolver takes bytes from the program (texts, string
and number literals, identifiers) plus the `site` marker for an isolatable placeable of a pattern with
more than one element.  `EnvOK env L` collects the piece hypotheses of the property: every atom of
every entry of the bundle is `MarkFree`, argument values and function outputs are in the language `L`,
formatter outputs are `MarkFree`.  The generic theorem `inv_all` says: every `.ok (w', sc')` result of
every function of the mutual block started from writer `w` satisfies `w' = w ++ out` with `L out`,
for every language `L ⊇ MarkFree` closed under concatenation and — only where the model isolates —
under `fsi ++ · ++ pdi`.  The last part states the hypotheses in the property's words (`Pieces`, `NoSites`).
-/
namespace FluentProofs.Bidi
open FluentModel FluentModel.Syntax FluentModel.Resolver
open FluentProofs.Resolver FluentProofs.ResolverRefine

inductive Atom where
  /-- a `TextElement` -/
  | text (v : Bytes)
  /-- a string literal (raw form, written by `write_error`; unescaped form, written as a value) -/
  | str (v : Bytes)
  /-- a number literal -/
  | num (v : Bytes)
  /-- an identifier that can be written by `write_error` (message, term, attribute, function, variable) -/
  | ident (v : Bytes)
  /-- an isolatable placeable of a pattern with more than one element -/
  | site
  deriving DecidableEq, Repr

def optAtom : Option Bytes → List Atom
  | some a => [.ident a]
  | .none => []

mutual
def inlineAtoms : Inline Bytes → List Atom
  | .str v => [.str v]
  | .num v => [.num v]
  | .fn id pos named => .ident id :: (inlinesAtoms pos ++ namedAtoms named)
  | .msg id attr => .ident id :: optAtom attr
  | .term id attr .none => .ident id :: optAtom attr
  | .term id attr (some (pos, named)) => .ident id :: (optAtom attr ++ (inlinesAtoms pos ++ namedAtoms named))
  | .var id => [.ident id]
  | .placeable e => exprAtoms e
def inlinesAtoms : List (Inline Bytes) → List Atom
  | [] => []
  | x :: xs => inlineAtoms x ++ inlinesAtoms xs
def namedAtoms : List (Bytes × Inline Bytes) → List Atom
  | [] => []
  | (_, x) :: xs => inlineAtoms x ++ namedAtoms xs
def exprAtoms : Expr Bytes → List Atom
  | .inline e => inlineAtoms e
  | .select sel vs => inlineAtoms sel ++ variantsAtoms vs
def variantsAtoms : List (Variant Bytes) → List Atom
  | [] => []
  | v :: vs => variantAtoms v ++ variantsAtoms vs
def variantAtoms : Variant Bytes → List Atom
  | .mk _ val _ => elemsAtoms (decide (val.length > 1)) val
/-- `multi` = the enclosing pattern has more than one element -/
def elemsAtoms (multi : Bool) : List (PatElem Bytes) → List Atom
  | [] => []
  | e :: es => elemAtoms multi e ++ elemsAtoms multi es
def elemAtoms (multi : Bool) : PatElem Bytes → List Atom
  | .text v => [.text v]
  | .placeable e => (if multi && isolatable e then [Atom.site] else []) ++ exprAtoms e
end

def patAtoms (p : Pattern Bytes) : List Atom := elemsAtoms (decide (p.length > 1)) p

/-- the arguments part of a call -/
def argsAtoms : Option (List (Inline Bytes) × List (Bytes × Inline Bytes)) → List Atom
  | .none => []
  | some (pos, named) => inlinesAtoms pos ++ namedAtoms named

/-- what the property assumes about one atom; `site` is what is assumed at an isolation site -/
def AtomOK (env : Env) (site : Prop) : Atom → Prop
  | .text v => MarkFree (match env.transform with | some f => f v | .none => v)
  | .str v => MarkFree v ∧ MarkFree (env.unescape v)
  | .num v => MarkFree v ∧ MarkFree (valueString env (env.tryNumber v))
  | .ident v => MarkFree v
  | .site => site

structure Lang (L : Bytes → Prop) : Prop where
  mf : ∀ {b}, MarkFree b → L b
  app : ∀ {a b}, L a → L b → L (a ++ b)

theorem Lang.nil {L : Bytes → Prop} (h : Lang L) : L [] := h.mf .nil

theorem lang_markFree : Lang MarkFree := ⟨id, MarkFree.append⟩
theorem lang_dyck : Lang Dyck := ⟨Dyck.of_markFree, Dyck.append⟩

/-- the value is written as a word of `L` -/
def LVal (env : Env) (L : Bytes → Prop) (v : Value) : Prop := L (valueString env v)

/-- closure needed where the model isolates -/
def SiteOK (env : Env) (L : Bytes → Prop) : Prop := env.useIsolating = true → ∀ a, L a → L (fsi ++ (a ++ pdi))

def AtomsOK (env : Env) (L : Bytes → Prop) (as : List Atom) : Prop := ∀ a ∈ as, AtomOK env (SiteOK env L) a

def PatOK (env : Env) (L : Bytes → Prop) (p : Pattern Bytes) : Prop := AtomsOK env L (patAtoms p)

/-- the piece hypotheses on the bundle and the caller's arguments -/
structure EnvOK (env : Env) (L : Bytes → Prop) : Prop where
  lang : Lang L
  /-- custom formatter outputs are mark-free -/
  formatter : ∀ f v s, env.formatter = some f → f v = some s → MarkFree s
  /-- argument values are written as words of `L` -/
  args : ∀ a, env.args = some a → ∀ kv ∈ a, LVal env L kv.2
  /-- functions map `L`-valued arguments to `L`-valued results -/
  fn : ∀ id f ps (ns : ArgList), env.fn id = some f → (∀ v ∈ ps, LVal env L v) → (∀ kv ∈ ns, LVal env L kv.2) →
    LVal env L (f ps ns)
  msgValue : ∀ id m p, env.msg id = some m → m.value = some p → PatOK env L p
  msgAttr : ∀ id m a, env.msg id = some m → a ∈ m.attributes → PatOK env L a.value
  termValue : ∀ id t, env.term id = some t → PatOK env L t.value
  termAttr : ∀ id t a, env.term id = some t → a ∈ t.attributes → PatOK env L a.value

theorem markFree_braced {b : Bytes} (h : MarkFree b) : MarkFree (braced b) := by
  unfold braced
  exact ((MarkFree.single (by decide)).append h).append (MarkFree.single (by decide))

theorem AtomsOK_append {env : Env} {L : Bytes → Prop} {a b : List Atom} :
    AtomsOK env L (a ++ b) ↔ AtomsOK env L a ∧ AtomsOK env L b :=
  List.forall_mem_append

theorem AtomsOK_cons {env : Env} {L : Bytes → Prop} {a : Atom} {b : List Atom} :
    AtomsOK env L (a :: b) ↔ AtomOK env (SiteOK env L) a ∧ AtomsOK env L b :=
  List.forall_mem_cons

theorem optAtom_mf {env : Env} {L : Bytes → Prop} {attr : Option Bytes} (h : AtomsOK env L (optAtom attr)) :
    ∀ a, attr = some a → MarkFree a := by
  intro a e; subst e
  exact h (.ident a) (by simp [optAtom])

mutual
theorem inlineWriteError_mf {env : Env} {L : Bytes → Prop} : ∀ (e : Inline Bytes), AtomsOK env L (inlineAtoms e) →
    MarkFree (inlineWriteError e)
  | .str v, h => by
    have := h (.str v) (by simp [inlineAtoms])
    simp only [inlineWriteError]
    exact ((MarkFree.single (by decide)).append this.1).append (MarkFree.single (by decide))
  | .num v, h => by
    have := h (.num v) (by simp [inlineAtoms])
    simp only [inlineWriteError]; exact this.1
  | .fn id pos named, h => by
    have : MarkFree id := h (.ident id) (by simp [inlineAtoms])
    simp only [inlineWriteError]
    exact this.append ((MarkFree.single (by decide)).append (MarkFree.single (by decide)))
  | .msg id attr, h => by
    simp only [inlineAtoms] at h
    have hid : MarkFree id := (AtomsOK_cons.1 h).1
    have ha := optAtom_mf (AtomsOK_cons.1 h).2
    cases attr with
    | none => simp only [inlineWriteError]; exact hid
    | some a =>
      simp only [inlineWriteError]
      exact (hid.append (MarkFree.single (by decide))).append (ha a rfl)
  | .term id attr args, h => by
    have hid : MarkFree id := h (.ident id) (by cases args with | none => simp [inlineAtoms] | some pn => obtain ⟨p, n⟩ := pn; simp [inlineAtoms])
    have ha : ∀ a, attr = some a → MarkFree a := by
      intro a e; subst e
      exact h (.ident a) (by cases args with | none => simp [inlineAtoms, optAtom] | some pn => obtain ⟨p, n⟩ := pn; simp [inlineAtoms, optAtom])
    cases attr with
    | none => simp only [inlineWriteError]; exact (MarkFree.single (by decide)).append hid
    | some a =>
      simp only [inlineWriteError]
      exact (((MarkFree.single (by decide)).append hid).append (MarkFree.single (by decide))).append (ha a rfl)
  | .var id, h => by
    have : MarkFree id := h (.ident id) (by simp [inlineAtoms])
    simp only [inlineWriteError]; exact (MarkFree.single (by decide)).append this
  | .placeable e, h => by
    simp only [inlineWriteError]
    exact exprWriteError_mf e (by simpa only [inlineAtoms] using h)
theorem exprWriteError_mf {env : Env} {L : Bytes → Prop} : ∀ (e : Expr Bytes), AtomsOK env L (exprAtoms e) →
    MarkFree (exprWriteError e)
  | .inline e, h => by
    simp only [exprWriteError]
    exact inlineWriteError_mf e (by simpa only [exprAtoms] using h)
  | .select sel _, h => by
    simp only [exprWriteError]
    simp only [exprAtoms] at h
    exact inlineWriteError_mf sel (AtomsOK_append.1 h).1
end

theorem variantsAtoms_mem {env : Env} {L : Bytes → Prop} {vs : List (Variant Bytes)} {k : VKey Bytes}
    {v : Pattern Bytes} {d : Bool} (h : Variant.mk k v d ∈ vs) (ha : AtomsOK env L (variantsAtoms vs)) :
    PatOK env L v := by
  induction vs with
  | nil => cases h
  | cons x rest ih =>
    rw [variantsAtoms] at ha
    rcases List.mem_cons.1 h with rfl | h
    · exact (AtomsOK_append.1 ha).1
    · exact ih h (AtomsOK_append.1 ha).2

/-- the local arguments of the scope are `L`-valued -/
def ScOK (env : Env) (L : Bytes → Prop) (sc : Scope) : Prop :=
  ∀ l, sc.localArgs = some l → ∀ kv ∈ l, LVal env L kv.2

theorem ScOK.of_eq {env : Env} {L : Bytes → Prop} {a b : Scope} (h : b.localArgs = a.localArgs) (ha : ScOK env L a) :
    ScOK env L b := by
  unfold ScOK; rw [h]; exact ha

/-- result of a writing function started from `w`: the old writer plus a word of `L`; local arguments restored -/
def OutW (L : Bytes → Prop) (w : Bytes) (sc : Scope) : RR (Bytes × Scope) → Prop
  | .ok (w', sc') => (∃ o, w' = w ++ o ∧ L o) ∧ sc'.localArgs = sc.localArgs
  | _ => True

/-- result of a resolving function -/
def OutV {α : Type} (P : α → Prop) (sc : Scope) : RR (α × Scope) → Prop
  | .ok (v, sc') => P v ∧ sc'.localArgs = sc.localArgs
  | _ => True

@[simp] theorem outW_ok {L : Bytes → Prop} {w : Bytes} {sc : Scope} {w' : Bytes} {sc' : Scope} :
    OutW L w sc (.ok (w', sc')) = ((∃ o, w' = w ++ o ∧ L o) ∧ sc'.localArgs = sc.localArgs) := rfl
@[simp] theorem outW_panic {L : Bytes → Prop} {w : Bytes} {sc : Scope} {m : String} : OutW L w sc (.panic m) = True := rfl
@[simp] theorem outW_fuel {L : Bytes → Prop} {w : Bytes} {sc : Scope} : OutW L w sc .fuel = True := rfl
@[simp] theorem outV_ok {α : Type} {P : α → Prop} {sc : Scope} {v : α} {sc' : Scope} :
    OutV P sc (.ok (v, sc')) = (P v ∧ sc'.localArgs = sc.localArgs) := rfl
@[simp] theorem outV_panic {α : Type} {P : α → Prop} {sc : Scope} {m : String} : OutV P sc (.panic m) = True := rfl
@[simp] theorem outV_fuel {α : Type} {P : α → Prop} {sc : Scope} : OutV (α := α) P sc .fuel = True := rfl

theorem OutW.prefix {L : Bytes → Prop} (hL : Lang L) {w w1 o : Bytes} {sc sc1 : Scope} {r : RR (Bytes × Scope)}
    (hw : w1 = w ++ o) (ho : L o) (hs : sc1.localArgs = sc.localArgs) (h : OutW L w1 sc1 r) : OutW L w sc r := by
  rcases r with ⟨⟨w', sc'⟩⟩ | _ | _
  · simp only [outW_ok] at h ⊢
    obtain ⟨⟨o', e, ho'⟩, hs'⟩ := h
    exact ⟨⟨o ++ o', by rw [e, hw, List.append_assoc], hL.app ho ho'⟩, hs'.trans hs⟩
  · trivial
  · trivial

theorem outW_app {L : Bytes → Prop} {w o : Bytes} {sc sc' : Scope} (ho : L o) (hs : sc'.localArgs = sc.localArgs) :
    OutW L w sc (.ok (w ++ o, sc')) := ⟨⟨o, rfl, ho⟩, hs⟩

theorem outW_same {L : Bytes → Prop} (hL : Lang L) {w : Bytes} {sc sc' : Scope} (hs : sc'.localArgs = sc.localArgs) :
    OutW L w sc (.ok (w, sc')) := ⟨⟨[], by simp, hL.nil⟩, hs⟩

structure Inv (env : Env) (L : Bytes → Prop) (n : Nat) : Prop where
  writeElems : ∀ whole len els w sc, AtomsOK env L (elemsAtoms (decide (len > 1)) els) → ScOK env L sc →
    OutW L w sc (writeElems env n whole len els w sc)
  writePattern : ∀ p w sc, PatOK env L p → ScOK env L sc → OutW L w sc (writePattern env n p w sc)
  track : ∀ p e w sc, PatOK env L p → MarkFree (inlineWriteError e) → ScOK env L sc → OutW L w sc (track env n p e w sc)
  writeExpr : ∀ e w sc, AtomsOK env L (exprAtoms e) → ScOK env L sc → OutW L w sc (writeExpr env n e w sc)
  writeDefault : ∀ vs w sc, AtomsOK env L (variantsAtoms vs) → ScOK env L sc → OutW L w sc (writeDefault env n vs w sc)
  writeInline : ∀ e w sc, AtomsOK env L (inlineAtoms e) → ScOK env L sc → OutW L w sc (writeInline env n e w sc)
  resolveInline : ∀ e sc, AtomsOK env L (inlineAtoms e) → ScOK env L sc → OutV (LVal env L) sc (resolveInline env n e sc)
  getArguments : ∀ a sc, AtomsOK env L (argsAtoms a) → ScOK env L sc →
    OutV (fun (r : List Value × ArgList) => (∀ v ∈ r.1, LVal env L v) ∧ (∀ kv ∈ r.2, LVal env L kv.2)) sc
      (getArguments env n a sc)
  resolveList : ∀ es sc, AtomsOK env L (inlinesAtoms es) → ScOK env L sc →
    OutV (fun (vs : List Value) => ∀ v ∈ vs, LVal env L v) sc (resolveList env n es sc)
  resolveNamed : ∀ es sc, AtomsOK env L (namedAtoms es) → ScOK env L sc →
    OutV (fun (ns : List (Bytes × Value)) => ∀ kv ∈ ns, LVal env L kv.2) sc (resolveNamed env n es sc)

theorem inv_zero (env : Env) (L : Bytes → Prop) : Inv env L 0 := by
  constructor <;> intros <;> simp only [writeElems_zero, writePattern_zero, track_zero, writeExpr_zero, writeDefault_zero,
    writeInline_zero, resolveInline_zero, getArguments_zero, resolveList_zero, resolveNamed_zero] <;> trivial

theorem OutV.bind {α β : Type} {P : α → Prop} {T : RR (β × Scope) → Prop} {sc1 : Scope} {r : RR (α × Scope)}
    {k : α × Scope → RR (β × Scope)} (h : OutV P sc1 r) (hp : ∀ m, T (.panic m)) (hf : T .fuel)
    (hk : ∀ v sc', P v → sc'.localArgs = sc1.localArgs → T (k (v, sc'))) : T (r.bind k) := by
  match r, h with
  | .ok (v, sc'), h => exact hk v sc' h.1 h.2
  | .panic m, _ => exact hp m
  | .fuel, _ => exact hf

theorem OutW.bind {β : Type} {L : Bytes → Prop} {T : RR (β × Scope) → Prop} {w1 : Bytes} {sc1 : Scope}
    {r : RR (Bytes × Scope)} {k : Bytes × Scope → RR (β × Scope)} (h : OutW L w1 sc1 r)
    (hp : ∀ m, T (.panic m)) (hf : T .fuel)
    (hk : ∀ o sc', L o → sc'.localArgs = sc1.localArgs → T (k (w1 ++ o, sc'))) : T (r.bind k) := by
  match r, h with
  | .ok (_, sc'), ⟨⟨o, rfl, ho⟩, hl⟩ => exact hk o sc' ho hl
  | .panic m, _ => exact hp m
  | .fuel, _ => exact hf

section values
variable {env : Env} {L : Bytes → Prop} (H : EnvOK env L)
include H

theorem lval_of_own (v : Value)
    (h : L (match v with | .str s => s | .num n => Num.asString n | .custom t => env.customStr t | .error => [] | .none => [])) :
    LVal env L v := by
  unfold LVal valueString
  cases hf : env.formatter.bind (fun f => f v) with
  | some s =>
    obtain ⟨f, hf1, hf2⟩ := Option.bind_eq_some_iff.1 hf
    exact H.lang.mf (H.formatter f v s hf1 hf2)
  | none => exact h

theorem lval_str {w : Bytes} (h : L w) : LVal env L (.str w) := lval_of_own H _ h
theorem lval_error : LVal env L .error := lval_of_own H _ H.lang.nil

theorem EnvOK.reach {p : Pattern Bytes} (h : Reach env p) : PatOK env L p :=
  Reach.elim H.msgValue H.msgAttr H.termValue H.termAttr h

omit H in
theorem site_lang {len : Nat} {e : Expr Bytes} {o : Bytes}
    (hs : AtomsOK env L (if decide (len > 1) && isolatable e then [Atom.site] else [])) (ho : L o) :
    L (openMark env len e ++ (o ++ closeMark env len e)) := by
  unfold openMark closeMark
  cases hi : env.useIsolating with
  | false => simpa using ho
  | true =>
    cases hm : decide (len > 1) && isolatable e with
    | false => simpa [hm] using ho
    | true =>
      rw [hm] at hs
      simpa [hm] using hs .site (List.mem_singleton.2 rfl) hi o ho

end values

section step
set_option linter.unusedSectionVars false
variable {env : Env} {L : Bytes → Prop} {n : Nat} (H : EnvOK env L) (IH : Inv env L n)
include H IH

theorem writePattern_step (p : Pattern Bytes) (w : Bytes) (sc : Scope) (hp : PatOK env L p) (hsc : ScOK env L sc) :
    OutW L w sc (writePattern env (n + 1) p w sc) := by
  rw [writePattern_succ]; exact IH.writeElems _ _ _ _ _ hp hsc

theorem writeDefault_step (vs : List (Variant Bytes)) (w : Bytes) (sc : Scope)
    (hv : AtomsOK env L (variantsAtoms vs)) (hsc : ScOK env L sc) :
    OutW L w sc (writeDefault env (n + 1) vs w sc) := by
  rw [writeDefault_succ]
  split
  · rename_i v hd
    obtain ⟨_, hk⟩ := defaultVariant_mem hd
    exact IH.writePattern _ _ _ (variantsAtoms_mem hk hv) hsc
  · exact outW_same H.lang rfl

theorem track_step (p : Pattern Bytes) (e : Inline Bytes) (w : Bytes) (sc : Scope)
    (hp : PatOK env L p) (he : MarkFree (inlineWriteError e)) (hsc : ScOK env L sc) :
    OutW L w sc (track env (n + 1) p e w sc) := by
  rw [track_succ]
  split
  · exact outW_app (H.lang.mf (markFree_braced he)) rfl
  · exact OutW.bind (IH.writePattern p w _ hp (ScOK.of_eq (a := sc) rfl hsc)) (fun _ => trivial) trivial
      fun o _ ho hl => outW_app ho hl

theorem writeElems_step (whole : Pattern Bytes) (len : Nat) (els : List (PatElem Bytes)) (w : Bytes) (sc : Scope)
    (he : AtomsOK env L (elemsAtoms (decide (len > 1)) els)) (hsc : ScOK env L sc) :
    OutW L w sc (writeElems env (n + 1) whole len els w sc) := by
  cases els with
  | nil => rw [writeElems_nil]; exact outW_same H.lang rfl
  | cons el rest =>
    cases el with
    | text v =>
      rw [elemsAtoms] at he
      obtain ⟨he1, he2⟩ := AtomsOK_append.1 he
      rw [writeElems_text]
      split
      · exact outW_same H.lang rfl
      · exact OutW.prefix H.lang rfl (H.lang.mf (he1 (.text v) (List.mem_singleton.2 rfl))) rfl
          (IH.writeElems _ _ _ _ _ he2 hsc)
    | placeable e =>
      rw [elemsAtoms, elemAtoms] at he
      obtain ⟨he1, he2⟩ := AtomsOK_append.1 he
      obtain ⟨hsite, hexpr⟩ := AtomsOK_append.1 he1
      rw [writeElems_placeable]
      by_cases hd : sc.dirty = true
      · rw [if_pos hd]; exact outW_same H.lang rfl
      rw [if_neg hd]
      by_cases h255 : sc.placeables + 1 > 255
      · rw [if_pos h255]; trivial
      rw [if_neg h255]
      by_cases hl : sc.placeables + 1 > Generated.maxPlaceables
      · rw [if_pos hl]; exact outW_same H.lang rfl
      rw [if_neg hl]
      have hl2 : (trackScope whole sc).localArgs = sc.localArgs := by rw [trackScope_eq]
      -- `w ++ openMark ++ o ++ fallback ++ closeMark`: the value and its `{error}` fallback between the marks
      refine OutW.bind (IH.writeExpr e _ _ hexpr (ScOK.of_eq hl2 hsc)) (fun _ => trivial) trivial
        fun o sc3 ho hl3 => ?_
      have hl3 := hl3.trans hl2
      have hfb : L (fallback e sc3) := by
        unfold fallback; split
        · exact H.lang.mf (markFree_braced (exprWriteError_mf e hexpr))
        · exact H.lang.nil
      refine OutW.prefix H.lang (o := openMark env len e ++ ((o ++ fallback e sc3) ++ closeMark env len e)) ?_
        (site_lang hsite (H.lang.app ho hfb)) hl3 (IH.writeElems _ _ _ _ _ he2 (ScOK.of_eq hl3 hsc))
      simp only [List.append_assoc]

theorem selectTail_step (vs : List (Variant Bytes)) (w : Bytes) (sc : Scope) (s : Value)
    (hv : AtomsOK env L (variantsAtoms vs)) (hsc : ScOK env L sc) : OutW L w sc (selectTail env n vs w sc s) := by
  rcases chosen_cases env vs s with h | ⟨_, v, _, hm, h⟩ | ⟨m, _, h, _⟩
  · rw [selectTail_none h]; exact IH.writeDefault vs w sc hv hsc
  · rw [selectTail_some h]; exact IH.writePattern v w sc (variantsAtoms_mem hm hv) hsc
  · rw [selectTail_panic h]; trivial

theorem writeExpr_step (e : Expr Bytes) (w : Bytes) (sc : Scope)
    (he : AtomsOK env L (exprAtoms e)) (hsc : ScOK env L sc) :
    OutW L w sc (writeExpr env (n + 1) e w sc) := by
  cases e with
  | inline e => rw [writeExpr_inline]; simp only [exprAtoms] at he; exact IH.writeInline e w sc he hsc
  | select sel vs =>
    rw [exprAtoms] at he
    obtain ⟨hsel, hvs⟩ := AtomsOK_append.1 he
    rw [writeExpr_select]
    refine OutV.bind (IH.resolveInline sel sc hsel hsc) (fun _ => trivial) trivial fun v sc1 _ hl => ?_
    exact OutW.prefix H.lang (o := []) (List.append_nil w).symm H.lang.nil hl
      (selectTail_step H IH vs w sc1 v hvs (ScOK.of_eq hl hsc))

theorem resolveList_step (es : List (Inline Bytes)) (sc : Scope)
    (he : AtomsOK env L (inlinesAtoms es)) (hsc : ScOK env L sc) :
    OutV (fun (vs : List Value) => ∀ v ∈ vs, LVal env L v) sc (resolveList env (n + 1) es sc) := by
  cases es with
  | nil => rw [resolveList_nil]; exact ⟨fun _ h => (nomatch h), rfl⟩
  | cons e es =>
    rw [inlinesAtoms] at he
    obtain ⟨h1, h2⟩ := AtomsOK_append.1 he
    rw [resolveList_cons]
    refine OutV.bind (IH.resolveInline e sc h1 hsc) (fun _ => trivial) trivial fun v sc1 hv hl => ?_
    refine OutV.bind (IH.resolveList es sc1 h2 (ScOK.of_eq hl hsc)) (fun _ => trivial) trivial fun vs sc2 hvs hl2 => ?_
    exact ⟨fun x hx => (List.mem_cons.1 hx).elim (fun e => e ▸ hv) (hvs x), hl2.trans hl⟩

theorem resolveNamed_step (es : List (Bytes × Inline Bytes)) (sc : Scope)
    (he : AtomsOK env L (namedAtoms es)) (hsc : ScOK env L sc) :
    OutV (fun (ns : List (Bytes × Value)) => ∀ kv ∈ ns, LVal env L kv.2) sc (resolveNamed env (n + 1) es sc) := by
  cases es with
  | nil => rw [resolveNamed_nil]; exact ⟨fun _ h => (nomatch h), rfl⟩
  | cons ke es =>
    obtain ⟨k, e⟩ := ke
    rw [namedAtoms] at he
    obtain ⟨h1, h2⟩ := AtomsOK_append.1 he
    rw [resolveNamed_cons]
    refine OutV.bind (IH.resolveInline e sc h1 hsc) (fun _ => trivial) trivial fun v sc1 hv hl => ?_
    refine OutV.bind (IH.resolveNamed es sc1 h2 (ScOK.of_eq hl hsc)) (fun _ => trivial) trivial fun vs sc2 hvs hl2 => ?_
    exact ⟨fun x hx => (List.mem_cons.1 hx).elim (fun e => e ▸ hv) (hvs x), hl2.trans hl⟩

theorem getArguments_step (a : Option (List (Inline Bytes) × List (Bytes × Inline Bytes))) (sc : Scope)
    (he : AtomsOK env L (argsAtoms a)) (hsc : ScOK env L sc) :
    OutV (fun (r : List Value × ArgList) => (∀ v ∈ r.1, LVal env L v) ∧ (∀ kv ∈ r.2, LVal env L kv.2)) sc
      (getArguments env (n + 1) a sc) := by
  cases a with
  | none => rw [getArguments_none]; exact ⟨⟨fun _ h => (nomatch h), fun _ h => (nomatch h)⟩, rfl⟩
  | some pn =>
    obtain ⟨pos, named⟩ := pn
    rw [argsAtoms] at he
    obtain ⟨h1, h2⟩ := AtomsOK_append.1 he
    rw [getArguments_some]
    refine OutV.bind (IH.resolveList pos sc h1 hsc) (fun _ => trivial) trivial fun vs sc1 hvs hl => ?_
    refine OutV.bind (IH.resolveNamed named sc1 h2 (ScOK.of_eq hl hsc)) (fun _ => trivial) trivial
      fun ns sc2 hns hl2 => ?_
    exact ⟨⟨hvs, fun kv hkv => hns kv (mem_ofPairs hkv)⟩, hl2.trans hl⟩

theorem termTail_step (id : Bytes) (attr : Option Bytes)
    (args : Option (List (Inline Bytes) × List (Bytes × Inline Bytes))) (w : Bytes) (named : ArgList) (sc : Scope)
    (herr : MarkFree (inlineWriteError (.term id attr args))) (hn : ∀ kv ∈ named, LVal env L kv.2) :
    OutW L w sc (termTail env n id attr args w named sc) := by
  have hsc2 : ScOK env L { sc with localArgs := some named } := fun l hl kv hkv => by cases hl; exact hn kv hkv
  have h : OutW L w { sc with localArgs := some named } (match termTarget env id attr with
      | some p => track env n p (.term id attr args) w { sc with localArgs := some named }
      | .none => .ok (w ++ braced (inlineWriteError (.term id attr args)),
          ({ sc with localArgs := some named } : Scope).addError (.reference (.term id attr)))) := by
    split
    · rename_i p hp
      exact IH.track _ _ w _ (EnvOK.reach H (reach_termTarget hp)) herr hsc2
    · exact outW_app (H.lang.mf (markFree_braced herr)) rfl
  -- whatever `local_args` the term's pattern ended with, the caller's are put back
  exact OutW.bind h (fun _ => trivial) trivial fun o _ ho _ => outW_app ho rfl

theorem writeInline_step (e : Inline Bytes) (w : Bytes) (sc : Scope)
    (he : AtomsOK env L (inlineAtoms e)) (hsc : ScOK env L sc) :
    OutW L w sc (writeInline env (n + 1) e w sc) := by
  have herr : MarkFree (inlineWriteError e) := inlineWriteError_mf e he
  have hmiss : ∀ sc', sc'.localArgs = sc.localArgs → OutW L w sc (.ok (w ++ braced (inlineWriteError e), sc')) :=
    fun _ h => outW_app (H.lang.mf (markFree_braced herr)) h
  cases e with
  | str v =>
    rw [writeInline_str]
    simp only [inlineAtoms] at he
    exact outW_app (H.lang.mf (he (.str v) (List.mem_singleton.2 rfl)).2) rfl
  | num v =>
    rw [writeInline_num]
    simp only [inlineAtoms] at he
    exact outW_app (H.lang.mf (he (.num v) (List.mem_singleton.2 rfl)).2) rfl
  | placeable e =>
    rw [writeInline_placeable]
    simp only [inlineAtoms] at he
    exact IH.writeExpr e w sc he hsc
  | msg id attr =>
    rw [writeInline_msg]
    split
    · rename_i p hp
      exact IH.track _ _ w sc (EnvOK.reach H (reach_msgTarget hp)) herr hsc
    · exact hmiss _ rfl
    · exact hmiss _ rfl
  | var id =>
    rw [writeInline_var]
    split
    · rename_i l hl
      split
      · rename_i v hv
        obtain ⟨k', hk⟩ := get_mem hv
        exact outW_app (hsc l hl _ hk) rfl
      · exact hmiss _ rfl
    · split
      · rename_i v hv
        obtain ⟨a, ha, hg⟩ := Option.bind_eq_some_iff.1 hv
        obtain ⟨k', hk⟩ := get_mem hg
        exact outW_app (H.args a ha _ hk) rfl
      · exact hmiss _ rfl
  | fn id pos named =>
    have hargs : AtomsOK env L (argsAtoms (some (pos, named))) := by
      simp only [inlineAtoms] at he; exact (AtomsOK_cons.1 he).2
    rw [writeInline_fn]
    refine OutV.bind (IH.getArguments _ sc hargs hsc) (fun _ => trivial) trivial fun x sc1 hx hl => ?_
    cases hf : env.fn id with
    | none => exact hmiss _ hl
    | some f =>
      refine outW_app ?_ hl
      unfold fnText
      split
      · exact H.lang.mf herr
      · exact H.fn id f x.1 x.2 hf hx.1 hx.2
  | term id attr args =>
    have hargs : AtomsOK env L (argsAtoms args) := by
      cases args with
      | none => exact fun a ha => nomatch ha
      | some pn =>
        obtain ⟨p, q⟩ := pn
        simp only [inlineAtoms] at he; exact (AtomsOK_append.1 (AtomsOK_cons.1 he).2).2
    rw [writeInline_term]
    refine OutV.bind (IH.getArguments args sc hargs hsc) (fun _ => trivial) trivial fun x sc1 hx hl => ?_
    exact OutW.prefix H.lang (o := []) (List.append_nil w).symm H.lang.nil hl
      (termTail_step H IH id attr args w x.2 sc1 herr hx.2)

theorem resolveInline_step (e : Inline Bytes) (sc : Scope)
    (he : AtomsOK env L (inlineAtoms e)) (hsc : ScOK env L sc) :
    OutV (LVal env L) sc (resolveInline env (n + 1) e sc) := by
  have viaWrite : OutV (LVal env L) sc (viaWrite env n e sc) :=
    OutW.bind (IH.writeInline e [] sc he hsc) (fun _ => trivial) trivial
      fun o _ ho hl => ⟨lval_str H ho, hl⟩
  cases e with
  | str v =>
    rw [resolveInline_str]
    simp only [inlineAtoms] at he
    exact ⟨lval_str H (H.lang.mf (he (.str v) (List.mem_singleton.2 rfl)).2), rfl⟩
  | num v =>
    rw [resolveInline_num]
    simp only [inlineAtoms] at he
    exact ⟨H.lang.mf (he (.num v) (List.mem_singleton.2 rfl)).2, rfl⟩
  | var id =>
    rw [resolveInline_var]
    split
    · rename_i l hl
      refine ⟨?_, rfl⟩
      cases hg : l.get id with
      | some v => obtain ⟨k', hk⟩ := get_mem hg; exact hsc l hl _ hk
      | none => exact lval_error H
    · split
      · rename_i v hv
        obtain ⟨a, ha, hg⟩ := Option.bind_eq_some_iff.1 hv
        obtain ⟨k', hk⟩ := get_mem hg
        exact ⟨H.args a ha _ hk, rfl⟩
      · exact ⟨lval_error H, rfl⟩
  | fn id pos named =>
    have hargs : AtomsOK env L (argsAtoms (some (pos, named))) := by
      simp only [inlineAtoms] at he; exact (AtomsOK_cons.1 he).2
    rw [resolveInline_fn]
    refine OutV.bind (IH.getArguments _ sc hargs hsc) (fun _ => trivial) trivial fun x sc1 hx hl => ?_
    cases hf : env.fn id with
    | none => exact ⟨lval_error H, hl⟩
    | some f => exact ⟨H.fn id f x.1 x.2 hf hx.1 hx.2, hl⟩
  | msg id attr => rw [resolveInline_msg]; exact viaWrite
  | term id attr args => rw [resolveInline_term]; exact viaWrite
  | placeable e => rw [resolveInline_placeable]; exact viaWrite

end step

theorem inv_all {env : Env} {L : Bytes → Prop} (H : EnvOK env L) : ∀ n, Inv env L n
  | 0 => inv_zero env L
  | n + 1 =>
    have IH := inv_all H n
    { writeElems := fun _ _ _ _ _ => writeElems_step H IH _ _ _ _ _
      writePattern := fun _ _ _ => writePattern_step H IH _ _ _
      track := fun _ _ _ _ => track_step H IH _ _ _ _
      writeExpr := fun _ _ _ => writeExpr_step H IH _ _ _
      writeDefault := fun _ _ _ => writeDefault_step H IH _ _ _
      writeInline := fun _ _ _ => writeInline_step H IH _ _ _
      resolveInline := fun _ _ => resolveInline_step H IH _ _
      getArguments := fun _ _ => getArguments_step H IH _ _
      resolveList := fun _ _ => resolveList_step H IH _ _
      resolveNamed := fun _ _ => resolveNamed_step H IH _ _ }

/-!
## the hypothesis "own text contains no FSI/PDI" in one structure

`Pieces env p` is the precondition of the property, spelled out: every text element (after the
transform), string literal (raw and unescaped), number literal (raw and formatted), identifier,
argument value, function output and formatter output is `MarkFree` — for the pattern `p` and every
entry of the bundle.  `NoSites` says that no pattern has an isolation site.
-/

/-- every atom is mark-free (nothing is asked at isolation sites) -/
def AtomsMarkFree (env : Env) (as : List Atom) : Prop := ∀ a ∈ as, AtomOK env True a

structure Pieces (env : Env) (p : Pattern Bytes) : Prop where
  pattern : AtomsMarkFree env (patAtoms p)
  msgValue : ∀ id m q, env.msg id = some m → m.value = some q → AtomsMarkFree env (patAtoms q)
  msgAttr : ∀ id m a, env.msg id = some m → a ∈ m.attributes → AtomsMarkFree env (patAtoms a.value)
  termValue : ∀ id t, env.term id = some t → AtomsMarkFree env (patAtoms t.value)
  termAttr : ∀ id t a, env.term id = some t → a ∈ t.attributes → AtomsMarkFree env (patAtoms a.value)
  /-- the caller's argument values are written mark-free -/
  args : ∀ a, env.args = some a → ∀ kv ∈ a, MarkFree (valueString env kv.2)
  /-- function outputs are written mark-free -/
  fn : ∀ id f ps (ns : ArgList), env.fn id = some f → MarkFree (valueString env (f ps ns))
  /-- custom formatter outputs are mark-free -/
  formatter : ∀ f v s, env.formatter = some f → f v = some s → MarkFree s

/-- no pattern of the bundle (nor `p`) has an isolatable placeable in a multi-element pattern -/
structure NoSites (env : Env) (p : Pattern Bytes) : Prop where
  pattern : Atom.site ∉ patAtoms p
  msgValue : ∀ id m q, env.msg id = some m → m.value = some q → Atom.site ∉ patAtoms q
  msgAttr : ∀ id m a, env.msg id = some m → a ∈ m.attributes → Atom.site ∉ patAtoms a.value
  termValue : ∀ id t, env.term id = some t → Atom.site ∉ patAtoms t.value
  termAttr : ∀ id t a, env.term id = some t → a ∈ t.attributes → Atom.site ∉ patAtoms a.value

theorem AtomOK.mono {env : Env} {s₁ s₂ : Prop} {a : Atom} (h : a = .site → s₁ → s₂) : AtomOK env s₁ a → AtomOK env s₂ a := by
  cases a with
  | site => exact h rfl
  | text v => exact id
  | str v => exact id
  | num v => exact id
  | ident v => exact id

theorem atomsOK_of_site {env : Env} {L : Bytes → Prop} {as : List Atom} (hS : SiteOK env L)
    (h : AtomsMarkFree env as) : AtomsOK env L as :=
  fun a ha => AtomOK.mono (fun _ _ => hS) (h a ha)

theorem atomsOK_of_noSite {env : Env} {L : Bytes → Prop} {as : List Atom} (hS : Atom.site ∉ as)
    (h : AtomsMarkFree env as) : AtomsOK env L as :=
  fun a ha => AtomOK.mono (fun e _ => absurd (e ▸ ha) hS) (h a ha)

theorem Pieces.envOK {env : Env} {p : Pattern Bytes} {L : Bytes → Prop} (P : Pieces env p) (hL : Lang L)
    (hS : SiteOK env L) : EnvOK env L ∧ PatOK env L p :=
  ⟨{ lang := hL
     formatter := P.formatter
     args := fun a ha kv hkv => hL.mf (P.args a ha kv hkv)
     fn := fun id f ps ns hf _ _ => hL.mf (P.fn id f ps ns hf)
     msgValue := fun id m q h1 h2 => atomsOK_of_site hS (P.msgValue id m q h1 h2)
     msgAttr := fun id m a h1 h2 => atomsOK_of_site hS (P.msgAttr id m a h1 h2)
     termValue := fun id t h1 => atomsOK_of_site hS (P.termValue id t h1)
     termAttr := fun id t a h1 h2 => atomsOK_of_site hS (P.termAttr id t a h1 h2) },
   atomsOK_of_site hS P.pattern⟩

theorem Pieces.envOK_noSites {env : Env} {p : Pattern Bytes} {L : Bytes → Prop} (P : Pieces env p) (hL : Lang L)
    (N : NoSites env p) : EnvOK env L ∧ PatOK env L p :=
  ⟨{ lang := hL
     formatter := P.formatter
     args := fun a ha kv hkv => hL.mf (P.args a ha kv hkv)
     fn := fun id f ps ns hf _ _ => hL.mf (P.fn id f ps ns hf)
     msgValue := fun id m q h1 h2 => atomsOK_of_noSite (N.msgValue id m q h1 h2) (P.msgValue id m q h1 h2)
     msgAttr := fun id m a h1 h2 => atomsOK_of_noSite (N.msgAttr id m a h1 h2) (P.msgAttr id m a h1 h2)
     termValue := fun id t h1 => atomsOK_of_noSite (N.termValue id t h1) (P.termValue id t h1)
     termAttr := fun id t a h1 h2 => atomsOK_of_noSite (N.termAttr id t a h1 h2) (P.termAttr id t a h1 h2) },
   atomsOK_of_noSite N.pattern P.pattern⟩

theorem siteOK_off {env : Env} (L : Bytes → Prop) (h : env.useIsolating = false) : SiteOK env L := by
  intro h'; rw [h] at h'; cases h'

theorem siteOK_dyck (env : Env) : SiteOK env Dyck := fun _ _ ha => ha.isolate

theorem scOK_empty (env : Env) (L : Bytes → Prop) : ScOK env L {} := by
  intro l hl; cases hl

theorem resolvePattern_out {env : Env} {L : Bytes → Prop} {p : Pattern Bytes} (H : EnvOK env L) (hp : PatOK env L p)
    (fuel : Nat) (sc : Scope) (hsc : ScOK env L sc) : OutW L [] sc (resolvePattern env fuel p sc) :=
  resolvePattern_cases (T := OutW L [] sc) env fuel p sc
    (fun v hv => ⟨⟨_, rfl, H.lang.mf (hp (.text v) (by subst hv; simp [patAtoms, elemsAtoms, elemAtoms]))⟩, rfl⟩)
    fun _ => (inv_all H fuel).writePattern p [] sc hp hsc

theorem pattern_out {env : Env} {L : Bytes → Prop} {p : Pattern Bytes} (H : EnvOK env L) (hp : PatOK env L p)
    (fuel : Nat) (w : Bytes) (sc : Scope) (hsc : ScOK env L sc) {w' : Bytes} {sc' : Scope}
    (h : writePattern env fuel p w sc = .ok (w', sc')) : ∃ out, w' = w ++ out ∧ L out := by
  have := (inv_all H fuel).writePattern p w sc hp hsc
  rw [h] at this
  exact this.1

theorem top_out {env : Env} {L : Bytes → Prop} {p : Pattern Bytes} (H : EnvOK env L) (hp : PatOK env L p)
    (fuel : Nat) {out : Bytes} {errs : List RErr}
    (h : formatPattern env fuel p = .ok (out, errs) ∨ writePatternTop env fuel p = .ok (out, errs)) : L out :=
  entry_ok (X := fun out _ => L out)
    (fun v hv => H.lang.mf (hp (.text v) (by subst hv; simp [patAtoms, elemsAtoms, elemAtoms])))
    (fun w sc hr => by
      obtain ⟨o, rfl, ho⟩ := pattern_out H hp fuel [] {} (scOK_empty _ _) hr
      exact ho) h

theorem Pieces.withIso {env : Env} {p : Pattern Bytes} (P : Pieces env p) (b : Bool) :
    Pieces (withIso env b) p :=
  ⟨P.pattern, P.msgValue, P.msgAttr, P.termValue, P.termAttr, P.args, P.fn, P.formatter⟩

end FluentProofs.Bidi

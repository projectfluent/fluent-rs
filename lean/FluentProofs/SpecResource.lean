import FluentProofs.SpecEntries
import FluentProofs.ParserLoops
/-!
# The resource loop (C02, T3: comments and the whole resource)

The grammar yields a raw list of items (entries, blank blocks) that `assemble` (`SpecEntries`) turns into the tree: comment
lines of one level joined, a `#` comment attached to the Message or Term that follows without a blank block, blank blocks
dropped.  `Parser::parse` does this on the fly with a pending comment and a count of blank lines.  The file first computes
`assemble` on the shapes the loop meets and inverts the grammar's entry productions on a junk-free source (`entryP_inv` …
`follow_of_raw`).  `comment_run` is `get_comment`'s loop against the run of comment lines; `jEntry` resolves and joins one
entry of the parser; `Owed` says which items the loop still has to account for when a comment is pending, `assemble_owed`
what they assemble to.  `LoopOK` is the statement of the induction over the rounds of `parse`'s loop (`round_entry`,
`round_comment`, `loop_inv`); `resource_loop` is its result and `parse_refines` the whole of C02.
-/
namespace FluentProofs.SpecResource
open FluentModel FluentModel.Syntax FluentModel.SpecGrammar FluentProofs.Parser FluentProofs.SpecLex
open FluentProofs.SpecRefine FluentProofs.PatFlat FluentProofs.PatLoop FluentProofs.SpecEntries FluentProofs.SpecSteps
open FluentProofs.SpecBlank

/-- the comment entry of a level (`1`: `#`, `2`: `##`, otherwise `###`) with the lines `c` -/
def mkC : Nat → List Bytes → Entry Bytes
  | 1, c => .comment c
  | 2, c => .groupComment c
  | _, c => .resourceComment c

/-- does the list begin with a message or a term (something a comment attaches to)? -/
def attachHead : List (Option (Entry Bytes)) → Bool
  | some (.message _) :: _ => true
  | some (.term _) :: _ => true
  | _ => false

section
variable {X : List (Option (Entry Bytes))} {a b c : List Bytes} {L : Nat}

theorem headLevel_mkC (hL : L = 1 ∨ L = 2 ∨ L = 3) : headLevel (some (mkC L a) :: X) = L := by
  rcases hL with rfl | rfl | rfl <;> rfl

theorem attachHead_mkC : attachHead (some (mkC L c) :: X) = false := by
  unfold mkC; split <;> rfl

theorem head_joinComments (X : List (Option (Entry Bytes))) :
    headLevel (joinComments X) = headLevel X ∧ attachHead (joinComments X) = attachHead X := by
  cases X with
  | nil => exact ⟨rfl, rfl⟩
  | cons x r =>
    cases x with
    | none => exact ⟨rfl, rfl⟩
    | some e =>
      cases e with
      | message m => exact ⟨rfl, rfl⟩
      | term t => exact ⟨rfl, rfl⟩
      | junk c => exact ⟨rfl, rfl⟩
      | _ => simp only [joinComments]; split <;> exact ⟨rfl, rfl⟩

theorem joinComments_mkC_nomerge (hL : L = 1 ∨ L = 2 ∨ L = 3) (h : headLevel X ≠ L) :
    joinComments (some (mkC L a) :: X) = some (mkC L a) :: joinComments X := by
  rw [← (head_joinComments X).1] at h
  rcases hL with rfl | rfl | rfl <;>
  · simp only [mkC, joinComments]
    split
    · rename_i heq; rw [heq] at h; exact absurd rfl h
    · rfl

theorem joinComments_mkC_merge (hL : L = 1 ∨ L = 2 ∨ L = 3) :
    joinComments (some (mkC L a) :: some (mkC L b) :: X) = joinComments (some (mkC L (a ++ b)) :: X) := by
  rcases hL with rfl | rfl | rfl <;>
  · simp only [mkC, joinComments]
    generalize joinComments X = Y
    cases Y with
    | nil => rfl
    | cons y r =>
      cases y with
      | none => rfl
      | some e => cases e <;> simp only [List.append_assoc]

theorem assemble_mkC (hL : L = 2 ∨ L = 3) (h : headLevel X ≠ L) :
    assemble (some (mkC L a) :: X) = mkC L a :: assemble X := by
  rw [assemble, joinComments_mkC_nomerge (Or.inr hL) h]
  rcases hL with rfl | rfl <;> simp only [mkC, attachComments, dropBlanks, assemble]

theorem joinComments_comment (h : headLevel X ≠ 1) :
    joinComments (some (.comment c) :: X) = some (.comment c) :: joinComments X :=
  joinComments_mkC_nomerge (L := 1) (Or.inl rfl) h

theorem assemble_comment_message (m : Message Bytes) :
    assemble (some (.comment c) :: some (.message m) :: X) = .message { m with comment := some c } :: assemble X := by
  rw [assemble, joinComments_comment (X := some (.message m) :: X) Nat.zero_ne_one]
  rfl

theorem assemble_comment_term (t : Term Bytes) :
    assemble (some (.comment c) :: some (.term t) :: X) = .term { t with comment := some c } :: assemble X := by
  rw [assemble, joinComments_comment (X := some (.term t) :: X) Nat.zero_ne_one]
  rfl

theorem assemble_comment_other (h1 : headLevel X ≠ 1) (h2 : attachHead X = false) :
    assemble (some (.comment c) :: X) = .comment c :: assemble X := by
  simp only [assemble]
  rw [joinComments_comment h1]
  rw [← (head_joinComments X).2] at h2
  generalize joinComments X = Y at h2 ⊢
  cases Y with
  | nil => rfl
  | cons y r =>
    cases y with
    | none => rfl
    | some e =>
      cases e with
      | message m => cases h2
      | term t => cases h2
      | _ => rfl

end

/-- the raw items of the comment lines `spans`, all of level `L` -/
def runItems (s : Src) (L : Nat) (spans : List Span) : List (Option (Entry Bytes)) :=
  spans.map fun sp => some (mkC L [spanBytes s sp])

section
variable {L : Nat} (hL : L = 1 ∨ L = 2 ∨ L = 3) (s : Src) {X : List (Option (Entry Bytes))}
include hL

theorem joinComments_run (spans : List Span) : ∀ (a : List Bytes) (X : List (Option (Entry Bytes))),
    joinComments (some (mkC L a) :: (runItems s L spans ++ X)) =
      joinComments (some (mkC L (a ++ spans.map (spanBytes s))) :: X) := by
  induction spans with
  | nil => intro a X; simp [runItems]
  | cons sp spans ih =>
    intro a X
    have : runItems s L (sp :: spans) ++ X = some (mkC L [spanBytes s sp]) :: (runItems s L spans ++ X) := rfl
    rw [this, joinComments_mkC_merge hL, ih, List.append_assoc]
    rfl

theorem assemble_run (sp : Span) (spans : List Span) :
    assemble (runItems s L (sp :: spans) ++ X) = assemble (some (mkC L ((sp :: spans).map (spanBytes s))) :: X) := by
  have : runItems s L (sp :: spans) ++ X = some (mkC L [spanBytes s sp]) :: (runItems s L spans ++ X) := rfl
  rw [assemble, this, joinComments_run hL]
  rfl

end

theorem assemble_skip {raw1 raw2 : List (Option (Entry Bytes))} (h : raw1 = raw2 ∨ raw1 = none :: raw2) :
    assemble raw1 = assemble raw2 := by
  rcases h with rfl | rfl
  · rfl
  · exact assemble_none raw2

def hasJunk : List (Option (Entry Bytes)) → Bool
  | [] => false
  | some (.junk _) :: _ => true
  | _ :: r => hasJunk r

def isJunkO : Option (Entry Bytes) → Bool
  | some (.junk _) => true
  | _ => false

section
variable (X : List (Option (Entry Bytes)))

theorem hasJunk_cons (x : Option (Entry Bytes)) : hasJunk (x :: X) = (isJunkO x || hasJunk X) := by
  cases x with
  | none => rfl
  | some e => cases e <;> rfl

theorem hasJunk_tail {x : Option (Entry Bytes)} {X : List (Option (Entry Bytes))} (h : hasJunk (x :: X) = false) :
    hasJunk X = false := by
  rw [hasJunk_cons, Bool.or_eq_false_iff] at h
  exact h.2

theorem hasJunk_dropBlanks : (dropBlanks X).any isJunk = hasJunk X := by
  induction X with
  | nil => rfl
  | cons x X ih =>
    cases x with
    | none => exact ih
    | some e =>
      cases e with
      | junk c => rfl
      | _ => exact ih

theorem hasJunk_attachComments : hasJunk (attachComments X) = hasJunk X := by
  fun_induction attachComments X with
  | case1 c m rest ih => exact ih
  | case2 c t rest ih => exact ih
  | case3 e rest _ _ ih => rw [hasJunk_cons, ih, ← hasJunk_cons]
  | case4 => rfl

theorem hasJunk_joinComments : hasJunk (joinComments X) = hasJunk X := by
  induction X with
  | nil => rfl
  | cons x r ih =>
    cases x with
    | none => exact ih
    | some e =>
      cases e with
      | message m => exact ih
      | term t => exact ih
      | junk c => rfl
      | _ =>
        -- a comment line, merged with the next or not
        simp only [joinComments]
        split
        · rename_i heq; rw [heq] at ih; exact ih
        · exact ih

theorem hasJunk_assemble : (assemble X).any isJunk = hasJunk X := by
  rw [assemble, hasJunk_dropBlanks, hasJunk_attachComments, hasJunk_joinComments]

end

theorem termP_fail {sf : Nat} {b : UInt8} (t : List UInt8) (h : b ≠ 45) : termP sf (b :: t) = .fail := by
  unfold termP
  split
  · rename_i heq; exact absurd (List.cons.inj heq).1 h
  · rfl

theorem commentLine_none {b : UInt8} (t : List UInt8) (h : b ≠ 35) : commentLine (b :: t) = none := by
  have : commentMarker (b :: t) = none := by
    unfold commentMarker
    split <;> first | rfl | (rename_i heq; exact absurd (List.cons.inj heq).1 h)
  simp only [commentLine, this]

theorem commentMarker_inv {i r : List UInt8} {l : Nat} (h : commentMarker i = some (l, r)) :
    (∃ t, i = 35 :: t) ∧ (l = 1 ∨ l = 2 ∨ l = 3) := by
  unfold commentMarker at h
  split at h
  · cases h; exact ⟨⟨_, rfl⟩, Or.inr (Or.inr rfl)⟩
  · cases h; exact ⟨⟨_, rfl⟩, Or.inr (Or.inl rfl)⟩
  · cases h; exact ⟨⟨_, rfl⟩, Or.inl rfl⟩
  · cases h

theorem commentLine_inv {i r : List UInt8} {l : Nat} {c : Bytes} (h : commentLine i = some ((l, c), r)) :
    ∃ r0, commentMarker i = some (l, r0) ∧ c = (commentBody r0).1 ∧ lineEnd (commentBody r0).2 = some r := by
  unfold commentLine at h
  split at h
  · cases h
  · rename_i l0 r0 hm
    split at h
    · rename_i r2 hl
      injection h with h; injection h with h1 h2; injection h1 with h3 h4
      subst h3 h4 h2
      exact ⟨r0, hm, rfl, hl⟩
    · cases h

theorem entryLine_eq_ok {α : Type} {mk : α → Entry Bytes} {x : PR α} {e : Entry Bytes} {r5 : List UInt8}
    (h : entryLine mk x = .ok e r5) : ∃ a r4, x = .ok a r4 ∧ lineEnd r4 = some r5 ∧ e = mk a := by
  unfold entryLine at h
  obtain ⟨a, r4, hx, h⟩ := PR.bind_eq_ok h
  split at h
  · rename_i r' hl; cases h; exact ⟨a, r4, hx, hl, rfl⟩
  · cases h

theorem entryP_inv {sf : Nat} {i r5 : List UInt8} {e : Entry Bytes} (h : entryP sf i = .ok e r5) :
    (∃ r4, lineEnd r4 = some r5 ∧ ((∃ m, messageP sf i = .ok m r4 ∧ e = .message m) ∨
      (∃ t, termP sf i = .ok t r4 ∧ e = .term t))) ∨
    (∃ l c, commentLine i = some ((l, c), r5) ∧ e = mkC l [c]) := by
  rw [entryP_unfold] at h
  rcases PR.seq_eq_ok h with ⟨_, _, h1, h2⟩ | ⟨_, h⟩
  · cases h2
    obtain ⟨m, r4, hm, hl, rfl⟩ := entryLine_eq_ok h1
    exact Or.inl ⟨r4, hl, Or.inl ⟨m, hm, rfl⟩⟩
  rcases PR.seq_eq_ok h with ⟨_, _, h1, h2⟩ | ⟨_, h⟩
  · cases h2
    obtain ⟨t, r4, ht, hl, rfl⟩ := entryLine_eq_ok h1
    exact Or.inl ⟨r4, hl, Or.inr ⟨t, ht, rfl⟩⟩
  right
  split at h
  · rename_i c r hc; cases h; exact ⟨1, c, hc, rfl⟩
  · rename_i c r hc; cases h; exact ⟨2, c, hc, rfl⟩
  · rename_i l c r h1 h2 hc
    cases h
    refine ⟨l, c, hc, ?_⟩
    unfold mkC
    split
    · exact absurd rfl h1
    · exact absurd rfl h2
    · rfl
  · cases h

theorem entryP_junkfree {sf : Nat} {i r5 : List UInt8} {e : Entry Bytes} (h : entryP sf i = .ok e r5) :
    ∀ c, e ≠ .junk c := by
  rintro c rfl
  rcases entryP_inv h with ⟨_, _, ⟨_, _, e⟩ | ⟨_, _, e⟩⟩ | ⟨l, _, _, e⟩
  · cases e
  · cases e
  · unfold mkC at e; split at e <;> cases e

theorem entryP_fail_of_head {sf : Nat} {b : UInt8} {t : List UInt8} (h1 : isAlphaC b = false) (h2 : b ≠ 45) (h3 : b ≠ 35) :
    entryP sf (b :: t) = .fail := by
  have hm : messageP sf (b :: t) = .fail := by
    rw [messageP_unfold, keyThen, identifier, h1]; rfl
  rw [entryP_unfold, hm, termP_fail t h2, commentLine_none t h3]
  rfl

theorem entryP_head {sf : Nat} {i r5 : List UInt8} {e : Entry Bytes} (h : entryP sf i = .ok e r5) :
    ∃ b t, i = b :: t ∧ (isAlphaC b = true ∨ b = 45 ∨ b = 35) := by
  rcases entryP_inv h with ⟨r4, _, ⟨m, h1, _⟩ | ⟨t, h1, _⟩⟩ | ⟨l, c, h1, _⟩
  · obtain ⟨b, t, e1, e2⟩ := messageP_head h1; exact ⟨b, t, e1, Or.inl e2⟩
  · obtain ⟨t, e1⟩ := termP_head h1; exact ⟨45, t, e1, Or.inr (Or.inl rfl)⟩
  · obtain ⟨r0, g1, _, _⟩ := commentLine_inv h1
    obtain ⟨⟨t, e1⟩, _⟩ := commentMarker_inv g1
    exact ⟨35, t, e1, Or.inr (Or.inr rfl)⟩

theorem blank_not_entry_head {b : UInt8} (h : b = 32 ∨ b = 10 ∨ b = 13) : ¬ (isAlphaC b = true ∨ b = 45 ∨ b = 35) := by
  rcases h with rfl | rfl | rfl <;> decide

section
variable {sf m : Nat} {raw : List (Option (Entry Bytes))}

theorem resourceRaw_inv {b : UInt8} {t : List UInt8} (h : resourceRaw sf m (b :: t) = some raw) :
    ∃ n x r raw1, m = n + 1 ∧ resourceRaw sf n r = some raw1 ∧ x :: raw1 = raw ∧
      ((∃ e, entryP sf (b :: t) = .ok e r ∧ x = some e) ∨
       (∃ k, blankBlock (b :: t) = some (k, r) ∧ x = none) ∨
       (blankBlock (b :: t) = none ∧ ∃ c, x = some (.junk c))) := by
  cases m with
  | zero => cases h
  | succ n =>
    simp only [resourceRaw] at h
    split at h
    · rename_i e r he
      obtain ⟨raw1, h1, h2⟩ := Option.map_eq_some_iff.mp h
      exact ⟨n, _, r, raw1, rfl, h1, h2, Or.inl ⟨e, he, rfl⟩⟩
    · cases h
    · split at h
      · rename_i k r hb
        obtain ⟨raw1, h1, h2⟩ := Option.map_eq_some_iff.mp h
        exact ⟨n, _, r, raw1, rfl, h1, h2, Or.inr (Or.inl ⟨k, hb, rfl⟩)⟩
      · rename_i hb
        obtain ⟨raw1, h1, h2⟩ := Option.map_eq_some_iff.mp h
        exact ⟨n, _, _, raw1, rfl, h1, h2, Or.inr (Or.inr ⟨hb, _, rfl⟩)⟩

theorem resourceRaw_nil (h : resourceRaw sf m [] = some raw) : raw = [] := by
  cases m with
  | zero => cases h
  | succ n => cases h; rfl

theorem raw_blank_inv {k : Nat} {R x : List UInt8} (h : resourceRaw sf m R = some raw) (hne : R ≠ [])
    (hk : blankBlock R = some (k, x)) : ∃ n raw', raw = none :: raw' ∧ resourceRaw sf n x = some raw' := by
  cases R with
  | nil => exact absurd rfl hne
  | cons b t =>
    obtain ⟨n, _, r, raw1, _, h6, rfl, ⟨e, he, _⟩ | ⟨k', hk', rfl⟩ | ⟨hn, _⟩⟩ := resourceRaw_inv h
    · obtain ⟨b', t', e1, e2⟩ := entryP_head he
      cases e1
      exact absurd e2 (blank_not_entry_head (blankBlock_head (by rw [hk]; rfl)))
    · rw [hk] at hk'; cases hk'; exact ⟨n, raw1, rfl, h6⟩
    · rw [hn] at hk; cases hk

theorem raw_entry_inv {X : List UInt8} (h : resourceRaw sf m X = some raw) (hne : X ≠ []) (hcan : Canon X)
    (hj : hasJunk raw = false) :
    ∃ m' e r5 raw1, m = m' + 1 ∧ entryP sf X = .ok e r5 ∧ raw = some e :: raw1 ∧
      resourceRaw sf m' r5 = some raw1 ∧ hasJunk raw1 = false := by
  cases X with
  | nil => exact absurd rfl hne
  | cons b t =>
    obtain ⟨n, x, r, raw1, rfl, h6, rfl, ⟨e, he, rfl⟩ | ⟨k, hk, _⟩ | ⟨_, c, rfl⟩⟩ := resourceRaw_inv h
    · exact ⟨n, e, r, raw1, rfl, he, rfl, h6, hasJunk_tail hj⟩
    · rw [blankBlock_none_iff.mpr (hcan.resolve_left (List.cons_ne_nil b t))] at hk; cases hk
    · cases hj

theorem raw_afterBlank {R : List UInt8} (h : resourceRaw sf m R = some raw) (hj : hasJunk raw = false) :
    ∃ raw' m', resourceRaw sf m' (afterBlank R) = some raw' ∧ hasJunk raw' = false ∧ assemble raw = assemble raw' := by
  by_cases hne : R = []
  · subst hne; rw [afterBlank_nil]; exact ⟨raw, m, h, hj, rfl⟩
  · cases hb : blankBlock R with
    | none => rw [afterBlank_of_none hb]; exact ⟨raw, m, h, hj, rfl⟩
    | some v =>
      obtain ⟨n, raw', rfl, h'⟩ := raw_blank_inv (k := v.1) (x := v.2) h hne hb
      rw [afterBlank_of_some (n := v.1) (x := v.2) hb]
      exact ⟨raw', n, h', hasJunk_tail hj, assemble_none raw'⟩

end

theorem follow_of_raw {sf m : Nat} {r4 r5 : List UInt8} {raw : List (Option (Entry Bytes))}
    (hl : lineEnd r4 = some r5) (h : resourceRaw sf m r5 = some raw) (hj : hasJunk raw = false) : EntryFollow r4 := by
  obtain ⟨raw', m', h', hj', _⟩ := raw_afterBlank h hj
  have hX : afterBlank r4 = afterBlank r5 := afterBlank_lineEnd hl
  -- the next line that is not blank, if there is one, begins with a letter, `-` or `#`
  have key : ∀ b t, blankOpt r4 = b :: t → afterBlank r5 = b :: t ∧ b ≠ 123 ∧ b ≠ 46 := by
    intro b t hbt
    rw [← blankOpt_afterBlank, hX] at hbt
    cases h0 : afterBlank r5 with
    | nil => rw [h0] at hbt; cases hbt
    | cons b' t' =>
      obtain ⟨_, e, _, _, _, he, _⟩ :=
        raw_entry_inv h' (by rw [h0]; exact List.cons_ne_nil _ _) (afterBlank_canon r5) hj'
      obtain ⟨_, _, h0', hb⟩ := entryP_head he
      cases h0.symm.trans h0'
      have hne : b' ≠ 32 ∧ b' ≠ 10 ∧ b' ≠ 13 ∧ b' ≠ 123 ∧ b' ≠ 46 := by
        rcases hb with hb | rfl | rfl
        · refine ⟨?_, ?_, ?_, ?_, ?_⟩ <;> (rintro rfl; cases hb)
        · decide
        · decide
      rw [h0, blankOpt_other _ hne.1 hne.2.1 hne.2.2.1] at hbt
      cases hbt
      exact ⟨rfl, hne.2.2.2⟩
  exact ⟨⟨by rw [hl]; rfl, fun b t hbt => ⟨(key b t hbt).2.1, .inr (.inr (.inr (.inr (hX.trans (key b t hbt).1))))⟩⟩,
    fun t hbt => (key _ t hbt).2.2 rfl⟩

theorem isEol_of_lineEnd {s : Src} {p : Nat} (h : (lineEnd (rest s p)).isSome = true) : isEol s p = true := by
  rcases eol_cases s p with ⟨_, _, _, hi⟩ | ⟨_, _, _, hi⟩ | ⟨_, _, _, _, hi⟩ | ⟨b, _, hr, nb, _⟩
  · exact hi
  · exact hi
  · exact hi
  · rw [hr, lineEnd_nonbreak nb] at h; cases h

theorem commentBody_of_ne {s : Src} {p : Nat} (h : s[p]? ≠ some 32) : commentBody (rest s p) = ([], rest s p) := by
  unfold commentBody
  split
  · rename_i r' heq; exact absurd (rest_head heq) h
  · rfl

theorem commentLine_level {s : Src} {p l : Nat} {c : Bytes} {r5 : List UInt8}
    (h : commentLine (rest s p) = some ((l, c), r5)) :
    getCommentLevel s p = (l, p + l) ∧ (l = 1 ∨ l = 2 ∨ l = 3) ∧ s[p]? = some 35 ∧ s[p + l - 1]? = some 35 ∧
      c = (commentBody (rest s (p + l))).1 ∧ lineEnd (commentBody (rest s (p + l))).2 = some r5 := by
  obtain ⟨r0, hm, hc, hl⟩ := commentLine_inv h
  have hL := (commentMarker_inv hm).2
  rw [commentMarker_eq_getCommentLevel] at hm
  rcases getCommentLevel_cases s p with ⟨g0, _⟩ | ⟨l', _, _, g3, g4, g5⟩
  · rw [g0] at hm; cases hm
  · rw [g3] at hm
    split at hm
    · cases hm
    · cases hm
      exact ⟨g3, hL, g4, g5, hc, hl⟩

/-- `(" " comment_char*)?` before a line end against the two ways `get_comment` goes on after the marker: the line
ends there, or one space is expected and the content begins after it -/
theorem commentBody_ref {s : Src} (hs : AsciiThenBoundary s) {p1 : Nat} (hb : Bnd s p1)
    (hl : (lineEnd (commentBody (rest s p1)).2).isSome = true) :
    ∃ p2, ((isEol s p1 = true ∧ p2 = p1) ∨ (isEol s p1 = false ∧ s[p1]? = some 32 ∧ p2 = p1 + 1)) ∧ Bnd s p2 ∧
      commentChars (rest s p2) = commentBody (rest s p1) := by
  by_cases heol : isEol s p1 = true
  · have hne : s[p1]? ≠ some 32 := by
      rcases isEol_cases heol with h0 | h0 | ⟨h0, _⟩ <;> rw [h0] <;> simp
    exact ⟨p1, Or.inl ⟨heol, rfl⟩, hb, by rw [commentChars_of_isEol heol, commentBody_of_ne hne]⟩
  · by_cases h32 : s[p1]? = some 32
    · exact ⟨p1 + 1, Or.inr ⟨by simpa using heol, h32, rfl⟩, bnd_succ hs h32 (by decide), by rw [rest_cons h32]; rfl⟩
    · rw [commentBody_of_ne h32] at hl
      exact absurd (isEol_of_lineEnd hl) heol

theorem commentChars_ref {s : Src} {p2 : Nat} {c : Bytes} {X r5 : List UInt8} (hb2 : Bnd s p2)
    (hcc : commentChars (rest s p2) = (c, X)) (hl : lineEnd X = some r5) :
    ∃ e p', getCommentLine s p2 = .ok ⟨p2, e⟩ e ∧ (skipEol s e).getD e = p' ∧ spanBytes s ⟨p2, e⟩ = c ∧ rest s p' = r5 ∧
      p2 ≤ p' ∧ p' ≤ s.size ∧ (p' < s.size → s[p' - 1]? = some 10) := by
  obtain ⟨e, ge1, ge2⟩ := commentChars_eq_getCommentLine p2 hb2
  obtain ⟨k1, k2, _⟩ := (getCommentLine_good p2 hb2).of_ok ge1
  rw [hcc] at ge2
  cases ge2
  rw [lineEnd_eq_skipEol] at hl
  refine ⟨e, _, ge1, rfl, rfl, ?_⟩
  cases hse : skipEol s e with
  | some q =>
    rw [hse] at hl
    obtain ⟨h1, h2, _⟩ := skipEol_some hse
    exact ⟨Option.some.inj hl, Nat.le_trans k1 (Nat.le_of_lt h1), (skipEol_after hse).le_size k2, fun _ => h2⟩
  | none =>
    rw [hse] at hl
    simp only at hl
    split at hl
    · rename_i hsz
      cases hl
      exact ⟨rest_eq_nil_iff.mpr hsz, k1, k2, fun h => absurd hsz (Nat.not_le_of_lt h)⟩
    · cases hl

section
variable {s : Src} {g lv l p : Nat} {content : List Span}

theorem getCommentGo_end (h : ¬ p < s.size) :
    getCommentGo s (g + 1) lv content p = .ok (content, lv) p := by
  rw [getCommentGo_unfold, commentStep_end h]

theorem getCommentGo_text (hlt : p < s.size) (h : s[p]? ≠ some 35) (hp : 0 < p) :
    getCommentGo s (g + 1) lv content p = .ok (content, lv) (p - 1) := by
  rw [getCommentGo_unfold, commentStep_noHash hlt h hp]

theorem getCommentGo_other (hlt : p < s.size) (hlev : getCommentLevel s p = (l, p + l)) (hl : l ≠ 0) (hlv : lv ≠ 0)
    (hne : l ≠ lv) :
    getCommentGo s (g + 1) lv content p = .ok (content, lv) p := by
  rw [getCommentGo_unfold, commentStep_other hlt hlev hl hlv hne]

theorem getCommentGo_line {p2 e : Nat} {sp : Span} (hlt : p < s.size) (hlev : getCommentLevel s p = (l, p + l))
    (hl : l ≠ 0) (hlv : lv = 0 ∨ lv = l)
    (hp2 : (isEol s (p + l) = true ∧ p2 = p + l) ∨ (isEol s (p + l) = false ∧ s[p + l]? = some 32 ∧ p2 = p + l + 1))
    (hline : getCommentLine s p2 = .ok sp e) :
    getCommentGo s (g + 1) lv content p = getCommentGo s g l (content ++ [sp]) ((skipEol s e).getD e) := by
  rw [getCommentGo_unfold, commentStep_text hlt hlev hl hlv hp2 hline]

end

theorem comment_line_step {s : Src} (hs : AsciiThenBoundary s) {p l lv : Nat} {c : Bytes} {r5 : List UInt8}
    (h : commentLine (rest s p) = some ((l, c), r5)) (hlv : lv = 0 ∨ lv = l) :
    ∃ sp p', (∀ g content, getCommentGo s (g + 1) lv content p = getCommentGo s g l (content ++ [sp]) p') ∧
      spanBytes s sp = c ∧ rest s p' = r5 ∧ p < p' ∧ p' ≤ s.size ∧ (p' < s.size → s[p' - 1]? = some 10) := by
  obtain ⟨hlev, hL, h35, h35', hc, hl⟩ := commentLine_level h
  have hl0 : 0 < l := by rcases hL with rfl | rfl | rfl <;> decide
  have hbl : Bnd s (p + l) := by
    have := bnd_succ hs h35' (by decide)
    rwa [Nat.sub_add_cancel (Nat.le_trans hl0 (Nat.le_add_left l p))] at this
  obtain ⟨p2, hp2, hb2, hcc⟩ := commentBody_ref hs hbl (by rw [hl]; rfl)
  obtain ⟨e, p', k1, rfl, k2, k3, k4, k5, k6⟩ := commentChars_ref hb2 (hcc.trans (Prod.ext hc.symm rfl)) hl
  refine ⟨⟨p2, e⟩, _, fun g content => getCommentGo_line (get_lt h35) hlev (Nat.ne_of_gt hl0) hlv hp2 k1, k2, k3,
    Nat.lt_of_lt_of_le ?_ k4, k5, k6⟩
  rcases hp2 with ⟨_, rfl⟩ | ⟨_, _, rfl⟩
  · exact Nat.lt_add_of_pos_right hl0
  · exact Nat.lt_succ_of_lt (Nat.lt_add_of_pos_right hl0)

theorem headLevel_hash {sf m : Nat} {s : Src} {p : Nat} {raw : List (Option (Entry Bytes))}
    (h : resourceRaw sf m (rest s p) = some raw) (hl : headLevel raw ≠ 0) : s[p]? = some 35 := by
  rcases rest_cases s p with ⟨_, h0⟩ | ⟨b, hb, h0⟩
  · rw [h0] at h; rw [resourceRaw_nil h] at hl; exact absurd rfl hl
  · rw [h0] at h
    obtain ⟨n, x, r, raw1, _, _, rfl, ⟨e, he, rfl⟩ | ⟨_, _, rfl⟩ | ⟨_, c, rfl⟩⟩ := resourceRaw_inv h
    · rcases entryP_inv he with ⟨_, _, ⟨_, _, rfl⟩ | ⟨_, _, rfl⟩⟩ | ⟨l, c, h1, _⟩
      · exact absurd rfl hl
      · exact absurd rfl hl
      · obtain ⟨r0, g1, _⟩ := commentLine_inv h1
        obtain ⟨⟨t', e1⟩, _⟩ := commentMarker_inv g1
        rw [hb, (List.cons.inj e1).1]
    · exact absurd rfl hl
    · exact absurd rfl hl

theorem canon_hash {s : Src} {p : Nat} (h : s[p]? = some 35) : Canon (rest s p) := by
  right
  rw [rest_cons h, spaces_cons_ne _ (by decide)]
  exact ⟨35, _, rfl, by decide, by decide, fun ⟨h, _⟩ => by cases h⟩

theorem raw_comment_inv {sf m : Nat} {s : Src} {p : Nat} {raw : List (Option (Entry Bytes))}
    (h : resourceRaw sf m (rest s p) = some raw) (h35 : s[p]? = some 35) (hj : hasJunk raw = false) :
    ∃ m' l c r5 raw1, m = m' + 1 ∧ commentLine (rest s p) = some ((l, c), r5) ∧ raw = some (mkC l [c]) :: raw1 ∧
      resourceRaw sf m' r5 = some raw1 ∧ hasJunk raw1 = false := by
  have hne : rest s p ≠ [] := by rw [rest_cons h35]; exact List.cons_ne_nil _ _
  obtain ⟨m', e, r5, raw1, e1, he, e2, h5, hj1⟩ := raw_entry_inv h hne (canon_hash h35) hj
  rcases entryP_inv he with ⟨r4, _, ⟨_, h1, _⟩ | ⟨_, h1, _⟩⟩ | ⟨l, c, h1, rfl⟩
  · obtain ⟨b, t, e3, e4⟩ := messageP_head h1
    rw [rest_cons h35] at e3
    cases e3; cases e4
  · obtain ⟨t, e3⟩ := termP_head h1
    rw [rest_cons h35] at e3
    cases e3
  · exact ⟨m', l, c, r5, raw1, e1, h1, e2, h5, hj1⟩

/-- **`get_comment`'s loop against the grammar's comment lines.**  From a line start `p` of a junk-free source the
loop consumes exactly the maximal run of `CommentLine`s of the comment's level `L`; what it returns as cursor is
either the start `p1` of the next line (end of input, or a `#` line of another level) or the `\n` in front of it
(the next line does not begin with `#`), which `skip_blank_block` then counts as one blank line. -/
theorem comment_run {s : Src} (hs : AsciiThenBoundary s) (sf : Nat) {L : Nat} (hL : L = 1 ∨ L = 2 ∨ L = 3) :
    ∀ (g m p lv : Nat) (content : List Span) (raw : List (Option (Entry Bytes))), p ≤ s.size → s.size - p + 1 ≤ g →
      resourceRaw sf m (rest s p) = some raw → hasJunk raw = false →
      ((lv = L ∧ (p < s.size → 0 < p ∧ s[p - 1]? = some 10)) ∨ (lv = 0 ∧ headLevel raw = L)) →
      ∃ spans raw1 q p1 m1,
        raw = runItems s L spans ++ raw1 ∧
        getCommentGo s g lv content p = .ok (content ++ spans, L) q ∧
        resourceRaw sf m1 (rest s p1) = some raw1 ∧ m1 ≤ m ∧ hasJunk raw1 = false ∧ headLevel raw1 ≠ L ∧
        p ≤ p1 ∧ p1 ≤ s.size ∧ (lv = 0 → p < p1) ∧
        ((q = p1 ∧ (s.size ≤ p1 ∨ s[p1]? = some 35)) ∨
         (q + 1 = p1 ∧ s[q]? = some 10 ∧ p1 < s.size ∧ s[p1]? ≠ some 35)) := by
  have hL0 : L ≠ 0 := by rcases hL with rfl | rfl | rfl <;> decide
  intro g
  induction g with
  | zero => intro m p lv content raw hp hg; exact absurd hg (Nat.not_succ_le_zero _)
  | succ g ih =>
    intro m p lv content raw hp hg hraw hj hlv
    by_cases hlt : p < s.size
    · by_cases h35 : s[p]? = some 35
      · obtain ⟨m', l, c, r5, raw1', rfl, hcl, rfl, h5, hj1⟩ := raw_comment_inv hraw h35 hj
        obtain ⟨hlev, hl, _⟩ := commentLine_level hcl
        have hhl : headLevel (some (mkC l [c]) :: raw1') = l := headLevel_mkC hl
        by_cases hsame : l = L
        · -- a line of the comment's level: read it and go round again
          subst hsame
          obtain ⟨sp, p', k1, rfl, rfl, k4, k5, k6⟩ :=
            comment_line_step hs hcl (lv := lv) (hlv.elim (fun h => Or.inr h.1) (fun h => Or.inl h.1))
          obtain ⟨spans, raw1, q, p1, m1, rfl, a2, a3, a4, a5, a6, a7, a8, _, a10⟩ :=
            ih m' p' l (content ++ [sp]) raw1' k5 (rounds_next hg k4 k5) h5 hj1
              (Or.inl ⟨rfl, fun hh => ⟨Nat.lt_of_le_of_lt (Nat.zero_le p) k4, k6 hh⟩⟩)
          refine ⟨sp :: spans, raw1, q, p1, m1, rfl, ?_, a3, Nat.le_succ_of_le a4, a5, a6,
            Nat.le_trans (Nat.le_of_lt k4) a7, a8, fun _ => Nat.lt_of_lt_of_le k4 a7, a10⟩
          rw [k1, a2, List.append_assoc, List.singleton_append]
        · -- a comment line of another level
          rcases hlv with ⟨rfl, _⟩ | ⟨_, e2⟩
          · refine ⟨[], _, p, p, _, rfl, ?_, hraw, Nat.le_refl _, hj, by rw [hhl]; exact hsame, Nat.le_refl _, hp,
              fun h => absurd h hL0, Or.inl ⟨rfl, Or.inr h35⟩⟩
            rw [getCommentGo_other hlt hlev (by rcases hl with rfl | rfl | rfl <;> decide) hL0 hsame, List.append_nil]
          · exact absurd (hhl.symm.trans e2) hsame
      · -- the next line does not begin with `#`
        have hhl : headLevel raw = 0 := Classical.byContradiction fun hh => h35 (headLevel_hash hraw hh)
        rcases hlv with ⟨rfl, hprev⟩ | ⟨_, e2⟩
        · obtain ⟨hp0, h10⟩ := hprev hlt
          refine ⟨[], raw, p - 1, p, m, rfl, ?_, hraw, Nat.le_refl _, hj, by rw [hhl]; exact hL0.symm, Nat.le_refl _, hp,
            fun h => absurd h hL0, Or.inr ⟨Nat.sub_add_cancel hp0, h10, hlt, h35⟩⟩
          rw [getCommentGo_text hlt h35 hp0, List.append_nil]
        · exact absurd (hhl.symm.trans e2) hL0.symm
    · -- end of input
      have hraw0 : raw = [] := by
        rw [rest_eq_nil_iff.mpr (Nat.le_of_not_lt hlt)] at hraw; exact resourceRaw_nil hraw
      subst hraw0
      rcases hlv with ⟨rfl, _⟩ | ⟨_, e2⟩
      · refine ⟨[], [], p, p, m, rfl, ?_, hraw, Nat.le_refl _, hj, hL0.symm, Nat.le_refl _, hp,
          fun h => absurd h hL0, Or.inl ⟨rfl, Or.inl (Nat.le_of_not_lt hlt)⟩⟩
        rw [getCommentGo_end hlt, List.append_nil]
      · exact absurd e2 hL0.symm

/-- where `skip_blank_block` goes from the cursor `get_comment` returned, which items of the grammar that skips, and
what the count says: `< 2` exactly when no blank block follows the comment (or nothing follows at all) -/
theorem blank_after_comment {s : Src} {sf m1 q p1 : Nat} {raw1 : List (Option (Entry Bytes))}
    (hraw : resourceRaw sf m1 (rest s p1) = some raw1) (hj : hasJunk raw1 = false) (hp1 : p1 ≤ s.size)
    (hq : (q = p1 ∧ (s.size ≤ p1 ∨ s[p1]? = some 35)) ∨ (q + 1 = p1 ∧ s[q]? = some 10 ∧ p1 < s.size ∧ s[p1]? ≠ some 35)) :
    ∃ raw2 m2, resourceRaw sf m2 (rest s (skipBlankBlock s q).1) = some raw2 ∧ hasJunk raw2 = false ∧
      Canon (rest s (skipBlankBlock s q).1) ∧ q ≤ (skipBlankBlock s q).1 ∧ (skipBlankBlock s q).1 ≤ s.size ∧
      ((raw1 = raw2 ∧ (skipBlankBlock s q).2 < 2) ∨ (raw1 = none :: raw2 ∧ (2 ≤ (skipBlankBlock s q).2 ∨ raw2 = []))) := by
  rcases hq with ⟨rfl, h2⟩ | ⟨rfl, h10, hlt, _⟩
  · -- the cursor is at the end of the input or on a `#`: nothing to skip
    have hcanon : Canon (rest s q) := h2.elim (fun h => Or.inl (rest_eq_nil_iff.mpr h)) canon_hash
    rw [skipBlankBlock_stay hp1 hcanon]
    exact ⟨raw1, m1, hraw, hj, hcanon, Nat.le_refl _, hp1, Or.inl ⟨rfl, Nat.zero_lt_two⟩⟩
  · -- the cursor is on the line feed before `q + 1`: the blank block is that line feed and what `q + 1` begins with
    have hqs : q ≤ s.size := Nat.le_of_lt (Nat.lt_of_succ_lt hlt)
    have hA := skipBlankBlock_after s q
    have hbb : blankBlock (rest s q) = blankBlockScan (rest s (q + 1)) (rest s (q + 1)) 1 := by
      rw [rest_cons h10, blankBlock_nl]
    rcases scans (rest s (q + 1)) (rest s (q + 1)) with ⟨hNB, e⟩ | ⟨_, n, x, hx, h0, _, _, e⟩
    · obtain ⟨hc, hr⟩ := skipBlankBlock_of_blankBlock hqs (hbb.trans (e 1))
      rw [hc, ← rest_inj hp1 (hA.le_size hqs) hr.symm]
      exact ⟨raw1, m1, hraw, hj, Or.inr hNB, Nat.le_succ q, hp1, Or.inl ⟨rfl, by decide⟩⟩
    · obtain ⟨hc, hr⟩ := skipBlankBlock_of_blankBlock hqs (hbb.trans (e 1))
      obtain ⟨m2, raw2, rfl, h2⟩ :=
        raw_blank_inv hraw (fun h => absurd (rest_eq_nil_iff.mp h) (Nat.not_le_of_lt hlt)) (e 0)
      rw [← hr] at h2
      refine ⟨raw2, m2, h2, hasJunk_tail hj, by rw [hr]; exact hx, hA.le, hA.le_size hqs, Or.inr ⟨rfl, ?_⟩⟩
      rw [hc]
      cases n with
      | zero => rw [hr, h0 rfl] at h2; exact Or.inr (resourceRaw_nil h2)
      | succ n => exact Or.inl (Nat.succ_le_succ (Nat.le_add_right 1 n))

def jEntry (s : Src) (e : Entry Span) : Entry Bytes := (Entry.mapS (spanBytes s) e).joinText

theorem jRes_eq (s : Src) (t : Resource Span) : Resource.joinText (resolve s t) = t.map (jEntry s) :=
  List.map_map ..

theorem jAttrs_eq (s : Src) (l : List (Attribute Span)) :
    (l.map (Attribute.mapS (spanBytes s))).map Attribute.joinText = jAttrs s l :=
  List.map_map ..

theorem jEntry_message (s : Src) (m : Message Span) : jEntry s (.message m) = .message (jMsg s m) := by
  simp only [jEntry, Entry.mapS, Entry.joinText, jMsg, jAttrs_eq]
  cases m.value <;> rfl

theorem jEntry_term (s : Src) (t : Term Span) : jEntry s (.term t) = .term (jTerm s t) := by
  simp only [jEntry, Entry.mapS, Entry.joinText, jTerm, jAttrs_eq]
  rfl

/-- the comment entry of a level, as `get_entry` builds it -/
def mkCS : Nat → List Span → Entry Span
  | 1, c => .comment c
  | 2, c => .groupComment c
  | _, c => .resourceComment c

theorem jEntry_mkCS (s : Src) {L : Nat} (hL : L = 1 ∨ L = 2 ∨ L = 3) (c : List Span) :
    jEntry s (mkCS L c) = mkC L (c.map (spanBytes s)) := by
  rcases hL with rfl | rfl | rfl <;> rfl

/-- a Message or a Term: what a pending `#` comment attaches to -/
def IsMT {S : Type} (e : Entry S) : Prop := (∃ m, e = .message m) ∨ ∃ t, e = .term t

theorem jEntry_withComment (s : Src) (c : List Span) {e : Entry Span} (h : IsMT e) :
    jEntry s (withComment (some c) e) = withComment (some (c.map (spanBytes s))) (jEntry s e) := by
  rcases h with ⟨m, rfl⟩ | ⟨t, rfl⟩ <;> rfl

theorem assemble_isMT {e : Entry Bytes} (h : IsMT e) (X : List (Option (Entry Bytes))) :
    assemble (some e :: X) = e :: assemble X := by
  rcases h with ⟨m, rfl⟩ | ⟨t, rfl⟩
  · exact assemble_message m X
  · exact assemble_term t X

theorem assemble_withComment (c : List Bytes) {e : Entry Bytes} (h : IsMT e) (X : List (Option (Entry Bytes))) :
    assemble (some (.comment c) :: some e :: X) = withComment (some c) e :: assemble X := by
  rcases h with ⟨m, rfl⟩ | ⟨t, rfl⟩
  · exact assemble_comment_message m
  · exact assemble_comment_term t

theorem getEntry_message {s : Src} {pf p q : Nat} {b : UInt8} {m : Message Span} (hb : s[p]? = some b)
    (ha : isAlphaC b = true) (h : getMessage s pf p p = .ok m q) : getEntry s pf p = .ok (.message m) q := by
  have hne (c : UInt8) (hc : isAlphaC c = false) : some b ≠ some c := fun e => by cases e; rw [ha] at hc; cases hc
  rw [getEntry_unfold, hb, if_neg (hne 35 rfl), if_neg (hne 45 rfl), h, R.bind_ok]

theorem getEntry_term {s : Src} {pf p q : Nat} {t : Term Span} (hb : s[p]? = some 45)
    (h : getTerm s pf p p = .ok t q) : getEntry s pf p = .ok (.term t) q := by
  rw [getEntry_unfold, hb, if_neg (by decide), if_pos rfl, h, R.bind_ok]

theorem getEntry_comment {s : Src} {pf p q L : Nat} {c : List Span} (hb : s[p]? = some 35)
    (h : getComment s p = .ok (c, L) q) (hL : L = 1 ∨ L = 2 ∨ L = 3) : getEntry s pf p = .ok (mkCS L c) q := by
  rw [getEntry_unfold, if_pos hb, h, R.bind_ok]
  rcases hL with rfl | rfl | rfl <;> rfl

/-- The grammar's items `X` that the loop still has to account for when it stands at the start of a line, the items
from there on being `raw`: `raw` itself, or, with a `#` comment pending, that comment and then `raw`, with a blank
block between the two unless `skip_blank_block` counted less than two line breaks after the comment (nothing at all
following the comment counts as a blank block to the grammar, and makes no difference). -/
def Owed (s : Src) (lc : Option (List Span)) (cnt : Nat) (raw X : List (Option (Entry Bytes))) : Prop :=
  match lc with
  | none => X = raw
  | some c => ∃ Y, X = some (.comment (c.map (spanBytes s))) :: Y ∧ headLevel Y ≠ 1 ∧
      ((Y = raw ∧ cnt < 2) ∨ (Y = none :: raw ∧ (2 ≤ cnt ∨ raw = [])))

theorem assemble_owed {s : Src} {cnt : Nat} {lc : Option (List Span)} {raw X : List (Option (Entry Bytes))}
    (hat : (lc = none ∨ 2 ≤ cnt) ∨ attachHead raw = false) (hX : Owed s lc cnt raw X) :
    assemble X = (flushC lc).map (jEntry s) ++ assemble raw := by
  cases lc with
  | none => obtain rfl : X = raw := hX; rfl
  | some c =>
    obtain ⟨Y, rfl, hY1, hY⟩ := hX
    have hatY : attachHead Y = false := by
      rcases hY with ⟨rfl, hc⟩ | ⟨rfl, _⟩
      · exact hat.resolve_left fun h => h.elim nofun (Nat.not_le_of_lt hc)
      · rfl
    rw [assemble_comment_other hY1 hatY, assemble_skip (hY.imp And.left And.left)]
    rfl

/-- with `N` rounds the loop finishes without an error, and what it appends is, resolved, what the owed items assemble to -/
def LoopOK (s : Src) (sf pf N : Nat) : Prop :=
  ∀ (m p : Nat) (raw X : List (Option (Entry Bytes))) (lc : Option (List Span)) (cnt : Nat),
    resourceRaw sf m (rest s p) = some raw → hasJunk raw = false → Canon (rest s p) → p ≤ s.size →
    s.size - p + 1 ≤ N → Owed s lc cnt raw X → ∃ out, Runs s pf N lc cnt p out [] ∧ out.map (jEntry s) = assemble X

section
variable {s : Src} {sf pf N p cnt : Nat} {raw X : List (Option (Entry Bytes))} {lc : Option (List Span)}
variable (hs : AsciiThenBoundary s) (ih : LoopOK s sf pf N) (hN : s.size - p + 1 ≤ N + 1) (hX : Owed s lc cnt raw X)
include hs ih hN hX

theorem round_entry (hSurv : Surv s) {m1 : Nat} (hpf : 4 * s.size + 2 ≤ pf) {e : Entry Bytes} {r4 r5 : List UInt8}
    {raw1 : List (Option (Entry Bytes))} (hraw : raw = some e :: raw1)
    (h : (∃ m, messageP sf (rest s p) = .ok m r4 ∧ e = .message m) ∨ (∃ t, termP sf (rest s p) = .ok t r4 ∧ e = .term t))
    (hl : lineEnd r4 = some r5) (h5 : resourceRaw sf m1 r5 = some raw1) (hj : hasJunk raw1 = false) :
    ∃ out, Runs s pf (N + 1) lc cnt p out [] ∧ out.map (jEntry s) = assemble X := by
  subst hraw
  have hfol := follow_of_raw hl h5 hj
  have hpf' : 4 * (s.size - p) + 2 ≤ pf :=
    Nat.le_trans (Nat.add_le_add_right (Nat.mul_le_mul_left 4 (Nat.sub_le _ _)) 2) hpf
  obtain ⟨e', q, hge, rfl, hmt', hmt, hq, hqs, hpq⟩ : ∃ e' q, getEntry s pf p = .ok e' q ∧ jEntry s e' = e ∧ IsMT e' ∧
      IsMT e ∧ rest s q = afterBlank r4 ∧ q ≤ s.size ∧ p < q := by
    rcases h with ⟨m, h, rfl⟩ | ⟨t, h, rfl⟩
    · obtain ⟨m', q, g1, g2, g3, g4, _, g6⟩ := message_ref hs hSurv (es := p) h hfol hpf'
      obtain ⟨b, t, e1, e2⟩ := messageP_head h
      exact ⟨.message m', q, getEntry_message (rest_head e1) e2 g1, by rw [jEntry_message, g2], Or.inl ⟨m', rfl⟩,
        Or.inl ⟨m, rfl⟩, g3, g4, g6⟩
    · obtain ⟨t', q, g1, g2, g3, g4, _, g6⟩ := term_ref hs hSurv (es := p) h hfol hpf'
      obtain ⟨t0, e1⟩ := termP_head h
      exact ⟨.term t', q, getEntry_term (rest_head e1) g1, by rw [jEntry_term, g2], Or.inr ⟨t', rfl⟩,
        Or.inr ⟨t, rfl⟩, g3, g4, g6⟩
  have hcan : Canon (rest s q) := by rw [hq]; exact afterBlank_canon r4
  obtain ⟨raw2, m2, h2, hj2, hasm⟩ := raw_afterBlank h5 hj
  rw [← afterBlank_lineEnd hl, ← hq] at h2
  -- the rest of the loop; then the round, by whether the pending comment attaches
  obtain ⟨out, hrun, hout⟩ := ih m2 q raw2 raw2 none 0 h2 hj2 hcan hqs (rounds_next hN hpq hqs) rfl
  have hlt := Nat.lt_of_lt_of_le hpq hqs
  have hpend : pendingAfter e' = none := by rcases hmt' with ⟨_, rfl⟩ | ⟨_, rfl⟩ <;> rfl
  have hsbb := skipBlankBlock_stay hqs hcan
  rw [← hasm] at hout
  by_cases hlc : lc = none ∨ 2 ≤ cnt
  · refine ⟨_, Runs.entry hlt hge hlc (t := out) (by rw [hsbb, hpend]; exact hrun), ?_⟩
    rw [assemble_owed (Or.inl hlc) hX, assemble_isMT hmt, List.map_append, List.map_cons, hout]
  · cases lc with
    | none => exact absurd (Or.inl rfl) hlc
    | some c =>
      have hc : cnt < 2 := Nat.lt_of_not_le fun h => hlc (Or.inr h)
      obtain ⟨Y, rfl, _, ⟨rfl, _⟩ | ⟨_, h | h⟩⟩ := hX
      · refine ⟨_, Runs.step hlt hge (by rw [hsbb, hpend]; exact hrun), ?_⟩
        rw [(recorded_attach hc hmt').1, assemble_withComment _ hmt, ← jEntry_withComment s c hmt', ← hout]
        rfl
      · exact absurd hc (Nat.not_lt_of_le h)
      · cases h

theorem round_comment {m l : Nat} (hp : p ≤ s.size) (hraw : resourceRaw sf m (rest s p) = some raw)
    (hj : hasJunk raw = false) (h35 : s[p]? = some 35) (hL : l = 1 ∨ l = 2 ∨ l = 3) (hhl : headLevel raw = l) :
    ∃ out, Runs s pf (N + 1) lc cnt p out [] ∧ out.map (jEntry s) = assemble X := by
  have hlt := get_lt h35
  obtain ⟨spans, raw1, q, p1, m1, a1, a2, a3, _, a5, a6, _, a8, a9, a10⟩ :=
    comment_run hs sf hL (s.size - p + 1) m p 0 [] raw hp (Nat.le_refl _) hraw hj (Or.inr ⟨rfl, hhl⟩)
  cases spans with
  | nil => rw [a1] at hhl; exact absurd hhl a6
  | cons sp sps =>
    have hge : getEntry s pf p = .ok (mkCS l (sp :: sps)) q := getEntry_comment h35 a2 hL
    obtain ⟨raw2, m2, b1, b2, b3, b4, b5, b6⟩ := blank_after_comment a3 a5 a8 a10
    have hpq : p < (skipBlankBlock s q).1 := by
      refine Nat.lt_of_lt_of_le ?_ b4
      rcases a10 with ⟨rfl, _⟩ | ⟨rfl, e2, _⟩
      · exact a9 rfl
      · exact Nat.lt_of_le_of_ne (Nat.le_of_lt_succ (a9 rfl)) fun hh => by rw [← hh, h35] at e2; cases e2
    have hN' := rounds_next hN hpq b5
    -- a pending comment is recorded first; it cannot attach to a comment
    rw [assemble_owed (Or.inr (by rw [a1]; exact attachHead_mkC)) hX, a1, assemble_run hL s]
    by_cases h1 : l = 1
    · subst h1
      obtain ⟨out, hrun, hout⟩ := ih m2 _ raw2 _ (some (sp :: sps)) _ b1 b2 b3 b5 hN' ⟨raw1, rfl, a6, b6⟩
      exact ⟨_, Runs.step hlt hge hrun, by rw [List.map_append, hout]; rfl⟩
    · have hL' : l = 2 ∨ l = 3 := hL.resolve_left h1
      have hpend : pendingAfter (mkCS l (sp :: sps)) = none := by rcases hL' with rfl | rfl <;> rfl
      obtain ⟨out, hrun, hout⟩ := ih m2 _ raw2 raw2 none (skipBlankBlock s q).2 b1 b2 b3 b5 hN' rfl
      refine ⟨_, Runs.step (lc := lc) (cnt := cnt) hlt hge (hpend ▸ hrun), ?_⟩
      rw [assemble_mkC hL' a6, assemble_skip (b6.imp And.left And.left), ← jEntry_mkCS s hL, ← hout,
        show recorded lc cnt (mkCS l (sp :: sps)) = flushC lc ++ [mkCS l (sp :: sps)] by rcases hL' with rfl | rfl <;> rfl,
        List.map_append, List.map_append, List.append_assoc]
      rfl

end

theorem loop_inv {s : Src} (hs : AsciiThenBoundary s) (hSurv : Surv s) {sf pf : Nat} (hpf : 4 * s.size + 2 ≤ pf) :
    ∀ N, LoopOK s sf pf N := by
  intro N
  induction N with
  | zero => intro m p raw X lc cnt _ _ _ _ hN; exact absurd hN (Nat.not_succ_le_zero _)
  | succ N ih =>
    intro m p raw X lc cnt hraw hj hcan hp hN hX
    by_cases hlt : p < s.size
    · have hne : rest s p ≠ [] := fun h => absurd (rest_eq_nil_iff.mp h) (Nat.not_le_of_lt hlt)
      obtain ⟨m', e, r5, raw1, rfl, he, hr, h5, hj1⟩ := raw_entry_inv hraw hne hcan hj
      rcases entryP_inv he with ⟨r4, hl, hmt⟩ | ⟨l, c, h1, rfl⟩
      · exact round_entry hs ih hN hX hSurv hpf hr hmt hl h5 hj1
      · obtain ⟨_, hL, h35, _⟩ := commentLine_level h1
        exact round_comment hs ih hN hX hp hraw hj h35 hL (by rw [hr]; exact headLevel_mkC hL)
    · rw [rest_eq_nil_iff.mpr (Nat.le_of_not_lt hlt)] at hraw
      obtain rfl := resourceRaw_nil hraw
      exact ⟨_, Runs.stop (Nat.le_of_not_lt hlt), by rw [assemble_owed (Or.inr rfl) hX, assemble_nil, List.append_nil]⟩

/-- **T3, the resource loop.**  From the start `p` of a non-blank line of a junk-free source (the grammar's raw item
list from there is `raw`), `Parser::parse`'s loop — with no pending comment — finishes without an error and appends
exactly the entries `assemble raw`: comment lines joined by level, `#` comments attached to the Message/Term that
follows without a blank line, blank blocks dropped. -/
theorem resource_loop {s : Src} (hs : AsciiThenBoundary s) (hSurv : Surv s) {sf pf : Nat} (hpf : 4 * s.size + 2 ≤ pf) :
    ∀ (N m p : Nat) (raw : List (Option (Entry Bytes))) (body : List (Entry Span)) (cnt : Nat),
      resourceRaw sf m (rest s p) = some raw → hasJunk raw = false → Canon (rest s p) → p ≤ s.size →
      s.size - p + 1 ≤ N →
      ∃ out, parseLoop s pf N body [] none cnt p = .done (body ++ out, []) ∧ out.map (jEntry s) = assemble raw :=
  fun N m p raw body cnt hraw hj hcan hp hN =>
    let ⟨out, hrun, hout⟩ := loop_inv hs hSurv hpf N m p raw raw none cnt hraw hj hcan hp hN rfl
    ⟨out, hrun body [], hout⟩

/-- **C02, the whole-resource statement on the byte level.**  For a source that the grammar calls well-formed (its
tree has no Junk) and that satisfies the side condition `Surv` (which excludes exactly the shape of the known
finding F30), the parser model returns no error and its tree — spans resolved to bytes, adjacent text elements
joined — IS the tree the grammar assigns. -/
theorem parse_refines {s : Src} (hs : AsciiThenBoundary s) (hSurv : Surv s) (hwf : wellFormed s.toList = true) :
    ∃ t, parse s = .done (t, []) ∧ SpecGrammar.parse s.toList = some (Resource.joinText (resolve s t)) := by
  unfold wellFormed at hwf
  rw [parse_eq_assemble] at hwf ⊢
  cases hraw : resourceRaw (fuelFor s.toList) (s.toList.length + 1) s.toList with
  | none => rw [hraw] at hwf; cases hwf
  | some raw =>
    rw [hraw] at hwf
    have hj : hasJunk raw = false := by
      rw [← hasJunk_assemble]
      simpa using hwf
    have h0 : rest s 0 = s.toList := by simp [rest]
    rw [← h0] at hraw
    obtain ⟨raw', m', h', hj', hasm⟩ := raw_afterBlank hraw hj
    rw [← rest_skipBlankBlock s 0 (Nat.zero_le _)] at h'
    have hcan : Canon (rest s (skipBlankBlock s 0).1) := by
      rw [rest_skipBlankBlock s 0 (Nat.zero_le _)]; exact afterBlank_canon _
    obtain ⟨out, o1, o2⟩ := resource_loop hs hSurv (pf := exprFuel s)
      (Nat.add_le_add (Nat.mul_le_mul_right s.size (by decide)) (by decide)) (s.size + 1) m' (skipBlankBlock s 0).1 raw' [] 0
      h' hj' hcan ((skipBlankBlock_after s 0).le_size (Nat.zero_le _)) (Nat.succ_le_succ (Nat.sub_le _ _))
    exact ⟨out, o1, by rw [Option.map_some, jRes_eq, o2, hasm]⟩

end FluentProofs.SpecResource

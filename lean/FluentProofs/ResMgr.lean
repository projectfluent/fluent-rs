import FluentModel.ResMgr
import FluentProofs.Registry
/-!
# Lemmas for C19 (ResourceManager)

The file system is a function of (tick, path), the manager a cache and a log of its reads.  `MInv`: the log is what
the world answered, the cache the parses of the successful reads, and a path read successfully is not read again.
`Step m m' P`: `m'` is a later state of `m` whose new reads are of paths in `P`; `get_resource`, `get_bundle` and the
iterator are `Step`s that keep `MInv`.  A bundle is the registry of C10 run over the resources loaded (`assemble`), its
error list the I/O failures and the registry's overriding errors (`failures`, `assemble_errors`).

Before that: `strReplace` on a scheme given as segments (`Seg`, `path_of_segments`: both placeholders substituted when
neither the literal parts nor the locale contain `{`).  After it: the iterator pulled `k` times is `seqBundles` over
the locales (`pulls`, `pulls_drop`), and the last section shows that a request consults the world only at the ticks of
its own reads.
-/
namespace FluentModel.ResMgr
open FluentModel FluentModel.Registry

theorem replaceGo_nil (pat to : Bytes) (n : Nat) : replaceGo pat to n [] = [] := by
  cases n <;> rfl

theorem replaceGo_skip (pat to : Bytes) (a b : Bytes) :
    replaceGo pat to a.length (a ++ b) = replaceGo pat to 0 b := by
  induction a with
  | nil => rfl
  | cons x a ih => simpa [replaceGo] using ih

theorem strReplace_match (pat to rest : Bytes) (hp : pat ≠ []) :
    strReplace (pat ++ rest) pat to = to ++ strReplace rest pat to := by
  cases pat with
  | nil => exact absurd rfl hp
  | cons p ps =>
    unfold strReplace
    have hpre : (p :: ps).isPrefixOf (p :: (ps ++ rest)) = true := by
      rw [List.isPrefixOf_iff_prefix]
      exact List.prefix_append (p :: ps) rest
    show replaceGo (p :: ps) to 0 (p :: (ps ++ rest)) = _
    rw [replaceGo, if_pos hpre]
    have : (p :: ps).length - 1 = ps.length := by simp
    rw [this, replaceGo_skip]

theorem strReplace_skip (pat to : Bytes) (s rest : Bytes)
    (h : ∀ k, k < s.length → ¬ pat <+: (s ++ rest).drop k) :
    strReplace (s ++ rest) pat to = s ++ strReplace rest pat to := by
  induction s with
  | nil => rfl
  | cons c s ih =>
    have h0 : ¬ pat.isPrefixOf (c :: (s ++ rest)) = true := by
      rw [List.isPrefixOf_iff_prefix]
      exact h 0 (by simp)
    have ih' := ih (fun k hk => by
      have := h (k + 1) (by simpa using hk)
      simpa using this)
    unfold strReplace at ih' ⊢
    show replaceGo pat to 0 (c :: (s ++ rest)) = _
    rw [replaceGo, if_neg h0, ih']
    rfl

theorem strReplace_no_match (pat to s : Bytes) (h : ∀ k, k < s.length → ¬ pat <+: s.drop k) :
    strReplace s pat to = s := by
  have := strReplace_skip pat to s [] (by simpa using h)
  simpa [strReplace, replaceGo_nil] using this

theorem strReplace_first_match (pat to u rest : Bytes) (hp : pat ≠ [])
    (h : ∀ k, k < u.length → ¬ pat <+: (u ++ (pat ++ rest)).drop k) :
    strReplace (u ++ (pat ++ rest)) pat to = u ++ (to ++ strReplace rest pat to) := by
  rw [strReplace_skip pat to u (pat ++ rest) h, strReplace_match pat to rest hp]

/-- no match of `pat` can begin inside `s`, whatever follows `s` -/
def Inert (pat s : Bytes) : Prop := ∀ k, k < s.length → ∀ tail, ¬ pat <+: (s.drop k ++ tail)

theorem Inert.nil (pat : Bytes) : Inert pat [] := fun k hk => absurd hk (by simp)

theorem Inert.cons {pat s : Bytes} {c : UInt8} (h0 : ∀ tail, ¬ pat <+: (c :: s ++ tail))
    (h : Inert pat s) : Inert pat (c :: s) := by
  intro k hk tail
  cases k with
  | zero => simpa using h0 tail
  | succ k => simpa using h k (by simpa using hk) tail

theorem inert_of_not_mem (p : UInt8) (ps s : Bytes) (h : p ∉ s) : Inert (p :: ps) s := by
  induction s with
  | nil => exact Inert.nil _
  | cons c s ih =>
    refine Inert.cons ?_ (ih (fun hm => h (List.mem_cons_of_mem _ hm)))
    intro tail hpre
    have : p = c := by
      have := List.cons_prefix_cons.1 hpre
      exact this.1
    exact h (by simp [this])

theorem strReplace_pieces (pat to : Bytes) (hp : pat ≠ []) (ps : List (Option Bytes))
    (h : ∀ s, some s ∈ ps → Inert pat s) :
    strReplace (ps.flatMap (fun | none => pat | some s => s)) pat to
      = ps.flatMap (fun | none => to | some s => s) := by
  induction ps with
  | nil => rfl
  | cons x ps ih =>
    have ih' := ih (fun s hs => h s (List.mem_cons_of_mem _ hs))
    cases x with
    | none =>
      simp only [List.flatMap_cons]
      rw [strReplace_match _ _ _ hp, ih']
    | some s =>
      simp only [List.flatMap_cons]
      rw [strReplace_skip, ih']
      intro k hk
      rw [List.drop_append_of_le_length (Nat.le_of_lt hk)]
      exact h s (List.mem_cons_self) k hk _

/-- a path scheme written as literal text and placeholders -/
inductive Seg where
  | lit (s : Bytes)
  | locale
  | resId

def Seg.render : Seg → Bytes
  | .lit s => s
  | .locale => localePat
  | .resId => resIdPat

def renderScheme (segs : List Seg) : Bytes := segs.flatMap Seg.render

def Seg.subst (loc rid : Bytes) : Seg → Bytes
  | .lit s => s
  | .locale => loc
  | .resId => rid

/-- the intended path: every placeholder replaced by its value -/
def substScheme (loc rid : Bytes) (segs : List Seg) : Bytes := segs.flatMap (Seg.subst loc rid)

/-- contains no `{` -/
def Clean (s : Bytes) : Prop := (123 : UInt8) ∉ s

theorem inert_localePat_resIdPat : Inert localePat resIdPat := by
  unfold localePat resIdPat
  refine Inert.cons ?_ (inert_of_not_mem _ _ _ (by decide))
  intro tail h
  have h1 := (List.cons_prefix_cons.1 h).2
  have h2 := (List.cons_prefix_cons.1 h1).1
  exact absurd h2 (by decide)

theorem path_of_segments (segs : List Seg) (loc rid : Bytes)
    (hl : ∀ s, Seg.lit s ∈ segs → Clean s) (hloc : Clean loc) :
    pathOf (renderScheme segs) loc rid = substScheme loc rid segs := by
  unfold pathOf
  -- first pass: `{locale}`
  have h1 : renderScheme segs =
      (segs.map (fun | .lit s => some s | .locale => none | .resId => some resIdPat)).flatMap
        (fun | none => localePat | some s => s) := by
    unfold renderScheme
    rw [List.flatMap_map]
    congr 1
    funext sg
    cases sg <;> rfl
  rw [h1, strReplace_pieces localePat loc (by decide)]
  · have h2 : (segs.map (fun | .lit s => some s | .locale => none | .resId => some resIdPat)).flatMap
          (fun | none => loc | some s => s) =
        (segs.map (fun | .lit s => some s | .locale => some loc | .resId => none)).flatMap
          (fun | none => resIdPat | some s => s) := by
      rw [List.flatMap_map, List.flatMap_map]
      congr 1
      funext sg
      cases sg <;> rfl
    rw [h2, strReplace_pieces resIdPat rid (by decide)]
    · unfold substScheme
      rw [List.flatMap_map]
      congr 1
      funext sg
      cases sg <;> rfl
    · intro s hs
      obtain ⟨sg, hsg, he⟩ := List.mem_map.1 hs
      cases sg with
      | lit t =>
        simp at he; subst he
        exact inert_of_not_mem _ _ _ (hl t hsg)
      | locale =>
        simp at he; subst he
        exact inert_of_not_mem _ _ _ hloc
      | resId => simp at he
  · intro s hs
    obtain ⟨sg, hsg, he⟩ := List.mem_map.1 hs
    cases sg with
    | lit t =>
      simp at he; subst he
      exact inert_of_not_mem _ _ _ (hl t hsg)
    | locale => simp at he
    | resId =>
      simp at he; subst he
      exact inert_localePat_resIdPat

theorem cacheGet_append (c d : Cache) (q : Path) :
    cacheGet (c ++ d) q = match cacheGet c q with
      | some v => some v
      | none => cacheGet d q := by
  induction c with
  | nil => rfl
  | cons x c ih =>
    obtain ⟨k, v⟩ := x
    by_cases hk : k = q <;> simp [cacheGet, hk, ih]

theorem cacheGet_insert (c : Cache) (p : Path) (r : Resource) (q : Path) (h : cacheGet c p = none) :
    cacheGet (cacheInsert c p r) q = if p = q then some r else cacheGet c q := by
  unfold cacheInsert
  rw [h]
  simp only [cacheGet_append]
  by_cases hq : p = q
  · subst hq; simp [h, cacheGet]
  · cases cacheGet c q <;> simp [cacheGet, hq]

/-- the read succeeded -/
def IsOk (e : LogEntry) : Prop := ∃ c, e.result = .ok c

/-- what is true of a manager at every moment (against the world `w`) -/
structure MInv (w : World) (parse : Bytes → Resource) (m : Mgr) : Prop where
  /-- the log is the sequence of reads number `0 … clock-1` -/
  ticks : m.log.map (·.tick) = List.range m.clock
  /-- every logged result is what the file system answered at that moment -/
  faithful : ∀ e ∈ m.log, e.result = w e.tick e.path
  /-- a path that was read successfully is cached with the parse of what was read -/
  cached_of_ok : ∀ e ∈ m.log, ∀ c, e.result = .ok c → cacheGet m.cache e.path = some (parse c)
  /-- everything in the cache comes from a successful read of that path -/
  ok_of_cached : ∀ p r, cacheGet m.cache p = some r →
    ∃ e ∈ m.log, e.path = p ∧ ∃ c, e.result = .ok c ∧ r = parse c
  /-- after a successful read of a path that path is never read again -/
  once : m.log.Pairwise (fun e e' => IsOk e → e'.path ≠ e.path)

/-- `m'` is a later state of `m`: same scheme, cache only grows, log only grows and the new reads are of
paths satisfying `P` -/
structure Step (m m' : Mgr) (P : Path → Prop) : Prop where
  scheme : m'.scheme = m.scheme
  cache : ∀ p r, cacheGet m.cache p = some r → cacheGet m'.cache p = some r
  reads : ∃ new, m'.log = m.log ++ new ∧ ∀ e ∈ new, P e.path

theorem Step.refl (m : Mgr) (P : Path → Prop) : Step m m P :=
  ⟨rfl, fun _ _ h => h, [], by simp, by simp⟩

theorem Step.trans {m₁ m₂ m₃ : Mgr} {P : Path → Prop} (h₁ : Step m₁ m₂ P) (h₂ : Step m₂ m₃ P) :
    Step m₁ m₃ P := by
  obtain ⟨n₁, e₁, p₁⟩ := h₁.reads
  obtain ⟨n₂, e₂, p₂⟩ := h₂.reads
  refine ⟨h₂.scheme.trans h₁.scheme, fun p r h => h₂.cache p r (h₁.cache p r h), n₁ ++ n₂, ?_, ?_⟩
  · rw [e₂, e₁, List.append_assoc]
  · intro e he
    rcases List.mem_append.1 he with he | he
    · exact p₁ e he
    · exact p₂ e he

theorem Step.mono {m m' : Mgr} {P Q : Path → Prop} (h : Step m m' P) (hpq : ∀ p, P p → Q p) :
    Step m m' Q := by
  obtain ⟨n, e, p⟩ := h.reads
  exact ⟨h.scheme, h.cache, n, e, fun x hx => hpq _ (p x hx)⟩

theorem Step.log_prefix {m m' : Mgr} {P : Path → Prop} (h : Step m m' P) : m.log <+: m'.log := by
  obtain ⟨n, e, _⟩ := h.reads
  exact ⟨n, e.symm⟩

variable (w : World) (parse : Bytes → Resource)

theorem new_inv (scheme : Bytes) : MInv w parse (Mgr.new scheme) := by
  refine ⟨by simp [Mgr.new], ?_, ?_, ?_, ?_⟩ <;> simp [Mgr.new, cacheGet]

theorem MInv.read {w : World} {parse : Bytes → Resource} {m : Mgr} (h : MInv w parse m) (path : Path)
    (hc : cacheGet m.cache path = none) (cache' : Cache)
    (hold : ∀ p r, cacheGet m.cache p = some r → cacheGet cache' p = some r)
    (hnew : ∀ c, w m.clock path = .ok c → cacheGet cache' path = some (parse c))
    (honly : ∀ p r, cacheGet cache' p = some r →
      cacheGet m.cache p = some r ∨ (p = path ∧ ∃ c, w m.clock path = .ok c ∧ r = parse c)) :
    MInv w parse { m with cache := cache', clock := m.clock + 1
                          log := m.log ++ [⟨m.clock, path, w m.clock path⟩] } := by
  -- no successful read of this path so far
  have hno : ∀ e ∈ m.log, IsOk e → e.path ≠ path := by
    intro e he ⟨c, hok⟩ hp
    have := h.cached_of_ok e he c hok
    rw [hp, hc] at this
    cases this
  have hmem : ∀ {e}, e ∈ m.log ++ [⟨m.clock, path, w m.clock path⟩] →
      e ∈ m.log ∨ e = ⟨m.clock, path, w m.clock path⟩ := fun he =>
    (List.mem_append.1 he).imp id List.mem_singleton.1
  refine ⟨?_, ?_, ?_, ?_, ?_⟩
  · simp [h.ticks, List.range_succ]
  · intro e he
    rcases hmem he with he | rfl
    · exact h.faithful e he
    · rfl
  · intro e he c hok
    rcases hmem he with he | rfl
    · exact hold _ _ (h.cached_of_ok e he c hok)
    · exact hnew c hok
  · intro p r hp
    rcases honly p r hp with hp | ⟨rfl, c, hok, rfl⟩
    · obtain ⟨e, he, h1, h2⟩ := h.ok_of_cached p r hp
      exact ⟨e, List.mem_append_left _ he, h1, h2⟩
    · exact ⟨_, List.mem_append_right _ (List.mem_singleton.2 rfl), rfl, c, hok, rfl⟩
  · rw [List.pairwise_append]
    refine ⟨h.once, List.pairwise_singleton _ _, ?_⟩
    intro a ha b hb hok
    cases List.mem_singleton.1 hb
    exact fun heq => hno a ha hok heq.symm

theorem getResource_step (m : Mgr) (rid loc : Bytes)
    (h : MInv w parse m) :
    MInv w parse (getResource w parse m rid loc).1 ∧
    Step m (getResource w parse m rid loc).1 (fun p => p = pathOf m.scheme loc rid) := by
  unfold getResource
  simp only
  cases hc : cacheGet m.cache (pathOf m.scheme loc rid) with
  | some r => exact ⟨h, Step.refl _ _⟩
  | none =>
    have hread := h.read _ hc
    have hone : ∀ e ∈ [(⟨m.clock, pathOf m.scheme loc rid, w m.clock (pathOf m.scheme loc rid)⟩ : LogEntry)],
        e.path = pathOf m.scheme loc rid := fun e he => by cases List.mem_singleton.1 he; rfl
    cases hw : w m.clock (pathOf m.scheme loc rid) with
    | err er =>
      rw [hw] at hread hone
      exact ⟨hread m.cache (fun _ _ k => k) nofun (fun _ _ k => Or.inl k), rfl, fun _ _ k => k, _, rfl, hone⟩
    | ok content =>
      rw [hw] at hread hone
      have hins := fun q => cacheGet_insert m.cache _ (parse content) q hc
      -- what was cached stays cached: the path read was not
      have hkeep : ∀ p r, cacheGet m.cache p = some r →
          cacheGet (cacheInsert m.cache (pathOf m.scheme loc rid) (parse content)) p = some r := fun p r k => by
        rw [hins]; split
        · subst p; rw [hc] at k; cases k
        · exact k
      refine ⟨hread _ hkeep (fun c k => ?_) (fun p r k => ?_), rfl, hkeep, _, rfl, hone⟩
      · cases k; rw [hins, if_pos rfl]
      · rw [hins] at k; split at k
        · subst p; cases k; exact Or.inr ⟨rfl, content, rfl, rfl⟩
        · exact Or.inl k

theorem getResource_of_loaded (m : Mgr) (rid loc : Bytes)
    (h : MInv w parse m) (e : LogEntry) (he : e ∈ m.log) (hp : e.path = pathOf m.scheme loc rid)
    (c : Bytes) (hok : e.result = .ok c) :
    getResource w parse m rid loc = (m, .ok (parse c)) := by
  have := h.cached_of_ok e he c hok
  rw [hp] at this
  unfold getResource
  simp only [this]

/-- outcomes of the successive `get_resource` calls of one loading loop -/
def loads (w : World) (parse : Bytes → Resource) (locale : Bytes) :
    List Bytes → Mgr → Mgr × List (Except IoErr Resource)
  | [], m => (m, [])
  | rid :: rest, m =>
    ((loads w parse locale rest (getResource w parse m rid locale).1).1,
     (getResource w parse m rid locale).2 :: (loads w parse locale rest (getResource w parse m rid locale).1).2)

/-- what the loop does with those outcomes (no I/O) -/
def assemble : List (Except IoErr Resource) → Bundle → Bundle × List MgrError
  | [], b => (b, [])
  | .ok res :: rest, b =>
    ((assemble rest (addResource b res).1).1,
     (addResource b res).2.map MgrError.fluent ++ (assemble rest (addResource b res).1).2)
  | .error e :: rest, b => ((assemble rest b).1, MgrError.io e :: (assemble rest b).2)

theorem loadLoop_eq (locale : Bytes) (ids : List Bytes) :
    ∀ (m : Mgr) (b : Bundle), loadLoop w parse locale ids m b =
      ((loads w parse locale ids m).1, (assemble (loads w parse locale ids m).2 b).1,
        (assemble (loads w parse locale ids m).2 b).2) := by
  induction ids with
  | nil => intro m b; rfl
  | cons rid rest ih =>
    intro m b
    unfold loadLoop loads
    cases hg : getResource w parse m rid locale with
    | mk m' o =>
      cases o with
      | ok res => simp only [assemble, ih]
      | error e => simp only [assemble, ih]

theorem loads_length (locale : Bytes) (ids : List Bytes) :
    ∀ m, (loads w parse locale ids m).2.length = ids.length := by
  induction ids with
  | nil => intro m; rfl
  | cons rid rest ih => intro m; simp [loads, ih]

theorem loads_step (locale : Bytes) (ids : List Bytes) :
    ∀ m, MInv w parse m →
      MInv w parse (loads w parse locale ids m).1 ∧
      Step m (loads w parse locale ids m).1 (fun p => ∃ rid ∈ ids, p = pathOf m.scheme locale rid) := by
  induction ids with
  | nil => intro m h; exact ⟨h, Step.refl _ _⟩
  | cons rid rest ih =>
    intro m h
    have h1 := getResource_step w parse m rid locale h
    have h2 := ih _ h1.1
    refine ⟨h2.1, Step.trans (h1.2.mono ?_) (h2.2.mono ?_)⟩
    · intro p hp; exact ⟨rid, List.mem_cons_self, hp⟩
    · intro p ⟨r, hr, hp⟩
      rw [h1.2.scheme] at hp
      exact ⟨r, List.mem_cons_of_mem _ hr, hp⟩

theorem assemble_ok (outs : List (Except IoErr Resource)) :
    ∀ b, (assemble outs b).2 = [] →
      ∃ rs : List Resource, outs = rs.map Except.ok ∧
        (assemble outs b).1 = (rs.map Op.add).foldl (fun b op => (step b op).1) b := by
  induction outs with
  | nil => intro b _; exact ⟨[], rfl, rfl⟩
  | cons o rest ih =>
    intro b h
    cases o with
    | error e => simp [assemble] at h
    | ok res =>
      simp only [assemble, List.append_eq_nil_iff, List.map_eq_nil_iff] at h
      obtain ⟨rs, h1, h2⟩ := ih _ h.2
      refine ⟨res :: rs, by simp [h1], ?_⟩
      simp only [assemble, List.map_cons, List.foldl_cons, step]
      exact h2

/-- the failures `get_bundle` must report: for every listed resource in order, its I/O error, or —
when it was obtained — one `Overriding` for every entry whose id already occurs in the resources
obtained before it (`pre`) or earlier in the resource itself -/
def failures : List (Except IoErr Resource) → List AstEntry → List MgrError
  | [], _ => []
  | .error e :: rest, pre => MgrError.io e :: failures rest pre
  | .ok r :: rest, pre =>
    (expectedErrors (fun _ => false) pre r).map MgrError.fluent ++ failures rest (pre ++ r)

theorem expectedErrors_shift (taken : Id → Bool) (pre : List AstEntry)
    (ht : ∀ id, taken id = (idsOf pre).contains id) (r p : List AstEntry) :
    expectedErrors taken p r = expectedErrors (fun _ => false) (pre ++ p) r := by
  rw [expectedErrors_absorb, show taken = fun id => false || (idsOf pre).contains id from funext fun id => by
    rw [ht id, Bool.false_or]]

theorem isSome_abs_addResource (b : Bundle) (hb : b.Inv) (r : Resource) (id : Id) :
    ((addResource b r).1.abs id).isSome = ((b.abs id).isSome || (idsOf r).contains id) := by
  rw [(addResource_refines b r hb).2.1, specAdd_lookup]
  cases hb' : b.abs id with
  | some d => simp
  | none =>
    simp only [Option.isSome_none, Bool.false_or]
    cases hf : firstDef r id with
    | none =>
      have := (firstDef_eq_none_iff r id).1 hf
      simp [this]
    | some d =>
      have : id ∈ idsOf r := by
        apply Classical.byContradiction
        intro hn
        rw [(firstDef_eq_none_iff r id).2 hn] at hf
        exact absurd hf (by simp)
      simp [this]

theorem assemble_errors (outs : List (Except IoErr Resource)) :
    ∀ (b : Bundle) (pre : List AstEntry), b.Inv →
      (∀ id, (b.abs id).isSome = (idsOf pre).contains id) →
      (assemble outs b).2 = failures outs pre := by
  induction outs with
  | nil => intro b pre _ _; rfl
  | cons o rest ih =>
    intro b pre hb hpre
    cases o with
    | error e =>
      simp only [assemble, failures]
      rw [ih b pre hb hpre]
    | ok r =>
      simp only [assemble, failures]
      have herr : (addResource b r).2 = expectedErrors (fun _ => false) pre r := by
        rw [(addResource_refines b r hb).2.2, specAdd_errors,
          expectedErrors_shift (fun id => (b.abs id).isSome) pre hpre r []]
        simp
      rw [herr, ih _ (pre ++ r) (addResource_refines b r hb).1]
      intro id
      rw [isSome_abs_addResource b hb r id, hpre id, idsOf_append]
      simp [List.mem_append]

theorem assemble_errors_empty (outs : List (Except IoErr Resource)) :
    (assemble outs Bundle.empty).2 = failures outs [] :=
  assemble_errors outs Bundle.empty [] empty_inv (by intro id; simp [empty_abs, Spec.empty, idsOf])

theorem expectedErrors_nil (r : List AstEntry) :
    ∀ taken : Id → Bool, expectedErrors taken [] r = [] →
      (idsOf r).Nodup ∧ ∀ id ∈ idsOf r, taken id = false := by
  induction r with
  | nil => intro _ _; exact ⟨List.nodup_nil, nofun⟩
  | cons e rest ih =>
    intro taken h
    rw [expectedErrors_cons, List.append_eq_nil_iff] at h
    obtain ⟨n1, n2⟩ := ih _ h.2
    have h1 := h.1
    rw [idsOf_cons] at n2 ⊢
    cases hde : defOf e with
    | none =>
      rw [hde] at n2
      exact ⟨n1, fun id hid => by simpa [idsOf] using n2 id hid⟩
    | some x =>
      obtain ⟨i, k, d⟩ := x
      rw [hde] at n2 h1
      have hi : taken i = false := by simpa [idsOf] using h1
      refine ⟨List.nodup_cons.2 ⟨fun hmem => ?_, n1⟩, fun id hid => ?_⟩
      · have := n2 i hmem
        simp [idsOf] at this
      · rcases List.mem_cons.1 hid with rfl | hid
        · exact hi
        · have := n2 id hid
          simp only [Bool.or_eq_false_iff] at this
          exact this.1

/-- when every resource was obtained the failures are the duplicate definitions of their concatenation -/
theorem failures_ok (rs : List Resource) :
    ∀ pre, failures (rs.map Except.ok) pre = (expectedErrors (fun _ => false) pre rs.flatten).map MgrError.fluent := by
  induction rs with
  | nil => intro pre; rfl
  | cons r rs ih =>
    intro pre
    simp only [List.map_cons, failures, ih, List.flatten_cons, expectedErrors_append, List.map_append]

theorem nodup_of_failures_nil (rs : List Resource) (h : failures (rs.map Except.ok) [] = []) :
    (idsOf rs.flatten).Nodup := by
  rw [failures_ok, List.map_eq_nil_iff] at h
  exact (expectedErrors_nil _ _ h).1

theorem getBundle_eq (m : Mgr) (loc : Bytes) (ls ids : List Bytes) :
    getBundle w parse m (loc :: ls) ids =
      ((loads w parse loc ids m).1,
       .done (finish (loc :: ls) (assemble (loads w parse loc ids m).2 Bundle.empty).1
          (assemble (loads w parse loc ids m).2 Bundle.empty).2)) := by
  simp only [getBundle, loadLoop_eq]

theorem getBundle_step (m : Mgr) (locales ids : List Bytes)
    (h : MInv w parse m) :
    MInv w parse (getBundle w parse m locales ids).1 ∧
    Step m (getBundle w parse m locales ids).1
      (fun p => ∃ loc, locales.head? = some loc ∧ ∃ rid ∈ ids, p = pathOf m.scheme loc rid) := by
  cases locales with
  | nil => exact ⟨h, Step.refl _ _⟩
  | cons loc ls =>
    rw [getBundle_eq]
    have := loads_step w parse loc ids m h
    exact ⟨this.1, this.2.mono (fun p hp => ⟨loc, rfl, hp⟩)⟩

theorem next_some (m : Mgr) (it : BundlesIter) (loc : Bytes)
    (h : it.locales[it.idx]? = some loc) :
    it.next w parse m =
      ((loads w parse loc it.ids m).1, { it with idx := it.idx + 1 },
       some (finish [loc] (assemble (loads w parse loc it.ids m).2 Bundle.empty).1
          (assemble (loads w parse loc it.ids m).2 Bundle.empty).2)) := by
  simp only [BundlesIter.next, h, loadLoop_eq]

theorem next_none (m : Mgr) (it : BundlesIter)
    (h : it.locales[it.idx]? = none) : it.next w parse m = (m, it, none) := by
  simp only [BundlesIter.next, h]

theorem next_step (m : Mgr) (it : BundlesIter)
    (h : MInv w parse m) :
    MInv w parse (it.next w parse m).1 ∧
    Step m (it.next w parse m).1
      (fun p => ∃ loc, it.locales[it.idx]? = some loc ∧ ∃ rid ∈ it.ids, p = pathOf m.scheme loc rid) := by
  cases hl : it.locales[it.idx]? with
  | none => rw [next_none _ _ _ _ hl]; exact ⟨h, Step.refl _ _⟩
  | some loc =>
    rw [next_some _ _ _ _ _ hl]
    have := loads_step w parse loc it.ids m h
    exact ⟨this.1, this.2.mono (fun p hp => ⟨loc, rfl, hp⟩)⟩

theorem stepReq_step (s : Sys) (r : Req) (h : MInv w parse s.mgr) :
    MInv w parse (stepReq w parse s r).1.mgr ∧ Step s.mgr (stepReq w parse s r).1.mgr (fun _ => True) := by
  cases r with
  | bundle locales ids =>
    have := getBundle_step w parse s.mgr locales ids h
    exact ⟨this.1, this.2.mono (fun _ _ => trivial)⟩
  | openIter locales ids => exact ⟨h, Step.refl _ _⟩
  | next k =>
    simp only [stepReq]
    cases hk : s.iters[k]? with
    | none => exact ⟨h, Step.refl _ _⟩
    | some it =>
      have := next_step w parse s.mgr it h
      exact ⟨this.1, this.2.mono (fun _ _ => trivial)⟩

theorem foldl_stepReq_step (reqs : List Req) :
    ∀ s : Sys, MInv w parse s.mgr →
      MInv w parse (reqs.foldl (fun s r => (stepReq w parse s r).1) s).mgr ∧
      Step s.mgr (reqs.foldl (fun s r => (stepReq w parse s r).1) s).mgr (fun _ => True) := by
  induction reqs with
  | nil => intro s h; exact ⟨h, Step.refl _ _⟩
  | cons r reqs ih =>
    intro s h
    have h1 := stepReq_step w parse s r h
    have h2 := ih _ h1.1
    exact ⟨h2.1, h1.2.trans h2.2⟩

/-- `n` calls of `next()` on one iterator, nothing else in between -/
def pulls (w : World) (parse : Bytes → Resource) :
    Nat → Mgr → BundlesIter → Mgr × BundlesIter × List (Option BundleResult)
  | 0, m, it => (m, it, [])
  | n + 1, m, it =>
    ((pulls w parse n (it.next w parse m).1 (it.next w parse m).2.1).1,
     (pulls w parse n (it.next w parse m).1 (it.next w parse m).2.1).2.1,
     (it.next w parse m).2.2 :: (pulls w parse n (it.next w parse m).1 (it.next w parse m).2.1).2.2)

/-- the single-locale bundle requests for the given locales, one after the other -/
def seqBundles (w : World) (parse : Bytes → Resource) (ids : List Bytes) :
    List Bytes → Mgr → Mgr × List BundleResult
  | [], m => (m, [])
  | loc :: rest, m =>
    ((seqBundles w parse ids rest (loadLoop w parse loc ids m Bundle.empty).1).1,
     finish [loc] (loadLoop w parse loc ids m Bundle.empty).2.1 (loadLoop w parse loc ids m Bundle.empty).2.2
       :: (seqBundles w parse ids rest (loadLoop w parse loc ids m Bundle.empty).1).2)

theorem pulls_end (m : Mgr) (it : BundlesIter)
    (h : it.locales[it.idx]? = none) :
    ∀ k, pulls w parse k m it = (m, it, List.replicate k none) := by
  intro k
  induction k with
  | zero => rfl
  | succ k ih =>
    simp only [pulls, next_none _ _ _ _ h, ih, List.replicate_succ]

theorem pulls_drop (locales ids : List Bytes) (k : Nat) :
    ∀ (rest : List Bytes) (i : Nat) (m : Mgr), locales.drop i = rest →
      pulls w parse (rest.length + k) m ⟨locales, ids, i⟩ =
        ((seqBundles w parse ids rest m).1, ⟨locales, ids, i + rest.length⟩,
         (seqBundles w parse ids rest m).2.map some ++ List.replicate k none) := by
  intro rest
  induction rest with
  | nil =>
    intro i m h
    have hi : locales[i]? = none := by
      have := List.drop_eq_nil_iff.1 h
      exact List.getElem?_eq_none this
    simpa [seqBundles] using pulls_end w parse m ⟨locales, ids, i⟩ hi k
  | cons loc rest ih =>
    intro i m h
    have hi : locales[i]? = some loc := by
      have := congrArg (fun l => l[0]?) h
      simpa using this
    have hd : locales.drop (i + 1) = rest := by
      have := congrArg List.tail h
      simpa using this
    have hn : (loc :: rest).length + k = (rest.length + k) + 1 := by simp; omega
    rw [hn]
    have hnext : BundlesIter.next w parse m ⟨locales, ids, i⟩ =
        ((loadLoop w parse loc ids m Bundle.empty).1, ⟨locales, ids, i + 1⟩,
          some (finish [loc] (loadLoop w parse loc ids m Bundle.empty).2.1
            (loadLoop w parse loc ids m Bundle.empty).2.2)) := by
      simp only [BundlesIter.next, hi]
    simp only [pulls, hnext, ih (i + 1) _ hd, seqBundles, List.map_cons, List.cons_append]
    have : i + 1 + rest.length = i + (rest.length + 1) := by omega
    simp [this]

/-! ## locality: a request consults the world only at the ticks of its own reads

Consequence (`piecewise_glue`): a run in which every request is evaluated against its own world (for
instance the file-system snapshot of that moment, as the correspondence driver does) is a run against
one global world, so every theorem about `runReqs` applies to it. -/

def AgreeOn (a b : Nat) (w w' : World) : Prop := ∀ t, a ≤ t → t < b → w t = w' t

theorem getResource_clock (m : Mgr) (rid loc : Bytes) :
    (getResource w parse m rid loc).1.clock =
      if cacheGet m.cache (pathOf m.scheme loc rid) = none then m.clock + 1 else m.clock := by
  unfold getResource
  simp only
  cases hc : cacheGet m.cache (pathOf m.scheme loc rid) with
  | some r => simp
  | none => cases w m.clock (pathOf m.scheme loc rid) <;> simp

theorem getResource_clock_le (m : Mgr) (rid loc : Bytes) : m.clock ≤ (getResource w parse m rid loc).1.clock := by
  rw [getResource_clock]; split <;> omega

theorem getResource_local (w w' : World) (parse : Bytes → Resource) (m : Mgr) (rid loc : Bytes)
    (h : cacheGet m.cache (pathOf m.scheme loc rid) = none → w m.clock = w' m.clock) :
    getResource w parse m rid loc = getResource w' parse m rid loc := by
  unfold getResource
  simp only
  cases hc : cacheGet m.cache (pathOf m.scheme loc rid) with
  | some r => rfl
  | none => rw [h hc]

theorem loads_clock_le (locale : Bytes) (ids : List Bytes) :
    ∀ m, m.clock ≤ (loads w parse locale ids m).1.clock := by
  induction ids with
  | nil => intro m; exact Nat.le_refl _
  | cons rid rest ih =>
    intro m
    exact Nat.le_trans (getResource_clock_le w parse m rid locale) (ih _)

theorem loads_agree (w w' : World) (parse : Bytes → Resource) (locale : Bytes) (ids : List Bytes) :
    ∀ m, AgreeOn m.clock (loads w parse locale ids m).1.clock w w' →
      loads w parse locale ids m = loads w' parse locale ids m := by
  induction ids with
  | nil => intro m _; rfl
  | cons rid rest ih =>
    intro m h
    have hfin := loads_clock_le w parse locale rest (getResource w parse m rid locale).1
    have hg : getResource w parse m rid locale = getResource w' parse m rid locale := by
      apply getResource_local
      intro hc
      apply h m.clock (Nat.le_refl _)
      have := getResource_clock w parse m rid locale
      rw [if_pos hc] at this
      simp only [loads]
      omega
    have hle := getResource_clock_le w parse m rid locale
    have ih' := ih (getResource w parse m rid locale).1
      (fun t ht1 ht2 => h t (Nat.le_trans hle ht1) (by simpa [loads] using ht2))
    simp only [loads]
    rw [← hg, ih']

theorem stepReq_clock_le (s : Sys) (r : Req) :
    s.mgr.clock ≤ (stepReq w parse s r).1.mgr.clock := by
  cases r with
  | bundle locales ids =>
    cases locales with
    | nil => exact Nat.le_refl _
    | cons loc ls =>
      simp only [stepReq, getBundle_eq]
      exact loads_clock_le _ _ _ _ _
  | openIter locales ids => exact Nat.le_refl _
  | next k =>
    simp only [stepReq]
    cases hk : s.iters[k]? with
    | none => exact Nat.le_refl _
    | some it =>
      cases hl : it.locales[it.idx]? with
      | none => simp only [next_none _ _ _ _ hl]; exact Nat.le_refl _
      | some loc => simp only [next_some _ _ _ _ _ hl]; exact loads_clock_le _ _ _ _ _

theorem stepReq_agree (w w' : World) (parse : Bytes → Resource) (s : Sys) (r : Req)
    (h : AgreeOn s.mgr.clock (stepReq w parse s r).1.mgr.clock w w') :
    stepReq w parse s r = stepReq w' parse s r := by
  cases r with
  | bundle locales ids =>
    cases locales with
    | nil => rfl
    | cons loc ls =>
      simp only [stepReq, getBundle_eq] at h ⊢
      rw [loads_agree w w' parse loc ids s.mgr h]
  | openIter locales ids => rfl
  | next k =>
    simp only [stepReq] at h ⊢
    cases hk : s.iters[k]? with
    | none => rfl
    | some it =>
      simp only [hk] at h
      cases hl : it.locales[it.idx]? with
      | none => simp only [next_none _ _ _ _ hl]
      | some loc =>
        simp only [next_some _ _ _ _ _ hl] at h ⊢
        rw [loads_agree w w' parse loc it.ids s.mgr h]

/-- responses of a history against one world -/
def resps (w : World) (parse : Bytes → Resource) : Sys → List Req → List Resp
  | _, [] => []
  | s, r :: rest => (stepReq w parse s r).2 :: resps w parse (stepReq w parse s r).1 rest

/-- final state and responses of a history in which every request comes with its own world -/
def runPW (parse : Bytes → Resource) : Sys → List (World × Req) → Sys × List Resp
  | s, [] => (s, [])
  | s, (w, r) :: rest =>
    ((runPW parse (stepReq w parse s r).1 rest).1,
     (stepReq w parse s r).2 :: (runPW parse (stepReq w parse s r).1 rest).2)

theorem run_agree (w w' : World) (parse : Bytes → Resource) (reqs : List Req) :
    ∀ s : Sys, (∀ t, s.mgr.clock ≤ t → w t = w' t) →
      reqs.foldl (fun s r => (stepReq w parse s r).1) s = reqs.foldl (fun s r => (stepReq w' parse s r).1) s ∧
      resps w parse s reqs = resps w' parse s reqs := by
  induction reqs with
  | nil => intro s _; exact ⟨rfl, rfl⟩
  | cons r reqs ih =>
    intro s h
    have h1 : stepReq w parse s r = stepReq w' parse s r :=
      stepReq_agree w w' parse s r (fun t ht _ => h t ht)
    have h2 := ih (stepReq w parse s r).1
      (fun t ht => h t (Nat.le_trans (stepReq_clock_le w parse s r) ht))
    simp only [List.foldl_cons, resps]
    rw [← h1]
    exact ⟨h2.1, by rw [h2.2]⟩

theorem piecewise_glue (parse : Bytes → Resource) (steps : List (World × Req)) :
    ∀ s : Sys, ∃ W : World,
      (runPW parse s steps).1 = (steps.map (·.2)).foldl (fun s r => (stepReq W parse s r).1) s ∧
      (runPW parse s steps).2 = resps W parse s (steps.map (·.2)) := by
  induction steps with
  | nil => intro s; exact ⟨fun _ _ => .err .notFound, rfl, rfl⟩
  | cons wr rest ih =>
    obtain ⟨w, r⟩ := wr
    intro s
    obtain ⟨W', hW1, hW2⟩ := ih (stepReq w parse s r).1
    let W : World := fun t => if t < (stepReq w parse s r).1.mgr.clock then w t else W' t
    have hstep : stepReq W parse s r = stepReq w parse s r := by
      symm
      apply stepReq_agree
      intro t _ ht2
      simp [W, ht2]
    have hrest := run_agree W' W parse (rest.map (·.2)) (stepReq w parse s r).1
      (fun t ht => by simp [W, Nat.not_lt.2 ht])
    refine ⟨W, ?_, ?_⟩
    · simp only [runPW, List.map_cons, List.foldl_cons, hstep]
      rw [hW1, hrest.1]
    · simp only [runPW, List.map_cons, resps, hstep]
      rw [hW2, hrest.2]

end FluentModel.ResMgr

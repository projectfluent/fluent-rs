import FluentProofs.Serializer
/-!
# Serializer lemmas: congruence (C04)

When may two adjacent text elements be joined without changing the serializer's output?
`write_literal` looks at the last byte of the buffer: after `\n` it indents, after `\r` it doubles
the `\r` if the literal starts with `\n`.  So `[text a, text b]` and `[text (a ++ b)]` serialise
identically exactly when none of the two happens between `a` and `b` (`JoinOK`), and the pattern-level
tests `is_multiline` / `has_leading_text_dot` agree as soon as `a ≠ []`.  `nRes ok` is the normaliser of the C04 statement,
parametrised by the joining condition `ok`; on `LineSplit` trees (the shape the parser produces) `normSafe` is a function of
`norm`, hence trees with equal `norm` serialise identically.
-/
namespace FluentProofs.Ser
open FluentModel FluentModel.Syntax FluentModel.Syntax.Ser

/-- nothing is inserted between `a` and `b` when they are written one after the other -/
def JoinOK (a b : Bytes) : Prop :=
  a ≠ [] ∧ a.getLast? ≠ some 10 ∧ ¬(a.getLast? = some 13 ∧ b.head? = some 10)

instance (a b : Bytes) : Decidable (JoinOK a b) := by unfold JoinOK; infer_instance

theorem pushAll_pushAll (w : Writer) (a b : Bytes) : (w.pushAll a).pushAll b = w.pushAll (a ++ b) := by
  simp [Writer.pushAll]

theorem endsWith_pushAll (w : Writer) (a : Bytes) (x : UInt8) (ha : a ≠ []) :
    endsWith (w.pushAll a) x = (a.getLast? == some x) := by
  cases h : a.getLast? with
  | none => simp at h; exact absurd h ha
  | some y => simp [endsWith, Writer.pushAll, Array.back?_append, h]

/-- the writer `write_literal` pushes the item onto (depends on the item only through its first byte) -/
def litBase (w : Writer) (hd : Option UInt8) : Writer :=
  let w1 := if endsWith w 10 then w.writeIndent else w
  if endsWith w1 13 && hd == some 10 then { w1 with buffer := w1.buffer.push 13 } else w1

theorem writeLiteral_eq (w : Writer) (item : Bytes) : w.writeLiteral item = (litBase w item.head?).pushAll item := rfl

theorem litBase_self (X : Writer) (hd : Option UInt8) (h10 : endsWith X 10 = false)
    (h13 : (endsWith X 13 && hd == some 10) = false) : litBase X hd = X := by
  simp [litBase, h10, h13]

theorem head?_append_of_ne_nil {a : Bytes} (b : Bytes) (ha : a ≠ []) : (a ++ b).head? = a.head? := by
  cases a with
  | nil => exact absurd rfl ha
  | cons x xs => rfl

theorem writeLiteral_join (w : Writer) (a b : Bytes) (h : JoinOK a b) :
    (w.writeLiteral a).writeLiteral b = w.writeLiteral (a ++ b) := by
  obtain ⟨ha, h10, h13⟩ := h
  rw [writeLiteral_eq w a, writeLiteral_eq w (a ++ b), head?_append_of_ne_nil b ha, writeLiteral_eq, ← pushAll_pushAll,
    litBase_self]
  · rw [endsWith_pushAll _ _ _ ha]; simpa using h10
  · rw [endsWith_pushAll _ _ _ ha]
    cases h1 : a.getLast? == some 13 <;> cases h2 : b.head? == some 10 <;> simp_all

theorem Writer.ext' {x y : Writer} (h1 : x.buffer = y.buffer) (h2 : x.indentLevel = y.indentLevel) : x = y := by
  cases x; cases y; simp_all

theorem writeLiteral_nil_join (w : Writer) (b : Bytes) : (w.writeLiteral []).writeLiteral b = w.writeLiteral b := by
  cases h : endsWith w 10
  · have : w.writeLiteral [] = w := by
      simp [Writer.writeLiteral, h, Writer.pushAll]
    rw [this]
  · apply Writer.ext'
    · have h1 := writeLiteral_after_newline w [] h
      rw [writeLiteral_after_newline w b h]
      by_cases hk : w.indentLevel = 0
      · have e : (w.writeLiteral []).buffer = w.buffer := by simp [h1, hk, spaces]
        have h' : endsWith (w.writeLiteral []) 10 = true := by simp [endsWith, e]; simpa [endsWith] using h
        rw [writeLiteral_after_newline _ b h', e]
        simp [hk, spaces]
      · have h' : endsWith (w.writeLiteral []) 10 = false := by
          (simp [endsWith, h1, Array.back?_append]; omega)
        have h'' : endsWith (w.writeLiteral []) 13 = false := by
          (simp [endsWith, h1, Array.back?_append]; omega)
        rw [writeLiteral_mid_line _ b h', h'', h1]
        simp
    · simp

@[simp] theorem litBase_indentLevel (w : Writer) (hd : Option UInt8) : (litBase w hd).indentLevel = w.indentLevel := by
  unfold litBase; simp only []; split <;> split <;> rfl

theorem litBase_buffer (w : Writer) (hd : Option UInt8) :
    (litBase w hd).buffer = w.buffer ++
      (if endsWith w 10 then spaces (4 * w.indentLevel)
       else if endsWith w 13 && hd == some 10 then #[13] else #[]) := by
  unfold litBase
  cases h : endsWith w 10
  · simp only [Bool.false_eq_true, if_false]
    split <;> simp
  · simp only [if_true]
    simp [writeIndent_not_cr w h, writeIndent_buffer]

theorem writeLiteral_join_iff (w : Writer) (a b : Bytes) (ha : a ≠ []) :
    (w.writeLiteral a).writeLiteral b = w.writeLiteral (a ++ b) ↔
      (a.getLast? = some 10 → w.indentLevel = 0) ∧ ¬(a.getLast? = some 13 ∧ b.head? = some 10) := by
  rw [writeLiteral_eq w a, writeLiteral_eq w (a ++ b), head?_append_of_ne_nil b ha, writeLiteral_eq,
    ← pushAll_pushAll]
  have hl : ((litBase w a.head?).pushAll a).indentLevel = w.indentLevel := by simp
  have e10 := endsWith_pushAll (litBase w a.head?) a 10 ha
  have e13 := endsWith_pushAll (litBase w a.head?) a 13 ha
  generalize (litBase w a.head?).pushAll a = X at hl e10 e13 ⊢
  rw [show ((litBase X b.head?).pushAll b = X.pushAll b) ↔ (litBase X b.head?).buffer = X.buffer from
    ⟨fun h => by simpa [Writer.pushAll, Array.append_left_inj] using congrArg Writer.buffer h,
     fun h => by rw [Writer.ext' h (by simp)]⟩]
  -- what `litBase` puts in front of `b` is empty exactly in the cases named
  rw [litBase_buffer, hl, e10, e13, Array.append_right_eq_self]
  have c10 : a.getLast? = some 10 ↔ (a.getLast? == some 10) = true := by simp
  have c13 : a.getLast? = some 13 ↔ (a.getLast? == some 13) = true := by simp
  have ch : b.head? = some 10 ↔ (b.head? == some 10) = true := by simp
  have hx : (a.getLast? == some 10) = true → (a.getLast? == some 13) = false := by
    intro h; rw [beq_iff_eq] at h; simp [h]
  rw [c10, c13, ch]
  generalize (a.getLast? == some 10) = x10 at hx ⊢
  generalize (a.getLast? == some 13) = x13 at hx ⊢
  generalize (b.head? == some 10) = xh
  cases x10 <;> cases x13 <;> cases xh <;> simp [spaces] at hx ⊢ <;> omega

section norm
variable (ok : Bytes → Bytes → Bool)

/-- put `e` in front of an already normalised pattern, joining it with a leading text if allowed -/
def joinHead : PatElem Bytes → List (PatElem Bytes) → List (PatElem Bytes)
  | .text a, .text b :: rest => if ok a b then .text (a ++ b) :: rest else .text a :: .text b :: rest
  | e, rest => e :: rest

mutual
def nInline : Inline Bytes → Inline Bytes
  | .str v => .str v
  | .num v => .num v
  | .var v => .var v
  | .msg a b => .msg a b
  | .fn id pos named => .fn id (nInl pos) (nNamed named)
  | .term id attr none => .term id attr none
  | .term id attr (some (pos, named)) => .term id attr (some (nInl pos, nNamed named))
  | .placeable e => .placeable (nExpr e)
def nInl : List (Inline Bytes) → List (Inline Bytes)
  | [] => []
  | x :: xs => nInline x :: nInl xs
def nNamed : List (Bytes × Inline Bytes) → List (Bytes × Inline Bytes)
  | [] => []
  | (n, x) :: xs => (n, nInline x) :: nNamed xs
def nExpr : Expr Bytes → Expr Bytes
  | .inline e => .inline (nInline e)
  | .select sel vs => .select (nInline sel) (nVariants vs)
def nVariants : List (Variant Bytes) → List (Variant Bytes)
  | [] => []
  | v :: vs => nVariant v :: nVariants vs
def nVariant : Variant Bytes → Variant Bytes
  | .mk k val d => .mk k (nPat val) d
/-- join adjacent text elements (right to left), recursing into placeables -/
def nPat : List (PatElem Bytes) → List (PatElem Bytes)
  | [] => []
  | e :: es => joinHead ok (nElem e) (nPat es)
def nElem : PatElem Bytes → PatElem Bytes
  | .text v => .text v
  | .placeable e => .placeable (nExpr e)
end

/-- whitespace-only comment lines are equal to empty ones -/
def nComment (c : List Bytes) : List Bytes := c.map fun l => if isBlankLine l then [] else l

def nAttr (a : Attribute Bytes) : Attribute Bytes := ⟨a.id, nPat ok a.value⟩

def nEntry : Entry Bytes → Entry Bytes
  | .message m => .message ⟨m.id, m.value.map (nPat ok), m.attributes.map (nAttr ok), m.comment.map nComment⟩
  | .term t => .term ⟨t.id, nPat ok t.value, t.attributes.map (nAttr ok), t.comment.map nComment⟩
  | .comment c => .comment (nComment c)
  | .groupComment c => .groupComment (nComment c)
  | .resourceComment c => .resourceComment (nComment c)
  | .junk c => .junk c

def isJunk : Entry Bytes → Bool
  | .junk _ => true
  | _ => false

/-- normalise a resource: Junk is dropped when serialising without junk -/
def nRes (withJunk : Bool) (r : Resource Bytes) : Resource Bytes :=
  (r.filter fun e => withJunk || !isJunk e).map (nEntry ok)

end norm

/-- **`norm`** — the comparison of the C04 statement: all adjacent text elements joined (recursively,
inside select variants and call arguments too), whitespace-only comment lines ↦ empty, Junk dropped
when `¬withJunk`. -/
def norm (withJunk : Bool) (r : Resource Bytes) : Resource Bytes := nRes (fun _ _ => true) withJunk r

/-- **`normSafe`** — the same, but two adjacent texts are joined only when `JoinOK`. -/
def normSafe (withJunk : Bool) (r : Resource Bytes) : Resource Bytes :=
  nRes (fun a b => decide (JoinOK a b)) withJunk r

section congr
set_option linter.unusedSectionVars false
variable (ok : Bytes → Bytes → Bool) (hok : ∀ a b, ok a b = true → JoinOK a b)
include hok

omit hok in
theorem isMultiline_joinHead (e : PatElem Bytes) (rest : List (PatElem Bytes)) :
    isMultiline (joinHead ok e rest) = isMultiline (e :: rest) := by
  unfold joinHead
  split
  · split
    · simp [isMultiline, Bool.or_assoc]
    · rfl
  · rfl

theorem hasLeadingTextDot_joinHead (e : PatElem Bytes) (rest : List (PatElem Bytes)) :
    hasLeadingTextDot (joinHead ok e rest) = hasLeadingTextDot (e :: rest) := by
  unfold joinHead
  split
  · split
    · rename_i a b rest h
      have := (hok a b h).1
      cases a with
      | nil => exact absurd rfl this
      | cons x xs => simp [hasLeadingTextDot]
    · rfl
  · rfl

theorem serElements_joinHead (w : Writer) (e : PatElem Bytes) (rest : List (PatElem Bytes)) :
    serElements w (joinHead ok e rest) = serElements w (e :: rest) := by
  unfold joinHead
  split
  · split
    · rename_i a b rest h
      simp [serElements, serElement, writeLiteral_join w a b (hok a b h)]
    · rfl
  · rfl

omit hok in
mutual
theorem isSelectInline_nInline (i : Inline Bytes) : isSelectInline (nInline ok i) = isSelectInline i := by
  cases i with
  | placeable e => simp only [nInline, isSelectInline]; exact isSelectExpr_nExpr e
  | term a b c => cases c with
    | none => simp [nInline, isSelectInline]
    | some pn => obtain ⟨p, n⟩ := pn; simp [nInline, isSelectInline]
  | _ => simp [nInline, isSelectInline]
theorem isSelectExpr_nExpr (e : Expr Bytes) : isSelectExpr (nExpr ok e) = isSelectExpr e := by
  cases e with
  | inline i => simp only [nExpr, isSelectExpr]; exact isSelectInline_nInline i
  | select s vs => simp [nExpr, isSelectExpr]
end

omit hok in
theorem isMultiline_nPat (p : List (PatElem Bytes)) : isMultiline (nPat ok p) = isMultiline p := by
  induction p with
  | nil => simp [nPat]
  | cons e es ih =>
    rw [nPat, isMultiline_joinHead]
    cases e with
    | text v => simp [nElem, isMultiline, ih]
    | placeable e => simp [nElem, isMultiline, ih, isSelectExpr_nExpr]

theorem hasLeadingTextDot_nPat (p : List (PatElem Bytes)) : hasLeadingTextDot (nPat ok p) = hasLeadingTextDot p := by
  cases p with
  | nil => simp [nPat]
  | cons e es =>
    rw [nPat, hasLeadingTextDot_joinHead ok hok]
    cases e with
    | text v => cases v <;> simp [nElem, hasLeadingTextDot]
    | placeable e => simp [nElem, hasLeadingTextDot]

theorem patternPre_nPat (w : Writer) (p : List (PatElem Bytes)) : patternPre w (nPat ok p) = patternPre w p := by
  simp [patternPre, startsOnNewLine, isMultiline_nPat, hasLeadingTextDot_nPat ok hok]

omit hok in
theorem patternPost_nPat (w : Writer) (p : List (PatElem Bytes)) : patternPost (nPat ok p) w = patternPost p w := by
  simp [patternPost, isMultiline_nPat]

omit hok in
theorem serArgs_congr {pos pos' : List (Inline Bytes)} {named named' : List (Bytes × Inline Bytes)}
    (hp : ∀ w b, serPositional w b pos' = serPositional w b pos) (hn : ∀ w b, serNamed w b named' = serNamed w b named)
    (w : Writer) (b : Bool) : serArgs w b pos' named' = serArgs w b pos named := by
  unfold serArgs
  rw [hp]
  cases serPositional w b pos with
  | none => rfl
  | some r => simp only [hn]

mutual

theorem serInline_nInline (e : Inline Bytes) (w : Writer) : serInline w (nInline ok e) = serInline w e := by
  cases e with
  | str v => rw [nInline]
  | num v => rw [nInline]
  | var id => rw [nInline]
  | msg id attr => rw [nInline]
  | fn id pos named =>
    rw [nInline, serInline_fn_call, serInline_fn_call]
    exact serArgs_congr (serPositional_nInl pos) (serNamed_nNamed named) _ _
  | term id attr args =>
    cases args with
    | none => rw [nInline]
    | some pn =>
      obtain ⟨pos, named⟩ := pn
      rw [nInline, serInline_term_call, serInline_term_call]
      exact serArgs_congr (serPositional_nInl pos) (serNamed_nNamed named) _ _
  | placeable e => rw [nInline, serInline_placeable, serInline_placeable, serExpr_nExpr e]

theorem serPositional_nInl (xs : List (Inline Bytes)) (w : Writer) (written : Bool) :
    serPositional w written (nInl ok xs) = serPositional w written xs := by
  cases xs with
  | nil => rw [nInl]
  | cons x xs =>
    rw [nInl, serPositional_cons, serPositional_cons, serInline_nInline x]
    exact congrArg _ (funext fun w2 => serPositional_nInl xs w2 true)

theorem serNamed_nNamed (xs : List (Bytes × Inline Bytes)) (w : Writer) (written : Bool) :
    serNamed w written (nNamed ok xs) = serNamed w written xs := by
  cases xs with
  | nil => rw [nNamed]
  | cons x xs =>
    obtain ⟨n, v⟩ := x
    rw [nNamed, serNamed_cons, serNamed_cons, serInline_nInline v]
    exact congrArg _ (funext fun w3 => serNamed_nNamed xs w3 true)

theorem serExpr_nExpr (e : Expr Bytes) (w : Writer) : serExpr w (nExpr ok e) = serExpr w e := by
  cases e with
  | inline i => simp only [nExpr, serExpr]; exact serInline_nInline i w
  | select sel vs =>
    rw [nExpr, serExpr_select, serExpr_select, serInline_nInline sel]
    exact congrArg _ (funext fun w1 => by rw [serVariants_nVariants vs])

theorem serVariants_nVariants (vs : List (Variant Bytes)) (w : Writer) :
    serVariants w (nVariants ok vs) = serVariants w vs := by
  cases vs with
  | nil => rw [nVariants]
  | cons v vs =>
    rw [nVariants, serVariants_cons, serVariants_cons, serVariant_nVariant v]
    exact congrArg _ (funext fun w1 => serVariants_nVariants vs _)

theorem serVariant_nVariant (v : Variant Bytes) (w : Writer) : serVariant w (nVariant ok v) = serVariant w v := by
  cases v with
  | mk key value dflt =>
    rw [nVariant, serVariant_mk, serVariant_mk, patternPre_nPat ok hok, serElements_nPat value]
    exact congrArg _ (funext fun w3 => patternPost_nPat ok _ _)

theorem serElements_nPat (es : List (PatElem Bytes)) (w : Writer) : serElements w (nPat ok es) = serElements w es := by
  cases es with
  | nil => rw [nPat]
  | cons e es =>
    rw [nPat, serElements_joinHead ok hok, serElements_cons, serElements_cons, serElement_nElem e]
    exact congrArg _ (funext fun w1 => serElements_nPat es w1)

theorem serElement_nElem (e : PatElem Bytes) (w : Writer) : serElement w (nElem ok e) = serElement w e := by
  cases e with
  | text v => rw [nElem]
  | placeable e =>
    cases e with
    | select sel vs =>
      have := serExpr_nExpr (.select sel vs) (w.writeLiteral (lit "{ "))
      simp only [nExpr] at this
      simp only [nElem, nExpr, serElement, this]
    | inline i =>
      cases i with
      | placeable e =>
        simp only [nElem, nExpr, nInline, serElement]
        rw [serExpr_nExpr e]
      | str v => simp [nElem, nExpr, nInline]
      | num v => simp [nElem, nExpr, nInline]
      | var v => simp [nElem, nExpr, nInline]
      | msg a b => simp [nElem, nExpr, nInline]
      | term a b c =>
        have := serInline_nInline (.term a b c) (w.writeLiteral (lit "{ "))
        cases c with
        | none => simp [nElem, nExpr, nInline]
        | some pn =>
          obtain ⟨p, n⟩ := pn
          simp only [nInline] at this
          simp only [nElem, nExpr, nInline, serElement, this]
      | fn a b c =>
        have := serInline_nInline (.fn a b c) (w.writeLiteral (lit "{ "))
        simp only [nInline] at this
        simp only [nElem, nExpr, nInline, serElement, this]

end

theorem serPattern_nPat (p : List (PatElem Bytes)) (w : Writer) : serPattern w (nPat ok p) = serPattern w p := by
  simp only [serPattern]
  rw [patternPre_nPat ok hok, serElements_nPat ok hok]
  split
  · rfl
  · exact patternPost_nPat ok _ _

omit hok in
theorem isBlankLine_nil : isBlankLine [] = true := rfl

omit hok in
theorem serComment_nComment (pre : Bytes) (c : List Bytes) (w : Writer) :
    serComment w pre (nComment c) = serComment w pre c := by
  induction c generalizing w with
  | nil => rfl
  | cons l ls ih =>
    simp only [nComment, List.map_cons, serComment]
    have ih' := ih
    simp only [nComment] at ih'
    rw [ih']
    cases h : isBlankLine l <;> simp [isBlankLine_nil, h]

theorem serAttributesGo_nAttr (as : List (Attribute Bytes)) (w : Writer) :
    serAttributesGo w (as.map (nAttr ok)) = serAttributesGo w as := by
  induction as generalizing w with
  | nil => rfl
  | cons a as ih =>
    simp only [List.map_cons, serAttributesGo, nAttr]
    rw [serPattern_nPat ok hok]
    split
    · rfl
    · exact ih _

theorem serAttributes_nAttr (as : List (Attribute Bytes)) (w : Writer) :
    serAttributes w (as.map (nAttr ok)) = serAttributes w as := by
  simp only [serAttributes, serAttributesGo_nAttr ok hok]
  cases as <;> simp

theorem serMessage_nEntry (m : Message Bytes) (w : Writer) :
    serMessage w ⟨m.id, m.value.map (nPat ok), m.attributes.map (nAttr ok), m.comment.map nComment⟩ = serMessage w m := by
  obtain ⟨id, value, attrs, comment⟩ := m
  cases comment <;> cases value <;>
    simp only [serMessage, Option.map_some, Option.map_none, serComment_nComment, serAttributes_nAttr ok hok,
      serPattern_nPat ok hok]

theorem serTerm_nEntry (t : Term Bytes) (w : Writer) :
    serTerm w ⟨t.id, nPat ok t.value, t.attributes.map (nAttr ok), t.comment.map nComment⟩ = serTerm w t := by
  obtain ⟨id, value, attrs, comment⟩ := t
  cases comment <;>
    simp only [serTerm, Option.map_some, Option.map_none, serComment_nComment, serAttributes_nAttr ok hok,
      serPattern_nPat ok hok]

theorem serResourceGo_nRes (withJunk : Bool) (r : Resource Bytes) (w : Writer) (b : Bool) :
    serResourceGo withJunk w b (nRes ok withJunk r) = serResourceGo withJunk w b r := by
  induction r generalizing w b with
  | nil => rfl
  | cons e es ih =>
    have ih' := ih
    simp only [nRes] at ih'
    cases e with
    | message m =>
      simp only [nRes, List.filter_cons, isJunk, Bool.not_false, Bool.or_true, if_true, List.map_cons, nEntry,
        serResourceGo, serMessage_nEntry ok hok]
      split
      · rfl
      · exact ih' _ _
    | term t =>
      simp only [nRes, List.filter_cons, isJunk, Bool.not_false, Bool.or_true, if_true, List.map_cons, nEntry,
        serResourceGo, serTerm_nEntry ok hok]
      split
      · rfl
      · exact ih' _ _
    | comment c =>
      simp only [nRes, List.filter_cons, isJunk, Bool.not_false, Bool.or_true, if_true, List.map_cons, nEntry,
        serResourceGo, serFreeComment, serComment_nComment]
      exact ih' _ _
    | groupComment c =>
      simp only [nRes, List.filter_cons, isJunk, Bool.not_false, Bool.or_true, if_true, List.map_cons, nEntry,
        serResourceGo, serFreeComment, serComment_nComment]
      exact ih' _ _
    | resourceComment c =>
      simp only [nRes, List.filter_cons, isJunk, Bool.not_false, Bool.or_true, if_true, List.map_cons, nEntry,
        serResourceGo, serFreeComment, serComment_nComment]
      exact ih' _ _
    | junk c =>
      cases withJunk with
      | false =>
        simp only [nRes, List.filter_cons, isJunk, Bool.not_true, Bool.or_false, Bool.false_eq_true, if_false,
          serResourceGo, Bool.not_false, if_true]
        exact ih' _ _
      | true =>
        simp only [nRes, List.filter_cons, isJunk, Bool.true_or, if_true, List.map_cons, nEntry,
          serResourceGo, Bool.not_true, Bool.false_eq_true, if_false]
        exact ih' _ _

end congr

/-- **The congruence.**  For every resource and both options, joining every pair
of adjacent text elements `a, b` with `JoinOK a b` (recursively, in every pattern of the tree),
replacing whitespace-only comment lines by empty ones, and dropping Junk when `¬withJunk` does not
change the serializer's output. -/
theorem serialize_normSafe (withJunk : Bool) (r : Resource Bytes) :
    serialize withJunk (normSafe withJunk r) = serialize withJunk r := by
  simp only [serialize, normSafe]
  rw [serResourceGo_nRes _ (fun a b h => of_decide_eq_true h)]

/-- a text element as the parser produces them: non-empty, `\n` only as the last byte, no `\r\n`
inside (the parser never keeps the `\r` of a CRLF line end) -/
def lineText : Bytes → Bool
  | [] => false
  | [_] => true
  | x :: y :: rest => x != 10 && !(x == 13 && y == 10) && lineText (y :: rest)

/-- the canonical splitting of a text run: after every `\n` and between `\r` and `\n` -/
def splitCanon : Bytes → List Bytes
  | [] => []
  | [x] => [[x]]
  | x :: y :: rest =>
    if x == 10 || (x == 13 && y == 10) then [x] :: splitCanon (y :: rest)
    else match splitCanon (y :: rest) with
      | [] => [[x]]
      | c :: cs => (x :: c) :: cs

theorem splitCanon_head {N c : Bytes} {cs : List Bytes} (h : splitCanon N = c :: cs) : c ≠ [] ∧ c.head? = N.head? := by
  match N, h with
  | [x], h => simp [splitCanon] at h; simp [← h.1]
  | x :: y :: rest, h =>
    rw [splitCanon] at h
    split at h
    · simp at h; simp [← h.1]
    · split at h <;> (simp at h; simp [← h.1])

theorem splitCanon_ne_nil {N : Bytes} (h : N ≠ []) : splitCanon N ≠ [] := by
  match N, h with
  | [x], _ => simp [splitCanon]
  | x :: y :: rest, _ =>
    rw [splitCanon]
    split
    · simp
    · split <;> simp

theorem splitCanon_lineText (a : Bytes) (h : lineText a = true) : splitCanon a = [a] := by
  induction a with
  | nil => simp [lineText] at h
  | cons x a ih =>
    cases a with
    | nil => simp [splitCanon]
    | cons y rest =>
      simp [lineText] at h
      rw [splitCanon, ih h.2]
      have : (x == 10 || (x == 13 && y == 10)) = false := by
        simp only [Bool.or_eq_false_iff, Bool.and_eq_false_iff, beq_eq_false_iff_ne]
        exact h.1
      simp [this]

theorem joinOK_cons (x y : UInt8) (a c : Bytes) : JoinOK (x :: y :: a) c ↔ JoinOK (y :: a) c := by
  simp [JoinOK, List.getLast?_cons_cons]

theorem splitCanon_append (a N c : Bytes) (cs : List Bytes) (ha : lineText a = true) (hN : splitCanon N = c :: cs) :
    splitCanon (a ++ N) = if JoinOK a c then (a ++ c) :: cs else a :: c :: cs := by
  obtain ⟨hc, hhd⟩ := splitCanon_head hN
  induction a with
  | nil => simp [lineText] at ha
  | cons x a ih =>
    cases a with
    | nil =>
      cases N with
      | nil => simp [splitCanon] at hN
      | cons y N' =>
        simp at hhd
        simp only [List.cons_append, List.nil_append]
        rw [splitCanon, hN]
        simp only [JoinOK, hhd]
        by_cases h1 : x = 10
        · simp [h1]
        · by_cases h2 : x = 13 ∧ y = 10
          · simp [h2.1, h2.2]
          · have : (x == 10 || (x == 13 && y == 10)) = false := by
              simp only [Bool.or_eq_false_iff, Bool.and_eq_false_iff, beq_eq_false_iff_ne]
              exact ⟨h1, Classical.not_and_iff_not_or_not.mp h2⟩
            simp [this, h1]
            intro h3 h4; exact h2 ⟨h3, h4⟩
    | cons y rest =>
      simp [lineText] at ha
      have ih' := ih ha.2
      simp only [List.cons_append] at ih' ⊢
      rw [splitCanon, ih']
      have : (x == 10 || (x == 13 && y == 10)) = false := by
        simp only [Bool.or_eq_false_iff, Bool.and_eq_false_iff, beq_eq_false_iff_ne]
        exact ha.1
      simp only [this, Bool.false_eq_true, if_false, joinOK_cons]
      by_cases hj : JoinOK (y :: rest) c <;> simp [hj]

abbrev okAll : Bytes → Bytes → Bool := fun _ _ => true
abbrev okSafe : Bytes → Bytes → Bool := fun a b => decide (JoinOK a b)

mutual
/-- re-split every text run canonically (recursively) -/
def rsInline : Inline Bytes → Inline Bytes
  | .str v => .str v
  | .num v => .num v
  | .var v => .var v
  | .msg a b => .msg a b
  | .fn id pos named => .fn id (rsInl pos) (rsNamed named)
  | .term id attr none => .term id attr none
  | .term id attr (some (pos, named)) => .term id attr (some (rsInl pos, rsNamed named))
  | .placeable e => .placeable (rsExpr e)
def rsInl : List (Inline Bytes) → List (Inline Bytes)
  | [] => []
  | x :: xs => rsInline x :: rsInl xs
def rsNamed : List (Bytes × Inline Bytes) → List (Bytes × Inline Bytes)
  | [] => []
  | (n, x) :: xs => (n, rsInline x) :: rsNamed xs
def rsExpr : Expr Bytes → Expr Bytes
  | .inline e => .inline (rsInline e)
  | .select sel vs => .select (rsInline sel) (rsVariants vs)
def rsVariants : List (Variant Bytes) → List (Variant Bytes)
  | [] => []
  | v :: vs => rsVariant v :: rsVariants vs
def rsVariant : Variant Bytes → Variant Bytes
  | .mk k val d => .mk k (rsPat val) d
def rsPat : List (PatElem Bytes) → List (PatElem Bytes)
  | [] => []
  | e :: es => rsElem e ++ rsPat es
def rsElem : PatElem Bytes → List (PatElem Bytes)
  | .text v => (splitCanon v).map PatElem.text
  | .placeable e => [.placeable (rsExpr e)]
end

mutual
/-- every text element of the tree is a `lineText` -/
def lsInline : Inline Bytes → Prop
  | .fn _ pos named => lsInl pos ∧ lsNamed named
  | .term _ _ (some (pos, named)) => lsInl pos ∧ lsNamed named
  | .placeable e => lsExpr e
  | _ => True
def lsInl : List (Inline Bytes) → Prop
  | [] => True
  | x :: xs => lsInline x ∧ lsInl xs
def lsNamed : List (Bytes × Inline Bytes) → Prop
  | [] => True
  | (_, x) :: xs => lsInline x ∧ lsNamed xs
def lsExpr : Expr Bytes → Prop
  | .inline e => lsInline e
  | .select sel vs => lsInline sel ∧ lsVariants vs
def lsVariants : List (Variant Bytes) → Prop
  | [] => True
  | v :: vs => lsVariant v ∧ lsVariants vs
def lsVariant : Variant Bytes → Prop
  | .mk _ val _ => lsPat val
def lsPat : List (PatElem Bytes) → Prop
  | [] => True
  | e :: es => lsElem e ∧ lsPat es
def lsElem : PatElem Bytes → Prop
  | .text v => lineText v = true
  | .placeable e => lsExpr e
end

theorem nPat_all_head (p : List (PatElem Bytes)) (h : lsPat p) :
    ∀ N R, nPat okAll p = .text N :: R → N ≠ [] := by
  intro N R hp
  cases p with
  | nil => simp [nPat] at hp
  | cons e es =>
    rw [nPat] at hp
    cases e with
    | placeable e => simp [nElem, joinHead] at hp
    | text a =>
      have ha : a ≠ [] := by
        intro h0; rw [lsPat, lsElem, h0] at h; simp [lineText] at h
      simp only [nElem] at hp
      unfold joinHead at hp
      split at hp
      · rename_i a' b rest h1 h2
        simp at h1 hp
        rw [← hp.1, ← h1]; simp [ha]
      · simp at hp; rw [← hp.1]
        rename_i h1 _; exact ha

theorem rsPat_text_cons (v : Bytes) (es : List (PatElem Bytes)) :
    rsPat (.text v :: es) = (splitCanon v).map PatElem.text ++ rsPat es := by
  rw [rsPat, rsElem]

theorem rsPat_placeable_cons (e : Expr Bytes) (es : List (PatElem Bytes)) :
    rsPat (.placeable e :: es) = .placeable (rsExpr e) :: rsPat es := by
  rw [rsPat, rsElem]; rfl

theorem joinHead_text_rs (a : Bytes) (ha : lineText a = true) (R : List (PatElem Bytes))
    (hR : ∀ N R', R = .text N :: R' → N ≠ []) :
    joinHead okSafe (.text a) (rsPat R) = rsPat (joinHead okAll (.text a) R) := by
  cases R with
  | nil => simp [joinHead, rsPat, rsElem, splitCanon_lineText a ha]
  | cons r R' =>
    cases r with
    | placeable e =>
      simp [joinHead, rsPat_placeable_cons, rsPat_text_cons, splitCanon_lineText a ha]
    | text N =>
      have hN := hR N R' rfl
      cases hs : splitCanon N with
      | nil => exact absurd hs (splitCanon_ne_nil hN)
      | cons c cs =>
        have := splitCanon_append a N c cs ha hs
        simp only [joinHead, if_true, rsPat_text_cons, hs, this, List.map_cons, List.cons_append]
        by_cases hj : JoinOK a c <;> simp [hj]

mutual

theorem nInline_safe_eq (e : Inline Bytes) (h : lsInline e) : nInline okSafe e = rsInline (nInline okAll e) := by
  cases e with
  | str v => simp [nInline, rsInline]
  | num v => simp [nInline, rsInline]
  | var id => simp [nInline, rsInline]
  | msg id attr => simp [nInline, rsInline]
  | fn id pos named =>
    rw [lsInline] at h
    simp only [nInline, rsInline]
    rw [nInl_safe_eq pos h.1, nNamed_safe_eq named h.2]
  | term id attr args =>
    cases args with
    | none => simp [nInline, rsInline]
    | some pn =>
      obtain ⟨pos, named⟩ := pn
      rw [lsInline] at h
      simp only [nInline, rsInline]
      rw [nInl_safe_eq pos h.1, nNamed_safe_eq named h.2]
  | placeable e =>
    rw [lsInline] at h
    simp only [nInline, rsInline]
    rw [nExpr_safe_eq e h]

theorem nInl_safe_eq (xs : List (Inline Bytes)) (h : lsInl xs) : nInl okSafe xs = rsInl (nInl okAll xs) := by
  cases xs with
  | nil => simp [nInl, rsInl]
  | cons x xs =>
    rw [lsInl] at h
    simp only [nInl, rsInl]
    rw [nInline_safe_eq x h.1, nInl_safe_eq xs h.2]

theorem nNamed_safe_eq (xs : List (Bytes × Inline Bytes)) (h : lsNamed xs) :
    nNamed okSafe xs = rsNamed (nNamed okAll xs) := by
  cases xs with
  | nil => simp [nNamed, rsNamed]
  | cons x xs =>
    obtain ⟨n, v⟩ := x
    rw [lsNamed] at h
    simp only [nNamed, rsNamed]
    rw [nInline_safe_eq v h.1, nNamed_safe_eq xs h.2]

theorem nExpr_safe_eq (e : Expr Bytes) (h : lsExpr e) : nExpr okSafe e = rsExpr (nExpr okAll e) := by
  cases e with
  | inline i =>
    rw [lsExpr] at h
    simp only [nExpr, rsExpr]
    rw [nInline_safe_eq i h]
  | select sel vs =>
    rw [lsExpr] at h
    simp only [nExpr, rsExpr]
    rw [nInline_safe_eq sel h.1, nVariants_safe_eq vs h.2]

theorem nVariants_safe_eq (vs : List (Variant Bytes)) (h : lsVariants vs) :
    nVariants okSafe vs = rsVariants (nVariants okAll vs) := by
  cases vs with
  | nil => simp [nVariants, rsVariants]
  | cons v vs =>
    rw [lsVariants] at h
    simp only [nVariants, rsVariants]
    rw [nVariant_safe_eq v h.1, nVariants_safe_eq vs h.2]

theorem nVariant_safe_eq (v : Variant Bytes) (h : lsVariant v) : nVariant okSafe v = rsVariant (nVariant okAll v) := by
  cases v with
  | mk key value dflt =>
    rw [lsVariant] at h
    simp only [nVariant, rsVariant]
    rw [nPat_safe_eq value h]

theorem nPat_safe_eq (es : List (PatElem Bytes)) (h : lsPat es) : nPat okSafe es = rsPat (nPat okAll es) := by
  cases es with
  | nil => simp [nPat, rsPat]
  | cons e es =>
    rw [lsPat] at h
    rw [nPat, nPat, nPat_safe_eq es h.2]
    cases e with
    | text a =>
      rw [lsElem] at h
      simp only [nElem]
      exact joinHead_text_rs a h.1 _ (nPat_all_head es h.2)
    | placeable e =>
      rw [lsElem] at h
      simp only [nElem, joinHead, rsPat_placeable_cons]
      rw [nExpr_safe_eq e h.1]

end

def rsAttr (a : Attribute Bytes) : Attribute Bytes := ⟨a.id, rsPat a.value⟩

def rsEntry : Entry Bytes → Entry Bytes
  | .message m => .message ⟨m.id, m.value.map rsPat, m.attributes.map rsAttr, m.comment⟩
  | .term t => .term ⟨t.id, rsPat t.value, t.attributes.map rsAttr, t.comment⟩
  | e => e

def lsEntry : Entry Bytes → Prop
  | .message m => (∀ v, m.value = some v → lsPat v) ∧ ∀ a ∈ m.attributes, lsPat a.value
  | .term t => lsPat t.value ∧ ∀ a ∈ t.attributes, lsPat a.value
  | _ => True

/-- **line-split resource**: every text element of every pattern is non-empty, contains `\n` only as
its last byte and contains no `\r\n` — the shape in which the parser delivers text (it cuts text at
every line end and never keeps the `\r` of a CRLF). -/
def LineSplit (r : Resource Bytes) : Prop := ∀ e ∈ r, lsEntry e

theorem nAttrs_safe_eq (as : List (Attribute Bytes)) (h : ∀ a ∈ as, lsPat a.value) :
    as.map (nAttr okSafe) = (as.map (nAttr okAll)).map rsAttr := by
  induction as with
  | nil => rfl
  | cons a as ih =>
    simp only [List.map_cons, nAttr, rsAttr]
    rw [nPat_safe_eq a.value (h a (by simp)), ih (fun a ha => h a (by simp [ha]))]

theorem nEntry_safe_eq (e : Entry Bytes) (h : lsEntry e) : nEntry okSafe e = rsEntry (nEntry okAll e) := by
  cases e with
  | message m =>
    obtain ⟨id, value, attrs, comment⟩ := m
    simp only [lsEntry] at h
    simp only [nEntry, rsEntry, nAttrs_safe_eq attrs h.2]
    cases value with
    | none => rfl
    | some v => simp [nPat_safe_eq v (h.1 v rfl)]
  | term t =>
    obtain ⟨id, value, attrs, comment⟩ := t
    simp only [lsEntry] at h
    simp only [nEntry, rsEntry, nAttrs_safe_eq attrs h.2, nPat_safe_eq value h.1]
  | _ => rfl

theorem normSafe_eq_rs_norm (withJunk : Bool) (r : Resource Bytes) (h : LineSplit r) :
    normSafe withJunk r = (norm withJunk r).map rsEntry := by
  simp only [normSafe, norm, nRes, List.map_map]
  apply List.map_congr_left
  intro e he
  exact nEntry_safe_eq e (h e (List.mem_filter.mp he).1)

/-- **Corollary for parser-shaped trees.**  Two line-split resources that are equal under the
property's comparison `norm` serialise to the same bytes.  (This turns `fixpoint` into a corollary
of `roundtrip` once the parser is known to produce line-split trees.) -/
theorem serialize_congr_lineSplit (withJunk : Bool) (r₁ r₂ : Resource Bytes) (h₁ : LineSplit r₁) (h₂ : LineSplit r₂)
    (h : norm withJunk r₁ = norm withJunk r₂) : serialize withJunk r₁ = serialize withJunk r₂ := by
  rw [← serialize_normSafe withJunk r₁, ← serialize_normSafe withJunk r₂,
    normSafe_eq_rs_norm withJunk r₁ h₁, normSafe_eq_rs_norm withJunk r₂ h₂, h]

end FluentProofs.Ser

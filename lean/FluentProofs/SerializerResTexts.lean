import FluentProofs.SerializerTextsPattern
import FluentProofs.ParserLoops
/-!
# Serializer round trip: texts and classes of entries and resources (C04)

The class `rtEntry`, the text of an entry and of a resource (`entryText`, `resText`; with Junk kept verbatim `resTextJ`), the
entry as it is read back (`canonEntry`) with the same text and still in the class: definitions and facts about byte lists.
What may follow an entry in a source is said in the parser's terms (`BlockStop`, `AttrStopAt`, `EntryStop`, `EntryFollow`).  At
the end the decidable predicates on the first line of a Junk text that `JGood` of `SerializerJunkText` asks for
(`firstNonSpace`, `crOK`, `nonBlankStart`, `stopperText`).
-/
namespace FluentProofs.Ser
open FluentModel FluentModel.Syntax FluentModel.Syntax.Ser FluentProofs.Parser

def rtAttr (a : Attribute Bytes) : Bool := validIdent a.id && rtPattern a.value

/-- a comment line: no line feed inside (a lone `\r` is allowed) -/
def commentLineOK (l : Bytes) : Bool := l.all fun b => b != 10

/-- `TextWriter::newline` doubles a trailing `\r` of the line -/
def crDbl (l : Bytes) : Bytes := if endsCr l then [13] else []

def rtComment (c : List Bytes) : Bool := !c.isEmpty && c.all commentLineOK

theorem rtComment_iff {c : List Bytes} : rtComment c = true ↔ c ≠ [] ∧ ∀ l ∈ c, commentLineOK l = true := by
  simp only [rtComment, Bool.and_eq_true, Bool.not_eq_true', List.isEmpty_eq_false_iff, List.all_eq_true]

def rtOptComment : Option (List Bytes) → Bool
  | none => true
  | some c => rtComment c

def rtEntry : Entry Bytes → Bool
  | .message m =>
    validIdent m.id &&
      (match m.value with
       | some v => rtPattern v
       | none => !m.attributes.isEmpty) && m.attributes.all rtAttr && rtOptComment m.comment
  | .term t => validIdent t.id && rtPattern t.value && t.attributes.all rtAttr && rtOptComment t.comment
  | .comment c => rtComment c
  | .groupComment c => rtComment c
  | .resourceComment c => rtComment c
  | .junk _ => false

/-- text of a comment block with prefix `pre` (`#`, `##`, `###`) -/
def commentText (pre : Bytes) : List Bytes → Bytes
  | [] => []
  | l :: ls => pre ++ (if isBlankLine l then [] else 32 :: (l ++ crDbl l)) ++ 10 :: commentText pre ls

def attrText (a : Attribute Bytes) : Bytes := 10 :: (spacesL 4 ++ 46 :: (a.id ++ [32, 61] ++ patText 1 a.value))

def attrsText : List (Attribute Bytes) → Bytes
  | [] => []
  | a :: as => attrText a ++ attrsText as

def optCommentText : Option (List Bytes) → Bytes
  | none => []
  | some c => commentText [35] c

def optPatText : Option (List (PatElem Bytes)) → Bytes
  | none => []
  | some v => patText 0 v

/-- text of an entry; `b` = a non-junk entry has been written before (`wrote_non_junk_entry`) -/
def entryText (b : Bool) : Entry Bytes → Bytes
  | .message m => optCommentText m.comment ++ m.id ++ [32, 61] ++ optPatText m.value ++ attrsText m.attributes ++ [10]
  | .term t => optCommentText t.comment ++ 45 :: (t.id ++ [32, 61] ++ patText 0 t.value ++ attrsText t.attributes ++ [10])
  | .comment c => (if b then [10] else []) ++ commentText [35] c ++ [10]
  | .groupComment c => (if b then [10] else []) ++ commentText [35, 35] c ++ [10]
  | .resourceComment c => (if b then [10] else []) ++ commentText [35, 35, 35] c ++ [10]
  | .junk _ => []

def resText : Bool → List (Entry Bytes) → Bytes
  | _, [] => []
  | b, e :: es => entryText b e ++ resText true es

theorem commentLine_ne {l : Bytes} (hb : isBlankLine l = false) : l ≠ [] := by
  intro h0; subst h0; simp [isBlankLine] at hb

theorem commentLine_head {l : Bytes} (hl : commentLineOK l = true) : l.head? ≠ some 10 := by
  intro h
  simp only [commentLineOK, List.all_eq_true] at hl
  have := hl 10 (List.mem_of_mem_head? h)
  simp at this

@[simp] theorem lit_hash : lit "#" = [35] := rfl
@[simp] theorem lit_hash2 : lit "##" = [35, 35] := rfl
@[simp] theorem lit_hash3 : lit "###" = [35, 35, 35] := rfl

/-- the line a comment line is read back as: whitespace-only lines come back empty -/
def canonLine (l : Bytes) : Bytes := if isBlankLine l then [] else l

theorem commentLineOK_mem {l : Bytes} (hl : commentLineOK l = true) : ∀ b ∈ l, b ≠ 10 := by
  intro b hb
  simp only [commentLineOK, List.all_eq_true] at hl
  simpa using hl b hb

def hashes (k : Nat) : Bytes := List.replicate k 35

/-- end of input, or a byte in column 0 that starts an entry: a letter, `-` or `#` -/
def EntryStart (s : Src) (q : Nat) : Prop :=
  s.size ≤ q ∨ ∃ b, s[q]? = some b ∧ (isAlpha b = true ∨ b = 45 ∨ b = 35)

theorem entryStart_byte : ∀ b : UInt8, (isAlpha b = true ∨ b = 45 ∨ b = 35) →
    b ≠ 123 ∧ b ≠ 32 ∧ b ≠ 10 ∧ b ≠ 13 ∧ b ≠ 46 := by
  rintro b (hb | rfl | rfl)
  · have h := (isAlpha_iff b).mp hb
    exact ⟨ne_of_toNat_ne (by simp; omega), ne_of_toNat_ne (by simp; omega), ne_of_toNat_ne (by simp; omega),
      ne_of_toNat_ne (by simp; omega), ne_of_toNat_ne (by simp; omega)⟩
  · decide
  · decide

/-- a line that is not blank: `skip_blank_block` stops in front of it -/
def BlockStop (s : Src) (E : Nat) : Prop := ∀ n c, skipBlankBlockGo s (n + 1) E c = (E, c)

def attrLine (a : Attribute Bytes) : Bytes := spacesL 4 ++ 46 :: (a.id ++ [32, 61] ++ patText 1 a.value ++ [10])

def attrLines : List (Attribute Bytes) → Bytes
  | [] => []
  | a :: as => attrLine a ++ attrLines as

theorem attrsText_shift (as : List (Attribute Bytes)) : attrsText as ++ [10] = 10 :: attrLines as := by
  induction as with
  | nil => rfl
  | cons a as ih =>
    simp only [attrsText, attrText, attrLines, attrLine, List.cons_append, List.append_assoc]
    rw [ih]
    simp

/-- `get_attributes` finds no attribute at `P` -/
def AttrStopAt (s : Src) (P : Nat) : Prop :=
  ∀ fuel, 8 * s.size + 16 ≤ fuel → ∀ n acc, getAttributesGo s fuel (n + 1) acc P = .ok acc P

/-- a position at which a message or term ends: `get_pattern` stops there (`Stopper`, so the line is not blank) and
`get_attributes` finds no (further) attribute.  The end of input and a letter, `-` or `#` in column 0 are of this kind
(`EntryStart.entryStop`); so is the first line of a Junk entry that follows a message or term. -/
structure EntryStop (s : Src) (E : Nat) : Prop where
  stopper : Stopper s E
  attrs : AttrStopAt s E

/-- after an entry: empty lines, then the end of input, the start of the next entry, or a Junk line (`EntryStop`) -/
def EntryFollow (s : Src) (P E : Nat) : Prop :=
  P ≤ E ∧ (∀ j, P ≤ j → j < E → s[j]? = some 10) ∧ EntryStop s E

theorem attrLines_length (as : List (Attribute Bytes)) : as.length ≤ (attrLines as).length := by
  induction as with
  | nil => simp [attrLines]
  | cons a as ih => simp only [attrLines, attrLine, List.length_append, List.length_cons]; omega

def msgBody (id : Bytes) (value : Option (List (PatElem Bytes))) (attrs : List (Attribute Bytes)) : Bytes :=
  id ++ [32, 61] ++ (optPatText value ++ 10 :: attrLines attrs)

def canonComment (c : List Bytes) : List Bytes := c.map canonLine

/-- the entry as it is read back: whitespace-only comment lines come back empty -/
def canonEntry : Entry Bytes → Entry Bytes
  | .message m => .message { m with comment := m.comment.map canonComment }
  | .term t => .term { t with comment := t.comment.map canonComment }
  | .comment c => .comment (canonComment c)
  | .groupComment c => .groupComment (canonComment c)
  | .resourceComment c => .resourceComment (canonComment c)
  | .junk c => .junk c

/-- the stand-alone comment of level `k` (`#`, `##`, `###`) -/
def commentCtor {α : Type} (k : Nat) (c : List α) : Entry α :=
  if k = 1 then .comment c else if k = 2 then .groupComment c else .resourceComment c

theorem commentText_length (pre : Bytes) (c : List Bytes) : c.length ≤ (commentText pre c).length := by
  induction c with
  | nil => simp [commentText]
  | cons l ls ih => simp only [commentText, List.length_append, List.length_cons]; omega

theorem commentText_head35 (pre : Bytes) (c : List Bytes) (hp : pre.head? = some 35) (hne : c ≠ []) :
    (commentText pre c).head? = some 35 := by
  cases c with
  | nil => exact absurd rfl hne
  | cons l ls =>
    cases pre with
    | nil => simp at hp
    | cons x xs => simp at hp; subst hp; simp [commentText]

theorem commentText_head (k : Nat) (hk : 1 ≤ k) (c : List Bytes) (hne : c ≠ []) :
    (commentText (hashes k) c).head? = some 35 :=
  commentText_head35 _ c (by cases k with | zero => omega | succ k => simp [hashes, List.replicate]) hne

/-- the number of line feeds at the start of `entryText b e` (`entryText_start`); `leadRes`: of the text of a resource -/
def lead (b : Bool) : Entry Bytes → Nat
  | .comment _ => if b then 1 else 0
  | .groupComment _ => if b then 1 else 0
  | .resourceComment _ => if b then 1 else 0
  | _ => 0

def leadRes (b : Bool) : List (Entry Bytes) → Nat
  | [] => 0
  | e :: _ => lead b e

theorem entryText_message (b : Bool) (m : Message Bytes) :
    entryText b (.message m) = optCommentText m.comment ++ msgBody m.id m.value m.attributes := by
  simp only [entryText, msgBody, List.append_assoc]
  rw [attrsText_shift]

theorem entryText_term (b : Bool) (t : Term Bytes) :
    entryText b (.term t) = optCommentText t.comment ++ 45 :: msgBody t.id (some t.value) t.attributes := by
  simp only [entryText, msgBody, optPatText, List.append_assoc, List.cons_append]
  rw [attrsText_shift]

theorem entryText_start (b : Bool) (e : Entry Bytes) (he : rtEntry e = true) :
    ∃ c rest, entryText b e = List.replicate (lead b e) 10 ++ c :: rest ∧ (isAlpha c = true ∨ c = 45 ∨ c = 35) := by
  have hcom : ∀ (pre : Bytes) (c : List Bytes), pre.head? = some 35 → rtComment c = true →
      ∃ rest, commentText pre c = 35 :: rest := fun pre c hpre hc =>
    List.head?_eq_some_iff.mp (commentText_head35 pre c hpre (rtComment_iff.mp hc).1)
  have hopt : ∀ (oc : Option (List Bytes)) (tl : Bytes) (c0 : UInt8) (tl' : Bytes), rtOptComment oc = true →
      tl = c0 :: tl' → (isAlpha c0 = true ∨ c0 = 45) →
      ∃ c rest, optCommentText oc ++ tl = c :: rest ∧ (isAlpha c = true ∨ c = 45 ∨ c = 35) := by
    intro oc tl c0 tl' hoc htl hc0
    cases oc with
    | none => exact ⟨c0, tl', by simp [optCommentText, htl], by rcases hc0 with h | h <;> simp [h]⟩
    | some c =>
      obtain ⟨rest, hr⟩ := hcom [35] c rfl hoc
      exact ⟨35, rest ++ tl, by simp [optCommentText, hr], Or.inr (Or.inr rfl)⟩
  cases e with
  | message m =>
    simp only [rtEntry, Bool.and_eq_true] at he
    obtain ⟨x, rest, hidb, hx, _⟩ := validIdent_head he.1.1.1
    rw [entryText_message]
    obtain ⟨c, r, h1, h2⟩ := hopt m.comment (msgBody m.id m.value m.attributes) x
      (rest ++ 32 :: 61 :: (optPatText m.value ++ 10 :: attrLines m.attributes)) he.2
      (by simp [msgBody, hidb]) (Or.inl hx)
    exact ⟨c, r, by simpa [lead] using h1, h2⟩
  | term t =>
    simp only [rtEntry, Bool.and_eq_true] at he
    rw [entryText_term]
    obtain ⟨c, r, h1, h2⟩ := hopt t.comment (45 :: msgBody t.id (some t.value) t.attributes) 45 _ he.2 rfl (Or.inr rfl)
    exact ⟨c, r, by simpa [lead] using h1, h2⟩
  | comment c =>
    obtain ⟨rest, hr⟩ := hcom [35] c rfl he
    refine ⟨35, rest ++ [10], ?_, Or.inr (Or.inr rfl)⟩
    cases b <;> simp [entryText, lead, hr]
  | groupComment c =>
    obtain ⟨rest, hr⟩ := hcom [35, 35] c rfl he
    refine ⟨35, rest ++ [10], ?_, Or.inr (Or.inr rfl)⟩
    cases b <;> simp [entryText, lead, hr]
  | resourceComment c =>
    obtain ⟨rest, hr⟩ := hcom [35, 35, 35] c rfl he
    refine ⟨35, rest ++ [10], ?_, Or.inr (Or.inr rfl)⟩
    cases b <;> simp [entryText, lead, hr]
  | junk c => simp [rtEntry] at he

theorem commentText_last (pre : Bytes) (c : List Bytes) (hne : c ≠ []) : (commentText pre c).getLast? = some 10 := by
  induction c with
  | nil => exact absurd rfl hne
  | cons l ls ih =>
    cases ls with
    | nil => simp [commentText, List.getLast?_append]
    | cons l2 ls2 =>
      have := ih (by simp)
      rw [commentText, List.getLast?_append]
      have h2 : (10 :: commentText pre (l2 :: ls2)).getLast? = some 10 := by
        cases hct : commentText pre (l2 :: ls2) with
        | nil => rfl
        | cons y ys => rw [List.getLast?_cons_cons, ← hct]; exact this
      rw [h2]; rfl

theorem commentText_len2 (k : Nat) (hk : 1 ≤ k) (c : List Bytes) (hne : c ≠ []) : 2 ≤ (commentText (hashes k) c).length := by
  cases c with
  | nil => exact absurd rfl hne
  | cons l ls => simp [commentText, hashes]; omega

/-- message or term; the two are treated alike through `commentOf` and `bodyText` -/
def isMT : Entry Bytes → Bool
  | .message _ => true
  | .term _ => true
  | _ => false

def commentOf : Entry Bytes → Option (List Bytes)
  | .message m => m.comment
  | .term t => t.comment
  | _ => none

def bodyText : Entry Bytes → Bytes
  | .message m => msgBody m.id m.value m.attributes
  | .term t => 45 :: msgBody t.id (some t.value) t.attributes
  | _ => []

theorem entryText_mt (b : Bool) (e : Entry Bytes) (h : isMT e = true) :
    entryText b e = optCommentText (commentOf e) ++ bodyText e := by
  cases e with
  | message m => exact entryText_message b m
  | term t => exact entryText_term b t
  | _ => cases h

theorem canonEntry_mt (e : Entry Bytes) (h : isMT e = true) :
    canonEntry e = withComment ((commentOf e).map canonComment) e := by
  cases e with
  | message m => rfl
  | term t => rfl
  | _ => cases h

theorem bodyText_len (e : Entry Bytes) (h : isMT e = true) : 2 ≤ (bodyText e).length := by
  cases e with
  | message m => simp [bodyText, msgBody]; omega
  | term t => simp [bodyText, msgBody]; omega
  | _ => cases h

theorem mapS_commentCtor (f : Span → Bytes) (k : Nat) (c : List Span) :
    (commentCtor k c).mapS f = commentCtor k (c.map f) := by
  unfold commentCtor
  split
  · rfl
  · split <;> rfl

theorem mapS_withComment (f : Span → Bytes) (c : List Span) (e : Entry Span) :
    (withComment (some c) e).mapS f = withComment (some (c.map f)) (e.mapS f) := by
  cases e <;> rfl

theorem hashes1 : hashes 1 = [35] := rfl
theorem hashes2 : hashes 2 = [35, 35] := rfl
theorem hashes3 : hashes 3 = [35, 35, 35] := rfl

theorem entryText_ne (b : Bool) (e : Entry Bytes) (he : rtEntry e = true) : 1 ≤ (entryText b e).length := by
  obtain ⟨c, rest, h, _⟩ := entryText_start b e he
  rw [h]; simp; omega

theorem entryText_free (b : Bool) (k : Nat) (hk : 1 ≤ k ∧ k ≤ 3) (c : List Bytes) :
    entryText b (commentCtor k c) = (if b then [10] else []) ++ (commentText (hashes k) c ++ [10]) ∧
      lead b (commentCtor k c) = (if b then 1 else 0) ∧ rtEntry (commentCtor k c) = rtComment c ∧
      canonEntry (commentCtor k c) = commentCtor k (canonComment c) := by
  obtain ⟨h1, h3⟩ := hk
  rcases (by omega : k = 1 ∨ k = 2 ∨ k = 3) with rfl | rfl | rfl <;>
    exact ⟨by simp [commentCtor, entryText, hashes, List.replicate], rfl, rfl, rfl⟩

theorem isJunk_canon (e : Entry Bytes) : isJunk (canonEntry e) = isJunk e := by cases e <;> rfl

theorem commentText_canon (pre : Bytes) (c : List Bytes) : commentText pre (canonComment c) = commentText pre c := by
  induction c with
  | nil => rfl
  | cons l ls ih =>
    simp only [canonComment, List.map_cons, commentText] at ih ⊢
    rw [ih]
    cases h : isBlankLine l
    · have : canonLine l = l := by simp [canonLine, h]
      rw [this, h]
    · have : canonLine l = [] := by simp [canonLine, h]
      rw [this]
      simp [isBlankLine_nil]

theorem entryText_canon (b : Bool) (e : Entry Bytes) : entryText b (canonEntry e) = entryText b e := by
  cases e with
  | message m => cases hc : m.comment <;> simp [canonEntry, entryText, hc, optCommentText, commentText_canon]
  | term t => cases hc : t.comment <;> simp [canonEntry, entryText, hc, optCommentText, commentText_canon]
  | comment c => simp [canonEntry, entryText, commentText_canon]
  | groupComment c => simp [canonEntry, entryText, commentText_canon]
  | resourceComment c => simp [canonEntry, entryText, commentText_canon]
  | junk c => rfl

theorem rtComment_canon (c : List Bytes) (h : rtComment c = true) : rtComment (canonComment c) = true := by
  rw [rtComment_iff] at h ⊢
  refine ⟨by simpa [canonComment] using h.1, ?_⟩
  intro l hl
  simp only [canonComment, List.mem_map] at hl
  obtain ⟨l', hl', rfl⟩ := hl
  unfold canonLine
  split
  · rfl
  · exact h.2 l' hl'

theorem rtEntry_canon (e : Entry Bytes) (h : rtEntry e = true) : rtEntry (canonEntry e) = true := by
  cases e with
  | message m =>
    simp only [rtEntry, canonEntry, Bool.and_eq_true] at h ⊢
    refine ⟨h.1, ?_⟩
    cases hc : m.comment with
    | none => simp [rtOptComment]
    | some c => rw [hc] at h; exact rtComment_canon c h.2
  | term t =>
    simp only [rtEntry, canonEntry, Bool.and_eq_true] at h ⊢
    refine ⟨h.1, ?_⟩
    cases hc : t.comment with
    | none => simp [rtOptComment]
    | some c => rw [hc] at h; exact rtComment_canon c h.2
  | comment c => exact rtComment_canon c h
  | groupComment c => exact rtComment_canon c h
  | resourceComment c => exact rtComment_canon c h
  | junk c => simp [rtEntry] at h

def entryTextJ (b : Bool) : Entry Bytes → Bytes
  | .junk c => c
  | e => entryText b e

/-- the text of a resource with Junk; `b` = `wrote_non_junk_entry` -/
def resTextJ : Bool → List (Entry Bytes) → Bytes
  | _, [] => []
  | b, e :: es => entryTextJ b e ++ resTextJ (!isJunk e) es

theorem eq_junk_of_isJunk {e : Entry Bytes} (h : isJunk e = true) : ∃ c, e = .junk c := by
  cases e <;> first | exact ⟨_, rfl⟩ | cases h

theorem resTextJ_junk (b : Bool) (c : Bytes) (es : List (Entry Bytes)) :
    resTextJ b (.junk c :: es) = c ++ resTextJ false es := rfl

theorem resTextJ_entry (b : Bool) (e : Entry Bytes) (es : List (Entry Bytes)) (he : rtEntry e = true) :
    resTextJ b (e :: es) = entryText b e ++ resTextJ true es := by
  cases e <;> first | rfl | (simp [rtEntry] at he)

theorem resTextJ_eq_resText (b : Bool) (es : List (Entry Bytes)) (h : ∀ e ∈ es, rtEntry e = true) :
    resTextJ b es = resText b es := by
  induction es generalizing b with
  | nil => rfl
  | cons e es ih =>
    rw [resTextJ_entry b e es (h e List.mem_cons_self), resText, ih true (fun x hx => h x (List.mem_cons_of_mem _ hx))]

/-- number of leading spaces and the first other byte -/
def firstNonSpace : Bytes → Option (Nat × UInt8)
  | [] => none
  | b :: rest => if b == 32 then (firstNonSpace rest).map (fun kb => (kb.1 + 1, kb.2)) else some (0, b)

/-- a `\r` at position `k` of `c` is not followed by `\n` in `c` (it is a lone `\r`, or `c` ends with it) -/
def crOK (c : Bytes) (k : Nat) (b : UInt8) : Bool := b != 13 || c[k + 1]? != some 10

/-- the first line is not blank: spaces, then a byte other than a space, `\n`, or the `\r` of a `\r\n` -/
def nonBlankStart (c : Bytes) : Bool :=
  match firstNonSpace c with
  | some (k, b) => b != 10 && crOK c k b
  | none => false

/-- a line on which `get_pattern` stops: a byte other than space, `\n`, the `\r` of a `\r\n`, `{` in column 0, or an
indented `.` `[` `*` `}` -/
def stopperText (c : Bytes) : Bool :=
  match firstNonSpace c with
  | some (0, b) => b != 10 && crOK c 0 b && b != 123
  | some (_ + 1, b) => b == 46 || b == 91 || b == 42 || b == 125
  | none => false

theorem entryText_last (b : Bool) (e : Entry Bytes) (he : rtEntry e = true) : (entryText b e).getLast? = some 10 := by
  cases e with
  | message m => simp only [entryText]; exact List.getLast?_concat
  | term t => simp only [entryText]; rw [← List.cons_append, ← List.append_assoc]; exact List.getLast?_concat
  | comment c => simp only [entryText]; exact List.getLast?_concat
  | groupComment c => simp only [entryText]; exact List.getLast?_concat
  | resourceComment c => simp only [entryText]; exact List.getLast?_concat
  | junk c => simp [rtEntry] at he

theorem leadRes_false (es : List (Entry Bytes)) : leadRes false es = 0 := by
  cases es with
  | nil => rfl
  | cons e es => cases e <;> rfl

theorem entryTextJ_canon (b : Bool) (e : Entry Bytes) : entryTextJ b (canonEntry e) = entryTextJ b e := by
  cases e with
  | junk c => rfl
  | message m => exact entryText_canon b (.message m)
  | term t => exact entryText_canon b (.term t)
  | comment c => exact entryText_canon b (.comment c)
  | groupComment c => exact entryText_canon b (.groupComment c)
  | resourceComment c => exact entryText_canon b (.resourceComment c)

theorem resTextJ_canon (b : Bool) (es : List (Entry Bytes)) : resTextJ b (es.map canonEntry) = resTextJ b es := by
  induction es generalizing b with
  | nil => rfl
  | cons e es ih => simp only [List.map_cons, resTextJ, entryTextJ_canon, isJunk_canon, ih]

theorem isMT_canon (e : Entry Bytes) : isMT (canonEntry e) = isMT e := by cases e <;> rfl
end FluentProofs.Ser

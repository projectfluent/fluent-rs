import FluentProofs.ParserLocalSimEntry
/-!
# Locality of the parser, SIMULATION family, part 5: two sources that hold the same bytes at different offsets

`s₁` holds some bytes `C` (a run of Junk texts, `|C| = L`) at offset `a₁`, `s₂` holds the same bytes at offset `a₂`;
behind them both sources end, or both have a `#` or an entry head at a line start.  Then a failing `get_entry` at the
start of `C` fails in both, with junk recovery ending at the same relative position (`junk_transfer`), and a failing
`get_attribute` inside `C` fails in both (`attr_transfer`).  Proof: cut both sources at the offset (`suffix`, the shift
lemmas), then the two suffixes are equal (end of input) or related by `Sim`.
-/
namespace FluentProofs.Parser
open FluentModel.Syntax

/-- the source from position `a` on -/
def suffix (s : Src) (a : Nat) : Src := s.extract a s.size

theorem suffix_get (s : Src) (a i : Nat) : (suffix s a)[i]? = s[a + i]? := by
  unfold suffix
  rw [Array.getElem?_extract]
  split
  · rfl
  · rename_i hlt
    have : s.size ≤ a + i := by omega
    simp only [Array.getElem?_eq_none_iff.mpr this]

theorem suffix_size (s : Src) (a : Nat) : (suffix s a).size = s.size - a := by
  unfold suffix; rw [Array.size_extract]; omega

theorem shift_suffix {s : Src} {a : Nat} (ha : a ≤ s.size) (hb : isBoundary s a = true) (hls : LS s a) :
    Shift a (suffix s a) s := by
  refine ⟨fun i => ?_, ?_, hb, ?_⟩
  · rw [suffix_get]; congr 1; omega
  · rw [suffix_size]; omega
  · rcases hls with h | h
    · exact Or.inl h
    · exact Or.inr h

theorem exprFuel_suffix (s : Src) (a : Nat) : exprFuel (suffix s a) ≤ exprFuel s := by
  unfold exprFuel; rw [suffix_size]; omega

theorem atb_suffix {s : Src} (hs : AsciiThenBoundary s) (a : Nat) : AsciiThenBoundary (suffix s a) := by
  intro i b hb hlt
  rw [suffix_get] at hb
  have := hs (a + i) b hb hlt
  unfold isBoundary at this ⊢
  rw [suffix_get, suffix_size]
  have hlt' := get_lt hb
  simp only [Bool.or_eq_true, beq_iff_eq] at this ⊢
  rcases this with (h0 | h1) | h2
  · omega
  · left; right; omega
  · right
    rw [show a + (i + 1) = a + i + 1 by omega]
    exact h2

theorem bar_suffix {s : Src} {a L E : Nat} (hb : Bar s (a + L) E) (hL : 0 < L) : Bar (suffix s a) L (E - a) := by
  have hlt := hb.lt
  refine ⟨Or.inr ?_, by omega, ?_, ?_, ?_⟩
  · rw [suffix_get, show a + (L - 1) = a + L - 1 by omega]
    exact hb.nl (p := a) (by omega)
  · rw [suffix_get]; exact hb.real
  · intro i h1 h2
    rw [suffix_get]
    exact hb.head (a + i) (by omega) (by omega)
  · rw [suffix_get, show a + (E - a) = E by omega]; exact hb.eq

theorem tailB_suffix {s : Src} {a L : Nat} (ht : TailB s (a + L)) (hL : 0 < L) : TailB (suffix s a) L := by
  rcases ht with h | ⟨E, hb⟩
  · left; rw [suffix_get]; exact h
  · right; exact ⟨E - a, bar_suffix hb hL⟩

section
variable {s₁ s₂ : Src} {a₁ a₂ L : Nat}

/-- `s₂` holds at `a₂` the `L` bytes that `s₁` holds at `a₁`; the byte behind them is the same, too (`agree` includes
`i = L`), and there both sources end, or both have a `#` / entry head at a line start -/
structure Copy (s₁ s₂ : Src) (a₁ a₂ L : Nat) : Prop where
  agree : ∀ i, i ≤ L → s₂[a₂ + i]? = s₁[a₁ + i]?
  tail : s₁[a₁ + L]? = none ∨ (LS s₁ (a₁ + L) ∧ TailB s₁ (a₁ + L) ∧ TailB s₂ (a₂ + L))

theorem Copy.suffix_eq (h : Copy s₁ s₂ a₁ a₂ L) (heof : s₁[a₁ + L]? = none) : suffix s₂ a₂ = suffix s₁ a₁ := by
  have hsz₁ : s₁.size ≤ a₁ + L := by simpa using heof
  have hsz₂ : s₂.size ≤ a₂ + L := by
    have := h.agree L (Nat.le_refl _)
    rw [heof] at this
    simpa using this
  apply Array.ext_getElem?
  intro i
  rw [suffix_get, suffix_get]
  by_cases hi : i ≤ L
  · exact h.agree i hi
  · have h1 : s₁[a₁ + i]? = none := by simp; omega
    have h2 : s₂[a₂ + i]? = none := by simp; omega
    rw [h1, h2]

theorem Copy.sim (h : Copy s₁ s₂ a₁ a₂ L) (hL : 0 < L) (hne : s₁[a₁ + L]? ≠ none) : Sim L (suffix s₁ a₁) (suffix s₂ a₂) := by
  obtain ⟨hls, ht₁, ht₂⟩ := h.tail.resolve_left hne
  refine ⟨fun i hi => ?_, hL, ?_, tailB_suffix ht₁ hL, tailB_suffix ht₂ hL⟩
  · rw [suffix_get, suffix_get]; exact h.agree i hi
  · rw [suffix_get, show a₁ + (L - 1) = a₁ + L - 1 by omega]
    exact hls.resolve_left (by omega)

theorem getEntry_err_suffix {s : Src} (hs : AsciiThenBoundary s) {a : Nat} (ha : a < s.size) (hb : isBoundary s a = true)
    (hls : LS s a) {e : PErr} {q : Nat} (hr : getEntry s (exprFuel s) a = .err e q) :
    ∃ e₀ q₀, getEntry (suffix s a) (exprFuel (suffix s a)) 0 = .err e₀ q₀ ∧ q = q₀ + a := by
  have hsh := shift_suffix (Nat.le_of_lt ha) hb hls
  have hfin := getEntry_fin (atb_suffix hs a) (Nat.le_refl _) (p := 0) (by rw [suffix_size]; omega)
  have := getEntry_shift hsh rfl hfin.ne_fuel (exprFuel_suffix s a)
  rw [Nat.zero_add, hr] at this
  rcases hfin with ⟨v, q₀, h0⟩ | ⟨e₀, q₀, h0⟩
  · rw [h0] at this; cases this
  · rw [h0] at this
    injection this with _ hq
    exact ⟨e₀, q₀, h0, hq⟩

theorem getEntry_err_of_suffix {s : Src} {a : Nat} (ha : a ≤ s.size) (hb : isBoundary s a = true) (hls : LS s a)
    {e₀ : PErr} {q₀ : Nat} (hr : getEntry (suffix s a) (exprFuel (suffix s a)) 0 = .err e₀ q₀) :
    ∃ e, getEntry s (exprFuel s) a = .err e (q₀ + a) := by
  have hsh := shift_suffix ha hb hls
  have := getEntry_shift hsh hr (by nofun) (exprFuel_suffix s a)
  rw [Nat.zero_add] at this
  exact ⟨_, this⟩

/-- **Junk transfer.**  `s₁` has the bytes `C` (`|C| = L`) at `a₁`, `s₂` has them at `a₂` (`Copy`); both offsets are
line starts and char boundaries.  If `get_entry` fails at `a₁` on `s₁` and junk recovery ends at `a₁ + k`, then
`get_entry` fails at `a₂` on `s₂` and junk recovery ends at `a₂ + k`. -/
theorem junk_transfer (hs₁ : AsciiThenBoundary s₁) (hs₂ : AsciiThenBoundary s₂) (ha₁ : a₁ < s₁.size) (ha₂ : a₂ ≤ s₂.size)
    (hb₁ : isBoundary s₁ a₁ = true) (hb₂ : isBoundary s₂ a₂ = true) (hls₁ : LS s₁ a₁) (hls₂ : LS s₂ a₂)
    (hc : Copy s₁ s₂ a₁ a₂ L) (hL : 0 < L) {e : PErr} {q k : Nat} (hr : getEntry s₁ (exprFuel s₁) a₁ = .err e q)
    (hk : skipToNextEntryStart s₁ a₁ q = some (a₁ + k)) :
    ∃ e' q', getEntry s₂ (exprFuel s₂) a₂ = .err e' q' ∧ skipToNextEntryStart s₂ a₂ q' = some (a₂ + k) := by
  obtain ⟨e₀, q₀, hr₀, rfl⟩ := getEntry_err_suffix hs₁ ha₁ hb₁ hls₁ hr
  have hsh₁ := shift_suffix (Nat.le_of_lt ha₁) hb₁ hls₁
  have hsh₂ := shift_suffix ha₂ hb₂ hls₂
  have hk₀ : skipToNextEntryStart (suffix s₁ a₁) 0 q₀ = some k := by
    have := skipToNextEntryStart_shift hsh₁ 0 q₀
    rw [Nat.zero_add, hk] at this
    cases hx : skipToNextEntryStart (suffix s₁ a₁) 0 q₀ with
    | none => rw [hx] at this; cases this
    | some k' =>
      rw [hx] at this
      simp only [Option.map_some, Option.some.injEq] at this
      congr 1; omega
  -- the same two facts for the suffix of `s₂`
  have key : ∃ e₂ q₂, getEntry (suffix s₂ a₂) (exprFuel (suffix s₂ a₂)) 0 = .err e₂ q₂ ∧
      skipToNextEntryStart (suffix s₂ a₂) 0 q₂ = some k := by
    by_cases heof : s₁[a₁ + L]? = none
    · rw [hc.suffix_eq heof]
      exact ⟨e₀, q₀, hr₀, hk₀⟩
    · obtain ⟨_, e', q', h1, h2⟩ := junk_sim (hc.sim hL heof) (atb_suffix hs₁ a₁) (atb_suffix hs₂ a₂) hL hr₀ hk₀
      exact ⟨e', q', h1, h2⟩
  obtain ⟨e₂, q₂, h1, h2⟩ := key
  obtain ⟨e', he'⟩ := getEntry_err_of_suffix ha₂ hb₂ hls₂ h1
  refine ⟨e', q₂ + a₂, he', ?_⟩
  have := skipToNextEntryStart_shift hsh₂ 0 q₂
  rw [Nat.zero_add, h2] at this
  rw [this]
  simp only [Option.map_some, Option.some.injEq]
  omega

/-- **Attribute transfer.**  Same setting; a failing `get_attribute` started inside `C` (at relative position `j < L`;
anywhere, if the input ends behind `C`) fails on `s₂`, too. -/
theorem attr_transfer (hs₁ : AsciiThenBoundary s₁) (hs₂ : AsciiThenBoundary s₂) (ha₁ : a₁ ≤ s₁.size) (ha₂ : a₂ ≤ s₂.size)
    (hb₁ : isBoundary s₁ a₁ = true) (hb₂ : isBoundary s₂ a₂ = true) (hls₁ : LS s₁ a₁) (hls₂ : LS s₂ a₂)
    (hc : Copy s₁ s₂ a₁ a₂ L) {j : Nat} (hj : s₁[a₁ + L]? ≠ none → j < L) (hjs : a₁ + j ≤ s₁.size) {e : PErr} {q : Nat} (hr : getAttribute s₁ (exprFuel s₁) (a₁ + j) = .err e q) :
    ∃ e' q', getAttribute s₂ (exprFuel s₂) (a₂ + j) = .err e' q' := by
  have hsh₁ := shift_suffix ha₁ hb₁ hls₁
  have hsh₂ := shift_suffix ha₂ hb₂ hls₂
  have hfin := getAttribute_fin (atb_suffix hs₁ a₁) (Nat.le_refl _) (p := j) (by rw [suffix_size]; omega)
  have hup := getAttribute_shift hsh₁ rfl hfin.ne_fuel (exprFuel_suffix s₁ a₁)
  rw [Nat.add_comm j a₁, hr] at hup
  have hr₀ : ∃ e₀ q₀, getAttribute (suffix s₁ a₁) (exprFuel (suffix s₁ a₁)) j = .err e₀ q₀ := by
    rcases hfin with ⟨v, q₀, h0⟩ | ⟨e₀, q₀, h0⟩
    · rw [h0] at hup; cases hup
    · exact ⟨e₀, q₀, h0⟩
  obtain ⟨e₀, q₀, hr₀⟩ := hr₀
  have key : ∃ e₂ q₂, getAttribute (suffix s₂ a₂) (exprFuel (suffix s₂ a₂)) j = .err e₂ q₂ := by
    by_cases heof : s₁[a₁ + L]? = none
    · rw [hc.suffix_eq heof]
      exact ⟨e₀, q₀, hr₀⟩
    · have hj := hj heof
      exact attr_sim (hc.sim (by omega) heof) (atb_suffix hs₂ a₂) hj hr₀
  obtain ⟨e₂, q₂, h2⟩ := key
  have := getAttribute_shift hsh₂ h2 (by nofun) (exprFuel_suffix s₂ a₂)
  rw [Nat.add_comm j a₂] at this
  exact ⟨_, _, this⟩

end

end FluentProofs.Parser

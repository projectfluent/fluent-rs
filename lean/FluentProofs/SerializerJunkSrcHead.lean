import FluentProofs.ParserLocalDefs
import FluentProofs.ParserRuntime
import FluentProofs.ParserLoopRun
/-!
# Serializer lemmas: what stands at the start of a successfully parsed entry (C04, Junk)

A successful `get_message` / `get_term` at a line start `p` means `p` holds an entry head (`Bar`: identifier, blanks,
`=`).  And: what the entry loop puts first when a comment is pending.
-/
namespace FluentProofs.Ser
open FluentModel FluentModel.Syntax FluentProofs.Parser

theorem isAlpha_ident_real (b : UInt8) (h : isAlpha b = true) : isIdentByte b = true ∧ isReal b = true := by
  simp only [isIdentByte, isReal, h, Bool.true_or, and_self]

theorem getIdentifier_ok_inv {s : Src} {p : Nat} {id : Span} {q : Nat} (h : getIdentifier s p = .ok id q) :
    (∃ b, s[p]? = some b ∧ isAlpha b = true) ∧ id = ⟨p, q⟩ ∧ p < q ∧ q ≤ s.size ∧
      ∀ j, p + 1 ≤ j → j < q → ∃ b, s[j]? = some b ∧ isIdentByte b = true := by
  unfold getIdentifier at h
  split at h
  · cases h
  · rename_i hst
    have hst : isIdentifierStart s p = true := by simpa using hst
    unfold getIdentifierUnchecked at h
    simp only [usub, show (1 : Nat) ≤ p + 1 by omega, if_true, Nat.add_sub_cancel] at h
    split at h
    · rename_i sp hsl
      injection h with h1 h2
      subst h1
      have hq : scanWhile s isIdentByte (p + 1) = q := h2
      have hsp := slice_some_eq hsl
      have hsz : scanWhile s isIdentByte (p + 1) ≤ s.size := by
        unfold slice at hsl
        split at hsl
        · rename_i hc; exact hc.2.1
        · cases hsl
      have hge := scanWhile_le s isIdentByte (p + 1)
      refine ⟨(isIdentifierStart_iff s p).mp hst, by rw [hsp, hq], by omega, by omega, ?_⟩
      intro j h1 h2
      rw [← hq] at h2
      exact scanWhile_bytes s isIdentByte (p + 1) h1 h2
    · cases h

theorem ident_eq_head {s : Src} {a : Nat} {id : Span} {q : Nat} (h1 : getIdentifier s a = .ok id q) {u : Unit} {q2 : Nat}
    (h2 : expectByte s (skipBlankInline s q) 61 = .ok u q2) :
    a < skipBlankInline s q ∧ s[skipBlankInline s q]? = some 61 ∧
      (∃ b, s[a]? = some b ∧ isAlpha b = true) ∧
      ∀ i, a ≤ i → i < skipBlankInline s q → ∃ b, s[i]? = some b ∧ (isIdentByte b = true ∨ b = 32) := by
  obtain ⟨hb, _, hlt, _, hby⟩ := getIdentifier_ok_inv h1
  have hge : q ≤ skipBlankInline s q := by
    rcases skipBlankInline_after s q with h | ⟨h, _⟩ <;> omega
  refine ⟨by omega, (expectByte_ok h2).2, hb, ?_⟩
  intro i hi1 hi2
  by_cases hia : i = a
  · obtain ⟨b, hb1, hb2⟩ := hb
    exact ⟨b, hia ▸ hb1, Or.inl (isAlpha_ident_real b hb2).1⟩
  · by_cases hiq : i < q
    · obtain ⟨b, hb1, hb2⟩ := hby i (by omega) hiq
      exact ⟨b, hb1, Or.inl hb2⟩
    · exact ⟨32, skipBlankInline_spaces s q i (by omega) hi2, Or.inr rfl⟩

theorem getMessage_bar {s : Src} {F es p : Nat} {m : Message Span} {q : Nat} (h : getMessage s F es p = .ok m q)
    (hls : LS s p) : (∃ E, Bar s p E) ∧ m.id.start = p ∧ p < m.id.stop ∧ m.id.stop ≤ s.size ∧ m.comment = none := by
  have hcn := getMessage_comment_none s F es p m q h
  rw [getMessage_eq] at h
  obtain ⟨id, q1, h1, h⟩ := R.bind_eq_ok h
  obtain ⟨u, q2, h2, h⟩ := R.bind_eq_ok h
  obtain ⟨_, _, _, h⟩ := R.bind_eq_ok h
  obtain ⟨_, _, _, h⟩ := R.bind_eq_ok h
  obtain ⟨hlt, heq, ⟨b, hb1, hb2⟩, hhead⟩ := ident_eq_head h1 h2
  obtain ⟨_, hid, hpq, hsz, _⟩ := getIdentifier_ok_inv h1
  have hmid : m.id = id := by split at h <;> cases h; rfl
  refine ⟨⟨_, ⟨hls, hlt, ⟨b, hb1, (isAlpha_ident_real b hb2).2⟩, hhead, heq⟩⟩, ?_, ?_, ?_, hcn⟩ <;>
    rw [hmid, hid] <;> simp <;> omega

theorem getTerm_bar {s : Src} {F es p : Nat} {t : Term Span} {q : Nat} (h : getTerm s F es p = .ok t q)
    (hls : LS s p) : (∃ E, Bar s p E) ∧ s[p]? = some 45 ∧ t.comment = none := by
  have hcn := getTerm_comment_none s F es p t q h
  rw [getTerm_eq] at h
  obtain ⟨u0, p0, h0, h⟩ := R.bind_eq_ok h
  obtain ⟨rfl, h45⟩ := expectByte_ok h0
  obtain ⟨id, q1, h1, h⟩ := R.bind_eq_ok h
  obtain ⟨u, q2, h2, _⟩ := R.bind_eq_ok h
  obtain ⟨hlt, heq, _, hhead⟩ := ident_eq_head h1 h2
  refine ⟨⟨_, ⟨hls, by omega, ⟨45, h45, by decide⟩, ?_, heq⟩⟩, h45, hcn⟩
  intro i hi1 hi2
  by_cases hip : i = p
  · exact ⟨45, hip ▸ h45, Or.inl (by decide)⟩
  · exact hhead i (by omega) hi2

theorem parseLoop_done_next {s : Src} {F N : Nat} {lc : Option (List Span)} {cnt p : Nat} {l : List (Entry Span)}
    {errs : List PErr} (hp : p < s.size) (h : parseLoop s F (N + 1) [] [] lc cnt p = .done (l, errs)) :
    ∃ ab ae lc' cnt' p' l' errs', loopStep s F lc cnt p = .next ab ae lc' cnt' p' ∧
      parseLoop s F N [] [] lc' cnt' p' = .done (l', errs') ∧ l = ab ++ l' := by
  rw [parseLoop_eq_run] at h
  obtain ⟨ab, ae, lc', cnt', p', hst, h'⟩ := runLoop_done_next hp h
  rw [runLoop_acc_eq, ← parseLoop_eq_run] at h'
  obtain ⟨⟨l', errs'⟩, h'', heq⟩ := mapD_eq_done h'
  simp only [prep, List.nil_append, Prod.mk.injEq] at heq
  exact ⟨ab, ae, lc', cnt', p', l', errs', hst, h'', heq.1.symm⟩

theorem parseLoop_pending_head {s : Src} {F N : Nat} {c : List Span} {cnt p : Nat} {l : List (Entry Span)} {errs : List PErr}
    (h : parseLoop s F N [] [] (some c) cnt p = .done (l, errs)) :
    ∃ rest, l = .comment c :: rest ∨ (∃ m : Message Span, l = .message { m with comment := some c } :: rest) ∨
      (∃ t : Term Span, l = .term { t with comment := some c } :: rest) := by
  cases N with
  | zero => rw [parseLoop_zero] at h; cases h
  | succ N =>
    by_cases hp : p < s.size
    · obtain ⟨ab, _, _, _, _, l', _, hst, _, rfl⟩ := parseLoop_done_next hp h
      rcases loopStep_next hst with ⟨e, _, _, rfl, _⟩ | ⟨_, _, _, content, _, _, _, rfl, _⟩
      · cases e with
        | message m =>
          simp only [recorded]
          split
          · exact ⟨_, Or.inr (Or.inl ⟨m, rfl⟩)⟩
          · exact ⟨_, Or.inl rfl⟩
        | term t =>
          simp only [recorded]
          split
          · exact ⟨_, Or.inr (Or.inr ⟨t, rfl⟩)⟩
          · exact ⟨_, Or.inl rfl⟩
        | _ => exact ⟨_, Or.inl rfl⟩
      · exact ⟨_, Or.inl rfl⟩
    · rw [parseLoop_loopStep, if_neg hp] at h
      injection h with h
      exact ⟨[], Or.inl (congrArg Prod.fst h).symm⟩

end FluentProofs.Ser

import FluentProofs.Resolver
/-!
# Fuel sufficiency for the resolver model (C06)

The fuel of the model bounds the *depth* of the call chain (siblings get the same fuel).  The chain
is bounded because

* inside one pattern's AST the calls descend structurally (`depthElems`/`depthExpr`/`depthInline`
  count the model calls per AST level, list spines included);
* following a message/term reference (`track` → `writePattern` of another pattern of the bundle) can
  only happen below a placeable of a pattern, and entering a placeable increments the counter; the
  counter is monotone over the whole call (not only along the chain), at most
  `maxPlaceables + 1`, and once `dirty` is set `writeElems` returns at once.

Potential: `G S (R sc)` with `R sc` = number of counter increments still possible
(`0` when dirty, else `maxPlaceables + 1 - placeables`) and `G S r = r * (S + 1) + 3`, where `S`
bounds `depthPat` of every pattern reachable through `env.msg`/`env.term`.  `Tot env S n` says of each of the ten
functions that fuel `n` suffices when it is at least the function's depth plus the potential; `tot_all` proves it by
induction on `n`, taking what a call does to the counter from `inv_all` (`Resolver`).
-/
namespace FluentProofs.Resolver
open FluentModel FluentModel.Syntax FluentModel.Resolver
open FluentProofs.ResolverRefine FluentProofs.Bidi

/-! ## syntactic depth (number of nested model calls spent inside one pattern's AST) -/

mutual
def depthInline : Inline Bytes → Nat
  | .str _ => 1
  | .num _ => 1
  | .var _ => 1
  | .msg _ _ => 1
  | .term _ _ .none => 2
  | .term _ _ (some (p, n)) => 2 + max (depthInlines p) (depthNamed n)
  | .fn _ p n => 2 + max (depthInlines p) (depthNamed n)
  | .placeable e => 1 + depthExpr e
def depthInlines : List (Inline Bytes) → Nat
  | [] => 1
  | x :: xs => 1 + max (1 + depthInline x) (depthInlines xs)
def depthNamed : List (Bytes × Inline Bytes) → Nat
  | [] => 1
  | (_, x) :: xs => 1 + max (1 + depthInline x) (depthNamed xs)
def depthExpr : Expr Bytes → Nat
  | .inline e => 1 + depthInline e
  | .select s vs => 1 + max (1 + depthInline s) (depthVariants vs)
def depthVariants : List (Variant Bytes) → Nat
  | [] => 1
  | v :: vs => max (depthVariant v) (depthVariants vs)
def depthVariant : Variant Bytes → Nat
  | .mk _ val _ => 2 + depthElems val
def depthElems : List (PatElem Bytes) → Nat
  | [] => 1
  | e :: es => 1 + max (depthElem e) (depthElems es)
def depthElem : PatElem Bytes → Nat
  | .text _ => 0
  | .placeable e => depthExpr e
end

/-- depth of a pattern: `writePattern` + the element loop + the deepest placeable -/
def depthPat (p : Pattern Bytes) : Nat := 1 + depthElems p

def depthArgs : Option (List (Inline Bytes) × List (Bytes × Inline Bytes)) → Nat
  | .none => 1
  | some (p, n) => 1 + max (depthInlines p) (depthNamed n)

def G (S r : Nat) : Nat := r * (S + 1) + 3

theorem G_mono {S a b : Nat} (h : a ≤ b) : G S a ≤ G S b := by
  unfold G; exact Nat.add_le_add_right (Nat.mul_le_mul_right _ h) _
theorem G_succ (S r : Nat) : G S (r + 1) = G S r + S + 1 := by
  unfold G; rw [Nat.succ_mul]; omega
theorem G_ge (S r : Nat) : 3 ≤ G S r := by unfold G; omega

/-- counter increments still possible -/
def R (sc : Scope) : Nat := if sc.dirty then 0 else Generated.maxPlaceables + 1 - sc.placeables
/-- increments still possible after the next one -/
def P (sc : Scope) : Nat := Generated.maxPlaceables - sc.placeables

/-- fuel that suffices for `writeElems` -/
def EN (S : Nat) (els : List (PatElem Bytes)) (sc : Scope) : Nat :=
  if sc.dirty then 1 else depthElems els + G S (P sc)
/-- fuel that suffices for `writePattern` -/
def PN (S : Nat) (p : Pattern Bytes) (sc : Scope) : Nat :=
  if sc.dirty then 2 else 1 + depthElems p + G S (P sc)
/-- fuel that suffices for `track` of a pattern of depth ≤ `S` -/
def TN (S : Nat) (sc : Scope) : Nat :=
  if sc.dirty then 3 else 1 + S + G S (P sc)

theorem R_congr {a b : Scope} (h : Same a b) : R a = R b := by unfold R; rw [h.1, h.2.1]
theorem P_congr {a b : Scope} (h : Same a b) : P a = P b := by unfold P; rw [h.1]
theorem EN_congr {S : Nat} {els : List (PatElem Bytes)} {a b : Scope} (h : Same a b) : EN S els a = EN S els b := by
  unfold EN; rw [P_congr h, h.2.1]
theorem PN_congr {S : Nat} {p : Pattern Bytes} {a b : Scope} (h : Same a b) : PN S p a = PN S p b := by
  unfold PN; rw [P_congr h, h.2.1]

theorem Step.R_le {a b : Scope} (h : Step a b) : R b ≤ R a := by
  unfold R
  have := h.placeables
  have := h.dirty
  cases ha : a.dirty <;> cases hb : b.dirty <;> simp_all
  omega

theorem Step.P_le {a b : Scope} (h : Step a b) : P b ≤ P a := by
  unfold P; have := h.placeables; omega

theorem GR_clean {S : Nat} {sc : Scope} (hok : ScopeOk sc) (hd : sc.dirty = false) :
    G S (R sc) = G S (P sc) + S + 1 := by
  have : R sc = P sc + 1 := by
    unfold R P; rw [hd]
    rcases hok with h | ⟨_, h⟩
    · simp; omega
    · rw [hd] at h; cases h
  rw [this, G_succ]

theorem TN_le {S : Nat} {sc : Scope} (hok : ScopeOk sc) : TN S sc ≤ G S (R sc) := by
  unfold TN
  cases hd : sc.dirty
  · simp; rw [GR_clean hok hd]; omega
  · simp; exact G_ge _ _

theorem PN_le {S : Nat} (p : Pattern Bytes) (sc : Scope) : PN S p sc ≤ 1 + depthElems p + G S (R sc) := by
  unfold PN
  cases hd : sc.dirty
  · simp
    apply G_mono; unfold R P; rw [hd]; simp; omega
  · simp; have := G_ge S (R sc); omega

theorem depthVariants_mem {vs : List (Variant Bytes)} {k : VKey Bytes} {v : Pattern Bytes} {d : Bool}
    (h : Variant.mk k v d ∈ vs) : 2 + depthElems v ≤ depthVariants vs := by
  induction vs with
  | nil => cases h
  | cons x rest ih =>
    rw [depthVariants]
    rcases List.mem_cons.1 h with rfl | h
    · rw [depthVariant]; omega
    · have := ih h; omega

theorem depthInlines_cons (e : Inline Bytes) (es : List (Inline Bytes)) :
    1 + depthInline e + 1 ≤ depthInlines (e :: es) ∧ depthInlines es + 1 ≤ depthInlines (e :: es) := by
  rw [depthInlines]; omega

theorem depthNamed_cons (k : Bytes) (e : Inline Bytes) (es : List (Bytes × Inline Bytes)) :
    1 + depthInline e + 1 ≤ depthNamed ((k, e) :: es) ∧ depthNamed es + 1 ≤ depthNamed ((k, e) :: es) := by
  rw [depthNamed]; omega

theorem depthArgs_some (pos : List (Inline Bytes)) (named : List (Bytes × Inline Bytes)) :
    depthInlines pos + 1 ≤ depthArgs (some (pos, named)) ∧ depthNamed named + 1 ≤ depthArgs (some (pos, named)) := by
  rw [depthArgs]; omega

theorem depthExpr_select (sel : Inline Bytes) (vs : List (Variant Bytes)) :
    1 + depthInline sel + 1 ≤ depthExpr (.select sel vs) ∧ depthVariants vs + 1 ≤ depthExpr (.select sel vs) := by
  rw [depthExpr]; omega

theorem depthInline_fn (id : Bytes) (pos : List (Inline Bytes)) (named : List (Bytes × Inline Bytes)) :
    depthArgs (some (pos, named)) + 1 ≤ depthInline (.fn id pos named) := by
  rw [depthArgs, depthInline]; omega

theorem depthInline_term (id : Bytes) (attr : Option Bytes)
    (args : Option (List (Inline Bytes) × List (Bytes × Inline Bytes))) :
    depthArgs args + 1 ≤ depthInline (.term id attr args) := by
  cases args with
  | none => rw [depthArgs, depthInline]; omega
  | some pn =>
    obtain ⟨p, nm⟩ := pn
    rw [depthArgs, depthInline]; omega

theorem EN_tail {S n : Nat} {el : PatElem Bytes} {rest : List (PatElem Bytes)} {sc : Scope} (hd : ¬ sc.dirty = true)
    (hf : EN S (el :: rest) sc ≤ n + 1) : depthElems rest + G S (P sc) ≤ n := by
  unfold EN at hf
  rw [if_neg hd, depthElems] at hf
  omega

theorem EN_head {S n : Nat} {e : Expr Bytes} {rest : List (PatElem Bytes)} {sc : Scope} (hd : ¬ sc.dirty = true)
    (hf : EN S (.placeable e :: rest) sc ≤ n + 1) : depthExpr e + G S (P sc) ≤ n := by
  unfold EN at hf
  rw [if_neg hd, depthElems, depthElem] at hf
  omega

theorem EN_of {S n : Nat} {els : List (PatElem Bytes)} {a b : Scope} (h : depthElems els + G S (P a) ≤ n)
    (hP : P b ≤ P a) : EN S els b ≤ n := by
  have := G_mono (S := S) hP
  have := G_ge S (P a)
  unfold EN
  split <;> omega

theorem not_le_zero (S d r : Nat) : ¬ d + G S r ≤ 0 := by have := G_ge S r; omega

theorem pattern_fits {S n : Nat} {v : Pattern Bytes} {vs : List (Variant Bytes)} {sc : Scope}
    (hv : 2 + depthElems v ≤ depthVariants vs) (hf : depthVariants vs + G S (R sc) ≤ n + 1) : PN S v sc ≤ n := by
  have := PN_le (S := S) v sc
  omega

/-- a child of depth `d'` below a node of depth `d`, run after a step of the scope, fits into one unit of fuel less:
the potential `G S (R ·)` does not grow along a step -/
theorem fits {S d d' n : Nat} {a b : Scope} (h : Step a b) (hd : d' + 1 ≤ d) (hf : d + G S (R a) ≤ n + 1) :
    d' + G S (R b) ≤ n := by
  have := G_mono (S := S) h.R_le
  omega

structure Tot (env : Env) (S n : Nat) : Prop where
  writeElems : ∀ whole len els w sc, ScopeOk sc → EN S els sc ≤ n →
    writeElems env n whole len els w sc ≠ .fuel
  writePattern : ∀ p w sc, ScopeOk sc → PN S p sc ≤ n → writePattern env n p w sc ≠ .fuel
  track : ∀ p e w sc, ScopeOk sc → depthPat p ≤ S → TN S sc ≤ n → track env n p e w sc ≠ .fuel
  writeExpr : ∀ e w sc, ScopeOk sc → depthExpr e + G S (R sc) ≤ n → writeExpr env n e w sc ≠ .fuel
  writeDefault : ∀ vs w sc, ScopeOk sc → depthVariants vs + G S (R sc) ≤ n → writeDefault env n vs w sc ≠ .fuel
  writeInline : ∀ e w sc, ScopeOk sc → depthInline e + G S (R sc) ≤ n → writeInline env n e w sc ≠ .fuel
  resolveInline : ∀ e sc, ScopeOk sc → 1 + depthInline e + G S (R sc) ≤ n → resolveInline env n e sc ≠ .fuel
  getArguments : ∀ a sc, ScopeOk sc → depthArgs a + G S (R sc) ≤ n → getArguments env n a sc ≠ .fuel
  resolveList : ∀ es sc, ScopeOk sc → depthInlines es + G S (R sc) ≤ n → resolveList env n es sc ≠ .fuel
  resolveNamed : ∀ es sc, ScopeOk sc → depthNamed es + G S (R sc) ≤ n → resolveNamed env n es sc ≠ .fuel

theorem tot_zero (env : Env) (S : Nat) : Tot env S 0 := by
  have hE : ∀ {els sc}, ¬ EN S els sc ≤ 0 := by intro els sc; have := G_ge S (P sc); unfold EN; split <;> omega
  have hP : ∀ {p sc}, ¬ PN S p sc ≤ 0 := by intro p sc; unfold PN; split <;> omega
  have hT : ∀ {sc}, ¬ TN S sc ≤ 0 := by intro sc; unfold TN; split <;> omega
  exact ⟨fun _ _ _ _ _ _ h => absurd h hE, fun _ _ _ _ h => absurd h hP, fun _ _ _ _ _ _ h => absurd h hT,
    fun _ _ _ _ h => absurd h (not_le_zero _ _ _), fun _ _ _ _ h => absurd h (not_le_zero _ _ _),
    fun _ _ _ _ h => absurd h (not_le_zero _ _ _), fun _ _ _ h => absurd h (not_le_zero _ _ _),
    fun _ _ _ h => absurd h (not_le_zero _ _ _), fun _ _ _ h => absurd h (not_le_zero _ _ _),
    fun _ _ _ h => absurd h (not_le_zero _ _ _)⟩

theorem ok_ne_fuel {α : Type} {a : α} : (RR.ok a : RR α) ≠ .fuel := nofun
theorem panic_ne_fuel {α : Type} {m : String} : (RR.panic m : RR α) ≠ .fuel := nofun

section step
variable {env : Env} {S n : Nat} (hmax : Generated.maxPlaceables ≤ 254)
  (hS : ∀ p, Reach env p → depthPat p ≤ S) (IH : Tot env S n)
include IH

theorem writePattern_tot (p : Pattern Bytes) (w : Bytes) (sc : Scope) (hok : ScopeOk sc)
    (hf : PN S p sc ≤ n + 1) : writePattern env (n + 1) p w sc ≠ .fuel := by
  rw [writePattern_succ]
  refine IH.writeElems _ _ _ _ _ hok ?_
  unfold PN at hf; unfold EN
  split at hf <;> simp_all <;> omega

theorem writeDefault_tot (vs : List (Variant Bytes)) (w : Bytes) (sc : Scope) (hok : ScopeOk sc)
    (hf : depthVariants vs + G S (R sc) ≤ n + 1) : writeDefault env (n + 1) vs w sc ≠ .fuel := by
  rw [writeDefault_succ]
  split
  · rename_i v hv
    obtain ⟨k, hk⟩ := defaultVariant_mem hv
    exact IH.writePattern _ _ _ hok (pattern_fits (depthVariants_mem hk) hf)
  · exact ok_ne_fuel

theorem track_tot (p : Pattern Bytes) (e : Inline Bytes) (w : Bytes) (sc : Scope) (hok : ScopeOk sc)
    (hp : depthPat p ≤ S) (hf : TN S sc ≤ n + 1) : track env (n + 1) p e w sc ≠ .fuel := by
  rw [track_succ]
  split
  · exact ok_ne_fuel
  · have hsame : Same sc { sc with travelled := sc.travelled ++ [p] } := ⟨rfl, rfl, rfl⟩
    refine RR.bind_ne_fuel (IH.writePattern p w _ (ScopeOk.congr hsame hok) ?_) fun _ _ => ok_ne_fuel
    rw [← PN_congr hsame]
    unfold TN at hf; unfold PN; unfold depthPat at hp
    split at hf <;> simp_all <;> omega

theorem selectTail_tot (vs : List (Variant Bytes)) (w : Bytes) (sc : Scope) (s : Value)
    (hok : ScopeOk sc) (hf : depthVariants vs + G S (R sc) ≤ n) : selectTail env n vs w sc s ≠ .fuel := by
  rcases chosen_cases env vs s with h | ⟨_, v, _, hv, h⟩ | ⟨m, _, h, _⟩
  · rw [selectTail_none h]; exact IH.writeDefault _ _ _ hok hf
  · rw [selectTail_some h]
    exact IH.writePattern _ _ _ hok (pattern_fits (depthVariants_mem hv) (Nat.le_succ_of_le hf))
  · rw [selectTail_panic h]; exact panic_ne_fuel

include hmax in
theorem writeExpr_tot (e : Expr Bytes) (w : Bytes) (sc : Scope) (hok : ScopeOk sc)
    (hf : depthExpr e + G S (R sc) ≤ n + 1) : writeExpr env (n + 1) e w sc ≠ .fuel := by
  cases e with
  | inline e =>
    rw [writeExpr_inline]; exact IH.writeInline _ _ _ hok (fits (Step.refl sc) (Nat.le_of_eq (Nat.add_comm _ _)) hf)
  | select sel vs =>
    rw [writeExpr_select]
    refine RR.bind_ne_fuel (IH.resolveInline sel sc hok (fits (Step.refl sc) (depthExpr_select sel vs).1 hf))
      fun ⟨_, sc1⟩ hr => ?_
    have hst := ((inv_all hmax env n).resolveInline sel sc).step_of_ok hr
    exact selectTail_tot IH vs w sc1 _ (hst.ok hok) (fits hst (depthExpr_select sel vs).2 hf)

include hmax in
theorem getArguments_tot (a : Option (List (Inline Bytes) × List (Bytes × Inline Bytes))) (sc : Scope)
    (hok : ScopeOk sc) (hf : depthArgs a + G S (R sc) ≤ n + 1) : getArguments env (n + 1) a sc ≠ .fuel := by
  cases a with
  | none => rw [getArguments_none]; exact ok_ne_fuel
  | some pn =>
    obtain ⟨pos, named⟩ := pn
    rw [getArguments_some]
    refine RR.bind_ne_fuel (IH.resolveList pos sc hok (fits (Step.refl sc) (depthArgs_some pos named).1 hf))
      fun ⟨_, sc1⟩ hr => ?_
    have hst := ((inv_all hmax env n).resolveList pos sc).step_of_ok hr
    exact RR.bind_ne_fuel (IH.resolveNamed named sc1 (hst.ok hok) (fits hst (depthArgs_some pos named).2 hf))
      fun _ _ => ok_ne_fuel

include hmax in
theorem resolveList_tot (es : List (Inline Bytes)) (sc : Scope)
    (hok : ScopeOk sc) (hf : depthInlines es + G S (R sc) ≤ n + 1) : resolveList env (n + 1) es sc ≠ .fuel := by
  cases es with
  | nil => rw [resolveList_nil]; exact ok_ne_fuel
  | cons e es =>
    rw [resolveList_cons]
    refine RR.bind_ne_fuel (IH.resolveInline e sc hok (fits (Step.refl sc) (depthInlines_cons e es).1 hf))
      fun ⟨_, sc1⟩ hr => ?_
    have hst := ((inv_all hmax env n).resolveInline e sc).step_of_ok hr
    exact RR.bind_ne_fuel (IH.resolveList es sc1 (hst.ok hok) (fits hst (depthInlines_cons e es).2 hf))
      fun _ _ => ok_ne_fuel

include hmax in
theorem resolveNamed_tot (es : List (Bytes × Inline Bytes)) (sc : Scope)
    (hok : ScopeOk sc) (hf : depthNamed es + G S (R sc) ≤ n + 1) : resolveNamed env (n + 1) es sc ≠ .fuel := by
  cases es with
  | nil => rw [resolveNamed_nil]; exact ok_ne_fuel
  | cons ke es =>
    obtain ⟨k, e⟩ := ke
    rw [resolveNamed_cons]
    refine RR.bind_ne_fuel (IH.resolveInline e sc hok (fits (Step.refl sc) (depthNamed_cons k e es).1 hf))
      fun ⟨_, sc1⟩ hr => ?_
    have hst := ((inv_all hmax env n).resolveInline e sc).step_of_ok hr
    exact RR.bind_ne_fuel (IH.resolveNamed es sc1 (hst.ok hok) (fits hst (depthNamed_cons k e es).2 hf))
      fun _ _ => ok_ne_fuel

include hmax hS in
theorem writeInline_tot (e : Inline Bytes) (w : Bytes) (sc : Scope) (hok : ScopeOk sc)
    (hf : depthInline e + G S (R sc) ≤ n + 1) : writeInline env (n + 1) e w sc ≠ .fuel := by
  cases e with
  | str v => rw [writeInline_str]; exact ok_ne_fuel
  | num v => rw [writeInline_num]; exact ok_ne_fuel
  | var id =>
    rw [writeInline_var]
    cases sc.localArgs with
    | some l => dsimp only; cases l.get id <;> exact ok_ne_fuel
    | none => dsimp only; cases env.args.bind (·.get id) <;> exact ok_ne_fuel
  | placeable e =>
    rw [writeInline_placeable]
    exact IH.writeExpr _ _ _ hok (fits (Step.refl sc) (Nat.le_of_eq (Nat.add_comm _ _)) hf)
  | msg id attr =>
    rw [writeInline_msg]
    split
    · rename_i p hp
      -- a referenced pattern (depth ≤ `S`) fits wherever a reference does: `TN_le`
      exact IH.track _ _ _ _ hok (hS p (reach_msgTarget hp))
        (Nat.le_trans (TN_le hok) (by rw [depthInline] at hf; omega))
    · exact ok_ne_fuel
    · exact ok_ne_fuel
  | fn id pos named =>
    rw [writeInline_fn]
    refine RR.bind_ne_fuel (IH.getArguments _ sc hok (fits (Step.refl sc) (depthInline_fn id pos named) hf)) fun _ _ => ?_
    cases env.fn id <;> exact ok_ne_fuel
  | term id attr args =>
    have hfa := depthInline_term id attr args
    rw [writeInline_term]
    refine RR.bind_ne_fuel (IH.getArguments args sc hok (fits (Step.refl sc) hfa hf)) fun ⟨x, sc1⟩ hr => ?_
    have hst := ((inv_all hmax env n).getArguments args sc).step_of_ok hr
    have hsame : Same sc1 { sc1 with localArgs := some x.2 } := ⟨rfl, rfl, rfl⟩
    have hok2 := ScopeOk.congr hsame (hst.ok hok)
    refine RR.bind_ne_fuel ?_ fun _ _ => ok_ne_fuel
    split
    · rename_i p hp
      refine IH.track _ _ _ _ hok2 (hS p (reach_termTarget hp)) (Nat.le_trans (TN_le hok2) ?_)
      have := fits hst hfa hf
      rw [← R_congr hsame]; omega
    · exact ok_ne_fuel

theorem resolveInline_tot (e : Inline Bytes) (sc : Scope) (hok : ScopeOk sc)
    (hf : 1 + depthInline e + G S (R sc) ≤ n + 1) : resolveInline env (n + 1) e sc ≠ .fuel := by
  have viaWrite : viaWrite env n e sc ≠ .fuel :=
    RR.bind_ne_fuel (IH.writeInline e [] sc hok (fits (Step.refl sc) (Nat.le_of_eq (Nat.add_comm _ _)) hf))
      fun _ _ => ok_ne_fuel
  cases e with
  | str v => rw [resolveInline_str]; exact ok_ne_fuel
  | num v => rw [resolveInline_num]; exact ok_ne_fuel
  | var id =>
    rw [resolveInline_var]
    cases sc.localArgs with
    | some l => exact ok_ne_fuel
    | none => dsimp only; cases env.args.bind (·.get id) <;> exact ok_ne_fuel
  | fn id pos named =>
    rw [resolveInline_fn]
    refine RR.bind_ne_fuel (IH.getArguments _ sc hok
      (fits (Step.refl sc) (Nat.le_trans (depthInline_fn id pos named) (Nat.le_add_left _ 1)) hf)) fun _ _ => ?_
    cases env.fn id <;> exact ok_ne_fuel
  | msg id attr => rw [resolveInline_msg]; exact viaWrite
  | term id attr args => rw [resolveInline_term]; exact viaWrite
  | placeable e => rw [resolveInline_placeable]; exact viaWrite

include hmax in
theorem writeElems_tot (whole : Pattern Bytes) (len : Nat) (els : List (PatElem Bytes)) (w : Bytes) (sc : Scope)
    (hok : ScopeOk sc) (hf : EN S els sc ≤ n + 1) : writeElems env (n + 1) whole len els w sc ≠ .fuel := by
  cases els with
  | nil => rw [writeElems_nil]; exact ok_ne_fuel
  | cons el rest =>
    cases el with
    | text v =>
      rw [writeElems_text]
      by_cases hd : sc.dirty = true
      · rw [if_pos hd]; exact ok_ne_fuel
      · rw [if_neg hd]; exact IH.writeElems _ _ _ _ _ hok (EN_of (EN_tail hd hf) (Nat.le_refl _))
    | placeable e =>
      rw [writeElems_placeable]
      by_cases hd : sc.dirty = true
      · rw [if_pos hd]; exact ok_ne_fuel
      rw [if_neg hd]
      by_cases h255 : sc.placeables + 1 > 255
      · rw [if_pos h255]; exact panic_ne_fuel
      rw [if_neg h255]
      by_cases hl : sc.placeables + 1 > Generated.maxPlaceables
      · rw [if_pos hl]; exact ok_ne_fuel
      rw [if_neg hl]
      have hd' : sc.dirty = false := Bool.eq_false_iff.2 hd
      -- entering the placeable uses up one of the increments the potential pays for
      have hc := (Call.enter whole hd' (Nat.le_of_not_gt hl)).toStep
      have hR2 : R (trackScope whole sc) = P sc := by
        rw [trackScope_eq]; unfold R P; rw [hd']
        show Generated.maxPlaceables + 1 - (sc.placeables + 1) = _
        omega
      refine RR.bind_ne_fuel (IH.writeExpr e _ _ (hc.ok hok) (hR2 ▸ EN_head hd hf)) fun ⟨_, sc3⟩ hr => ?_
      have hst := ((inv_all hmax env n).writeExpr e _ _).step_of_ok hr
      exact IH.writeElems _ _ _ _ _ (hst.ok (hc.ok hok)) (EN_of (EN_tail hd hf) (Nat.le_trans hst.P_le hc.P_le))

end step

theorem tot_all (hmax : Generated.maxPlaceables ≤ 254) (env : Env) (S : Nat)
    (hS : ∀ p, Reach env p → depthPat p ≤ S) : ∀ n, Tot env S n := by
  intro n
  induction n with
  | zero => exact tot_zero env S
  | succ n IH =>
    exact ⟨writeElems_tot hmax IH, writePattern_tot IH, track_tot IH, writeExpr_tot hmax IH, writeDefault_tot IH,
      writeInline_tot hmax hS IH, resolveInline_tot IH, getArguments_tot hmax IH, resolveList_tot hmax IH,
      resolveNamed_tot hmax IH⟩

/-- explicit fuel bound: `(maxPlaceables + 1) * (S + 1) + 2` for bundles whose patterns have depth ≤ `S` -/
def fuelBound (S : Nat) : Nat := (Generated.maxPlaceables + 1) * (S + 1) + 2

theorem PN_init_le (S : Nat) (p : Pattern Bytes) (hp : depthPat p ≤ S) : PN S p ({} : Scope) ≤ fuelBound S := by
  unfold PN fuelBound P depthPat at *
  show 1 + depthElems p + G S (Generated.maxPlaceables - 0) ≤ _
  unfold G
  rw [Nat.sub_zero, Nat.succ_mul]; omega

theorem writePattern_init_ne_fuel (hmax : Generated.maxPlaceables ≤ 254) (env : Env) (S : Nat)
    (hS : ∀ p, Reach env p → depthPat p ≤ S) (fuel : Nat) (p : Pattern Bytes) (hp : depthPat p ≤ S)
    (hf : fuelBound S ≤ fuel) : writePattern env fuel p [] {} ≠ .fuel :=
  (tot_all hmax env S hS fuel).writePattern p [] {} scopeOk_init (Nat.le_trans (PN_init_le S p hp) hf)

end FluentProofs.Resolver

import FluentProofs.SerializerInline
import FluentProofs.SerializerTextsPattern
/-!
# Serializer round trip: the writer appends the text of elements, patterns and variants (C04, writer half)

What `write_literal` and `newline` append in a known state of the writer (`WS`, `WSc`), and from that what `serialize_element` and
`serialize_pattern` append: a single-line pattern as one literal (any writer), a class pattern at a level (with the `\r`
doubling), the variant list of a select one level deeper.
-/
namespace FluentProofs.Ser
open FluentModel FluentModel.Syntax FluentModel.Syntax.Ser FluentProofs.Parser

theorem serElement_inline_eq (i : Inline Bytes) (hv : validInner (.inline i) = true) (w : Writer) :
    serElement w (.placeable (.inline i)) = some (w.writeLiteral (elemBytes (.placeable (.inline i)))) := by
  rcases validInner_cases hv with ⟨j, hj, hvj⟩ | ⟨i', hi, hvi, hb, _, hs⟩
  · cases hj
    obtain ⟨e1, t2⟩ := serInline_eq_bytes j (validInner_inline hvj) (w.writeLiteral [123, 123, 32])
    simp only [serElement, serExpr, elemBytes, innerBytes, lit_dbl_lbrace, lit_dbl_rbrace]
    rw [e1, Option.map_some, join_tidy _ [123, 123, 32] _ (by decide), join_tidy _ _ _ (tidy_append _ _ t2)]
    simp
  · cases hi
    obtain ⟨e1, t2⟩ := serInline_eq_bytes i (validInner_inline hv) (w.writeLiteral [123, 32])
    rw [hs, hb, e1, Option.map_some, join_tidy _ [123, 32] _ (by decide), join_tidy _ _ _ (tidy_append _ _ t2)]
    simp

theorem serElement_eq (e : PatElem Bytes) (hv : validElem e = true) (w : Writer) (acc : Bytes) (ha : tidy acc = true) :
    serElement (w.writeLiteral acc) e = some (w.writeLiteral (acc ++ elemBytes e)) ∧
      tidy (acc ++ elemBytes e) = true := by
  cases e with
  | text v =>
    have hvv : validText v = true := by simpa [validElem] using hv
    simp only [serElement, elemBytes]
    exact ⟨by rw [join_tidy _ _ _ ha], tidy_append _ _ (validText_tidy hvv)⟩
  | placeable x =>
    have hvx : validInner x = true := by simpa [validElem] using hv
    cases x with
    | select sel vs => simp [validInner] at hvx
    | inline i =>
      obtain ⟨pre, hp⟩ := elemBytes_placeable_last _ hvx
      rw [serElement_inline_eq i hvx, join_tidy _ _ _ ha, hp, ← List.append_assoc]
      exact ⟨rfl, tidy_concat _ 125 (by decide) (by decide)⟩

theorem serElements_eq (es : List (PatElem Bytes)) (hv : ∀ e ∈ es, validElem e = true) (w : Writer) (acc : Bytes)
    (ha : tidy acc = true) :
    serElements (w.writeLiteral acc) es = some (w.writeLiteral (acc ++ patBytes es)) ∧
      tidy (acc ++ patBytes es) = true := by
  induction es generalizing acc with
  | nil => simp [serElements, patBytes, ha]
  | cons e es ih =>
    obtain ⟨e1, t1⟩ := serElement_eq e (hv e (List.mem_cons_self)) w acc ha
    obtain ⟨e2, t2⟩ := ih (fun x hx => hv x (List.mem_cons_of_mem _ hx)) _ t1
    simp only [serElements, e1, patBytes]
    rw [e2]
    exact ⟨by simp, by simpa using t2⟩

theorem serPattern_eq (es : List (PatElem Bytes)) (hv : ∀ e ∈ es, validElem e = true) (w : Writer) (acc : Bytes)
    (ha : tidy acc = true) :
    serPattern (w.writeLiteral acc) es = some (w.writeLiteral (acc ++ 32 :: patBytes es)) ∧
      tidy (acc ++ 32 :: patBytes es) = true := by
  have hml := isMultiline_valid es hv
  simp only [serPattern, patternPre, patternPost, startsOnNewLine, hml, Bool.and_false, Bool.false_eq_true, if_false,
    lit_sp]
  rw [join_tidy _ _ _ ha]
  obtain ⟨e1, t1⟩ := serElements_eq es hv w (acc ++ [32]) (tidy_append _ _ (by decide))
  rw [e1]
  exact ⟨by simp, by simpa using t1⟩

theorem wsc_writeLiteral {w : Writer} {L : Nat} {nl : Bool} (hw : WSc w L nl) (item : Bytes) (hne : item ≠ []) :
    (w.writeLiteral item).buffer = w.buffer ++ ((if nl then spacesL (4 * L) else []) ++
        (if endsWith w 13 && item.head? == some 10 then [13] else []) ++ item).toArray ∧
      WSc (w.writeLiteral item) L (endsNl item) ∧ endsWith (w.writeLiteral item) 13 = endsCr item := by
  obtain ⟨hL, h10w⟩ := hw
  have hbuf : (w.writeLiteral item).buffer = w.buffer ++ ((if nl then spacesL (4 * L) else []) ++
      (if endsWith w 13 && item.head? == some 10 then [13] else []) ++ item).toArray := by
    cases nl with
    | true =>
      have h13 : endsWith w 13 = false := by
        rw [endsWith_iff] at h10w
        simp [endsWith, h10w]
      rw [writeLiteral_after_newline w item h10w, hL, h13]
      apply Array.ext'
      simp [spaces_toList]
    | false =>
      rw [writeLiteral_mid_line w item h10w]
      apply Array.ext'
      simp only [Array.toList_append, Bool.false_eq_true, if_false, List.nil_append, List.append_assoc,
        List.append_cancel_left_eq]
      split <;> simp
  have hback : ∀ x, item.getLast? = some x → (w.writeLiteral item).buffer.back? = some x := by
    intro x hl
    rw [hbuf, Array.back?_append]
    have : ((if nl then spacesL (4 * L) else []) ++
        (if endsWith w 13 && item.head? == some 10 then [13] else []) ++ item).toArray.back? = some x := by
      rw [← Array.getLast?_toList]; simp [List.getLast?_append, hl]
    rw [this]; simp
  cases hl : item.getLast? with
  | none => simp at hl; exact absurd hl hne
  | some x =>
    refine ⟨hbuf, ⟨by simp [hL], ?_⟩, ?_⟩
    · simp [endsWith, hback x hl, endsNl, hl]
    · simp [endsWith, hback x hl, endsCr, hl]

theorem ws_writeLiteral {w : Writer} {L : Nat} {nl : Bool} (hw : WS w L nl) (item : Bytes) (hne : item ≠ [])
    (h13 : item.getLast? ≠ some 13) :
    (w.writeLiteral item).buffer = w.buffer ++ ((if nl then spacesL (4 * L) else []) ++ item).toArray ∧
      WS (w.writeLiteral item) L (endsNl item) := by
  obtain ⟨hb, hw1, hcr⟩ := wsc_writeLiteral hw.toC item hne
  rw [hw.2.1, Bool.false_and] at hb
  refine ⟨by simpa using hb, hw1.1, ?_, hw1.2⟩
  rw [hcr]; simpa [endsCr] using h13

theorem wsc_writeLiteral_plain {w : Writer} {L : Nat} {nl : Bool} (hw : WSc w L nl) (item : Bytes) (hne : item ≠ [])
    (hhead : item.head? ≠ some 10) (h13 : item.getLast? ≠ some 13) :
    (w.writeLiteral item).buffer = w.buffer ++ ((if nl then spacesL (4 * L) else []) ++ item).toArray ∧
      WS (w.writeLiteral item) L (endsNl item) := by
  obtain ⟨hb, hw1, hcr⟩ := wsc_writeLiteral hw item hne
  have hh : (item.head? == some 10) = false := by simpa using hhead
  rw [hh, Bool.and_false] at hb
  refine ⟨by simpa using hb, hw1.1, ?_, hw1.2⟩
  rw [hcr]; simpa [endsCr] using h13

theorem ws_writeTidy {w : Writer} {L : Nat} {nl : Bool} (hw : WS w L nl) (item : Bytes) (ht : tidy item = true) :
    (w.writeLiteral item).buffer = w.buffer ++ ((if nl then spacesL (4 * L) else []) ++ item).toArray ∧
      WS (w.writeLiteral item) L false := by
  obtain ⟨h1, h2, h3⟩ := tidy_ne_last ht
  have := ws_writeLiteral hw item h1 h2
  rwa [h3] at this

theorem wsc_writeTidy {w : Writer} {L : Nat} {nl : Bool} (hw : WSc w L nl) (item : Bytes) (ht : tidy item = true)
    (hh : item.head? ≠ some 10) :
    (w.writeLiteral item).buffer = w.buffer ++ ((if nl then spacesL (4 * L) else []) ++ item).toArray ∧
      WS (w.writeLiteral item) L false := by
  obtain ⟨h1, h2, h3⟩ := tidy_ne_last ht
  have := wsc_writeLiteral_plain hw item h1 hh h2
  rwa [h3] at this

/-- the serializer on the elements of a class pattern, behind a text `prev` (whose last byte is what the writer ends
with, as far as `\r` is concerned) -/
theorem serElements_ml_g (L : Nat) (es : List (PatElem Bytes)) :
    ∀ (hpl : ∀ x, PatElem.placeable x ∈ es → PlRT L x) (nl : Bool) (w : Writer) (prev : Bytes), mlElems nl es = true →
      mlLastOK es = true → WSc w L nl → endsWith w 13 = endsCr prev → (endsCr prev = true → es ≠ []) →
      ∃ w', serElements w es = some w' ∧ w'.buffer = w.buffer ++ (crPad prev es ++ elemsText L nl es).toArray ∧
        WS w' L (finalNl nl es) := by
  induction es with
  | nil =>
    intro _ nl w prev _ _ hw h13 hne
    have hcr : endsCr prev = false := by
      cases h : endsCr prev
      · rfl
      · exact absurd rfl (hne h)
    exact ⟨w, by simp [serElements], by simp [elemsText, crPad], hw.1, by rw [h13, hcr], hw.2⟩
  | cons e es ih =>
    intro hpl nl w prev hml hlast hw h13 _
    have hpl' : ∀ x, PatElem.placeable x ∈ es → PlRT L x := fun x hx => hpl x (List.mem_cons_of_mem _ hx)
    have hlast' := mlLastOK_tail hlast
    cases e with
    | text v =>
      obtain ⟨hvok, _, _, hml'⟩ := mlElems_text_iff.mp hml
      have hvne := mlTextOK_ne hvok
      obtain ⟨hbuf, hw1, h13'⟩ := wsc_writeLiteral hw v hvne
      obtain ⟨w', h1, h2, h3⟩ := ih hpl' (endsNl v) (w.writeLiteral v) v hml' hlast' hw1 h13'
        (fun hcr => mlLastOK_notCr hlast hcr)
      refine ⟨w', by simp only [serElements, serElement, h1], ?_, by simpa [finalNl] using h3⟩
      rw [h2, hbuf, h13]
      apply Array.ext'
      cases nl with
      | false => simp [elemsText, crPad]
      | true =>
        have hcr : endsCr prev = false := by
          rw [← h13]
          have := hw.2
          rw [endsWith_iff] at this
          simp [endsWith, this]
        simp [elemsText, crPad, hcr]
    | placeable x =>
      have hml' : mlElems false es = true := by simpa [mlElems] using hml
      obtain ⟨w1, hs1, hbuf, hw1⟩ := (hpl x (List.mem_cons_self)).ser w nl hw
      obtain ⟨w', h1, h2, h3⟩ := ih hpl' false w1 [] hml' hlast' hw1.toC (by rw [hw1.2.1]; rfl)
        (fun h => by cases h)
      refine ⟨w', by simp only [serElements, hs1, h1], ?_, by simpa [finalNl] using h3⟩
      rw [h2, hbuf, crPad_nil]
      apply Array.ext'
      simp [elemsText, crPad]

theorem serElements_ml (L : Nat) (es : List (PatElem Bytes)) (hpl : ∀ x, PatElem.placeable x ∈ es → PlRT L x)
    (nl : Bool) (w : Writer) (hml : mlElems nl es = true) (hlast : mlLastOK es = true) (hw : WS w L nl) :
    ∃ w', serElements w es = some w' ∧ w'.buffer = w.buffer ++ (elemsText L nl es).toArray ∧
      WS w' L (finalNl nl es) := by
  have := serElements_ml_g L es hpl nl w [] hml hlast hw.toC (by rw [hw.2.1]; rfl) (fun h => by cases h)
  rwa [crPad_nil, List.nil_append] at this

theorem ws_newline {w : Writer} {L : Nat} {nl : Bool} (hw : WS w L nl) :
    w.newline.buffer = w.buffer ++ #[10] ∧ WS w.newline L true := by
  obtain ⟨a, b, c⟩ := hw
  have hb : w.newline.buffer = w.buffer ++ #[10] := by rw [newline_buffer, b]; simp
  exact ⟨hb, by simp [a], by simp [endsWith, hb], by simp⟩

theorem ws_indent {w : Writer} {L : Nat} {nl : Bool} (h : WS w L nl) : WS w.indent (L + 1) nl := by
  obtain ⟨a, b, c⟩ := h
  exact ⟨by simp [a], b, c⟩

theorem ws_dedent {w : Writer} {L : Nat} {nl : Bool} (h : WS w (L + 1) nl) :
    ∃ w', w.dedent = some w' ∧ w'.buffer = w.buffer ∧ WS w' L nl := by
  obtain ⟨a, b, c⟩ := h
  obtain ⟨w', hd, hl, hb⟩ := dedent_of_pos (w := w) (by omega)
  exact ⟨w', hd, hb, by omega, by simpa [endsWith, hb] using b, by simpa [endsWith, hb] using c⟩

theorem serPattern_ml (L : Nat) (p : List (PatElem Bytes)) (hcl : mlPattern p = true)
    (hpl : ∀ x, PatElem.placeable x ∈ p → PlRT (elemLevel L p) x) (w : Writer) (hw : WS w L false) :
    ∃ w', serPattern w p = some w' ∧ w'.buffer = w.buffer ++ (patText L p).toArray ∧ WS w' L false := by
  simp only [mlPattern, Bool.and_eq_true, Bool.not_eq_true', List.isEmpty_eq_false_iff] at hcl
  obtain ⟨⟨⟨⟨hne, hml⟩, hlast⟩, _⟩, _⟩ := hcl
  have hpre : (patternPre w p).buffer = w.buffer ++ (patPrefix p).toArray ∧
      WS (patternPre w p) (elemLevel L p) (startsOnNewLine p) := by
    unfold patternPre patPrefix elemLevel
    simp only []
    cases hs : startsOnNewLine p
    · obtain ⟨hb, hw1⟩ := ws_writeTidy hw [32] (by decide)
      simp only [Bool.false_eq_true, if_false, lit_sp]
      split
      · exact ⟨by simpa using hb, ws_indent hw1⟩
      · exact ⟨by simpa using hb, hw1⟩
    · obtain ⟨hb, hw1⟩ := ws_newline hw
      simp only [if_true]
      split
      · exact ⟨by simpa using hb, ws_indent hw1⟩
      · exact ⟨by simpa using hb, hw1⟩
  obtain ⟨w3, hs3, hb3, hw3⟩ := serElements_ml (elemLevel L p) p hpl (startsOnNewLine p) (patternPre w p) hml hlast hpre.2
  rw [finalNl_last _ p hne hlast] at hw3
  simp only [serPattern, hs3]
  unfold patternPost
  have hbuf : w3.buffer = w.buffer ++ (patText L p).toArray := by
    rw [hb3, hpre.1]; apply Array.ext'; simp [patText]
  split
  · rename_i hm
    rw [show elemLevel L p = L + 1 by simp [elemLevel, hm]] at hw3
    obtain ⟨w', hd, hbf, hw'⟩ := ws_dedent hw3
    exact ⟨w', hd, by rw [hbf, hbuf], hw'⟩
  · rename_i hm
    rw [show elemLevel L p = L by simp [elemLevel, hm]] at hw3
    exact ⟨w3, rfl, hbuf, hw3⟩

theorem serVariant_sel (L : Nat) (key : VKey Bytes) (value : List (PatElem Bytes)) (dflt : Bool)
    (hk : validKey key = true) (hp : PatRT (L + 1) value) (w : Writer) (hw : WS w (L + 1) true) :
    ∃ w', serVariant w (.mk key value dflt) = some w' ∧
      w'.buffer = w.buffer ++ (variantText (L + 1) (.mk key value dflt)).toArray ∧ WS w' (L + 1) false := by
  -- the `*` or the plain indentation, then `[`
  have h1 : ∃ w1, ((if dflt = true then w.writeCharIntoIndent 42 else w).writeLiteral [91]) = w1 ∧
      w1.buffer = w.buffer ++ ((if dflt then spacesL (4 * (L + 1) - 1) ++ [42] else spacesL (4 * (L + 1))) ++ [91]).toArray ∧
      WS w1 (L + 1) false := by
    refine ⟨_, rfl, ?_⟩
    cases dflt with
    | true =>
      obtain ⟨a, b, c⟩ := hw
      have hb := writeCharIntoIndent_after_newline w 42 L c a
      have hw1 : WS (w.writeCharIntoIndent 42) (L + 1) false := by
        refine ⟨by simp [a], ?_, ?_⟩ <;> simp [endsWith, hb]
      obtain ⟨hb2, hw2⟩ := ws_writeTidy hw1 [91] (by decide)
      refine ⟨?_, hw2⟩
      simp only [if_true]
      rw [hb2, hb]
      apply Array.ext'
      simp [spaces_toList, show 4 * (L + 1) - 1 = 4 * L + 3 by omega]
    | false =>
      obtain ⟨hb2, hw2⟩ := ws_writeTidy hw [91] (by decide)
      refine ⟨?_, hw2⟩
      simp only [Bool.false_eq_true, if_false]
      rw [hb2]; simp
  obtain ⟨w1, e1, hb1, hw1⟩ := h1
  obtain ⟨hb2, hw2⟩ := ws_writeTidy hw1 (keyBytes key) (keyBytes_tidy key hk)
  obtain ⟨hb3, hw3⟩ := ws_writeTidy hw2 [93] (by decide)
  obtain ⟨w4, hs4, hb4, hw4⟩ := hp.ser _ hw3
  refine ⟨w4, ?_, ?_, hw4⟩
  · have := hs4
    simp only [serPattern] at this
    cases key with
    | ident n => simp only [serVariant, lit_lbracket, lit_rbracket, e1]; exact this
    | num n => simp only [serVariant, lit_lbracket, lit_rbracket, e1]; exact this
  · rw [hb4, hb3, hb2, hb1]
    apply Array.ext'
    simp [variantText, patText]

theorem serVariants_sel (L : Nat) (vs : List (Variant Bytes))
    (hv : ∀ v ∈ vs, validKey (variantKey' v) = true ∧ PatRT (L + 1) (variantValue v)) :
    ∀ (w : Writer), WS w (L + 1) true →
      ∃ w', serVariants w vs = some w' ∧ w'.buffer = w.buffer ++ (variantsText (L + 1) vs).toArray ∧
        WS w' (L + 1) true := by
  induction vs with
  | nil => intro w hw; exact ⟨w, by simp [serVariants], by simp [variantsText], hw⟩
  | cons v vs ih =>
    intro w hw
    obtain ⟨key, value, dflt⟩ := v
    have hv0 := hv (.mk key value dflt) (List.mem_cons_self)
    obtain ⟨w1, hs1, hb1, hw1⟩ := serVariant_sel L key value dflt hv0.1 hv0.2 w hw
    obtain ⟨hb2, hw2⟩ := ws_newline hw1
    obtain ⟨w3, hs3, hb3, hw3⟩ := ih (fun v hvm => hv v (List.mem_cons_of_mem _ hvm)) w1.newline hw2
    refine ⟨w3, by simp only [serVariants, hs1, hs3], ?_, hw3⟩
    rw [hb3, hb2, hb1]
    apply Array.ext'
    simp [variantsText]
end FluentProofs.Ser

import FluentProofs.ParserLines
import FluentProofs.ParserForward
/-!
# Lifting per-call facts of the parser to the whole tree (C04, "parser output is in the class")

The tree returned by `parse` contains patterns at every depth (message/term/attribute values,
variant values of selects inside placeables, selects inside call arguments …).  Each of them was
produced by some call `getPattern s n p`, and every named-argument value by some call
`getInline s n true p`.  `parse_deep` lifts any property `PP` of the results of `getPattern` and any
property `NV` of the results of `getInline … true` to every pattern / named value of the tree
(`dEntry PP NV`), by the joint induction on fuel over the eight mutually recursive parser functions.
It is the one walk of this kind: a fact about every pattern of the tree is proved for one call of `get_pattern`
and lifted here.  Nothing here depends on the serializer.
-/
namespace FluentProofs.Ser
open FluentModel FluentModel.Syntax FluentProofs.Parser

/-- a result `r` returns with `.ok` satisfies `Q`: the form of every clause of `SpecsD` -/
def Post {α : Type} (r : R α) (Q : α → Prop) : Prop := ∀ a q, r = .ok a q → Q a

theorem Post.ok {α : Type} {a : α} {q : Nat} {Q : α → Prop} (h : Q a) : Post (.ok a q) Q := by
  intro a' q' h'; cases h'; exact h

theorem Post.err {α : Type} {e : PErr} {q : Nat} {Q : α → Prop} : Post (.err e q) Q := fun _ _ h => by cases h

theorem Post.panic {α : Type} {m : String} {Q : α → Prop} : Post (.panic m) Q := fun _ _ h => by cases h

theorem Post.bind {α β : Type} {r : R α} {f : α → Nat → R β} {Q : β → Prop}
    (h : ∀ a q, r = .ok a q → Post (f a q) Q) : Post (r.bind f) Q := by
  intro b q hb
  obtain ⟨a, q', hr, hf⟩ := R.bind_eq_ok hb
  exact h a q' hr b q hf

section defs
variable (PP : List (PatElem Span) → Prop) (NV : Inline Span → Prop)

mutual
/-- every pattern below satisfies `PP`, every named-argument value below satisfies `NV` -/
def dInline : Inline Span → Prop
  | .fn _ pos named => dInl pos ∧ dNamed named
  | .term _ _ (some (pos, named)) => dInl pos ∧ dNamed named
  | .placeable e => dExpr e
  | _ => True
def dInl : List (Inline Span) → Prop
  | [] => True
  | x :: xs => dInline x ∧ dInl xs
def dNamed : List (Span × Inline Span) → Prop
  | [] => True
  | (_, x) :: xs => (NV x ∧ dInline x) ∧ dNamed xs
def dExpr : Expr Span → Prop
  | .inline e => dInline e
  | .select sel vs => dInline sel ∧ dVariants vs
def dVariants : List (Variant Span) → Prop
  | [] => True
  | v :: vs => dVariant v ∧ dVariants vs
def dVariant : Variant Span → Prop
  | .mk _ val _ => PP val ∧ dElems val
def dElems : List (PatElem Span) → Prop
  | [] => True
  | e :: es => dElem e ∧ dElems es
def dElem : PatElem Span → Prop
  | .text _ => True
  | .placeable e => dExpr e
end

def dPat (els : List (PatElem Span)) : Prop := PP els ∧ dElems PP NV els

def dAttrs (as : List (Attribute Span)) : Prop := ∀ a ∈ as, dPat PP NV a.value

def dEntry : Entry Span → Prop
  | .message m => (∀ v, m.value = some v → dPat PP NV v) ∧ dAttrs PP NV m.attributes
  | .term t => dPat PP NV t.value ∧ dAttrs PP NV t.attributes
  | _ => True

/-- `dExpr` of the placeables among the placeholders the loop of `get_pattern` collects -/
def PhD : Placeholder → Prop
  | .placeable e => dExpr PP NV e
  | .text _ _ _ _ => True

end defs

variable {PP : List (PatElem Span) → Prop} {NV : Inline Span → Prop}

theorem dInl_snoc {pos : List (Inline Span)} {e : Inline Span} (h1 : dInl PP NV pos) (h2 : dInline PP NV e) :
    dInl PP NV (pos ++ [e]) := by
  induction pos with
  | nil => simpa [dInl] using h2
  | cons y ys ih =>
    simp only [dInl, List.cons_append] at h1 ⊢
    exact ⟨h1.1, ih h1.2⟩

theorem dNamed_snoc {named : List (Span × Inline Span)} {n : Span} {e : Inline Span} (h1 : dNamed PP NV named)
    (h2 : NV e) (h3 : dInline PP NV e) : dNamed PP NV (named ++ [(n, e)]) := by
  induction named with
  | nil => simp only [List.nil_append, dNamed]; exact ⟨⟨h2, h3⟩, trivial⟩
  | cons y ys ih =>
    obtain ⟨m, v⟩ := y
    simp only [dNamed, List.cons_append] at h1 ⊢
    exact ⟨h1.1, ih h1.2⟩

theorem dVariants_snoc {vs : List (Variant Span)} {v : Variant Span} (h1 : dVariants PP NV vs) (h2 : dVariant PP NV v) :
    dVariants PP NV (vs ++ [v]) := by
  induction vs with
  | nil => simp only [List.nil_append, dVariants]; exact ⟨h2, trivial⟩
  | cons y ys ih =>
    simp only [dVariants, List.cons_append] at h1 ⊢
    exact ⟨h1.1, ih h1.2⟩

theorem finishElements_d {s : Src} {ci : Option Nat} {lnb i : Nat} {els : List Placeholder}
    {r : List (PatElem Span)} (h : finishElements s ci lnb i els = some r) (hv : ∀ ph ∈ els, PhD PP NV ph) :
    dElems PP NV r := by
  induction els generalizing i r with
  | nil => simp only [finishElements] at h; cases h; simp [dElems]
  | cons ph rest ih =>
    have hrest : ∀ ph ∈ rest, PhD PP NV ph := fun x hx => hv x (List.mem_cons_of_mem _ hx)
    have hph := hv ph List.mem_cons_self
    by_cases hi : i > lnb
    · simp only [finishElements, hi, if_true] at h; cases h; simp [dElems]
    · cases ph with
      | placeable e =>
        obtain ⟨r', h1, rfl⟩ := fe_placeable (Nat.le_of_not_lt hi) h
        simp only [dElems, dElem]
        exact ⟨hph, ih h1 hrest⟩
      | text start stop indent role =>
        rcases fe_text (Nat.le_of_not_lt hi) h with ⟨_, h1⟩ | ⟨_, _, r', h1, rfl⟩
        · exact ih h1 hrest
        · simp only [dElems, dElem]
          exact ⟨trivial, ih h1 hrest⟩

theorem st2Of_elements {s : Src} {st st2 : PatState} {p indent start stop : Nat} {nb : Bool} {term : Termination}
    (h : st2Of s st p indent start stop nb term = some st2) :
    st2.elements = st.elements ∨ ∃ a i, st2.elements = st.elements ++ [.text a stop i st.role] := by
  rcases st2Of_cases s st p indent start stop nb term with ⟨ci, h1⟩ | ⟨ci, _, _, h1⟩ <;> rw [h1] at h
  · cases h; exact Or.inl rfl
  · obtain ⟨e, he, h⟩ := Option.bind_eq_some_iff.mp h
    obtain ⟨sv, _, rfl⟩ := Option.map_eq_some_iff.mp h
    rcases elOf_some he with rfl | ⟨_, _, rfl⟩ <;> exact Or.inr ⟨_, _, rfl⟩

/-- the per-call facts that are lifted: `PP` of every result of `getPattern`, `NV` of every named-argument value -/
structure Lift (s : Src) (PP : List (PatElem Span) → Prop) (NV : Inline Span → Prop) : Prop where
  pat : ∀ n p els q, getPattern s n p = .ok (some els) q → PP els
  nv : ∀ n p e q, getInline s n true p = .ok e q → NV e

/-- what the induction on the fuel `n` proves of the eight parser functions at once -/
structure SpecsD (s : Src) (PP : List (PatElem Span) → Prop) (NV : Inline Span → Prop) (n : Nat) : Prop where
  patternLoop : ∀ st p, (∀ ph ∈ st.elements, PhD PP NV ph) →
    Post (getPatternLoop s n st p) (fun st' => ∀ ph ∈ st'.elements, PhD PP NV ph)
  pattern : ∀ p, Post (getPattern s n p) (fun o => ∀ els, o = some els → dPat PP NV els)
  placeable : ∀ p, Post (getPlaceable s n p) (dExpr PP NV)
  expression : ∀ p, Post (getExpression s n p) (dExpr PP NV)
  inline : ∀ ol p, Post (getInline s n ol p) (dInline PP NV)
  callArguments : ∀ p, Post (getCallArguments s n p)
    (fun o => ∀ pos named, o = some (pos, named) → dInl PP NV pos ∧ dNamed PP NV named)
  callArgsLoop : ∀ pos named p, dInl PP NV pos → dNamed PP NV named →
    Post (getCallArgsLoop s n pos named p) (fun r => dInl PP NV r.1 ∧ dNamed PP NV r.2)
  variants : ∀ hd acc p, dVariants PP NV acc → Post (getVariants s n hd acc p) (dVariants PP NV)

theorem pattern_stepD {s : Src} {n : Nat} (L : Lift s PP NV) (IH : SpecsD s PP NV n) (p : Nat) :
    Post (getPattern s (n + 1) p) (fun o => ∀ els, o = some els → dPat PP NV els) := by
  intro a q h els hels
  subst hels
  obtain ⟨st, _, hloop, _, hfin⟩ := getPattern_some h
  exact ⟨L.pat (n + 1) p els q h, finishElements_d hfin (IH.patternLoop _ _ (by simp) st q hloop)⟩

theorem placeable_stepD {s : Src} {n : Nat} (IH : SpecsD s PP NV n) (p : Nat) :
    Post (getPlaceable s (n + 1) p) (dExpr PP NV) := by
  intro a q h
  rw [getPlaceable_unfold] at h
  obtain ⟨exp, q1, hex, h⟩ := R.bind_eq_ok h
  obtain ⟨_, q2, _, h⟩ := R.bind_eq_ok h
  split at h <;> cases h
  exact IH.expression _ _ q1 hex

theorem expression_stepD {s : Src} {n : Nat} (IH : SpecsD s PP NV n) (p : Nat) :
    Post (getExpression s (n + 1) p) (dExpr PP NV) := by
  intro a q h
  rw [getExpression_unfold] at h
  obtain ⟨exp, q1, hin, h⟩ := R.bind_eq_ok h
  have hi := IH.inline _ _ exp q1 hin
  unfold exprTail at h
  split at h
  · split at h
    · cases h
    · split at h
      · cases h
      · obtain ⟨vs, q5, hvs, h⟩ := R.bind_eq_ok h
        cases h
        exact ⟨hi, IH.variants false [] _ trivial vs _ hvs⟩
  · split at h <;> cases h
    exact hi

theorem callArguments_stepD {s : Src} {n : Nat} (IH : SpecsD s PP NV n) (p : Nat) :
    Post (getCallArguments s (n + 1) p)
      (fun o => ∀ pos named, o = some (pos, named) → dInl PP NV pos ∧ dNamed PP NV named) := by
  intro a q h pos named ha
  subst ha
  rw [getCallArguments_unfold] at h
  split at h
  · obtain ⟨r, q1, hloop, h⟩ := R.bind_eq_ok h
    obtain ⟨_, _, _, h⟩ := R.bind_eq_ok h
    cases h
    exact IH.callArgsLoop [] [] _ trivial trivial _ q1 hloop
  · cases h

theorem getInline_ok_cases {s : Src} {n : Nat} {ol : Bool} {p : Nat} {e : Inline Span} {q : Nat}
    (h : getInline s (n + 1) ol p = .ok e q) :
    (∃ v, e = .str v) ∨ (∃ v, e = .num v) ∨ (∃ id attr, e = .msg id attr) ∨
    (∃ id pos named p1, e = .fn id pos named ∧ getCallArguments s n p1 = .ok (some (pos, named)) q) ∨
    (ol = false ∧ ((∃ id, e = .var id) ∨
      (∃ id attr args p1, e = .term id attr args ∧ getCallArguments s n p1 = .ok args q) ∨
      (∃ x, e = .placeable x ∧ getPlaceable s n (p + 1) = .ok x q))) := by
  revert h
  refine getInline_cases (motive := fun r => r = .ok e q → _) s n ol p ?_ ?_ ?_ ?_ ?_ ?_ ?_
  · intro k h; cases h
  · intro _ h
    obtain ⟨_, q1, _, h⟩ := R.bind_eq_ok h
    split at h
    · split at h <;> cases h
      exact Or.inl ⟨_, rfl⟩
    · cases h
  · intro b _ _ h
    obtain ⟨_, _, _, h⟩ := R.bind_eq_ok h
    cases h; exact Or.inr (Or.inl ⟨_, rfl⟩)
  · intro _ hol _ h
    obtain ⟨id, _, _, h⟩ := R.bind_eq_ok h
    obtain ⟨attr, q1, _, h⟩ := R.bind_eq_ok h
    obtain ⟨args, _, hca, h⟩ := R.bind_eq_ok h
    cases h
    exact Or.inr (Or.inr (Or.inr (Or.inr ⟨hol, Or.inr (Or.inl ⟨_, _, _, _, rfl, hca⟩)⟩)))
  · intro _ hol h
    obtain ⟨id, _, _, h⟩ := R.bind_eq_ok h
    cases h
    exact Or.inr (Or.inr (Or.inr (Or.inr ⟨hol, Or.inl ⟨_, rfl⟩⟩)))
  · intro b _ _ h
    obtain ⟨id, q0, _, h⟩ := R.bind_eq_ok h
    obtain ⟨args, q1, hca, h⟩ := R.bind_eq_ok h
    cases args with
    | none =>
      obtain ⟨attr, _, _, h⟩ := R.bind_eq_ok h
      cases h; exact Or.inr (Or.inr (Or.inl ⟨_, _, rfl⟩))
    | some pn =>
      simp only [] at h
      split at h <;> cases h
      exact Or.inr (Or.inr (Or.inr (Or.inl ⟨_, _, _, _, rfl, hca⟩)))
  · intro _ hol h
    obtain ⟨x, _, hpl, h⟩ := R.bind_eq_ok h
    cases h
    exact Or.inr (Or.inr (Or.inr (Or.inr ⟨hol, Or.inr (Or.inr ⟨_, rfl, hpl⟩)⟩)))

theorem inline_stepD {s : Src} {n : Nat} (IH : SpecsD s PP NV n) (ol : Bool) (p : Nat) :
    Post (getInline s (n + 1) ol p) (dInline PP NV) := by
  intro a q h
  rcases getInline_ok_cases h with ⟨_, rfl⟩ | ⟨_, rfl⟩ | ⟨_, _, rfl⟩ | ⟨_, pos, named, _, rfl, hca⟩ |
    ⟨_, ⟨_, rfl⟩ | ⟨_, _, args, _, rfl, hca⟩ | ⟨_, rfl, hpl⟩⟩
  · trivial
  · trivial
  · trivial
  · exact IH.callArguments _ _ _ hca pos named rfl
  · trivial
  · cases args with
    | none => trivial
    | some pn => exact IH.callArguments _ _ _ hca pn.1 pn.2 rfl
  · exact IH.placeable _ _ _ hpl

theorem callArgsLoop_stepD {s : Src} {n : Nat} (L : Lift s PP NV) (IH : SpecsD s PP NV n) (pos : List (Inline Span))
    (named : List (Span × Inline Span)) (p : Nat) (hpos : dInl PP NV pos) (hnamed : dNamed PP NV named) :
    Post (getCallArgsLoop s (n + 1) pos named p) (fun r => dInl PP NV r.1 ∧ dNamed PP NV r.2) := by
  intro a q h
  rw [getCallArgsLoop_unfold] at h
  split at h
  · obtain ⟨e, q1, he, h⟩ := R.bind_eq_ok h
    have hd := IH.inline _ _ e q1 he
    have hposn : ∀ p', getCallArgsLoop s n (pos ++ [e]) named p' = .ok a q → dInl PP NV a.1 ∧ dNamed PP NV a.2 :=
      fun p' h => IH.callArgsLoop _ _ _ (dInl_snoc hpos hd) hnamed a q h
    unfold argTail at h
    split at h
    · split at h
      · split at h
        · cases h
        · obtain ⟨v, q3, hv, h⟩ := R.bind_eq_ok h
          exact IH.callArgsLoop _ _ _ hpos (dNamed_snoc hnamed (L.nv _ _ v q3 hv) (IH.inline _ _ v q3 hv)) a q h
      · split at h
        · cases h
        · exact hposn _ h
    · split at h
      · cases h
      · exact hposn _ h
  · cases h; exact ⟨hpos, hnamed⟩

theorem variants_stepD {s : Src} {n : Nat} (IH : SpecsD s PP NV n) (hd : Bool) (acc : List (Variant Span)) (p : Nat)
    (hacc : dVariants PP NV acc) : Post (getVariants s (n + 1) hd acc p) (dVariants PP NV) := by
  have tail : ∀ hd' dflt p', Post (variantTail s n hd' dflt acc p') (dVariants PP NV) := by
    intro hd' dflt p' a q h
    obtain ⟨key, q1, _, h⟩ := R.bind_eq_ok h
    obtain ⟨_, q2, _, h⟩ := R.bind_eq_ok h
    obtain ⟨o, q3, hpat, h⟩ := R.bind_eq_ok h
    cases o with
    | none => cases h
    | some value =>
      exact IH.variants _ _ _ (dVariants_snoc (v := .mk key value dflt) hacc (IH.pattern _ _ q3 hpat value rfl)) a q h
  intro a q h
  rw [getVariants_unfold] at h
  split at h
  · split at h
    · cases h
    · split at h
      · exact tail _ _ _ a q h
      · cases h
  · split at h
    · exact tail _ _ _ a q h
    · split at h <;> cases h
      exact hacc

theorem patternLoop_stepD {s : Src} {n : Nat} (IH : SpecsD s PP NV n) (st : PatState) (p : Nat)
    (hinv : ∀ ph ∈ st.elements, PhD PP NV ph) :
    Post (getPatternLoop s (n + 1) st p) (fun st' => ∀ ph ∈ st'.elements, PhD PP NV ph) := by
  refine patLoop_cases (motive := fun r => Post r _) s n st p ?_ ?_ ?_ ?_
  · intro _ a q h; cases h; exact hinv
  · intro _ _ a q h
    obtain ⟨e, q1, hpl, h⟩ := R.bind_eq_ok h
    refine IH.patternLoop _ _ ?_ a q h
    intro ph hph
    rcases List.mem_append.mp hph with hph | hph
    · exact hinv ph hph
    · rw [List.mem_singleton.mp hph]; exact IH.placeable _ e q1 hpl
  · intro _ _ _ a q h; cases h; exact hinv
  · intro indent p1 _ _ _ a q h
    obtain ⟨v, q1, _, h⟩ := R.bind_eq_ok h
    unfold patAfterText at h
    split at h
    · rename_i st2 hst2
      refine IH.patternLoop _ _ ?_ a q h
      show ∀ ph ∈ st2.elements, PhD PP NV ph
      rcases st2Of_elements hst2 with he | ⟨_, _, he⟩ <;> rw [he]
      · exact hinv
      · intro ph hph
        rcases List.mem_append.mp hph with hph | hph
        · exact hinv ph hph
        · rw [List.mem_singleton.mp hph]; trivial
    · cases h

theorem specsD_all {s : Src} (L : Lift s PP NV) (n : Nat) : SpecsD s PP NV n := by
  induction n with
  | zero =>
    refine ⟨?_, ?_, ?_, ?_, ?_, ?_, ?_, ?_⟩ <;> intros <;> intro a q h
    · simp [getPatternLoop] at h
    · simp [getPattern] at h
    · simp [getPlaceable] at h
    · simp [getExpression] at h
    · simp [getInline] at h
    · simp [getCallArguments] at h
    · simp [getCallArgsLoop] at h
    · simp [getVariants] at h
  | succ n ih =>
    exact {
      patternLoop := fun st p h1 => patternLoop_stepD ih st p h1
      pattern := fun p => pattern_stepD L ih p
      placeable := fun p => placeable_stepD ih p
      expression := fun p => expression_stepD ih p
      inline := fun ol p => inline_stepD ih ol p
      callArguments := fun p => callArguments_stepD ih p
      callArgsLoop := fun pos named p h1 h2 => callArgsLoop_stepD L ih pos named p h1 h2
      variants := fun hd acc p h1 => variants_stepD ih hd acc p h1 }

theorem getPattern_d {s : Src} (L : Lift s PP NV) (fuel p : Nat) (els : List (PatElem Span)) (q : Nat)
    (h : getPattern s fuel p = .ok (some els) q) : dPat PP NV els :=
  (specsD_all L fuel).pattern p _ q h els rfl

theorem getAttribute_d {s : Src} (L : Lift s PP NV) (fuel p : Nat) :
    Post (getAttribute s fuel p) (fun a => dPat PP NV a.value) := by
  intro a q h
  rw [getAttribute_eq] at h
  obtain ⟨_, _, _, h⟩ := R.bind_eq_ok h
  obtain ⟨_, _, _, h⟩ := R.bind_eq_ok h
  obtain ⟨o, q3, hpat, h⟩ := R.bind_eq_ok h
  cases o <;> cases h
  exact getPattern_d L fuel _ _ _ hpat

theorem getAttributesGo_d {s : Src} (L : Lift s PP NV) (fuel : Nat) : ∀ (n : Nat) (acc : List (Attribute Span)) (p : Nat),
    dAttrs PP NV acc → Post (getAttributesGo s fuel n acc p) (dAttrs PP NV) := by
  intro n
  induction n with
  | zero => intro acc p _ a q h; simp [getAttributesGo] at h
  | succ n ih =>
    intro acc p hacc a q h
    rw [getAttributesGo_unfold] at h
    split at h
    · split at h
      · rename_i at' q1 hat
        refine ih _ _ ?_ a q h
        intro x hx
        rcases List.mem_append.mp hx with hx | hx
        · exact hacc x hx
        · rw [List.mem_singleton.mp hx]; exact getAttribute_d L fuel _ at' q1 hat
      · cases h; exact hacc
      · cases h
      · cases h
    · cases h; exact hacc

theorem getEntry_d {s : Src} (L : Lift s PP NV) (fuel p : Nat) : Post (getEntry s fuel p) (dEntry PP NV) := by
  intro a q h
  have hattrs : ∀ p' attrs q5, getAttributes s fuel p' = .ok attrs q5 → dAttrs PP NV attrs :=
    fun p' attrs q5 h => getAttributesGo_d L fuel _ [] _ (fun x hx => by cases hx) attrs q5 h
  rcases getEntry_ok_inv h with ⟨_, r, _, hk⟩ | ⟨_, t, rfl, ht⟩ | ⟨_, m, rfl, hm⟩
  · rcases hk with rfl | rfl | rfl <;> trivial
  · rw [getTerm_eq] at ht
    obtain ⟨_, _, _, ht⟩ := R.bind_eq_ok ht
    obtain ⟨_, _, _, ht⟩ := R.bind_eq_ok ht
    obtain ⟨_, _, _, ht⟩ := R.bind_eq_ok ht
    obtain ⟨value, q3, hpat, ht⟩ := R.bind_eq_ok ht
    obtain ⟨attrs, q5, hat, ht⟩ := R.bind_eq_ok ht
    cases value <;> cases ht
    exact ⟨getPattern_d L fuel _ _ q3 hpat, hattrs _ attrs _ hat⟩
  · rw [getMessage_eq] at hm
    obtain ⟨_, _, _, hm⟩ := R.bind_eq_ok hm
    obtain ⟨_, _, _, hm⟩ := R.bind_eq_ok hm
    obtain ⟨pattern, q3, hpat, hm⟩ := R.bind_eq_ok hm
    obtain ⟨attrs, q5, hat, hm⟩ := R.bind_eq_ok hm
    split at hm <;> cases hm
    exact ⟨fun v hv => by subst hv; exact getPattern_d L fuel _ v q3 hpat, hattrs _ attrs _ hat⟩

theorem dEntry_of_msgsTerms {l : List (Entry Span)} (h : ∀ x ∈ msgsTerms l, dEntry PP NV x) :
    ∀ e ∈ l, dEntry PP NV e := by
  induction l with
  | nil => intro e he; cases he
  | cons y ys ih =>
    intro e he
    rcases List.mem_cons.mp he with rfl | he
    · cases e with
      | message m => exact h (.message { m with comment := none }) (by simp [msgsTerms])
      | term t => exact h (.term { t with comment := none }) (by simp [msgsTerms])
      | _ => trivial
    · exact ih (fun x hx => h x (by cases y <;> simp [msgsTerms, hx])) e he

theorem parse_deep (s : Src) (PP : List (PatElem Span) → Prop) (NV : Inline Span → Prop)
    (hPP : ∀ n p els q, getPattern s n p = .ok (some els) q → PP els)
    (hNV : ∀ n p e q, getInline s n true p = .ok e q → NV e)
    (t : Resource Span) (errs : List PErr) (h : parse s = .done (t, errs)) : ∀ e ∈ t, dEntry PP NV e := by
  refine dEntry_of_msgsTerms (parseLoop_msgsTerms s _ (fun p e q hr x hx => ?_) _ [] [] none 0 _ (by simp [msgsTerms]) _ h)
  have he := getEntry_d ⟨hPP, hNV⟩ _ p e q hr
  cases e <;> simp only [msgsTerms, List.mem_cons, List.not_mem_nil, or_false] at hx
  · subst hx; exact he
  · subst hx; exact he

/-- a string / number literal, a message reference or a function call -/
def nvShape : Inline Span → Prop
  | .str _ => True
  | .num _ => True
  | .msg _ _ => True
  | .fn _ _ _ => True
  | _ => False

theorem getInline_literal_shape (s : Src) (n p : Nat) (e : Inline Span) (q : Nat)
    (h : getInline s n true p = .ok e q) : nvShape e := by
  cases n with
  | zero => simp [getInline] at h
  | succ n =>
    rcases getInline_ok_cases h with ⟨_, rfl⟩ | ⟨_, rfl⟩ | ⟨_, _, rfl⟩ | ⟨_, _, _, _, rfl, _⟩ | ⟨hol, _⟩
    · trivial
    · trivial
    · trivial
    · trivial
    · cases hol

end FluentProofs.Ser

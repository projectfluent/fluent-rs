import FluentModel.Registry
/-!
# Lemmas for C10 (bundle registry is a keyed map)

The registry stores indices into the resources.  `Inv` says what the stored indices point at, `abs` is the keyed map
`Spec = Id → Option Def` they denote; both `add` loops preserve `Inv` and refine the specification (`specAdd`, `specAddOv`), and
the error vector of `add_resource` is the specification's, call by call along a history (`trace_refines`); the three lookups
`getEntryMessage/Term/Function` read `abs` (`getEntry…_eq`).  The specification is then characterised declaratively: first
wins, last wins, the exact error list.
-/
namespace FluentModel.Registry

theorem EMap.get_insert (m : EMap) (k : Id) (v : Entry) (k' : Id) :
    EMap.get (EMap.insert m k v) k' = if k = k' then some v else EMap.get m k' := by
  induction m with
  | nil => simp [EMap.insert, EMap.get]
  | cons p rest ih =>
    obtain ⟨k₁, v₁⟩ := p
    unfold EMap.insert
    by_cases h : k₁ = k
    · subst h
      by_cases h' : k₁ = k' <;> simp [EMap.get, h']
    · simp only [h, if_false, EMap.get]
      by_cases h1 : k₁ = k'
      · subst h1
        have : ¬ k = k₁ := fun e => h e.symm
        simp [this]
      · simp [h1, ih]

/-- what a keyed map `id → definition` holds for an id -/
inductive Def where
  | message (value : Option Text) (attrs : List Attr)
  | term (value : Text) (attrs : List Attr)
  | function (tag : Nat)
deriving DecidableEq, Repr

abbrev Spec := Id → Option Def

def Spec.empty : Spec := fun _ => none

def Spec.set (m : Spec) (id : Id) (d : Def) : Spec := fun i => if id = i then some d else m i

/-- id, kind and definition an AST entry contributes (nothing for Junk / comments) -/
def defOf : AstEntry → Option (Id × Kind × Def)
  | .message id v a => some (id, .message, .message v a)
  | .term id v a => some (id, .term, .term v a)
  | .other => none

/-- specification of `add_resource`: walk the entries in order; an id that is free takes the
definition, an id that is taken is reported and left alone -/
def specAdd : Spec → List AstEntry → Spec × List Overriding
  | m, [] => (m, [])
  | m, e :: rest =>
    match defOf e with
    | none => specAdd m rest
    | some (id, k, d) =>
      match m id with
      | none => specAdd (m.set id d) rest
      | some _ => ((specAdd m rest).1, ⟨k, id⟩ :: (specAdd m rest).2)

/-- specification of `add_resource_overriding`: every definition is stored, in order -/
def specAddOv : Spec → List AstEntry → Spec
  | m, [] => m
  | m, e :: rest =>
    match defOf e with
    | none => specAddOv m rest
    | some (id, _, d) => specAddOv (m.set id d) rest

/-- specification of `add_function` -/
def specFn (m : Spec) (id : Id) (tag : Nat) : Spec × Option Overriding :=
  match m id with
  | none => (m.set id (.function tag), none)
  | some _ => (m, some ⟨.function, id⟩)

def specStep (m : Spec) : Op → Spec × List Overriding
  | .add r => specAdd m r
  | .addOverriding r => (specAddOv m r, [])
  | .addFn id tag => ((specFn m id tag).1, (specFn m id tag).2.toList)

/-- the keyed map after a history -/
def specRun (ops : List Op) : Spec := ops.foldl (fun m op => (specStep m op).1) Spec.empty

/-- a stored entry for `id` is well formed w.r.t. the resources `rs`: its indices are in range and
point at an AST entry of the stored kind carrying the id it is stored under -/
def WF (rs : List Resource) (id : Id) : Entry → Prop
  | .message ri ei => ∃ v a, entryAt rs ri ei = some (.message id v a)
  | .term ri ei => ∃ v a, entryAt rs ri ei = some (.term id v a)
  | .function _ => True

def Inv (rs : List Resource) (es : EMap) : Prop :=
  ∀ id e, es.get id = some e → WF rs id e

/-- the definition a stored entry denotes (what a kind-checked lookup through the indices finds) -/
def absEntry (rs : List Resource) : Entry → Option Def
  | .message ri ei =>
    match entryAt rs ri ei with
    | some (.message _ v a) => some (.message v a)
    | _ => none
  | .term ri ei =>
    match entryAt rs ri ei with
    | some (.term _ v a) => some (.term v a)
    | _ => none
  | .function tag => some (.function tag)

def abs (rs : List Resource) (es : EMap) : Spec :=
  fun id => match es.get id with
    | none => none
    | some e => absEntry rs e

def Bundle.Inv (b : Bundle) : Prop := Registry.Inv b.resources b.entries

/-- the keyed map a bundle represents -/
def Bundle.abs (b : Bundle) : Spec := Registry.abs b.resources b.entries

theorem entryAt_append_left {rs : List Resource} {ri ei : Nat} {x : AstEntry} (r : Resource)
    (h : entryAt rs ri ei = some x) : entryAt (rs ++ [r]) ri ei = some x := by
  unfold entryAt at h ⊢
  cases hri : rs[ri]? with
  | none => simp [hri] at h
  | some res =>
    have hlt : ri < rs.length := by
      rcases List.getElem?_eq_some_iff.1 hri with ⟨hlt, _⟩; exact hlt
    rw [List.getElem?_append_left hlt, hri]
    simpa [hri] using h

theorem entryAt_append_new (rs : List Resource) (r : Resource) (ei : Nat) :
    entryAt (rs ++ [r]) rs.length ei = r[ei]? := by
  unfold entryAt
  simp

theorem WF.append {rs : List Resource} {id : Id} {e : Entry} (r : Resource) (h : WF rs id e) :
    WF (rs ++ [r]) id e := by
  cases e with
  | message ri ei => obtain ⟨v, a, h⟩ := h; exact ⟨v, a, entryAt_append_left r h⟩
  | term ri ei => obtain ⟨v, a, h⟩ := h; exact ⟨v, a, entryAt_append_left r h⟩
  | function t => trivial

theorem Inv.append {rs : List Resource} {es : EMap} (r : Resource) (h : Inv rs es) :
    Inv (rs ++ [r]) es := fun id e he => (h id e he).append r

theorem absEntry_append {rs : List Resource} {id : Id} {e : Entry} (r : Resource) (h : WF rs id e) :
    absEntry (rs ++ [r]) e = absEntry rs e := by
  cases e with
  | message ri ei =>
    obtain ⟨v, a, h⟩ := h
    simp [absEntry, h, entryAt_append_left r h]
  | term ri ei =>
    obtain ⟨v, a, h⟩ := h
    simp [absEntry, h, entryAt_append_left r h]
  | function t => rfl

theorem abs_append {rs : List Resource} {es : EMap} (r : Resource) (h : Inv rs es) :
    abs (rs ++ [r]) es = abs rs es := by
  funext id
  unfold abs
  cases he : es.get id with
  | none => rfl
  | some e => exact absEntry_append r (h id e he)

theorem absEntry_isSome {rs : List Resource} {id : Id} {e : Entry} (h : WF rs id e) :
    ∃ d, absEntry rs e = some d := by
  cases e with
  | message ri ei => obtain ⟨v, a, h⟩ := h; exact ⟨.message v a, by simp [absEntry, h]⟩
  | term ri ei => obtain ⟨v, a, h⟩ := h; exact ⟨.term v a, by simp [absEntry, h]⟩
  | function t => exact ⟨.function t, rfl⟩

theorem abs_eq_none_iff {rs : List Resource} {es : EMap} (h : Inv rs es) (id : Id) :
    abs rs es id = none ↔ es.get id = none := by
  unfold abs
  cases he : es.get id with
  | none => simp
  | some e =>
    obtain ⟨d, hd⟩ := absEntry_isSome (h id e he)
    simp [hd]

theorem abs_of_get_some {rs : List Resource} {es : EMap} (h : Inv rs es) {id : Id} {e : Entry}
    (he : es.get id = some e) : ∃ d, abs rs es id = some d :=
  Option.ne_none_iff_exists'.1 fun hn => by rw [(abs_eq_none_iff h id).1 hn] at he; cases he

theorem Inv.insert {rs : List Resource} {es : EMap} {id : Id} {e : Entry}
    (h : Inv rs es) (hw : WF rs id e) : Inv rs (es.insert id e) := by
  intro id' e' he'
  rw [EMap.get_insert] at he'
  split at he'
  · subst id'; cases he'; exact hw
  · exact h id' e' he'

theorem abs_insert (rs : List Resource) (es : EMap) (id : Id) (e : Entry) (d : Def)
    (hd : absEntry rs e = some d) : abs rs (es.insert id e) = (abs rs es).set id d := by
  funext i
  unfold abs Spec.set
  rw [EMap.get_insert]
  by_cases hid : id = i
  · simp [hid, hd]
  · simp [hid]

theorem keyOf_defOf {rs : List Resource} {rp pos : Nat} {e : AstEntry} (hat : entryAt rs rp pos = some e) :
    (keyOf rp pos e = none ∧ defOf e = none) ∨
    ∃ id k ent d, keyOf rp pos e = some (id, k, ent) ∧ defOf e = some (id, k, d) ∧
      WF rs id ent ∧ absEntry rs ent = some d := by
  cases e with
  | other => exact Or.inl ⟨rfl, rfl⟩
  | message id v a => exact Or.inr ⟨id, _, _, _, rfl, rfl, ⟨v, a, hat⟩, by simp [absEntry, hat]⟩
  | term id v a => exact Or.inr ⟨id, _, _, _, rfl, rfl, ⟨v, a, hat⟩, by simp [absEntry, hat]⟩

theorem entryAt_of_drop {rs : List Resource} {body : Resource} {pos : Nat} {e : AstEntry} {rest : List AstEntry}
    (hdrop : body.drop pos = e :: rest) :
    entryAt (rs ++ [body]) rs.length pos = some e ∧ body.drop (pos + 1) = rest := by
  refine ⟨?_, by simpa using congrArg List.tail hdrop⟩
  rw [entryAt_append_new]
  have := congrArg (fun l => l[0]?) hdrop
  simpa using this

theorem addEntries_refines (rs : List Resource) (body : Resource) :
    ∀ (rest : List AstEntry) (pos : Nat) (es : EMap),
      body.drop pos = rest → Inv (rs ++ [body]) es →
      Inv (rs ++ [body]) (addEntries rs.length pos rest es).1 ∧
      abs (rs ++ [body]) (addEntries rs.length pos rest es).1
        = (specAdd (abs (rs ++ [body]) es) rest).1 ∧
      (addEntries rs.length pos rest es).2 = (specAdd (abs (rs ++ [body]) es) rest).2 := by
  intro rest
  induction rest with
  | nil => intro pos es _ h; exact ⟨h, rfl, rfl⟩
  | cons e rest ih =>
    intro pos es hdrop hinv
    obtain ⟨hat, hdrop'⟩ := entryAt_of_drop (rs := rs) hdrop
    rcases keyOf_defOf hat with ⟨hk, hd⟩ | ⟨id, k, ent, d, hk, hd, hw, ha⟩ <;> simp only [addEntries, specAdd, hk, hd]
    · exact ih (pos + 1) es hdrop' hinv
    · cases hget : es.get id with
      | none =>
        simp only [(abs_eq_none_iff hinv id).2 hget]
        rw [← abs_insert _ _ _ _ _ ha]
        exact ih (pos + 1) (es.insert id ent) hdrop' (hinv.insert hw)
      | some e0 =>
        obtain ⟨d0, hd0⟩ := abs_of_get_some hinv hget
        simp only [hd0]
        have := ih (pos + 1) es hdrop' hinv
        exact ⟨this.1, this.2.1, by rw [this.2.2]⟩

theorem addEntriesOverriding_refines (rs : List Resource) (body : Resource) :
    ∀ (rest : List AstEntry) (pos : Nat) (es : EMap),
      body.drop pos = rest → Inv (rs ++ [body]) es →
      Inv (rs ++ [body]) (addEntriesOverriding rs.length pos rest es) ∧
      abs (rs ++ [body]) (addEntriesOverriding rs.length pos rest es)
        = specAddOv (abs (rs ++ [body]) es) rest := by
  intro rest
  induction rest with
  | nil => intro pos es _ h; exact ⟨h, rfl⟩
  | cons e rest ih =>
    intro pos es hdrop hinv
    obtain ⟨hat, hdrop'⟩ := entryAt_of_drop (rs := rs) hdrop
    rcases keyOf_defOf hat with ⟨hk, hd⟩ | ⟨id, k, ent, d, hk, hd, hw, ha⟩ <;>
      simp only [addEntriesOverriding, specAddOv, hk, hd]
    · exact ih (pos + 1) es hdrop' hinv
    · rw [← abs_insert _ _ _ _ _ ha]
      exact ih (pos + 1) (es.insert id ent) hdrop' (hinv.insert hw)

theorem addResource_refines (b : Bundle) (r : Resource) (h : b.Inv) :
    (addResource b r).1.Inv ∧ (addResource b r).1.abs = (specAdd b.abs r).1 ∧
      (addResource b r).2 = (specAdd b.abs r).2 := by
  have := addEntries_refines b.resources r r 0 b.entries (by simp) (Inv.append r h)
  rw [abs_append r h] at this
  exact this

theorem addResourceOverriding_refines (b : Bundle) (r : Resource) (h : b.Inv) :
    (addResourceOverriding b r).Inv ∧ (addResourceOverriding b r).abs = specAddOv b.abs r := by
  have := addEntriesOverriding_refines b.resources r r 0 b.entries (by simp) (Inv.append r h)
  rw [abs_append r h] at this
  exact this

theorem addFunction_refines (b : Bundle) (id : Id) (tag : Nat) (h : b.Inv) :
    (addFunction b id tag).1.Inv ∧ (addFunction b id tag).1.abs = (specFn b.abs id tag).1 ∧
      (addFunction b id tag).2 = (specFn b.abs id tag).2 := by
  unfold addFunction specFn
  cases hget : b.entries.get id with
  | none =>
    simp only [show b.abs id = none from (abs_eq_none_iff h id).2 hget]
    exact ⟨Inv.insert h trivial, abs_insert _ _ _ _ _ rfl, trivial⟩
  | some e0 =>
    obtain ⟨d, hd⟩ := abs_of_get_some h hget
    simp only [show b.abs id = some d from hd]
    exact ⟨h, trivial, trivial⟩

theorem step_refines (b : Bundle) (op : Op) (h : b.Inv) :
    (step b op).1.Inv ∧ (step b op).1.abs = (specStep b.abs op).1 ∧
      (step b op).2 = (specStep b.abs op).2 := by
  cases op with
  | add r => exact addResource_refines b r h
  | addOverriding r =>
    have := addResourceOverriding_refines b r h
    exact ⟨this.1, this.2, rfl⟩
  | addFn id tag =>
    have := addFunction_refines b id tag h
    exact ⟨this.1, this.2.1, by simp [step, specStep, this.2.2]⟩

theorem empty_inv : Bundle.empty.Inv := by
  intro id e he
  simp [Bundle.empty, EMap.get] at he

theorem empty_abs : Bundle.empty.abs = Spec.empty := by
  funext id
  simp [Bundle.abs, abs, Bundle.empty, EMap.get, Spec.empty]

theorem foldl_refines (ops : List Op) (b : Bundle) (m : Spec) (h : b.Inv) (hm : b.abs = m) :
    (ops.foldl (fun b op => (step b op).1) b).Inv ∧
    (ops.foldl (fun b op => (step b op).1) b).abs = ops.foldl (fun m op => (specStep m op).1) m := by
  induction ops generalizing b m with
  | nil => exact ⟨h, hm⟩
  | cons op ops ih =>
    have hs := step_refines b op h
    simp only [List.foldl_cons]
    exact ih _ _ hs.1 (by rw [hs.2.1, hm])

theorem entryAt_of_get {b : Bundle} (h : b.Inv) {id : Id} {e : Entry} (hget : b.entries.get id = some e) :
    match e with
    | .message ri ei => ∃ v a, entryAt b.resources ri ei = some (.message id v a) ∧ b.abs id = some (.message v a)
    | .term ri ei => ∃ v a, entryAt b.resources ri ei = some (.term id v a) ∧ b.abs id = some (.term v a)
    | .function t => b.abs id = some (.function t) := by
  have hw := h id e hget
  cases e with
  | message ri ei => obtain ⟨v, a, hat⟩ := hw; exact ⟨v, a, hat, by simp [Bundle.abs, abs, hget, absEntry, hat]⟩
  | term ri ei => obtain ⟨v, a, hat⟩ := hw; exact ⟨v, a, hat, by simp [Bundle.abs, abs, hget, absEntry, hat]⟩
  | function t => simp [Bundle.abs, abs, hget, absEntry]

theorem getEntryMessage_eq (b : Bundle) (h : b.Inv) (id : Id) :
    getEntryMessage b id = match b.abs id with
      | some (.message v a) => some ⟨id, v, a⟩
      | _ => none := by
  unfold getEntryMessage
  cases hget : b.entries.get id with
  | none => rw [show b.abs id = none from (abs_eq_none_iff h id).2 hget]
  | some e =>
    have := entryAt_of_get h hget
    cases e with
    | message ri ei => obtain ⟨v, a, hat, ha⟩ := this; simp only [hat, ha]
    | term ri ei => obtain ⟨v, a, hat, ha⟩ := this; simp only [ha]
    | function t => simp only [show b.abs id = _ from this]

theorem getEntryTerm_eq (b : Bundle) (h : b.Inv) (id : Id) :
    getEntryTerm b id = match b.abs id with
      | some (.term v a) => some ⟨id, v, a⟩
      | _ => none := by
  unfold getEntryTerm
  cases hget : b.entries.get id with
  | none => rw [show b.abs id = none from (abs_eq_none_iff h id).2 hget]
  | some e =>
    have := entryAt_of_get h hget
    cases e with
    | message ri ei => obtain ⟨v, a, hat, ha⟩ := this; simp only [ha]
    | term ri ei => obtain ⟨v, a, hat, ha⟩ := this; simp only [hat, ha]
    | function t => simp only [show b.abs id = _ from this]

theorem getEntryFunction_eq (b : Bundle) (h : b.Inv) (id : Id) :
    getEntryFunction b id = match b.abs id with
      | some (.function t) => some t
      | _ => none := by
  unfold getEntryFunction
  cases hget : b.entries.get id with
  | none => rw [show b.abs id = none from (abs_eq_none_iff h id).2 hget]
  | some e =>
    have := entryAt_of_get h hget
    cases e with
    | message ri ei => obtain ⟨v, a, hat, ha⟩ := this; simp only [ha]
    | term ri ei => obtain ⟨v, a, hat, ha⟩ := this; simp only [ha]
    | function t => simp only [show b.abs id = _ from this]

/-- first definition of `id` in a resource -/
def firstDef (r : List AstEntry) (id : Id) : Option Def :=
  r.findSome? fun e => match defOf e with
    | some (i, _, d) => if i = id then some d else none
    | none => none

/-- last definition of `id` in a resource -/
def lastDef (r : List AstEntry) (id : Id) : Option Def := firstDef r.reverse id

/-- ids defined by a list of entries -/
def idsOf (r : List AstEntry) : List Id := r.filterMap fun e => (defOf e).map (·.1)

theorem firstDef_cons (e : AstEntry) (r : List AstEntry) (id : Id) :
    firstDef (e :: r) id = match defOf e with
      | some (i, _, d) => if i = id then some d else firstDef r id
      | none => firstDef r id := by
  unfold firstDef
  rw [List.findSome?_cons]
  cases defOf e with
  | none => rfl
  | some p => obtain ⟨i, k, d⟩ := p; by_cases hi : i = id <;> simp [hi]

theorem idsOf_cons (e : AstEntry) (r : List AstEntry) :
    idsOf (e :: r) = match defOf e with
      | some p => p.1 :: idsOf r
      | none => idsOf r := by
  unfold idsOf
  rw [List.filterMap_cons]
  cases defOf e <;> rfl

theorem firstDef_eq_none_iff (r : List AstEntry) (id : Id) : firstDef r id = none ↔ id ∉ idsOf r := by
  induction r with
  | nil => simp [firstDef, idsOf]
  | cons e rest ih =>
    rw [firstDef_cons, idsOf_cons]
    cases defOf e with
    | none => exact ih
    | some p =>
      obtain ⟨i, k, d⟩ := p
      by_cases hi : i = id
      · simp [hi]
      · simp only [if_neg hi, List.mem_cons, not_or, ih]
        exact ⟨fun h => ⟨fun e => hi e.symm, h⟩, fun h => h.2⟩

theorem specAdd_lookup (m : Spec) (r : List AstEntry) (id : Id) :
    (specAdd m r).1 id = match m id with
      | some d => some d
      | none => firstDef r id := by
  induction r generalizing m with
  | nil => cases h : m id <;> simp [specAdd, firstDef, h]
  | cons e rest ih =>
    rw [firstDef_cons]
    simp only [specAdd]
    cases defOf e with
    | none => exact ih m
    | some p =>
      obtain ⟨i, k, d⟩ := p
      simp only []
      cases hmi : m i with
      | some d0 =>
        rw [ih]
        by_cases hi : i = id
        · subst hi; simp only [hmi]
        · simp only [if_neg hi]
      | none =>
        rw [ih]
        by_cases hi : i = id
        · subst hi; simp [Spec.set, hmi]
        · simp only [Spec.set, if_neg hi]

theorem firstDef_append (r₁ r₂ : List AstEntry) (id : Id) :
    firstDef (r₁ ++ r₂) id = match firstDef r₁ id with
      | some d => some d
      | none => firstDef r₂ id := by
  unfold firstDef
  rw [List.findSome?_append]
  cases List.findSome? _ r₁ <;> rfl

theorem lastDef_append (r₁ r₂ : List AstEntry) (id : Id) :
    lastDef (r₁ ++ r₂) id = match lastDef r₂ id with
      | some d => some d
      | none => lastDef r₁ id := by
  simp only [lastDef, List.reverse_append]
  exact firstDef_append _ _ _

theorem specAddOv_lookup (m : Spec) (r : List AstEntry) (id : Id) :
    specAddOv m r id = match lastDef r id with
      | some d => some d
      | none => m id := by
  induction r generalizing m with
  | nil => simp [specAddOv, lastDef, firstDef]
  | cons e rest ih =>
    rw [show e :: rest = [e] ++ rest from rfl, lastDef_append, show [e] ++ rest = e :: rest from rfl]
    simp only [specAddOv]
    have h1 : lastDef [e] id = firstDef [e] id := rfl
    rw [h1, firstDef_cons]
    cases defOf e with
    | none => simp only []; rw [ih]; cases lastDef rest id <;> rfl
    | some p =>
      obtain ⟨i, k, d⟩ := p
      simp only []
      rw [ih]
      cases lastDef rest id with
      | some d' => rfl
      | none => by_cases hi : i = id <;> simp [Spec.set, firstDef, hi]

/-- the exact error vector `add_resource` must return: walking the resource in order, an entry is
reported (with its own kind and id) iff its id was defined before the call (`taken`) or is defined
by an earlier entry of this resource (`pre`) -/
def expectedErrors (taken : Id → Bool) : List AstEntry → List AstEntry → List Overriding
  | _, [] => []
  | pre, e :: rest =>
    (match defOf e with
      | some (id, k, _) => if taken id || (idsOf pre).contains id then [⟨k, id⟩] else []
      | none => []) ++ expectedErrors taken (pre ++ [e]) rest

theorem idsOf_append (a b : List AstEntry) : idsOf (a ++ b) = idsOf a ++ idsOf b := by
  simp [idsOf, List.filterMap_append]

/-- entries already walked can be counted with the ids taken before the call -/
theorem expectedErrors_absorb (taken : Id → Bool) (pre : List AstEntry) (r : List AstEntry) :
    ∀ p, expectedErrors taken (pre ++ p) r =
      expectedErrors (fun id => taken id || (idsOf pre).contains id) p r := by
  induction r with
  | nil => intro p; rfl
  | cons e rest ih =>
    intro p
    simp only [expectedErrors]
    rw [List.append_assoc, ih (p ++ [e])]
    congr 1
    cases defOf e with
    | none => rfl
    | some x => simp only [idsOf_append, List.contains_append, Bool.or_assoc]

/-- one step of the walk that starts with nothing seen: the entry is reported iff its id is taken, and for the rest
its id is taken as well -/
theorem expectedErrors_cons (taken : Id → Bool) (e : AstEntry) (rest : List AstEntry) :
    expectedErrors taken [] (e :: rest) =
      (match defOf e with
        | some (id, k, _) => if taken id then [⟨k, id⟩] else []
        | none => []) ++ expectedErrors (fun id => taken id || (idsOf [e]).contains id) [] rest := by
  have tail := expectedErrors_absorb taken [e] rest []
  rw [List.append_nil] at tail
  rw [expectedErrors, List.nil_append, tail]
  congr 1
  cases defOf e with
  | none => rfl
  | some x => simp only [idsOf, List.filterMap_nil, List.contains_nil, Bool.or_false]

theorem expectedErrors_append (taken : Id → Bool) (a b : List AstEntry) :
    ∀ pre, expectedErrors taken pre (a ++ b) = expectedErrors taken pre a ++ expectedErrors taken (pre ++ a) b := by
  induction a with
  | nil => intro pre; simp [expectedErrors]
  | cons e a ih =>
    intro pre
    simp only [List.cons_append, expectedErrors, ih, List.append_assoc, List.nil_append]

theorem specAdd_errors (m : Spec) (r : List AstEntry) :
    (specAdd m r).2 = expectedErrors (fun id => (m id).isSome) [] r := by
  induction r generalizing m with
  | nil => rfl
  | cons e rest ih =>
    rw [expectedErrors_cons, idsOf_cons]
    simp only [specAdd]
    cases defOf e with
    | none => simpa [idsOf] using ih m
    | some x =>
      obtain ⟨i, k, d⟩ := x
      -- in both cases the ids taken after `e` are those of `m` and `i`
      cases hmi : m i with
      | none =>
        simp only [hmi, idsOf, Option.isSome_none, ih]
        congr 1
        funext id
        by_cases hi : i = id
        · subst hi; simp [Spec.set]
        · simp [Spec.set, hi, Ne.symm hi]
      | some d0 =>
        simp only [hmi, Option.isSome_some, if_true, List.singleton_append, ih]
        congr 2
        funext id
        by_cases hi : i = id
        · subst hi; simp [hmi]
        · simp [idsOf, Ne.symm hi]

/-- the error vectors returned by the calls of a history, in order -/
def trace : Bundle → List Op → List (List Overriding)
  | _, [] => []
  | b, op :: ops => (step b op).2 :: trace (step b op).1 ops

def specTrace : Spec → List Op → List (List Overriding)
  | _, [] => []
  | m, op :: ops => (specStep m op).2 :: specTrace (specStep m op).1 ops

theorem trace_refines (ops : List Op) (b : Bundle) (h : b.Inv) :
    trace b ops = specTrace b.abs ops := by
  induction ops generalizing b with
  | nil => rfl
  | cons op ops ih =>
    have hs := step_refines b op h
    simp only [trace, specTrace]
    rw [ih _ hs.1, hs.2.1, hs.2.2]

theorem specAdd_fold_lookup (rs : List Resource) (m : Spec) (id : Id) :
    (rs.foldl (fun m r => (specAdd m r).1) m) id = match m id with
      | some d => some d
      | none => firstDef rs.flatten id := by
  induction rs generalizing m with
  | nil => cases h : m id <;> simp [firstDef, h]
  | cons r rs ih =>
    simp only [List.foldl_cons, List.flatten_cons]
    rw [ih, specAdd_lookup, firstDef_append]
    cases m id <;> simp

theorem specAddOv_fold_lookup (rs : List Resource) (m : Spec) (id : Id) :
    (rs.foldl (fun m r => specAddOv m r) m) id = match lastDef rs.flatten id with
      | some d => some d
      | none => m id := by
  induction rs generalizing m with
  | nil => simp [lastDef, firstDef]
  | cons r rs ih =>
    simp only [List.foldl_cons, List.flatten_cons]
    rw [ih, specAddOv_lookup, lastDef_append]
    cases lastDef rs.flatten id <;> simp

end FluentModel.Registry

import FluentProofs.SerializerOutShape5
import FluentProofs.SerializerOutValid
import FluentProofs.SerializerNorm
/-!
# Serializer lemmas: the *normalised* output of the parser is in the class, for every source (C04)

The parser cuts `x\r\ny` into `text "x"`, `text "\n"`, `text "y"`: the tree is not in the class `rtEntry`, but `normSafe` of it
is, and `serialize wj (normSafe wj r) = serialize wj r` (`serialize_normSafe`).  The bridge `cInline …` is `bInline …` of
`SerializerOutValid` with `nX okSafe` round every conclusion, over the commutation lemmas of `SerializerNorm`; the pattern fact it
takes (`PPj`: `mlPattern` after top-level joining) every result of `get_pattern` has (`getPattern_mlPattern_joinAll`).
-/
namespace FluentProofs.Ser
open FluentModel FluentModel.Syntax FluentModel.Syntax.Ser FluentProofs.Parser

theorem rtExpr_inline_n_of {f : Span → Bytes} (ok : Bytes → Bytes → Bool) (i : Inline Span) (hnt : isTermAttr i = false)
    (hi : rtInline (nInline ok (i.mapS f)) = true) : rtExpr (.inline (nInline ok (i.mapS f))) = true := by
  cases i with
  | term id attr args =>
    cases attr with
    | some a => simp [isTermAttr] at hnt
    | none =>
      cases args with
      | none => simpa [Inline.mapS, nInline, rtExpr] using hi
      | some pn => obtain ⟨pos, named⟩ := pn; simpa [Inline.mapS, nInline, rtExpr] using hi
  | _ => simpa [Inline.mapS, nInline, rtExpr] using hi

/-- the per-call pattern fact that is assumed: the pattern shape of the resolved pattern after top-level joining -/
abbrev PPj (s : Src) : List (PatElem Span) → Prop := fun els => mlPattern (joinTop (mapPat (spanBytes s) els)) = true

section bridge
variable {s : Src}

mutual
theorem cInline : ∀ (i : Inline Span), vInline s i = true → dInline (PPj s) nvShape i →
    rtInline (nInline okSafe (i.mapS (spanBytes s))) = true
  | .str v, hv, _ => validStrBody_of _ hv
  | .num v, hv, _ => validNumber_of _ hv
  | .var id, hv, _ => identOk_valid hv
  | .msg id attr, hv, _ => by
    simp only [vInline, Bool.and_eq_true] at hv
    simp only [Inline.mapS, nInline, rtInline, Bool.and_eq_true]
    exact ⟨identOk_valid hv.1, optIdent_of hv.2⟩
  | .term id attr none, hv, _ => by
    simp only [vInline, Bool.and_eq_true] at hv
    simp only [Inline.mapS, nInline, rtInline, Bool.and_eq_true]
    exact ⟨identOk_valid hv.1, optIdent_of hv.2⟩
  | .term id attr (some (pos, named)), hv, hd => by
    simp only [vInline, Bool.and_eq_true] at hv
    simp only [dInline] at hd
    simp only [Inline.mapS, nInline, rtInline, Bool.and_eq_true]
    refine ⟨⟨⟨⟨identOk_valid hv.1.1.1.1, optIdent_of hv.1.1.1.2⟩, cInl pos hv.1.1.2 hd.1⟩,
      cNamed named hv.1.2 hd.2⟩, ?_⟩
    rw [namesNodup_nNamed]; exact namesNodup_of hv.2
  | .fn id pos named, hv, hd => by
    simp only [vInline, Bool.and_eq_true] at hv
    simp only [dInline] at hd
    simp only [Inline.mapS, nInline, rtInline, Bool.and_eq_true]
    refine ⟨⟨⟨⟨identOk_valid hv.1.1.1.1, isCalleeName_of hv.1.1.1.2⟩, cInl pos hv.1.1.2 hd.1⟩,
      cNamed named hv.1.2 hd.2⟩, ?_⟩
    rw [namesNodup_nNamed]; exact namesNodup_of hv.2
  | .placeable e, hv, hd => by
    simp only [vInline] at hv
    simp only [dInline] at hd
    simp only [Inline.mapS, nInline, rtInline]
    exact cExpr e hv hd
theorem cInl : ∀ (xs : List (Inline Span)), vInl s xs = true → dInl (PPj s) nvShape xs →
    rtInl (nInl okSafe (mapInl (spanBytes s) xs)) = true
  | [], _, _ => rfl
  | x :: xs, hv, hd => by
    simp only [vInl, Bool.and_eq_true] at hv
    simp only [dInl] at hd
    simp only [mapInl, nInl, rtInl, Bool.and_eq_true]
    exact ⟨cInline x hv.1 hd.1, cInl xs hv.2 hd.2⟩
theorem cNamed : ∀ (xs : List (Span × Inline Span)), vNamed s xs = true → dNamed (PPj s) nvShape xs →
    rtNamed (nNamed okSafe (mapNamed (spanBytes s) xs)) = true
  | [], _, _ => rfl
  | (n, x) :: xs, hv, hd => by
    simp only [vNamed, Bool.and_eq_true] at hv
    simp only [dNamed] at hd
    simp only [mapNamed, nNamed, rtNamed, Bool.and_eq_true]
    refine ⟨⟨⟨identOk_valid hv.1.1, ?_⟩, cInline x hv.1.2 hd.1.2⟩, cNamed xs hv.2 hd.2⟩
    rw [isNamedValue_nInline]; exact isNamedValue_of hd.1.1
theorem cExpr : ∀ (e : Expr Span), vExpr s e = true → dExpr (PPj s) nvShape e →
    rtExpr (nExpr okSafe (e.mapS (spanBytes s))) = true
  | .inline i, hv, hd => by
    simp only [vExpr, Bool.and_eq_true, Bool.not_eq_true'] at hv
    simp only [dExpr] at hd
    simp only [Expr.mapS, nExpr]
    exact rtExpr_inline_n_of okSafe i hv.2 (cInline i hv.1 hd)
  | .select sel vs, hv, hd => by
    simp only [vExpr, Bool.and_eq_true, beq_iff_eq] at hv
    simp only [dExpr] at hd
    simp only [Expr.mapS, nExpr, rtExpr, Bool.and_eq_true, decide_eq_true_eq]
    refine ⟨⟨⟨cInline sel hv.1.1.1 hd.1, ?_⟩, cVariants vs hv.1.2 hd.2⟩, ?_⟩
    · rw [selShapeB_nInline]; exact selShapeB_of sel hv.1.1.2
    · rw [filter_default_nVariants, filter_default_length]; exact hv.2
theorem cVariants : ∀ (vs : List (Variant Span)), vVariants s vs = true → dVariants (PPj s) nvShape vs →
    rtVariants (nVariants okSafe (mapVariants (spanBytes s) vs)) = true
  | [], _, _ => rfl
  | v :: vs, hv, hd => by
    simp only [vVariants, Bool.and_eq_true] at hv
    simp only [dVariants] at hd
    simp only [mapVariants, nVariants, rtVariants, Bool.and_eq_true]
    exact ⟨cVariant v hv.1 hd.1, cVariants vs hv.2 hd.2⟩
theorem cVariant : ∀ (v : Variant Span), vVariant s v = true → dVariant (PPj s) nvShape v →
    rtVariant (nVariant okSafe (v.mapS (spanBytes s))) = true
  | .mk k val d, hv, hd => by
    simp only [vVariant, Bool.and_eq_true] at hv
    simp only [dVariant] at hd
    simp only [Variant.mapS, nVariant, rtVariant, Bool.and_eq_true]
    refine ⟨⟨validKey_of hv.1.1, ?_⟩, cElems val hv.2 hd.2⟩
    rw [mlPattern_nPat_safe]; exact hd.1
theorem cElems : ∀ (es : List (PatElem Span)), vPat s es = true → dElems (PPj s) nvShape es →
    rtElems (nPat okSafe (mapPat (spanBytes s) es)) = true
  | [], _, _ => rfl
  | .text v :: es, hv, hd => by
    simp only [vPat, Bool.and_eq_true] at hv
    simp only [dElems] at hd
    simp only [mapPat, PatElem.mapS, nPat, nElem, rtElems_joinHead, rtElems]
    exact cElems es hv.2 hd.2
  | .placeable e :: es, hv, hd => by
    simp only [vPat, vPatElem, Bool.and_eq_true] at hv
    simp only [dElems, dElem] at hd
    simp only [mapPat, PatElem.mapS, nPat, nElem, rtElems_joinHead, rtElems, Bool.and_eq_true]
    exact ⟨cExpr e hv.1 hd.1, cElems es hv.2 hd.2⟩
end

end bridge

theorem rtPattern_n_of {s : Src} (els : List (PatElem Span)) (hv : vPat s els = true) (hd : dPat (PPj s) nvShape els) :
    rtPattern (nPat okSafe (mapPat (spanBytes s) els)) = true := by
  simp only [rtPattern, Bool.and_eq_true]
  refine ⟨?_, cElems els hv hd.2⟩
  rw [mlPattern_nPat_safe]; exact hd.1

theorem rtAttrs_n_of {s : Src} (as : List (Attribute Span)) (hv : as.all (attrOk s) = true)
    (hd : dAttrs (PPj s) nvShape as) :
    ((as.map (Attribute.mapS (spanBytes s))).map (nAttr okSafe)).all rtAttr = true := by
  simp only [List.all_eq_true, List.mem_map] at hv ⊢
  rintro _ ⟨_, ⟨a, ha, rfl⟩, rfl⟩
  have h1 := hv a ha
  simp only [attrOk, patOk, Bool.and_eq_true] at h1
  simp only [rtAttr, nAttr, Attribute.mapS, Bool.and_eq_true]
  exact ⟨identOk_valid h1.1, rtPattern_n_of _ h1.2.2 (hd a ha)⟩

theorem rtOptComment_n_of {s : Src} (o : Option (List Span)) (h : OptCmtOK s o) :
    rtOptComment ((o.map (List.map (spanBytes s))).map nComment) = true := by
  cases o with
  | none => rfl
  | some c => exact rtComment_canon _ (h c rfl)

theorem rtEntry_n_of {s : Src} (e : Entry Span) (hv : ValidEntry s e) (hd : dEntry (PPj s) nvShape e) (hc : cEntry s e) :
    (∃ c, e = .junk c) ∨ rtEntry (nEntry okSafe (e.mapS (spanBytes s))) = true := by
  cases e with
  | junk c => exact Or.inl ⟨c, rfl⟩
  | comment c => exact Or.inr (rtComment_canon _ hc)
  | groupComment c => exact Or.inr (rtComment_canon _ hc)
  | resourceComment c => exact Or.inr (rtComment_canon _ hc)
  | term t =>
    right
    simp only [ValidEntry, validEntry, patOk, Bool.and_eq_true] at hv
    simp only [Entry.mapS, nEntry, rtEntry, Bool.and_eq_true]
    exact ⟨⟨⟨identOk_valid hv.1.1, rtPattern_n_of _ hv.1.2.2 hd.1⟩, rtAttrs_n_of _ hv.2 hd.2⟩, rtOptComment_n_of _ hc⟩
  | message m =>
    right
    simp only [ValidEntry, validEntry, Bool.and_eq_true] at hv
    simp only [Entry.mapS, nEntry, rtEntry, Bool.and_eq_true]
    refine ⟨⟨⟨identOk_valid hv.1.1.1, ?_⟩, rtAttrs_n_of _ hv.1.2 hd.2⟩, rtOptComment_n_of _ hc⟩
    cases hval : m.value with
    | none =>
      have := hv.2
      simp only [hval, Option.isSome_none, Bool.false_or] at this
      simpa using this
    | some v =>
      have h1 := hv.1.1.2
      simp only [hval, patOk, Bool.and_eq_true] at h1
      simp only [Option.map_some]
      exact rtPattern_n_of v h1.2 (hd.1 v hval)

/-- **The parser's normalised output is in the class, for EVERY source**: every entry of the tree returned by `parse`
is Junk, or its `nEntry okSafe` normal form is an entry of the class `rtEntry` (pattern shape:
`getPattern_mlPattern_joinAll`; comments: `parse_comments_all`). -/
theorem rtEntry_normSafe_of_parse_all (s : Src) (t : Resource Span) (errs : List PErr)
    (h : parse s = .done (t, errs)) :
    ∀ e ∈ t, (∃ c, e = .junk c) ∨ rtEntry (nEntry okSafe (e.mapS (spanBytes s))) = true := by
  intro e he
  exact rtEntry_n_of e (parse_valid s t errs h e he)
    (parse_deep s (PPj s) nvShape (fun n p els q h => getPattern_mlPattern_joinAll s n p els q h)
      (getInline_literal_shape s) t errs h e he)
    (parse_comments_all s t errs h e he)

theorem roundTrippable_normSafe_of_parse_all (s : Src) (t : Resource Span) (errs : List PErr)
    (h : parse s = .done (t, errs)) :
    ∀ withJunk : Bool, (withJunk = true → ∀ e ∈ t, ∀ c, e ≠ .junk c) →
      RoundTrippable withJunk (normSafe withJunk (resolve s t)) = true := by
  intro withJunk hnj
  simp only [RoundTrippable, normSafe, nRes, resolve, List.all_eq_true, List.mem_map, List.mem_filter]
  rintro _ ⟨_, ⟨⟨e, he, rfl⟩, _⟩, rfl⟩
  rcases rtEntry_normSafe_of_parse_all s t errs h e he with ⟨c, hc⟩ | h'
  · subst hc
    cases withJunk with
    | true => exact absurd rfl (hnj rfl _ he c)
    | false => simp [Entry.mapS, nEntry, isJunk]
  · simp [h']

theorem roundTrippable_normSafe_of_parse' (s : Src) (_hcr : NoLoneCR s)
    (t : Resource Span) (errs : List PErr) (h : parse s = .done (t, errs)) :
    ∀ withJunk : Bool, (withJunk = true → ∀ e ∈ t, ∀ c, e ≠ .junk c) →
      RoundTrippable withJunk (normSafe withJunk (resolve s t)) = true :=
  roundTrippable_normSafe_of_parse_all s t errs h

end FluentProofs.Ser

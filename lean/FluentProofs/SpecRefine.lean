import FluentModel.JoinText
import FluentProofs.SpecLex
import FluentProofs.ParserHoareExpr
import FluentProofs.SpecFuel
import FluentProofs.SpecSteps
/-!
# Refinement: where the grammar accepts, the parser model returns the grammar's tree (C02, expression layer)

Direction proved here: *the specification accepts ⇒ the parser model accepts, with the same tree (after
resolving spans and joining text) and the same rest*.  The converse is false (the parser is lenient on
inputs the grammar rejects, e.g. the optional comma between call arguments).

One `…Ref s m` per production says this for that production at grammar fuel `m` (where the parser is ahead of the grammar by blanks the
relation between the two rests says so, and each carries what may follow: `Follow`, `VFollow`, `PatFollow`); one `…_step` lemma per
production takes them from `m` to `m + 1`; `ExprRef` collects the eight, and `exprRef_step` takes it from `m` to `m + 1` given
`PatternRef s m`.  The induction over `m` is run jointly with the pattern layer in `SpecPatLoop` (`allRef`, `exprRef_all`), and
`Props/C02` states its result as `T2_expression_layer`; `exprRef_of_pattern` is the same induction with the pattern layer as a
hypothesis.

Nothing of `SpecFuel` is used here.  It is imported because both files make Lean generate the auxiliary equations of
`blankOpt`'s `match`, and two modules that generated them independently cannot be imported together, as `Props/C02` must.
-/
namespace FluentProofs.SpecRefine
open FluentModel FluentModel.Syntax FluentModel.SpecGrammar FluentProofs.Parser FluentProofs.SpecLex FluentProofs.SpecSteps
open FluentProofs.SpecBlank

section
variable {s : Src} {p : Nat} {a : Bytes} {r i : List UInt8}

theorem identifier_fwd (hs : AsciiThenBoundary s)
    (h : identifier (rest s p) = some (a, r)) :
    ∃ q, getIdentifier s p = .ok ⟨p, q⟩ q ∧ p < q ∧ q ≤ s.size ∧ a = spanBytes s ⟨p, q⟩ ∧ r = rest s q ∧
      (∃ b, s[p]? = some b ∧ isAlpha b = true) := by
  obtain ⟨b, t, hi, hba⟩ := identifier_head h
  have hb := rest_head hi
  obtain ⟨sp, q, hr, rfl, e2, e3⟩ := (identifier_eq_getIdentifier hs p).ok (by rw [h]; nofun)
  have hgood := (getIdentifier_good hs p (Nat.le_of_lt (get_lt hb))).of_ok hr
  obtain ⟨rfl, rfl⟩ := Prod.mk.inj (Option.some.inj (h.symm.trans e3))
  exact ⟨q, hr, e2, hgood.2.1, rfl, rfl, b, hb, hba⟩

theorem numberAfterSign_head {sg : Bytes}
    (h : numberAfterSign sg i = some (a, r)) : ∃ c t, i = c :: t ∧ isDigit c = true := by
  cases i with
  | nil => cases h
  | cons c t =>
    cases hc : isDigit c with
    | true => exact ⟨c, t, rfl, hc⟩
    | false => rw [numberAfterSign, digits_none t hc] at h; cases h

theorem numberLiteral_head (h : numberLiteral i = some (a, r)) :
    ∃ b t, i = b :: t ∧ (isDigit b = true ∨ b = 45 ∧ ∃ c t', t = c :: t' ∧ isDigit c = true) := by
  cases i with
  | nil => cases h
  | cons b t =>
    refine ⟨b, t, rfl, ?_⟩
    by_cases h45 : b = 45
    · subst h45; exact Or.inr ⟨rfl, numberAfterSign_head (sg := [45]) h⟩
    · rw [numberLiteral_no_sign _ fun r hr => h45 (List.cons.inj hr).1] at h
      obtain ⟨c, t', e, hc⟩ := numberAfterSign_head h
      cases e; exact Or.inl hc

/-- on a number literal `get_inline_expression` takes its number branch: after a `-` comes a digit, so it is
no term reference -/
theorem getInline_number {n : Nat} {ol : Bool}
    (h : numberLiteral (rest s p) = some (a, r)) : getInline s (n + 1) ol p = inlineNum s p := by
  obtain ⟨b, t, hi, hb⟩ := numberLiteral_head h
  obtain ⟨hp, rfl⟩ := rest_cons_iff.mp hi
  rcases hb with hd | ⟨rfl, c, t', hc, hd⟩
  · exact getInline_at_digit hp hd
  · rw [getInline_at_minus hp, if_neg]
    rintro ⟨_, hst⟩
    rw [isIdentifierStart, rest_head hc] at hst
    exact Bool.eq_false_iff.mp (numStart_not_alpha c (by rw [hd]; rfl)) hst

theorem number_fwd (hs : AsciiThenBoundary s)
    (h : numberLiteral (rest s p) = some (a, r)) (hdot : ∀ t, r ≠ 46 :: t) :
    ∃ q, getNumberLiteral s p = .ok ⟨p, q⟩ q ∧ p < q ∧ q ≤ s.size ∧ a = spanBytes s ⟨p, q⟩ ∧ r = rest s q := by
  obtain ⟨b, t, hi, hbd⟩ := numberLiteral_head h
  have hasc : Asc s p := ⟨b, rest_head hi, by rcases hbd with hd | ⟨rfl, _⟩; exact isDigit_lt b hd; decide⟩
  -- the grammar's literal does not stop in front of a dot, so the scanner does not fail on one
  obtain ⟨sp, q, hr, rfl, e2, e3⟩ := (numberLiteral_eq_getNumberLiteral hs p hasc.bnd).ok (by
    rw [h]
    rintro (hT | ⟨q', _, h46, hT⟩) <;> cases hT
    exact hdot _ (rest_cons h46))
  have hgood := (getNumberLiteral_good hs p hasc).of_ok hr
  obtain ⟨rfl, rfl⟩ := Prod.mk.inj (Option.some.inj (h.symm.trans e3))
  exact ⟨q, hr, e2, hgood.2.1, rfl, rfl⟩

end

/-- a tree of the parser in the grammar's form, one function per syntactic class: spans resolved against `s`,
adjacent text joined (`SpecResource.jRes_eq`: on a whole resource this is `Resource.joinText ∘ resolve s`) -/
def jI (s : Src) (e : Inline Span) : Inline Bytes := (Inline.mapS (spanBytes s) e).joinText
def jE (s : Src) (e : Expr Span) : Expr Bytes := (Expr.mapS (spanBytes s) e).joinText
def jInl (s : Src) (l : List (Inline Span)) : List (Inline Bytes) := joinInl (mapInl (spanBytes s) l)
def jNamed (s : Src) (l : List (Span × Inline Span)) : List (Bytes × Inline Bytes) := joinNamed (mapNamed (spanBytes s) l)
def jV (s : Src) (v : Variant Span) : Variant Bytes := (Variant.mapS (spanBytes s) v).joinText
def jVars (s : Src) (l : List (Variant Span)) : List (Variant Bytes) := joinVariants (mapVariants (spanBytes s) l)
def jPat (s : Src) (l : List (PatElem Span)) : List (PatElem Bytes) := joinPat (mapPat (spanBytes s) l)

theorem jInl_eq_map (s : Src) (l : List (Inline Span)) : jInl s l = l.map (jI s) := by
  induction l with
  | nil => rfl
  | cons x l ih => exact congrArg (jI s x :: ·) ih

theorem jNamed_eq_map (s : Src) (l : List (Span × Inline Span)) :
    jNamed s l = l.map fun na => (spanBytes s na.1, jI s na.2) := by
  induction l with
  | nil => rfl
  | cons x l ih => exact congrArg ((spanBytes s x.1, jI s x.2) :: ·) ih

theorem jVars_eq_map (s : Src) (l : List (Variant Span)) : jVars s l = l.map (jV s) := by
  induction l with
  | nil => rfl
  | cons x l ih => exact congrArg (jV s x :: ·) ih

theorem jVars_append (s : Src) (l : List (Variant Span)) (v : Variant Span) : jVars s (l ++ [v]) = jVars s l ++ [jV s v] := by
  simp only [jVars_eq_map, List.map_append, List.map_cons, List.map_nil]

theorem jI_var (s : Src) (sp : Span) : jI s (.var sp) = .var (spanBytes s sp) := rfl
theorem jI_fn (s : Src) (sp : Span) (pos : List (Inline Span)) (named : List (Span × Inline Span)) :
    jI s (.fn sp pos named) = .fn (spanBytes s sp) (jInl s pos) (jNamed s named) := rfl
theorem jI_term_none (s : Src) (sp : Span) (a : Option Span) :
    jI s (.term sp a none) = .term (spanBytes s sp) (a.map (spanBytes s)) none := rfl
theorem jI_term_some (s : Src) (sp : Span) (a : Option Span) (pos : List (Inline Span)) (named : List (Span × Inline Span)) :
    jI s (.term sp a (some (pos, named))) = .term (spanBytes s sp) (a.map (spanBytes s)) (some (jInl s pos, jNamed s named)) :=
  rfl
theorem jI_placeable (s : Src) (e : Expr Span) : jI s (.placeable e) = .placeable (jE s e) := rfl
theorem jE_inline (s : Src) (e : Inline Span) : jE s (.inline e) = .inline (jI s e) := rfl
theorem jE_select (s : Src) (e : Inline Span) (vs : List (Variant Span)) :
    jE s (.select e vs) = .select (jI s e) (jVars s vs) := rfl
theorem jV_mk (s : Src) (k : VKey Span) (p : List (PatElem Span)) (d : Bool) :
    jV s (.mk k p d) = .mk (k.mapS (spanBytes s)) (jPat s p) d := rfl

section
variable {s : Src} {p : Nat} {v : Bytes} {r : List UInt8}

theorem getInline_string (hs : AsciiThenBoundary s) (n : Nat) (ol : Bool)
    (h : stringLiteral (rest s p) = some (v, r)) :
    ∃ e q, getInline s (n + 1) ol p = .ok e q ∧ jI s e = .str v ∧ p < q ∧ q ≤ s.size ∧ r = rest s q := by
  have h34 : s[p]? = some 34 := by
    unfold stringLiteral at h
    split at h
    · rename_i ht; exact rest_head ht
    · cases h
  obtain ⟨u, q, hr, ⟨hq34, hT⟩ | ⟨_, hT⟩⟩ := (stringLiteral_eq_scanString hs p h34).ok (by rw [h]; nofun)
  · have hgood := scanString_good hs (p + 1) (get_lt h34)
    rw [hr] at hgood
    obtain ⟨rfl, rfl⟩ := Prod.mk.inj (Option.some.inj (h.symm.trans hT))
    have hsl : slice s (p + 1) q = some ⟨p + 1, q⟩ :=
      slice_ok hgood.1 (bnd_succ hs h34 (by decide)) (bnd_of_ascii hq34 (by decide))
    exact ⟨.str ⟨p + 1, q⟩, q + 1, by simp only [getInline_at_quote h34, inlineStr, hr, R.bind_ok, hq34, if_true, hsl],
      congrArg Inline.str (spanBytes_eq_seg ..), Nat.lt_succ_of_lt hgood.1, get_lt hq34, rfl⟩
  · rw [h] at hT; cases hT

theorem getInline_num_fwd (hs : AsciiThenBoundary s) (n : Nat) (ol : Bool)
    (h : numberLiteral (rest s p) = some (v, r)) (hdot : ∀ t, r ≠ 46 :: t) :
    ∃ e q, getInline s (n + 1) ol p = .ok e q ∧ jI s e = .num v ∧ p < q ∧ q ≤ s.size ∧ r = rest s q := by
  obtain ⟨q, g1, g2, g3, rfl, g5⟩ := number_fwd hs h hdot
  exact ⟨_, q, by rw [getInline_number h, inlineNum, g1, R.bind_ok], rfl, g2, g3, g5⟩

end

section
variable {s : Src} {p : Nat} {c : UInt8}

theorem blankOpt_idem (i : List UInt8) : blankOpt (blankOpt i) = blankOpt i := by
  fun_induction blankOpt i with
  | case1 r ih => exact ih
  | case2 r ih => exact ih
  | case3 r ih => exact ih
  | case4 i h1 h2 h3 => exact blankOpt.eq_4 i h1 h2 h3

theorem blank_then {t : List UInt8} (h : blankOpt (rest s p) = c :: t) :
    s[skipBlank s p]? = some c ∧ t = rest s (skipBlank s p + 1) ∧ p ≤ skipBlank s p ∧ skipBlank s p + 1 ≤ s.size := by
  rw [blankOpt_eq_skipBlank] at h
  exact ⟨rest_head h, (rest_cons_iff.mp h).2, skipBlank_ge s p, rest_lt h⟩

theorem blank_ne (h : ∀ t, blankOpt (rest s p) ≠ c :: t) : s[skipBlank s p]? ≠ some c :=
  fun hc => h _ ((blankOpt_eq_skipBlank s p).trans (rest_cons hc))

theorem not_dot_of_blank_head {r t : List UInt8} (h : blankOpt r = c :: t) (hc : c ≠ 46) : ∀ t', r ≠ 46 :: t' := by
  intro t' ht
  rw [ht, blankOpt_other _ (by decide) (by decide) (by decide)] at h
  exact hc (List.cons.inj h).1.symm

end

section
variable {r : List UInt8}

/-- after an inline expression every context of the grammar continues with `blank?` and one of `}` `,` `)`
`->`; all that matters here is that it is none of `(` `:` `.` -/
def Follow (r : List UInt8) : Prop := ∃ b t, blankOpt r = b :: t ∧ b ≠ 40 ∧ b ≠ 58 ∧ b ≠ 46

theorem Follow.ne (h : Follow r) {c : UInt8} (hc : c = 40 ∨ c = 58 ∨ c = 46) : ∀ t, blankOpt r ≠ c :: t := by
  obtain ⟨b, t, h1, h40, h58, h46⟩ := h
  intro t' ht
  rw [h1] at ht
  cases (List.cons.inj ht).1
  rcases hc with rfl | rfl | rfl <;> contradiction

theorem follow_of_blank {r r' : List UInt8} (h : blankOpt r = blankOpt r') (hf : Follow r) : Follow r' := by
  obtain ⟨b, t, h1, h2⟩ := hf
  exact ⟨b, t, by rw [← h]; exact h1, h2⟩

theorem follow_not_dot (h : Follow r) : ∀ t, r ≠ 46 :: t := by
  obtain ⟨b, t, h1, _, _, h4⟩ := h
  exact not_dot_of_blank_head h1 h4

end

section
variable {s : Src}

theorem attributeAccessorOpt_other {i : List UInt8} (h : ∀ t, i ≠ 46 :: t) : attributeAccessorOpt i = (none, i) := by
  unfold attributeAccessorOpt
  split
  · exact absurd rfl (h _)
  · rfl

/-- the AttributeAccessor? of the grammar against `get_attribute_accessor` at the same cursor; a `.` that
is not followed by an identifier is left in place by the grammar and is an error for the parser -/
theorem attributeAccessor_fwd (hs : AsciiThenBoundary s) (q : Nat) (hq : q ≤ s.size)
    (hnd : ∀ t, (attributeAccessorOpt (rest s q)).2 ≠ 46 :: t) :
    ∃ attr q', getAttributeAccessor s q = .ok attr q' ∧ q' ≤ s.size ∧ q ≤ q' ∧
      (attributeAccessorOpt (rest s q)).1 = attr.map (spanBytes s) ∧
      (attributeAccessorOpt (rest s q)).2 = rest s q' := by
  by_cases h46 : s[q]? = some 46
  · rw [rest_cons h46, attributeAccessorOpt] at hnd ⊢
    cases hid : identifier (rest s (q + 1)) with
    | none => rw [hid] at hnd; exact absurd rfl (hnd _)
    | some ar =>
      obtain ⟨a, r⟩ := ar
      obtain ⟨q', g1, g2, g3, g4, g5, _⟩ := identifier_fwd hs hid
      exact ⟨some ⟨q + 1, q'⟩, q', by rw [getAttributeAccessor_eq, if_pos h46, g1, R.bind_ok], g3, Nat.le_of_lt (Nat.lt_of_succ_lt g2),
        congrArg some g4, g5⟩
  · rw [attributeAccessorOpt_other fun t ht => h46 (rest_head ht)]
    exact ⟨none, q, getAttributeAccessor_none q h46, hq, Nat.le_refl _, rfl, rfl⟩

end

section
variable {m p q n q0 : Nat} {i r : List UInt8} {s : Src} {b : UInt8} {attr : Option Span}

def InlineRef (s : Src) (m : Nat) : Prop :=
  ∀ n p x r, inlineExpression m (rest s p) = .ok x r → Follow r → p ≤ s.size → 4 * (s.size - p) + 1 ≤ n →
    ∃ e q, getInline s n false p = .ok e q ∧ jI s e = x ∧ q ≤ s.size ∧ blankOpt r = blankOpt (rest s q)

def PlaceableRef (s : Src) (m : Nat) : Prop :=
  ∀ n p x r, inlinePlaceable m (rest s p) = .ok x r → 4 * (s.size - (p + 1)) + 3 ≤ n →
    ∃ e q, getPlaceable s n (p + 1) = .ok e q ∧ jE s e = x ∧ q ≤ s.size ∧ r = rest s q

def CallArgsRef (s : Src) (m : Nat) : Prop :=
  ∀ n p pos named r, callArguments m (rest s p) = .ok (pos, named) r → p ≤ s.size → 4 * (s.size - p) + 1 ≤ n →
    ∃ pos' named' q, getCallArguments s n p = .ok (some (pos', named')) q ∧ jInl s pos' = pos ∧
      jNamed s named' = named ∧ q ≤ s.size ∧ r = rest s q

theorem inlinePlaceable_head {x : Expr Bytes} (h : inlinePlaceable m i = .ok x r) : ∃ t, i = 123 :: t := by
  cases m with
  | zero => unfold inlinePlaceable at h; cases h
  | succ m =>
    rw [inlinePlaceable_unfold] at h
    split at h
    · exact ⟨_, rfl⟩
    · cases h

theorem callArguments_not_dot {a : List (Inline Bytes) × List (Bytes × Inline Bytes)}
     (h : callArguments m i = .ok a r) : ∀ t, i ≠ 46 :: t := by
  rintro t rfl
  cases m with
  | zero => unfold callArguments at h; cases h
  | succ m => rw [callArguments_unfold, blankOpt_other _ (by decide) (by decide) (by decide)] at h; cases h

/-- MessageReference ::= Identifier AttributeAccessor? -/
theorem inline_msg (hs : AsciiThenBoundary s) {id : Bytes} {r0 : List UInt8}
    (hid : identifier (rest s p) = some (id, r0)) (hF : Follow (attributeAccessorOpt r0).2)
    (hn : 4 * (s.size - p) + 1 ≤ n) :
    ∃ e q, getInline s n false p = .ok e q ∧ jI s e = .msg id (attributeAccessorOpt r0).1 ∧ q ≤ s.size ∧
      blankOpt (attributeAccessorOpt r0).2 = blankOpt (rest s q) := by
  obtain ⟨q0, i1, i2, i3, rfl, rfl, b, hb, hba⟩ := identifier_fwd hs hid
  obtain ⟨attr, q', a1, a2, _, a4, a5⟩ := attributeAccessor_fwd hs q0 i3 (follow_not_dot hF)
  rw [a5] at hF
  rw [a4, a5]
  by_cases h46 : s[q0]? = some 46
  · -- at a dot the parser's `skip_blank` does not move
    have hsk := skipBlank_at h46 (by decide) (by decide) (by decide)
    exact ⟨_, q', getInline_msg_at hb hba i1 (fuel_two hn (get_lt hb)) (by rw [hsk, h46]; decide) (by rw [hsk]; exact a1),
      rfl, a2, rfl⟩
  · rw [getAttributeAccessor_none q0 h46] at a1
    cases a1
    exact ⟨_, _, getInline_msg_at hb hba i1 (fuel_two hn (get_lt hb)) (blank_ne (hF.ne (.inl rfl)))
        (getAttributeAccessor_none _ (blank_ne (hF.ne (.inr (.inr rfl))))),
      rfl, skipBlank_le_size i3, by rw [← blankOpt_eq_skipBlank, blankOpt_idem]⟩

/-- InlineExpression: every alternative of the grammar's ordered choice is the branch `get_inline_expression`
takes on the first byte -/
theorem inline_step (hs : AsciiThenBoundary s) (hca : CallArgsRef s m) (hpl : PlaceableRef s m) :
    InlineRef s (m + 1) := by
  intro n p x r hI hF hp hn
  obtain ⟨n, rfl⟩ := fuel_succ hn
  rw [inlineExpression_unfold] at hI
  split at hI
  · -- StringLiteral
    rename_i v r' hsl
    cases hI
    obtain ⟨e, q, g1, g2, _, g3, rfl⟩ := getInline_string hs n false hsl
    exact ⟨e, q, g1, g2, g3, rfl⟩
  split at hI
  · -- NumberLiteral
    rename_i v r' hnl
    cases hI
    obtain ⟨e, q, g1, g2, _, g3, rfl⟩ := getInline_num_fwd hs n false hnl (follow_not_dot hF)
    exact ⟨e, q, g1, g2, g3, rfl⟩
  rcases PR.seq_eq_ok hI with ⟨e, r', hfn, hI⟩ | ⟨_, hI⟩
  · -- FunctionReference ::= Identifier CallArguments, with the callee rule
    cases hI
    unfold fnRef at hfn
    split at hfn
    case h_2 => cases hfn
    rename_i id r0 hid
    obtain ⟨⟨pos, named⟩, r2, hc, hfn⟩ := PR.bind_eq_ok hfn
    dsimp only at hfn
    split at hfn
    case isFalse => cases hfn
    rename_i hcal
    cases hfn
    obtain ⟨q0, i1, i2, i3, rfl, rfl, b, hb, hba⟩ := identifier_fwd hs hid
    obtain ⟨pos', named', q1, c1, rfl, rfl, c4, rfl⟩ := hca n q0 pos named _ hc i3 (fuel_step hn i2 i3)
    have hcallee : isCallee s ⟨p, q0⟩ = true :=
      (calleeOk_eq_isCallee s ⟨p, q0⟩ b _ (by rw [spanBytes_eq_seg, seg_cons hb i2]) hba).symm.trans hcal
    refine ⟨.fn ⟨p, q0⟩ pos' named', q1, ?_, jI_fn .., c4, rfl⟩
    rw [getIdentifier_unchecked hb hba] at i1
    rw [getInline_at_alpha hb hba]
    simp only [inlineRef, i1, R.bind_ok, c1, hcallee, Bool.not_true, Bool.false_eq_true, if_false]
  split at hI
  · -- MessageReference
    rename_i id r0 hid
    cases hI
    exact inline_msg hs hid hF hn
  split at hI
  · -- TermReference ::= "-" Identifier AttributeAccessor? CallArguments?
    rename_i r0 hi0
    obtain ⟨h45, rfl⟩ := rest_cons_iff.mp hi0
    unfold termRef at hI
    split at hI
    case h_2 => cases hI
    rename_i id r1 hid1
    obtain ⟨q0, i1, i2, i3, rfl, rfl, b, hb, hba⟩ := identifier_fwd hs hid1
    have hpq : p < q0 := Nat.lt_of_succ_lt i2
    rcases PR.seq_eq_ok hI with ⟨args, r3, hc, hI⟩ | ⟨_, hI⟩
    · -- with CallArguments: they do not start with a dangling `.`
      obtain ⟨pos, named⟩ := args
      cases hI
      obtain ⟨attr, q', a1, a2, a3, a4, a5⟩ := attributeAccessor_fwd hs q0 i3 (callArguments_not_dot hc)
      rw [a5] at hc
      obtain ⟨pos', named', q1, c1, rfl, rfl, c4, rfl⟩ :=
        hca n q' _ _ _ hc a2 (fuel_step hn (Nat.lt_of_lt_of_le hpq a3) a2)
      exact ⟨_, q1, getInline_term_at h45 hb hba i1 a1 c1, by rw [jI_term_some, a4], c4, rfl⟩
    · cases hI
      obtain ⟨attr, q', a1, a2, a3, a4, a5⟩ := attributeAccessor_fwd hs q0 i3 (follow_not_dot hF)
      rw [a5] at hF ⊢
      have hn0 : 4 * (s.size - q') + 1 ≤ n := fuel_step hn (Nat.lt_of_lt_of_le hpq a3) a2
      have c1 := getCallArguments_none hn0 (blank_ne (hF.ne (.inl rfl)))
      exact ⟨_, _, getInline_term_at h45 hb hba i1 a1 c1, by rw [jI_term_none, a4], skipBlank_le_size a2,
        by rw [← blankOpt_eq_skipBlank, blankOpt_idem]⟩
  · -- VariableReference ::= "$" Identifier
    rename_i r0 hi0
    obtain ⟨h36, rfl⟩ := rest_cons_iff.mp hi0
    split at hI
    case h_2 => cases hI
    rename_i id r1 hid1
    cases hI
    obtain ⟨q0, i1, i2, i3, rfl, rfl, _⟩ := identifier_fwd hs hid1
    exact ⟨.var ⟨p + 1, q0⟩, q0, by rw [getInline_at_dollar h36, inlineVar, i1, R.bind_ok], jI_var .., i3, rfl⟩
  · -- a nested inline_placeable
    obtain ⟨e, r', hp', hI⟩ := PR.bind_eq_ok hI
    cases hI
    obtain ⟨t, ht⟩ := inlinePlaceable_head hp'
    have h123 := rest_head ht
    obtain ⟨e', q, p1, rfl, p3, rfl⟩ := hpl n p e _ hp' (fuel_step hn (Nat.lt_succ_self p) (get_lt h123))
    exact ⟨_, q, by rw [getInline_at_brace h123, inlineNested, p1, R.bind_ok], jI_placeable .., p3, rfl⟩

end

section
variable {s : Src} {q p m : Nat}

theorem splitArgs_cons (a : Arg) (rest : List Arg) (P : List (Inline Bytes)) (N : List (Bytes × Inline Bytes)) :
    splitArgs (a :: rest) P N = (splitArgs [a] P N).bind (fun pn => splitArgs rest pn.1 pn.2) := by
  cases a with
  | positional e => simp only [splitArgs]; split <;> rfl
  | named n v => simp only [splitArgs]; split <;> rfl

theorem splitArgs_positional {e : Inline Bytes} {P0 P : List (Inline Bytes)} {N0 N : List (Bytes × Inline Bytes)}
    (h : splitArgs [.positional e] P0 N0 = some (P, N)) : N0.isEmpty = true ∧ P0 ++ [e] = P ∧ N0 = N := by
  simp only [splitArgs] at h
  split at h
  · rename_i hemp; cases h; exact ⟨hemp, rfl, rfl⟩
  · cases h

theorem splitArgs_named {n : Bytes} {v : Inline Bytes} {P0 P : List (Inline Bytes)} {N0 N : List (Bytes × Inline Bytes)}
    (h : splitArgs [.named n v] P0 N0 = some (P, N)) :
    N0.any (fun x => x.1 == n) = false ∧ P0 = P ∧ N0 ++ [(n, v)] = N := by
  simp only [splitArgs] at h
  split at h
  · cases h
  · rename_i hdup; cases h; exact ⟨Bool.eq_false_iff.mpr hdup, rfl, rfl⟩

theorem argSep_spec (hq : q ≤ s.size) {t : List UInt8} (sep : Bool)
    (h : blankOpt (rest s q) = (if sep then 44 else 41) :: t) :
    q ≤ argSep s q ∧ argSep s q ≤ s.size ∧ rest s (argSep s q) = (if sep then blankOpt t else 41 :: t) := by
  refine ⟨(After.argSep s q).le, (After.argSep s q).le_size hq, ?_⟩
  unfold argSep
  cases sep with
  | true =>
    obtain ⟨hb, rfl, _⟩ := blank_then (c := 44) h
    rw [takeByteIf_pos hb, ← blankOpt_eq_skipBlank]; rfl
  | false =>
    obtain ⟨hb, rfl, _⟩ := blank_then (c := 41) h
    rw [takeByteIf_neg (by rw [hb]; decide)]
    exact (congrArg (rest s) (skipBlank_idem s q)).trans (rest_cons hb)

def ArgIterRef (s : Src) (m : Nat) : Prop :=
  ∀ n p a r t pos0 named0 P N (sep : Bool),
    argument m (rest s p) = .ok a r →
    blankOpt r = (if sep then 44 else 41) :: t →
    splitArgs [a] (jInl s pos0) (jNamed s named0) = some (P, N) →
    p ≤ s.size → 4 * (s.size - p) + 2 ≤ n + 1 →
    ∃ pos1 named1 q3, getCallArgsLoop s (n + 1) pos0 named0 p = getCallArgsLoop s n pos1 named1 q3 ∧
      jInl s pos1 = P ∧ jNamed s named1 = N ∧ p < q3 ∧ q3 ≤ s.size ∧
      rest s q3 = (if sep then blankOpt t else 41 :: t)

theorem getInline_lt (hs : AsciiThenBoundary s) {n : Nat} {ol : Bool} {e : Inline Span}
    (h : getInline s n ol p = .ok e q) (hp : p ≤ s.size) (hn : 4 * (s.size - p) + 1 ≤ n) : p < q :=
  (((specs_all hs n).inline ol p hp hn).of_ok h).2.2.1

/-- one round of the argument loop: `Argument` followed by `blank? ","` or by the closing parenthesis -/
theorem argIter_step (hs : AsciiThenBoundary s) (hi : InlineRef s m) : ArgIterRef s (m + 1) := by
  intro n p a r t pos0 named0 P N sep hA hsep hsplit hp hn
  have hF : Follow r := ⟨_, t, hsep, by cases sep <;> decide⟩
  have hn1 : 4 * (s.size - p) + 1 ≤ n := Nat.le_of_succ_le_succ hn
  rw [argument_unfold] at hA
  split at hA
  case h_2 =>
    -- a positional InlineExpression
    obtain ⟨e, r', hie, hA⟩ := PR.bind_eq_ok hA
    cases hA
    obtain ⟨hemp, rfl, rfl⟩ := splitArgs_positional hsplit
    rw [jNamed_eq_map, List.isEmpty_map] at hemp
    obtain ⟨e', q, g1, rfl, g3, g4⟩ := hi n p e _ hie hF hp hn1
    rw [g4] at hsep
    obtain ⟨np1, np2, np3⟩ := argSep_spec g3 sep hsep
    -- the first non-blank byte after the expression is `,` or `)`, not `:`
    have hnc : s[skipBlank s q]? ≠ some 58 := by rw [(blank_then hsep).1]; cases sep <;> decide
    exact ⟨pos0 ++ [e'], named0, argSep s q, by rw [getCallArgsLoop_arg g1, argTail_positional hemp hnc],
      by simp only [jInl_eq_map, List.map_append, List.map_cons, List.map_nil], rfl,
      Nat.lt_of_lt_of_le (getInline_lt hs g1 hp hn1) np1, np2, np3⟩
  -- NamedArgument ::= Identifier blank? ":" blank? (StringLiteral | NumberLiteral)
  rename_i a' r' hna
  cases hA
  unfold namedArg at hna
  split at hna
  case h_2 => cases hna
  rename_i name r0 hid
  split at hna
  case h_2 => cases hna
  rename_i r1 hcolon
  -- the name, read by the parser as a message reference
  obtain ⟨q0, i1, i2, i3, rfl, rfl, b, hb, hba⟩ := identifier_fwd hs hid
  obtain ⟨h58, rfl, hge, _⟩ := blank_then hcolon
  have hgi := getInline_msg_at hb hba i1 (fuel_two hn1 (get_lt hb)) (by rw [h58]; decide)
    (getAttributeAccessor_none _ (by rw [h58]; decide))
  obtain ⟨n, rfl⟩ := fuel_succ hn1
  rw [blankOpt_eq_skipBlank] at hna
  have hp2 : p < skipBlank s (skipBlank s q0 + 1) :=
    Nat.lt_of_lt_of_le (Nat.lt_succ_of_le (Nat.le_trans (Nat.le_of_lt i2) hge)) (skipBlank_ge s _)
  have hval : ∃ val q3 v, getInline s (n + 1) true (skipBlank s (skipBlank s q0 + 1)) = .ok val q3 ∧
      p < q3 ∧ q3 ≤ s.size ∧ a = .named (spanBytes s ⟨p, q0⟩) v ∧ jI s val = v ∧ r = rest s q3 := by
    split at hna
    · rename_i v r3 hsl
      cases hna
      obtain ⟨e, q, g1, g2, g3, g4, g5⟩ := getInline_string hs n true hsl
      exact ⟨e, q, _, g1, Nat.lt_trans hp2 g3, g4, rfl, g2, g5⟩
    split at hna
    · rename_i v r3 hnl
      cases hna
      obtain ⟨e, q, g1, g2, g3, g4, g5⟩ := getInline_num_fwd hs n true hnl (follow_not_dot hF)
      exact ⟨e, q, _, g1, Nat.lt_trans hp2 g3, g4, rfl, g2, g5⟩
    · cases hna
  obtain ⟨val, q3, v, hv1, hv2, hv3, rfl, rfl, rfl⟩ := hval
  obtain ⟨hdup, rfl, rfl⟩ := splitArgs_named hsplit
  rw [jNamed_eq_map, List.any_map] at hdup
  have hdup : named0.any (fun na => spanBytes s na.1 == spanBytes s ⟨p, q0⟩) = false := hdup
  obtain ⟨np1, np2, np3⟩ := argSep_spec hv3 sep hsep
  refine ⟨pos0, named0 ++ [(⟨p, q0⟩, val)], argSep s q3, ?_, rfl,
    by simp only [jNamed_eq_map, List.map_append, List.map_cons, List.map_nil],
    Nat.lt_of_lt_of_le hv2 np1, np2, np3⟩
  rw [getCallArgsLoop_arg hgi]
  simp only [argTail, skipBlank_idem s q0, h58, if_true, hdup, Bool.false_eq_true, if_false, hv1, R.bind_ok]

def ArgListRef (s : Src) (m : Nat) : Prop :=
  ∀ n p args r1 r2 pos0 named0 P N,
    argumentList m (rest s p) = .ok args r1 → blankOpt r1 = 41 :: r2 →
    blankOpt (rest s p) = rest s p →
    splitArgs args (jInl s pos0) (jNamed s named0) = some (P, N) →
    p ≤ s.size → 4 * (s.size - p) + 2 ≤ n →
    ∃ pos' named' q, getCallArgsLoop s n pos0 named0 p = .ok (pos', named') q ∧ jInl s pos' = P ∧
      jNamed s named' = N ∧ rest s q = 41 :: r2 ∧ q ≤ s.size

/-- `argument_list ::= (Argument blank? "," blank?)* Argument?` up to the closing parenthesis is the
`while` loop of `get_call_arguments` -/
theorem argList_step (hit : ArgIterRef s m) (hal : ArgListRef s m) : ArgListRef s (m + 1) := by
  intro n p args r1 r2 pos0 named0 P N hA hclose hnorm hsplit hp hn
  obtain ⟨n, rfl⟩ := fuel_succ hn
  rw [argumentList_unfold] at hA
  rcases PR.seq_eq_ok hA with ⟨a, r, harg, hA⟩ | ⟨_, hA⟩
  · split at hA
    · -- a comma follows
      rename_i t hcomma
      obtain ⟨more, r2', hmore, hA⟩ := PR.bind_eq_ok hA
      cases hA
      rw [splitArgs_cons] at hsplit
      obtain ⟨⟨P1, N1⟩, hone, hsplit⟩ := Option.bind_eq_some_iff.mp hsplit
      obtain ⟨pos1, named1, q3, h1, rfl, rfl, h4, h5, h6⟩ :=
        hit n p a r t pos0 named0 P1 N1 true harg hcomma hone hp hn
      have h6 : rest s q3 = blankOpt t := h6
      rw [← h6] at hmore
      obtain ⟨pos', named', q, g1, g2⟩ :=
        hal n q3 more r1 r2 pos1 named1 P N hmore hclose (by rw [h6, blankOpt_idem]) hsplit h5 (fuel_step hn h4 h5)
      exact ⟨pos', named', q, h1.trans g1, g2⟩
    · -- the last argument
      cases hA
      obtain ⟨pos1, named1, q3, h1, h2, h3, h4, h5, h6⟩ :=
        hit n p a r1 r2 pos0 named0 P N false harg hclose hsplit hp hn
      have hn3 : 4 * (s.size - q3) + 2 ≤ n := fuel_step hn h4 h5
      exact ⟨pos1, named1, q3, h1.trans (getCallArgsLoop_close hn3 (rest_head h6) pos1 named1),
        h2, h3, h6, h5⟩
  · cases hA
    rw [hnorm] at hclose
    cases hsplit
    exact ⟨pos0, named0, p, getCallArgsLoop_close (Nat.succ_pos n) (rest_head hclose) pos0 named0, rfl, rfl, hclose, hp⟩

/-- `CallArguments ::= blank? "(" blank? argument_list blank? ")"` with the validity rules (no positional
argument after a named one, no duplicate name) is `get_call_arguments` -/
theorem callArgs_step (hal : ArgListRef s m) : CallArgsRef s (m + 1) := by
  intro n p pos named r hC hp hn
  obtain ⟨n, rfl⟩ := fuel_succ hn
  rw [callArguments_unfold] at hC
  split at hC
  case h_2 => cases hC
  rename_i r0 hopen
  obtain ⟨h40, rfl, hge, hlt⟩ := blank_then hopen
  obtain ⟨args, r1, hargs, hC⟩ := PR.bind_eq_ok hC
  split at hC
  case h_2 => cases hC
  rename_i r2 hclose
  split at hC
  case h_2 => cases hC
  rename_i pn hsp
  cases hC
  rw [blankOpt_eq_skipBlank] at hargs
  obtain ⟨pos', named', q, g1, g2, g3, g4, g5⟩ :=
    hal n (skipBlank s (skipBlank s p + 1)) args r1 r [] [] pos named hargs hclose
      (by rw [← blankOpt_eq_skipBlank, blankOpt_idem]) hsp (skipBlank_le_size hlt)
      (fuel_step hn (Nat.lt_of_lt_of_le (Nat.lt_succ_of_le hge) (skipBlank_ge s _)) (skipBlank_le_size hlt))
  obtain ⟨h41, rfl⟩ := rest_cons_iff.mp g4
  refine ⟨pos', named', q + 1, ?_, g2, g3, get_lt h41, rfl⟩
  rw [getCallArguments_unfold, if_pos h40, g1, R.bind_ok, expectByte_pos h41, R.bind_ok]

end

section
variable {i r : List UInt8} {s : Src} {m : Nat}

theorem variantKey_head {k : VKey Bytes} (h : SpecGrammar.variantKey i = some (k, r)) : ∃ t, i = 91 :: t := by
  unfold SpecGrammar.variantKey at h
  split at h
  · exact ⟨_, rfl⟩
  · cases h

/-- `VariantKey ::= "[" blank? (NumberLiteral | Identifier) blank? "]"` against the inlined `get_variant_key` -/
theorem variantKey_fwd (hs : AsciiThenBoundary s) {p1 : Nat} {k : VKey Bytes} {r3 : List UInt8}
    (h : SpecGrammar.variantKey (rest s p1) = some (k, r3)) :
    s[p1]? = some 91 ∧ ∃ key q, FluentProofs.Parser.variantKey s (skipBlank s (p1 + 1)) = .ok key q ∧
      s[skipBlank s q]? = some 93 ∧ k = key.mapS (spanBytes s) ∧ r3 = rest s (skipBlank s q + 1) ∧
      skipBlank s q + 1 ≤ s.size ∧ p1 + 1 < q := by
  obtain ⟨t, ht⟩ := variantKey_head h
  obtain ⟨h91, rfl⟩ := rest_cons_iff.mp ht
  refine ⟨h91, ?_⟩
  rw [ht] at h
  unfold SpecGrammar.variantKey at h
  simp only [blankOpt_eq_skipBlank] at h
  split at h
  · rename_i k' r2 hk
    split at h
    · rename_i r3' hclose
      cases h
      have hkey : ∃ key q, FluentProofs.Parser.variantKey s (skipBlank s (p1 + 1)) = .ok key q ∧
          k = key.mapS (spanBytes s) ∧ r2 = rest s q ∧ skipBlank s (p1 + 1) < q := by
        -- `is_number_start` decides as the grammar's ordered choice does
        have hch := variantKey_choice s (skipBlank s (p1 + 1))
        rw [variantKey_eq]
        split at hk
        · rename_i v r2' hnl
          cases hk
          obtain ⟨q, g1, g2, _, rfl, rfl⟩ := number_fwd hs hnl (not_dot_of_blank_head hclose (by decide))
          have hns := Bool.of_not_eq_false (mt hch.2 (by rw [hnl]; nofun))
          exact ⟨.num ⟨_, q⟩, q, by rw [if_pos hns, g1, R.bind_ok], rfl, rfl, g2⟩
        split at hk
        · rename_i nm r2' hid
          cases hk
          obtain ⟨q, g1, g2, _, rfl, rfl, _⟩ := identifier_fwd hs hid
          have hns := mt hch.1 (by rw [hid]; nofun)
          exact ⟨.ident ⟨_, q⟩, q, by rw [if_neg hns, g1, R.bind_ok], rfl, rfl, g2⟩
        · cases hk
      obtain ⟨key, q, k1, rfl, rfl, k4⟩ := hkey
      obtain ⟨h93, rfl, _, hlt⟩ := blank_then hclose
      exact ⟨key, q, k1, h93, rfl, rfl, hlt, Nat.lt_of_le_of_lt (skipBlank_ge s _) k4⟩
    · cases h
  · cases h

/-- what follows a pattern in every context of the grammar: a line end; and the first non-blank byte after it
is not `{`, and is one of `.` `[` `*` `}` unless it stands in column 0 (the next entry) -/
def PatFollow (r : List UInt8) : Prop :=
  (lineEnd r).isSome = true ∧
    ∀ b t, blankOpt r = b :: t → b ≠ 123 ∧ (b = 46 ∨ b = 91 ∨ b = 42 ∨ b = 125 ∨ afterBlank r = b :: t)

/-- what follows the pattern of a variant: a line end, then (after blank) the next variant or the closing brace -/
def VFollow (r : List UInt8) : Prop :=
  (lineEnd r).isSome = true ∧ ∃ b t, blankOpt r = b :: t ∧ (b = 91 ∨ b = 42 ∨ b = 125)

theorem VFollow.patFollow (h : VFollow r) : PatFollow r := by
  obtain ⟨h1, b, t, h2, h3⟩ := h
  refine ⟨h1, fun b' t' h' => ?_⟩
  rw [h2] at h'
  cases h'
  exact ⟨by rcases h3 with rfl | rfl | rfl <;> decide, .inr (h3.imp_right (Or.imp_right .inl))⟩

/-- `get_pattern` against `Pattern` at grammar fuel `m`: the expression layer takes it as a hypothesis, `SpecPatLoop`
proves it -/
def PatternRef (s : Src) (m : Nat) : Prop :=
  ∀ n p0 pat r, pattern m (spaces (rest s p0)) = .ok pat r → PatFollow r → p0 ≤ s.size → Bnd s p0 →
    4 * (s.size - p0) + 2 ≤ n →
    ∃ pat' q, getPattern s n p0 = .ok (some pat') q ∧ jPat s pat' = pat ∧ q ≤ s.size ∧ p0 ≤ q ∧ rest s q = afterBlank r

/-- one round of the variant loop -/
def VariantIterRef (s : Src) (m : Nat) : Prop :=
  ∀ n pp i d v r4 hd acc, variant m d i = .ok v r4 → rest s pp = blankOpt i → VFollow r4 →
    (d && hd) = false → pp ≤ s.size → 4 * (s.size - pp) + 1 ≤ n + 1 →
    ∃ v' q, getVariants s (n + 1) hd acc pp = getVariants s n (hd || d) (acc ++ [v']) q ∧ jV s v' = v ∧
      pp < q ∧ q ≤ s.size ∧ rest s q = blankOpt r4

/-- `Variant ::= line_end blank? VariantKey blank_inline? Pattern` and `DefaultVariant` (with the `*`),
read off a success -/
theorem variant_ok {d : Bool} {r4 : List UInt8} {v : Variant Bytes} (h : variant (m + 1) d i = .ok v r4) :
    ∃ r0 r2 k r3 pat, lineEnd i = some r0 ∧ blankOpt r0 = (if d then 42 :: r2 else r2) ∧
      SpecGrammar.variantKey r2 = some (k, r3) ∧ pattern m (spaces r3) = .ok pat r4 ∧ v = .mk k pat d := by
  rw [variant_unfold] at h
  split at h
  · cases h
  · rename_i r0 hl
    split at h
    · cases h
    · rename_i r2 hr2
      split at h
      · cases h
      · rename_i k r3 hk
        obtain ⟨pat, r, hp, h⟩ := PR.bind_eq_ok h
        cases h
        refine ⟨r0, r2, k, r3, pat, hl, ?_, hk, hp, rfl⟩
        unfold defaultMark at hr2
        cases d with
        | true =>
          simp only [if_true] at hr2 ⊢
          split at hr2
          · rename_i heq; cases hr2; exact heq
          · cases hr2
        | false => cases hr2; rfl

theorem variant_vfollow {d : Bool} {v : Variant Bytes} (h : variant m d i = .ok v r) : VFollow i := by
  cases m with
  | zero => unfold variant at h; cases h
  | succ m =>
    obtain ⟨r0, r2, k, r3, pat, hl, hr2, hk, _⟩ := variant_ok h
    obtain ⟨t, rfl⟩ := variantKey_head hk
    refine ⟨by rw [hl]; rfl, ?_⟩
    rw [blankOpt_lineEnd hl, hr2]
    cases d
    · exact ⟨91, t, rfl, .inl rfl⟩
    · exact ⟨42, _, rfl, .inr (.inl rfl)⟩

theorem variants_vfollow {r1 : List UInt8} {vs : List (Variant Bytes)} (h : variants m i = .ok vs r1)
    (hl : VFollow r1) : VFollow i := by
  cases m with
  | zero => unfold variants at h; cases h
  | succ m =>
    rw [variants_unfold] at h
    rcases PR.seq_eq_ok h with ⟨v, r, hv, _⟩ | ⟨_, h⟩
    · exact variant_vfollow hv
    · cases h; exact hl

theorem variantList_vfollow {vs : List (Variant Bytes)} (h : variantList m i = .ok vs r) : VFollow i := by
  cases m with
  | zero => unfold variantList at h; cases h
  | succ m =>
    rw [variantList_unfold] at h
    obtain ⟨vs1, r1, h1, h⟩ := PR.bind_eq_ok h
    obtain ⟨d, r2, h2, _⟩ := PR.bind_eq_ok h
    exact variants_vfollow h1 (variant_vfollow h2)

theorem skipEol_of_vfollow {p : Nat} (hp : p ≤ s.size) (h : VFollow (rest s p)) :
    ∃ q, skipEol s p = some q ∧ p < q ∧ skipBlank s q ≤ s.size ∧ rest s (skipBlank s q) = blankOpt (rest s p) := by
  obtain ⟨hle, b, t, hbt, _⟩ := h
  rw [lineEnd_eq_skipEol] at hle
  cases hse : skipEol s p with
  | none =>
    rw [hse] at hle
    by_cases hsz : s.size ≤ p
    · rw [rest_eq_nil_iff.mpr hsz] at hbt; cases hbt
    · rw [if_neg hsz] at hle; cases hle
  | some q =>
    refine ⟨q, rfl, (skipEol_some hse).1, skipBlank_le_size ((skipEol_after hse).le_size hp), ?_⟩
    rw [blankOpt_lineEnd ((lineEnd_eq_skipEol s p).trans (by rw [hse])), blankOpt_eq_skipBlank]

theorem variantIter_step (hs : AsciiThenBoundary s) (hpat : PatternRef s m) : VariantIterRef s (m + 1) := by
  intro n pp i d v r4 hd acc hV hpp hle hdh hps hn
  obtain ⟨r0, r2, k, r3, pat, hl0, hr2, hk, hp, rfl⟩ := variant_ok hV
  rw [blankOpt_lineEnd hl0, hr2] at hpp
  -- `p1`: the cursor at the `[`, after the star of a default variant
  obtain ⟨p1, rfl, hpp1, hunf⟩ : ∃ p1, rest s p1 = r2 ∧ pp ≤ p1 ∧ (s[p1]? = some 91 →
      getVariants s (n + 1) hd acc pp = variantTail s n (hd || d) d acc (p1 + 1)) := by
    cases d with
    | true =>
      obtain ⟨h42, rfl⟩ := (rest_cons_iff (b := 42)).mp hpp
      cases hd with
      | true => cases hdh
      | false =>
        exact ⟨pp + 1, rfl, Nat.le_succ pp, fun h91 => by rw [getVariants_unfold, if_pos h42, if_pos h91]; rfl⟩
    | false =>
      exact ⟨pp, hpp, Nat.le_refl pp, fun h91 => by
        rw [getVariants_unfold, if_neg (by rw [h91]; decide), if_pos h91, Bool.or_false]⟩
  obtain ⟨h91, key, q, k1, k2, rfl, rfl, k5, k6⟩ := variantKey_fwd hs hk
  have hlt : pp < skipBlank s q + 1 :=
    Nat.lt_succ_of_le (Nat.le_trans hpp1 (Nat.le_trans (Nat.le_of_lt (Nat.lt_of_succ_lt k6)) (skipBlank_ge s q)))
  obtain ⟨pat', q3, g1, rfl, g3, g3', g4⟩ := hpat n (skipBlank s q + 1) pat r4 hp hle.patFollow k5
    (bnd_succ hs k2 (by decide)) (fuel_step hn hlt k5)
  refine ⟨.mk key pat' d, skipBlank s q3, ?_, jV_mk ..,
    Nat.lt_of_lt_of_le hlt (Nat.le_trans g3' (skipBlank_ge s q3)), skipBlank_le_size g3,
    by rw [← blankOpt_eq_skipBlank, g4, blankOpt_afterBlank]⟩
  rw [hunf h91]
  simp only [variantTail, k1, R.bind_ok, expectByte_pos k2, g1]

/-- `Variant*`: the parser's loop runs through the same variants and arrives, with the same `has_default`
flag, where the grammar's repetition stops -/
def VariantsRef (s : Src) (m : Nat) : Prop :=
  ∀ n pp i vs r1 hd acc, variants m i = .ok vs r1 → rest s pp = blankOpt i → VFollow r1 →
    pp ≤ s.size → 4 * (s.size - pp) + 1 ≤ n →
    ∃ vs' pp' n', getVariants s n hd acc pp = getVariants s n' hd (acc ++ vs') pp' ∧ jVars s vs' = vs ∧
      rest s pp' = blankOpt r1 ∧ pp ≤ pp' ∧ pp' ≤ s.size ∧ 4 * (s.size - pp') + 1 ≤ n'

theorem variants_step (hit : VariantIterRef s m) (hvs : VariantsRef s m) : VariantsRef s (m + 1) := by
  intro n pp i vs r1 hd acc hV hpp hl hps hn
  rw [variants_unfold] at hV
  rcases PR.seq_eq_ok hV with ⟨v, r, hv, hV⟩ | ⟨_, hV⟩
  · obtain ⟨more, r', hmore, hV⟩ := PR.bind_eq_ok hV
    cases hV
    obtain ⟨n, rfl⟩ := fuel_succ hn
    obtain ⟨v', q, g1, rfl, g3, g4, g5⟩ := hit n pp i false v r hd acc hv hpp (variants_vfollow hmore hl) rfl hps hn
    obtain ⟨vs', pp', n', f1, rfl, f3, f4, f5, f6⟩ :=
      hvs n q r more r1 hd (acc ++ [v']) hmore g5 hl g4 (fuel_step hn g3 g4)
    refine ⟨v' :: vs', pp', n', ?_, rfl, f3, Nat.le_trans (Nat.le_of_lt g3) f4, f5, f6⟩
    rw [g1, Bool.or_false, f1, List.append_assoc]; rfl
  · cases hV
    exact ⟨[], pp, n, by rw [List.append_nil], rfl, hpp, Nat.le_refl _, hps, hn⟩

def VariantListRef (s : Src) (m : Nat) : Prop :=
  ∀ n pp i vs r4 r5, variantList m i = .ok vs r4 → blankOpt r4 = 125 :: r5 → rest s pp = blankOpt i →
    pp ≤ s.size → 4 * (s.size - pp) + 1 ≤ n →
    ∃ vs' q, getVariants s n false [] pp = .ok vs' q ∧ jVars s vs' = vs ∧ rest s q = 125 :: r5 ∧ q ≤ s.size

/-- `variant_list ::= Variant* DefaultVariant Variant* line_end` (exactly one default) is `get_variants` -/
theorem variantList_step (hit : VariantIterRef s m) (hvs : VariantsRef s m) : VariantListRef s (m + 1) := by
  intro n pp i vs r4 r5 hV hclose hpp hps hn
  rw [variantList_unfold] at hV
  obtain ⟨vs1, r1, h1, hV⟩ := PR.bind_eq_ok hV
  obtain ⟨d, r2, h2, hV⟩ := PR.bind_eq_ok hV
  obtain ⟨vs2, r3, h3, hV⟩ := PR.bind_eq_ok hV
  split at hV
  case h_2 => cases hV
  rename_i r4' hle
  cases hV
  have hl3 : VFollow r3 := ⟨by rw [hle]; rfl, 125, r5, by rw [blankOpt_lineEnd hle, hclose], .inr (.inr rfl)⟩
  obtain ⟨vs1', pp1, n1, a1, rfl, a3, a4, a5, a6⟩ := hvs n pp i vs1 r1 false [] h1 hpp (variant_vfollow h2) hps hn
  obtain ⟨n1, rfl⟩ := fuel_succ a6
  obtain ⟨d', pp2, b1, rfl, b3, b4, b5⟩ :=
    hit n1 pp1 r1 true d r2 false ([] ++ vs1') h2 a3 (variants_vfollow h3 hl3) rfl a5 a6
  obtain ⟨vs2', pp3, n3, c1, rfl, c3, c4, c5, c6⟩ :=
    hvs n1 pp2 r2 vs2 r3 true ([] ++ vs1' ++ [d']) h3 b5 hl3 b4 (fuel_step a6 b3 b4)
  rw [blankOpt_lineEnd hle, hclose] at c3
  obtain ⟨n3, rfl⟩ := fuel_succ c6
  have h125 := rest_head c3
  refine ⟨[] ++ vs1' ++ [d'] ++ vs2', pp3, ?_, ?_, c3, c5⟩
  · rw [a1, b1, Bool.false_or, c1, getVariants_unfold, if_neg (by rw [h125]; decide),
      if_neg (by rw [h125]; decide)]
    rfl
  · simp only [jVars_eq_map, List.map_append, List.map_cons, List.nil_append, List.append_assoc, List.cons_append]

end

section
variable {s : Src} {e : Inline Span} {n q : Nat}

/-- the grammar's selector rule covers every case in which `get_expression` rejects a selector -/
theorem selectorError_none (h : selectorOk (jI s e) = true) : selectorError e = none := by
  cases e with
  | msg a b => cases h
  | placeable z => cases h
  | term a b c =>
    cases b with
    | some b' => rfl
    | none =>
      cases c with
      | none => cases h
      | some pn => obtain ⟨p1, p2⟩ := pn; cases h
  | _ => rfl

theorem not_termAttr (h : placeableOk (.inline (jI s e)) = true) : ∀ a b c, e ≠ .term a (some b) c := by
  rintro a b c rfl
  cases c with
  | none => cases h
  | some pn => obtain ⟨p1, p2⟩ := pn; cases h

section
variable {m p : Nat} (hi : InlineRef s m) {e : Inline Bytes} {r1 r5 : List UInt8}
  (hie : inlineExpression m (rest s (skipBlank s p)) = .ok e r1) (hp : skipBlank s p ≤ s.size)
  (hn : 4 * (s.size - skipBlank s p) + 1 ≤ n)
include hi hie hp hn

/-- `"{" blank? InlineExpression blank? "}"` -/
theorem placeable_inline (hclose : blankOpt r1 = 125 :: r5) (hok : placeableOk (.inline e) = true) :
    ∃ e' q, getPlaceable s (n + 2) p = .ok e' q ∧ jE s e' = .inline e ∧ q ≤ s.size ∧ r5 = rest s q := by
  obtain ⟨e', q, g1, rfl, g3, g4⟩ := hi n _ e r1 hie ⟨125, _, hclose, by decide, by decide, by decide⟩ hp hn
  rw [g4] at hclose
  obtain ⟨h125, rfl, _, hlt⟩ := blank_then hclose
  have hnt := not_termAttr hok
  have hge : getExpression s (n + 1) (skipBlank s p) = .ok (.inline e') (skipBlank s q) := by
    rw [getExpression_unfold, g1, R.bind_ok, exprTail_inline hnt (by rw [h125]; decide)]
  exact ⟨_, _, getPlaceable_close hge h125 fun a b c h => hnt a b c (Expr.inline.inj h), jE_inline .., hlt, rfl⟩

/-- `"{" blank? InlineExpression blank? "->" blank_inline? variant_list blank? "}"`: `get_expression` wants a real
line break after the arrow; the first variant provides it -/
theorem placeable_select (hs : AsciiThenBoundary s) (hvl : VariantListRef s m) {vs : List (Variant Bytes)}
    {r2 r3 : List UInt8} (harrow : blankOpt r1 = 45 :: 62 :: r2) (hsel : selectorOk e = true)
    (hv : variantList m (spaces r2) = .ok vs r3) (hclose : blankOpt r3 = 125 :: r5) :
    ∃ e' q, getPlaceable s (n + 2) p = .ok e' q ∧ jE s e' = .select e vs ∧ q ≤ s.size ∧ r5 = rest s q := by
  obtain ⟨e', q, g1, rfl, g3, g4⟩ := hi n _ e r1 hie ⟨45, _, harrow, by decide, by decide, by decide⟩ hp hn
  have hpq := getInline_lt hs g1 hp hn
  rw [g4] at harrow
  obtain ⟨h45, ht, hq1, _⟩ := blank_then harrow
  obtain ⟨h62, rfl⟩ := rest_cons_iff.mp ht.symm
  rw [spaces_eq_skipBlankInline] at hv
  have hA := skipBlankInline_after s (skipBlank s q + 1 + 1)
  obtain ⟨q3, hse, hq3, hq3s, hpp⟩ := skipEol_of_vfollow (hA.le_size (get_lt h62)) (variantList_vfollow hv)
  obtain ⟨vs', qe, v1, rfl, v3, v4⟩ := hvl n (skipBlank s q3) _ vs r3 r5 hv hclose hpp hq3s
    (fuel_mono hn (Nat.le_of_lt (Nat.lt_of_lt_of_le (Nat.lt_of_le_of_lt (Nat.le_trans (Nat.le_of_lt hpq)
      (Nat.le_trans hq1 (Nat.le_trans (Nat.le_add_right _ 2) hA.le))) hq3) (skipBlank_ge s q3))))
  obtain ⟨h125, rfl⟩ := rest_cons_iff.mp v3
  have hge : getExpression s (n + 1) (skipBlank s p) = .ok (.select e' vs') qe := by
    rw [getExpression_unfold, g1, R.bind_ok]
    unfold exprTail
    rw [if_pos ⟨h45, h62⟩, selectorError_none hsel]
    simp only [hse, v1, R.bind_ok]
  exact ⟨_, _, getPlaceable_close hge h125 nofun, jE_select .., get_lt h125, rfl⟩

end

theorem placeable_step (hs : AsciiThenBoundary s) {m : Nat} (hi : InlineRef s m) (hvl : VariantListRef s m) :
    PlaceableRef s (m + 1) := by
  intro n p x r hP hn
  obtain ⟨t0, ht0⟩ := inlinePlaceable_head hP
  obtain ⟨h123, rfl⟩ := rest_cons_iff.mp ht0
  obtain ⟨n, rfl⟩ := fuel_succ hn
  obtain ⟨n, rfl⟩ := fuel_succ (Nat.le_of_succ_le_succ hn)
  have hp1 := skipBlank_le_size (Nat.succ_le_of_lt (get_lt h123))
  have hn1 : 4 * (s.size - skipBlank s (p + 1)) + 1 ≤ n :=
    fuel_mono (Nat.le_of_succ_le_succ (Nat.le_of_succ_le_succ hn)) (skipBlank_ge s (p + 1))
  rw [ht0, inlinePlaceable_unfold] at hP
  obtain ⟨e, r1, hie, hP⟩ := PR.bind_eq_ok hP
  obtain ⟨y, r4, hbody, hP⟩ := PR.bind_eq_ok hP
  rw [blankOpt_eq_skipBlank] at hie
  split at hP
  case h_2 => cases hP
  rename_i r5 hclose
  split at hP
  case isFalse => cases hP
  rename_i hok
  cases hP
  unfold selectTail at hbody
  split at hbody
  · -- SelectExpression
    rename_i r2 harrow
    split at hbody
    case isFalse => cases hbody
    rename_i hsel
    obtain ⟨vs, r3, hv, hbody⟩ := PR.bind_eq_ok hbody
    cases hbody
    exact placeable_select hi hie hp1 hn1 hs hvl harrow hsel hv hclose
  · cases hbody
    exact placeable_inline hi hie hp1 hn1 hclose hok

end

structure ExprRef (s : Src) (m : Nat) : Prop where
  inline : InlineRef s m
  placeable : PlaceableRef s m
  callArgs : CallArgsRef s m
  argIter : ArgIterRef s m
  argList : ArgListRef s m
  variantIter : VariantIterRef s m
  variants : VariantsRef s m
  variantList : VariantListRef s m

theorem exprRef_zero (s : Src) : ExprRef s 0 where
  inline := fun _ _ _ _ h => nomatch h
  placeable := fun _ _ _ _ h => nomatch h
  callArgs := fun _ _ _ _ _ h => nomatch h
  argIter := fun _ _ _ _ _ _ _ _ _ _ h => nomatch h
  argList := fun _ _ _ _ _ _ _ _ _ h => nomatch h
  variantIter := fun _ _ _ _ _ _ _ _ h => nomatch h
  variants := fun _ _ _ _ _ _ _ h => nomatch h
  variantList := fun _ _ _ _ _ _ h => nomatch h

theorem exprRef_step {s : Src} (hs : AsciiThenBoundary s) {m : Nat} (h : ExprRef s m) (hpat : PatternRef s m) :
    ExprRef s (m + 1) where
  inline := inline_step hs h.callArgs h.placeable
  placeable := placeable_step hs h.inline h.variantList
  callArgs := callArgs_step h.argList
  argIter := argIter_step hs h.inline
  argList := argList_step h.argIter h.argList
  variantIter := variantIter_step hs hpat
  variants := variants_step h.variantIter h.variants
  variantList := variantList_step h.variantIter h.variants

/-- **Expression layer (T2).** If patterns refine (at every spec fuel), so do inline expressions, call
arguments with their validity rules, placeables, select expressions and variant lists: wherever the
grammar's production succeeds, the parser model returns the same tree (spans resolved, text joined) and
stops at the same place. -/
theorem exprRef_of_pattern {s : Src} (hs : AsciiThenBoundary s) (hpat : ∀ m, PatternRef s m) : ∀ m, ExprRef s m := by
  intro m
  induction m with
  | zero => exact exprRef_zero s
  | succ m ih => exact exprRef_step hs ih (hpat m)

end FluentProofs.SpecRefine

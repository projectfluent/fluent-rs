import FluentProofs.SpecRefine
import FluentProofs.SpecPatFlat
/-!
# The invariant of the pattern loop (C02, pattern layer, part 2)

`get_pattern` collects placeholders (text as offsets into the source, with the indent of its line) and
turns them into the pattern after the loop; the grammar's `PatternElement`s yield raw elements that the
abstract-syntax pass `finishPattern` dedents, joins and trims.  `Inv` relates the two while the loop runs:
for every common indent the placeholders and the raw elements read so far have the same flattening.
`pattern_close` is what the invariant is for; `Inv.push_nl`, `Inv.push_inline` and `Inv.push_block` extend it
by the three kinds of things one iteration of the loop can append.
-/
namespace FluentProofs.PatLoop
open FluentModel FluentModel.Syntax FluentModel.SpecGrammar FluentProofs.Parser FluentProofs.SpecLex
open FluentProofs.SpecRefine FluentProofs.PatFlat

variable {s : Src}

def nl (k : Nat) : List Item := List.replicate k (Sum.inl 10)
def sps (k : Nat) : List Item := List.replicate k (Sum.inl 32)

theorem nl_succ (k : Nat) : nl (k + 1) = nl k ++ nl 1 := List.replicate_succ'

theorem chars_replicate (k : Nat) (b : UInt8) : chars (List.replicate k b) = List.replicate k (Sum.inl b) :=
  List.map_replicate

/-- the items a placeholder of the parser stands for once the common indent is `c`: the slice `finishElements`
will cut for it -/
def phFlat (s : Src) (c : Option Nat) : Placeholder → List Item
  | .placeable e => [Sum.inr (jE s e)]
  | .text start stop indent role => chars (seg s (feStart c start indent role) stop)

def phsFlat (s : Src) (c : Option Nat) : List Placeholder → List Item
  | [] => []
  | ph :: l => phFlat s c ph ++ phsFlat s c l

theorem phsFlat_append (s : Src) (c : Option Nat) (a b : List Placeholder) :
    phsFlat s c (a ++ b) = phsFlat s c a ++ phsFlat s c b := by
  induction a with
  | nil => rfl
  | cons x t ih => simp [phsFlat, ih]

theorem phsFlat_single (s : Src) (c : Option Nat) (ph : Placeholder) : phsFlat s c [ph] = phFlat s c ph :=
  List.append_nil _

theorem phFlat_text_zero (s : Src) (c : Option Nat) (a b : Nat) (role : TextPos) :
    phFlat s c (.text a b 0 role) = chars (seg s a b) := by
  have h := feStart_le c a 0 role
  rw [phFlat, Nat.le_antisymm h.2 h.1]
  rfl

theorem phFlat_line {p d stop : Nat} (c : Nat) (hsp : ∀ j, p ≤ j → j < p + d → s[j]? = some 32)
    (h : p + d ≤ stop) :
    phFlat s (some c) (.text p stop d .lineStart) = sps (d - c) ++ chars (seg s (p + d) stop) := by
  have h := FluentProofs.SpecDedent.dedent_offset s p stop d c hsp h
  rw [spanBytes_eq_seg, spanBytes_eq_seg, FluentProofs.SpecDedent.dedentText_eq] at h
  show chars (seg s (p + min d c) stop) = _
  rw [h, chars_append, chars_replicate]
  rfl

/-- the grammar's side of the same: the raw elements dedented by `c`, flattened -/
def rawFlat (c : Nat) (raws : List RawEl) : List Item := flat (raws.map (dedent c))

theorem rawFlat_append (c : Nat) (a b : List RawEl) : rawFlat c (a ++ b) = rawFlat c a ++ rawFlat c b := by
  simp [rawFlat, flat_append]

theorem rawFlat_text (c : Nat) (t : Bytes) : rawFlat c [.text t] = chars t := List.append_nil _
theorem rawFlat_indent (c k : Nat) : rawFlat c [.indent k] = sps (k - c) := by
  show chars (List.replicate (k - c) 32) ++ [] = _
  rw [List.append_nil, chars_replicate]
  rfl
theorem rawFlat_placeable (c : Nat) (e : Expr Bytes) : rawFlat c [.placeable e] = [Sum.inr e] := rfl

theorem rawFlat_block (c k j : Nat) (x : RawEl) :
    rawFlat c [.text (newlines k), .indent j, x] = nl k ++ sps (j - c) ++ rawFlat c [x] := by
  rw [show [RawEl.text (newlines k), .indent j, x] = [.text (newlines k)] ++ [.indent j] ++ [x] from rfl,
    rawFlat_append, rawFlat_append, rawFlat_text, rawFlat_indent, newlines, chars_replicate]
  rfl

def Led (l : List Item) : Prop := ∃ x t, l = x :: t ∧ x ≠ Sum.inl 10

theorem Led.append {a : List Item} (h : Led a) (b : List Item) : Led (a ++ b) := by
  obtain ⟨x, t, rfl, hx⟩ := h
  exact ⟨x, t ++ b, rfl, hx⟩

theorem led_chars {b : UInt8} (hb : b ≠ 10) (t : Bytes) : Led (chars (b :: t)) :=
  ⟨Sum.inl b, chars t, rfl, fun h => hb (Sum.inl.inj h)⟩

theorem led_inr (e : Expr Bytes) (l : List Item) : Led (Sum.inr e :: l) := ⟨_, _, rfl, fun h => nomatch h⟩

theorem Led.indented {l : List Item} (h : Led l) (k : Nat) : Led (sps k ++ l) := by
  cases k with
  | zero => exact h
  | succ k => exact ⟨Sum.inl 32, sps k ++ l, rfl, fun h => absurd (Sum.inl.inj h) (by decide)⟩

def AllWs (l : List Item) : Prop := ∀ x ∈ l, isWs x = true

theorem AllWs.append {a b : List Item} (ha : AllWs a) (hb : AllWs b) : AllWs (a ++ b) := by
  intro x hx
  rcases List.mem_append.mp hx with h | h
  · exact ha x h
  · exact hb x h

theorem allWs_nl (k : Nat) : AllWs (nl k) := by
  intro x hx
  rw [(List.mem_replicate.mp hx).2]; rfl

theorem allWs_sps (k : Nat) : AllWs (sps k) := by
  intro x hx
  rw [(List.mem_replicate.mp hx).2]; rfl

/-- a placeholder whose text survives the final trim: a placeable, or text with a byte that is not
white space after its indent -/
def Survivor (s : Src) : Placeholder → Prop
  | .placeable _ => True
  | .text start stop indent _ =>
    start + indent ≤ stop ∧ stop ≤ s.size ∧ ∃ j b, start + indent ≤ j ∧ j < stop ∧ s[j]? = some b ∧ isTrailingWs b = false

/-- the elements after the last survivor contribute white space only -/
def TrailOK (s : Src) (st : PatState) : Prop :=
  match st.lastNonBlank with
  | none => ∀ c, AllWs (phsFlat s c st.elements)
  | some l => ∃ E1 x E2, st.elements = E1 ++ x :: E2 ∧ E1.length = l ∧ Survivor s x ∧ ∀ c, AllWs (phsFlat s c E2)

/-- the parser's state against the raw elements `acc` the grammar has read, `k` line breaks that the parser
has passed still to come on the grammar's side, `lead` line breaks before the first element -/
structure Inv (s : Src) (st : PatState) (acc : List RawEl) (k lead : Nat) : Prop where
  flatEq : ∀ c : Nat, rawFlat c acc ++ nl k = nl lead ++ phsFlat s (some c) st.elements
  ci : st.commonIndent = commonIndent acc
  kept : st.keptCommonIndent = st.commonIndent
  trail : TrailOK s st
  noneInd : st.commonIndent = none → ∀ c, phsFlat s none st.elements = phsFlat s (some c) st.elements
  headOK : st.elements = [] ∨ ∀ c, Led (phsFlat s (some c) st.elements)

theorem inv_init (s : Src) (role : TextPos) (k : Nat) : Inv s ⟨[], none, none, role, none⟩ [] k k where
  flatEq := fun _ => (List.append_nil _).symm
  ci := rfl
  kept := rfl
  trail := fun _ _ hx => nomatch hx
  noneInd := fun _ _ => rfl
  headOK := Or.inl rfl

theorem Inv.congr {st st' : PatState} {acc : List RawEl} {k lead : Nat} (hI : Inv s st acc k lead)
    (h1 : st'.elements = st.elements) (h2 : st'.lastNonBlank = st.lastNonBlank)
    (h3 : st'.commonIndent = st.commonIndent) (h4 : st'.keptCommonIndent = st.keptCommonIndent) :
    Inv s st' acc k lead where
  flatEq := by rw [h1]; exact hI.flatEq
  ci := by rw [h3]; exact hI.ci
  kept := by rw [h3, h4]; exact hI.kept
  trail := by
    have := hI.trail
    unfold TrailOK at this ⊢
    rw [h1, h2]; exact this
  noneInd := by rw [h1, h3]; exact hI.noneInd
  headOK := by rw [h1]; exact hI.headOK

def flatP (s : Src) (l : List (PatElem Span)) : List Item := flatJ (mapPat (spanBytes s) l)

theorem flatP_text (s : Src) (sp : Span) (l : List (PatElem Span)) :
    flatP s (.text sp :: l) = chars (spanBytes s sp) ++ flatP s l := rfl
theorem flatP_placeable (s : Src) (e : Expr Span) (l : List (PatElem Span)) :
    flatP s (.placeable e :: l) = Sum.inr (jE s e) :: flatP s l := rfl

def TextsNonEmpty (s : Src) (l : List (PatElem Span)) : Prop :=
  ∀ e ∈ mapPat (spanBytes s) l, nonEmptyEl e = true

theorem textsNonEmpty_nil (s : Src) : TextsNonEmpty s [] := fun _ he => nomatch he
theorem textsNonEmpty_cons_placeable {e : Expr Span} {l : List (PatElem Span)} (h : TextsNonEmpty s l) :
    TextsNonEmpty s (.placeable e :: l) := by
  intro x hx
  rcases List.mem_cons.mp hx with rfl | hx
  · rfl
  · exact h x hx
theorem textsNonEmpty_cons_text {sp : Span} {l : List (PatElem Span)} (h : TextsNonEmpty s l)
    (hne : spanBytes s sp ≠ []) : TextsNonEmpty s (.text sp :: l) := by
  intro x hx
  rcases List.mem_cons.mp hx with rfl | hx
  · cases hb : spanBytes s sp with
    | nil => exact absurd hb hne
    | cons a t => show nonEmptyEl (.text (spanBytes s sp)) = true; rw [hb]; rfl
  · exact h x hx

theorem seg_ne_nil {a b : Nat} (hab : a < b) (hb : b ≤ s.size) : seg s a b ≠ [] := by
  intro h
  have := seg_length (s := s) (p := a) (q := b) hb
  rw [h] at this
  exact absurd (Nat.sub_eq_zero_iff_le.mp this.symm) (Nat.not_le.mpr hab)

theorem seg_mem {a b j : Nat} {x : UInt8} (h1 : a ≤ j) (h2 : j < b) (hx : s[j]? = some x) : x ∈ seg s a b :=
  seg_mem_iff.mpr ⟨j, h1, h2, hx⟩

theorem dropTrailingWs_ne_nil {t : Bytes} {x : UInt8} (hx : x ∈ t) (hw : isTrailingWs x = false) : dropTrailingWs t ≠ [] := by
  intro h
  have e := List.takeWhile_append_dropWhile (p := isTrailingWs) (l := t.reverse)
  rw [List.reverse_eq_nil_iff.mp h, List.append_nil] at e
  have hall := List.all_takeWhile (p := isTrailingWs) (l := t.reverse)
  rw [e] at hall
  exact absurd (List.all_eq_true.mp hall x (List.mem_reverse.mpr hx)) (by rw [hw]; decide)

theorem trimR_allWs (X W : List Item) (hW : AllWs W) : trimR (X ++ W) = trimR X := by
  rw [trimR, List.reverse_append, List.dropWhile_append_of_pos fun x hx => hW x (List.mem_reverse.mp hx)]
  rfl

theorem fe_last (s : Src) (c : Option Nat) (lnb : Nat) (x : Placeholder) (E2 : List Placeholder) (R : List (PatElem Span))
    (h : finishElements s c lnb lnb (x :: E2) = some R) (hsv : Survivor s x) :
    flatP s R = trimR (phFlat s c x) ∧ TextsNonEmpty s R ∧ trimR (phFlat s c x) ≠ [] := by
  have htail : finishElements s c lnb (lnb + 1) E2 = some [] := by
    cases E2 with
    | nil => rfl
    | cons y r => simp [finishElements]
  cases x with
  | placeable e =>
    obtain ⟨R', hr, rfl⟩ := fe_placeable (Nat.le_refl _) h
    obtain rfl : [] = R' := Option.some.inj (htail.symm.trans hr)
    rw [phFlat, trimR_inr_cons]
    exact ⟨rfl, textsNonEmpty_cons_placeable (textsNonEmpty_nil s), List.cons_ne_nil _ _⟩
  | text start stop indent role =>
    obtain ⟨h1, h2, j, b, h3, h4, h5, h6⟩ := hsv
    have hps := feStart_le c start indent role
    rcases fe_text (Nat.le_refl _) h with ⟨heq, _⟩ | ⟨hlt, _, R', hr, rfl⟩
    · exact absurd (heq ▸ hps.2 : stop ≤ start + indent) (Nat.not_le.mpr (Nat.lt_of_le_of_lt h3 h4))
    · obtain rfl : [] = R' := Option.some.inj (htail.symm.trans hr)
      rw [beq_self_eq_true, if_pos rfl, phFlat, trimR_chars]
      generalize feStart c start indent role = a at hps hlt
      have hbytes : spanBytes s (trimEnd s ⟨a, stop⟩) = dropTrailingWs (seg s a stop) := by
        rw [FluentProofs.SpecDedent.trimEnd_eq_dropTrailingWs s ⟨a, stop⟩ h2, spanBytes_eq_seg]
      have hnn : dropTrailingWs (seg s a stop) ≠ [] := dropTrailingWs_ne_nil (seg_mem (Nat.le_trans hps.2 h3) h4 h5) h6
      refine ⟨by rw [flatP_text, hbytes]; exact List.append_nil _,
        textsNonEmpty_cons_text (textsNonEmpty_nil s) (by rw [hbytes]; exact hnn), ?_⟩
      intro hc
      exact hnn (List.map_eq_nil_iff.mp hc)

theorem fe_flat (c : Option Nat) (lnb : Nat) {x : Placeholder} (E2 : List Placeholder) (hsv : Survivor s x)
    (E1 : List Placeholder) : ∀ (i : Nat) (R : List (PatElem Span)), i + E1.length = lnb →
      finishElements s c lnb i (E1 ++ x :: E2) = some R →
      flatP s R = phsFlat s c E1 ++ trimR (phFlat s c x) ∧ TextsNonEmpty s R ∧ trimR (phFlat s c x) ≠ [] := by
  induction E1 with
  | nil => intro i R hi h; cases hi; exact fe_last s c i x E2 R h hsv
  | cons ph t ih =>
    intro i R hi h
    rw [show i + (ph :: t).length = i + 1 + t.length from Nat.add_right_comm i t.length 1] at hi
    have hlt : i < lnb := hi ▸ Nat.lt_of_lt_of_le (Nat.lt_succ_self i) (Nat.le_add_right (i + 1) t.length)
    cases ph with
    | placeable e =>
      obtain ⟨R', hr, rfl⟩ := fe_placeable (Nat.le_of_lt hlt) h
      obtain ⟨e1, e2, e3⟩ := ih (i + 1) R' hi hr
      exact ⟨by rw [flatP_placeable, e1]; rfl, textsNonEmpty_cons_placeable e2, e3⟩
    | text start stop indent role =>
      rcases fe_text (Nat.le_of_lt hlt) h with ⟨heq, hr⟩ | ⟨hlt', hsz, R', hr, rfl⟩
      · obtain ⟨e1, e2, e3⟩ := ih (i + 1) R hi hr
        refine ⟨?_, e2, e3⟩
        rw [e1, phsFlat, phFlat, heq, seg_self]; rfl
      · obtain ⟨e1, e2, e3⟩ := ih (i + 1) R' hi hr
        rw [beq_false_of_ne (Nat.ne_of_gt hlt)]
        refine ⟨?_, textsNonEmpty_cons_text e2 (by rw [spanBytes_eq_seg]; exact seg_ne_nil hlt' hsz), e3⟩
        rw [flatP_text, e1, spanBytes_eq_seg]; exact (List.append_assoc ..).symm

theorem finish_flat {st : PatState} {l : Nat} (hl : st.lastNonBlank = some l) (ht : TrailOK s st)
    (c : Option Nat) {R : List (PatElem Span)} (h : finishElements s c l 0 st.elements = some R) :
    flatP s R = trimR (phsFlat s c st.elements) ∧ TextsNonEmpty s R := by
  unfold TrailOK at ht
  rw [hl] at ht
  obtain ⟨E1, x, E2, he, hlen, hsv, hws⟩ := ht
  rw [he] at h ⊢
  obtain ⟨f1, f2, f3⟩ := fe_flat c l E2 hsv E1 0 R (by rw [Nat.zero_add, hlen]) h
  rw [f1, phsFlat_append, phsFlat, ← List.append_assoc, trimR_allWs _ _ (hws c), trimR_append_of_ne _ _ f3]
  exact ⟨rfl, f2⟩

theorem trimL_nl_append (k : Nat) {B : List Item} (hB : B = [] ∨ Led B) : trimL (nl k ++ B) = B := by
  rw [trimL, List.dropWhile_append_of_pos fun x hx => by rw [(List.mem_replicate.mp hx).2]; rfl]
  rcases hB with rfl | ⟨x, t, rfl, hx⟩
  · rfl
  · apply List.dropWhile_cons_of_neg
    cases x with
    | inr e => exact Bool.false_ne_true
    | inl b => exact fun h => hx (by rw [beq_iff_eq.mp h])

theorem trimR_trimL_nl (A : List Item) (k : Nat) : trimR (trimL (A ++ nl k)) = trimR (trimL A) := by
  rw [trimL, List.dropWhile_append]
  split
  · rename_i h
    rw [trimL, List.isEmpty_iff.mp h, nl, List.dropWhile_replicate]
    rfl
  · exact trimR_allWs _ _ (allWs_nl k)

theorem trimR_allWs_nil (W : List Item) (h : AllWs W) : trimR W = [] := trimR_allWs [] W h

theorem flat_eq_nil_of_nonEmpty (l : List (PatElem Bytes)) (h : ∀ e ∈ l, nonEmptyEl e = true) (hf : flat l = []) : l = [] := by
  cases l with
  | nil => rfl
  | cons e r =>
    cases e with
    | placeable x => cases hf
    | text t =>
      have := h (.text t) (List.mem_cons_self ..)
      cases t with
      | nil => cases this
      | cons a b => cases hf

theorem pattern_close {st : PatState} {acc : List RawEl} {k lead : Nat} (hI : Inv s st acc k lead)
    (hne : (finishPattern acc).isEmpty = false)
    (hfin : ∀ l, st.lastNonBlank = some l → ∃ R, finishElements s st.keptCommonIndent l 0 st.elements = some R) :
    ∃ l R, st.lastNonBlank = some l ∧ finishElements s st.keptCommonIndent l 0 st.elements = some R ∧
      jPat s R = finishPattern acc := by
  have hB : phsFlat s st.keptCommonIndent st.elements = phsFlat s (some ((commonIndent acc).getD 0)) st.elements := by
    rw [hI.kept]
    cases hc : st.commonIndent with
    | none => exact hI.noneInd hc _
    | some c => rw [← hI.ci, hc]; rfl
  have hflat : flat (finishPattern acc) = trimR (phsFlat s st.keptCommonIndent st.elements) := by
    rw [flat_finishPattern, hB]
    have hE := hI.flatEq ((commonIndent acc).getD 0)
    unfold rawFlat at hE
    rw [← trimR_trimL_nl _ k, hE, trimL_nl_append _ (hI.headOK.imp (fun h => by rw [h]; rfl) fun h => h _)]
  cases hl : st.lastNonBlank with
  | none =>
    exfalso
    have ht := hI.trail
    unfold TrailOK at ht
    rw [hl] at ht
    rw [trimR_allWs_nil _ (ht _)] at hflat
    rw [flat_eq_nil_of_nonEmpty _ (FluentProofs.SpecDedent.finishPattern_nonEmpty acc) hflat] at hne
    cases hne
  | some l =>
    obtain ⟨R, hR⟩ := hfin l hl
    obtain ⟨f1, f2⟩ := finish_flat hl hI.trail st.keptCommonIndent hR
    exact ⟨l, R, rfl, hR, joinPat_eq_of_flat _ f2 acc (by rw [hflat]; exact f1)⟩

section
variable {st st' : PatState} {acc : List RawEl} {k lead : Nat}

theorem commonIndent_append (a b : List RawEl) :
    commonIndent (a ++ b) =
      match commonIndent b with
      | none => commonIndent a
      | some k => minOpt (commonIndent a) k := by
  induction a with
  | nil => show commonIndent b = _; cases commonIndent b <;> rfl
  | cons x r ih =>
    cases x with
    | text t => exact ih
    | placeable e => exact ih
    | indent j =>
      show minOpt (commonIndent (r ++ b)) j = _
      rw [ih]
      cases commonIndent b with
      | none => rfl
      | some k => exact minOpt_comm _ _ _

theorem commonIndent_append_block (acc : List RawEl) (t : Bytes) (k : Nat) {x : RawEl} (hx : commonIndent [x] = none) :
    commonIndent (acc ++ [.text t, .indent k, x]) = minOpt (commonIndent acc) k := by
  rw [commonIndent_append, show commonIndent [.text t, .indent k, x] = minOpt (commonIndent [x]) k from rfl, hx]
  rfl

theorem Inv.push (hI : Inv s st acc k lead)
    (Δ : List Placeholder) (els : List RawEl) (k' : Nat)
    (hel : st'.elements = st.elements ++ Δ)
    (hdelta : ∀ c, nl k ++ phsFlat s (some c) Δ = rawFlat c els ++ nl k')
    (hci : st'.commonIndent = commonIndent (acc ++ els))
    (hkept : st'.keptCommonIndent = st'.commonIndent)
    (htrail : TrailOK s st')
    (hnone : st'.commonIndent = none → st.commonIndent = none ∧ ∀ c, phsFlat s none Δ = phsFlat s (some c) Δ)
    (hhead : st.elements ≠ [] ∨ ∀ c, Led (phsFlat s (some c) Δ)) : Inv s st' (acc ++ els) k' lead where
  flatEq := by
    intro c
    rw [rawFlat_append, hel, phsFlat_append, List.append_assoc, ← hdelta c, ← List.append_assoc, hI.flatEq c,
      List.append_assoc]
  ci := hci
  kept := hkept
  trail := htrail
  noneInd := by
    intro h c
    obtain ⟨h1, h2⟩ := hnone h
    rw [hel, phsFlat_append, phsFlat_append, hI.noneInd h1 c, h2 c]
  headOK := by
    right; intro c
    rw [hel, phsFlat_append]
    rcases hI.headOK with he | hh
    · rcases hhead with hd | hd
      · exact absurd he hd
      · rw [he]; exact hd c
    · exact (hh c).append _

theorem trailOK_push_ws (ht : TrailOK s st) (Δ : List Placeholder)
    (hel : st'.elements = st.elements ++ Δ) (hl : st'.lastNonBlank = st.lastNonBlank)
    (hws : ∀ c, AllWs (phsFlat s c Δ)) : TrailOK s st' := by
  unfold TrailOK at ht ⊢
  rw [hl]
  cases hlb : st.lastNonBlank with
  | none =>
    rw [hlb] at ht
    intro c
    rw [hel, phsFlat_append]
    exact (ht c).append (hws c)
  | some l =>
    rw [hlb] at ht
    obtain ⟨E1, x, E2, h1, h2, h3, h4⟩ := ht
    refine ⟨E1, x, E2 ++ Δ, by rw [hel, h1, List.append_assoc]; rfl, h2, h3, fun c => ?_⟩
    rw [phsFlat_append]
    exact (h4 c).append (hws c)

theorem trailOK_survivor {st' : PatState} {E : List Placeholder} {x : Placeholder}
    (hel : st'.elements = E ++ [x]) (hl : st'.lastNonBlank = some E.length) (hsv : Survivor s x) : TrailOK s st' := by
  unfold TrailOK
  rw [hl]
  exact ⟨E, x, [], hel, rfl, hsv, fun _ _ hy => nomatch hy⟩

/-- a placeholder that is a line feed and nothing else: the grammar has not read it yet -/
theorem Inv.push_nl (hI : Inv s st acc k lead)
    (hne : st.elements ≠ []) {ph : Placeholder} (hph : ∀ c, phFlat s c ph = nl 1)
    (hel : st'.elements = st.elements ++ [ph]) (hl : st'.lastNonBlank = st.lastNonBlank)
    (hci : st'.commonIndent = st.commonIndent) (hk : st'.keptCommonIndent = st.keptCommonIndent) :
    Inv s st' acc (k + 1) lead := by
  have hflat : ∀ c, phsFlat s c [ph] = nl 1 := fun c => by rw [phsFlat_single, hph]
  have := hI.push (st' := st') [ph] [] (k + 1) hel (fun c => by rw [hflat, nl_succ k]; rfl)
    (by rw [hci, List.append_nil]; exact hI.ci) (by rw [hk, hci]; exact hI.kept)
    (trailOK_push_ws hI.trail [ph] hel hl (fun c => by rw [hflat]; exact allWs_nl 1))
    (fun h => ⟨hci ▸ h, fun c => by rw [hflat, hflat]⟩) (Or.inl hne)
  rwa [List.append_nil] at this

/-- an element in the middle of a line (`x`: text or a placeable): it has the same flattening `F` for every
common indent, and `k'` line feeds of it are not the grammar's yet -/
theorem Inv.push_inline (hI : Inv s st acc 0 lead)
    {ph : Placeholder} {x : RawEl} {F : List Item} {k' : Nat} (hx : commonIndent [x] = none)
    (hph : ∀ c, phFlat s c ph = F) (hF : ∀ c, F = rawFlat c [x] ++ nl k') (hled : Led F)
    (hel : st'.elements = st.elements ++ [ph]) (hci : st'.commonIndent = st.commonIndent)
    (hkept : st'.keptCommonIndent = st'.commonIndent) (htrail : TrailOK s st') :
    Inv s st' (acc ++ [x]) k' lead := by
  have hflat : ∀ c, phsFlat s c [ph] = F := fun c => by rw [phsFlat_single, hph]
  exact hI.push [ph] [x] k' hel (fun c => by rw [hflat, ← hF]; rfl)
    (by rw [hci, commonIndent_append, hx]; exact hI.ci) hkept htrail
    (fun h => ⟨hci ▸ h, fun c => by rw [hflat, hflat]⟩) (Or.inr fun c => by rw [hflat]; exact hled)

/-- a continuation line: the pending line breaks, the indent `j`, and the element `x` the line starts with -/
theorem Inv.push_block (hI : Inv s st acc k lead)
    {Δ : List Placeholder} {x : RawEl} {j k' : Nat} (hx : commonIndent [x] = none)
    (hflat : ∀ c, phsFlat s (some c) Δ = sps (j - c) ++ rawFlat c [x] ++ nl k') (hled : ∀ c, Led (rawFlat c [x]))
    (hel : st'.elements = st.elements ++ Δ) (hci : st'.commonIndent = minOpt st.commonIndent j)
    (hkept : st'.keptCommonIndent = st'.commonIndent) (htrail : TrailOK s st') :
    Inv s st' (acc ++ [.text (newlines k), .indent j, x]) k' lead := by
  refine hI.push Δ _ k' hel (fun c => ?_) (by rw [hci, commonIndent_append_block _ _ _ hx, hI.ci]) hkept htrail
    (fun h => ?_) (Or.inr fun c => ?_)
  · rw [hflat, rawFlat_block, List.append_assoc, List.append_assoc, List.append_assoc]
  · exact absurd (hci ▸ h) (minOpt_ne_none _ _)
  · rw [hflat, List.append_assoc]
    exact ((hled c).append _).indented _

end

end FluentProofs.PatLoop

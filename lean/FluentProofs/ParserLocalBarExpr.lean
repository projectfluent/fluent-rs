import FluentProofs.ParserLocalBarLeaf
/-!
# Barrier family (C03 locality), part 2: the eight mutually recursive functions

Joint induction on the fuel (`BSpecs`): expression-level functions started at or before `E` report cursors `≤ E`;
`get_pattern` started before `n` succeeds with a cursor `≤ n`.
-/
namespace FluentProofs.Parser
open FluentModel.Syntax

variable {s : Src} {n E : Nat}

theorem Bar.variantKey_E (hb : Bar s n E) {p : Nat} (hp : p ≤ E) : UN E E (variantKey s p) := by
  rw [variantKey_eq]
  split
  · exact (hb.getNumberLiteral_E hp).bind fun sp q _ h1 => .ok h1
  · exact (hb.getIdentifier_E hp).bind fun sp q _ h1 => .ok h1

structure BSpecs (s : Src) (n E f : Nat) : Prop where
  patternLoop : ∀ st p, p ≤ n → (p = n → st.role = .lineStart) → UN n E (getPatternLoop s f st p)
  pattern : ∀ p, p < n → UN n E (getPattern s f p)
  placeable : ∀ p, p ≤ E → UN E E (getPlaceable s f p)
  expression : ∀ p, p ≤ E → UN E E (getExpression s f p)
  inline : ∀ ol p, p ≤ E → UN E E (getInline s f ol p)
  callArguments : ∀ p, p ≤ E → UN E E (getCallArguments s f p)
  callArgsLoop : ∀ pos named p, p ≤ E → UN E E (getCallArgsLoop s f pos named p)
  variants : ∀ hd acc p, p ≤ E → UN E E (getVariants s f hd acc p)

theorem placeable_bar_step (hb : Bar s n E) {f : Nat} (IH : BSpecs s n E f) (p : Nat) (hp : p ≤ E) :
    UN E E (getPlaceable s (f + 1) p) := by
  have hlt := hb.lt
  rw [getPlaceable_unfold]
  refine (IH.expression _ (hb.skipBlank_le_E hp)).bind fun e q _ h1 => ?_
  refine hb.expectByte_bind (hb.skipBlankInline_le_E h1) fun q2 h2 => ?_
  split
  · exact .err (by omega)
  · exact .ok (by omega)

theorem pattern_bar_step (hb : Bar s n E) {f : Nat} (IH : BSpecs s n E f) (p : Nat) (hp : p < n) :
    UN n E (getPattern s (f + 1) p) := by
  rw [getPattern_unfold]
  have hstart := hb.edge.patStart_le hp
  refine (IH.patternLoop _ _ hstart.1 hstart.2).bind fun st q _ h2 => ?_
  unfold patClose
  split
  · split
    · exact .ok h2
    · trivial
  · exact .ok h2

theorem callArguments_bar_step (hb : Bar s n E) {f : Nat} (IH : BSpecs s n E f) (p : Nat) (hp : p ≤ E) :
    UN E E (getCallArguments s (f + 1) p) := by
  have hlt := hb.lt
  rw [getCallArguments_unfold]
  have h1 := hb.skipBlank_le_E hp
  by_cases h40 : s[skipBlank s p]? = some 40
  · rw [if_pos h40]
    have h2 := hb.stop2 h1 h40
    refine (IH.callArgsLoop [] [] _ (hb.skipBlank_le_E (p := skipBlank s p + 1) (by omega))).bind fun r q _ h5 => ?_
    exact hb.expectByte_bind h5 fun q1 h6 => .ok (by omega)
  · rw [if_neg h40]
    exact .ok h1

theorem expression_bar_step (hb : Bar s n E) {f : Nat} (IH : BSpecs s n E f) (p : Nat) (hp : p ≤ E) :
    UN E E (getExpression s (f + 1) p) := by
  have hlt := hb.lt
  rw [getExpression_unfold]
  refine (IH.inline false p hp).bind fun exp q _ h1 => ?_
  have h5 := hb.skipBlank_le_E h1
  unfold exprTail
  by_cases hc : s[skipBlank s q]? = some 45 ∧ s[skipBlank s q + 1]? = some 62
  · rw [if_pos hc]
    have h7 : skipBlank s q + 2 < n := hb.stop2 (hb.succ_le_E h5 hc.1 (by decide)) hc.2
    have h8 := hb.edge.skipBlankInline_lt h7
    cases selectorError exp with
    | some k => exact .err h5
    | none =>
      cases hq3 : skipEol s (skipBlankInline s (skipBlank s q + 2)) with
      | none => exact .err (by omega)
      | some q3 =>
        have h10 := hb.edge.skipBlank_le (hb.edge.skipEol_le (Nat.le_of_lt h8) hq3)
        exact (IH.variants false [] _ (hb.le_E h10)).bind fun vs q5 _ h11 => .ok h11
  · rw [if_neg hc]
    split
    · exact .err h5
    · exact .ok h5

theorem Bar.variantTail_E (hb : Bar s n E) {f : Nat} (IH : BSpecs s n E f) (hd dflt : Bool) (acc : List (Variant Span))
    {p : Nat} (hp : p ≤ n) : UN E E (variantTail s f hd dflt acc p) := by
  have hlt := hb.lt
  unfold variantTail
  refine (hb.variantKey_E (hb.le_E (hb.edge.skipBlank_le hp))).bind fun key q _ hk => ?_
  refine hb.expectByte_bind (hb.skipBlank_le_E hk) fun q2 h11 => ?_
  refine (IH.pattern q2 h11).bind fun o q3 _ h15 => ?_
  cases o with
  | none => exact .err (hb.le_E h15)
  | some value => exact IH.variants _ _ _ (hb.le_E (hb.edge.skipBlank_le h15))

theorem variants_bar_step (hb : Bar s n E) {f : Nat} (IH : BSpecs s n E f) (hd : Bool) (acc : List (Variant Span))
    (p : Nat) (hp : p ≤ E) : UN E E (getVariants s (f + 1) hd acc p) := by
  have hlt := hb.lt
  rw [getVariants_unfold]
  by_cases h42 : s[p]? = some 42
  · rw [if_pos h42]
    have h1 := hb.stop2 hp h42
    split
    · exact .err (by omega)
    · by_cases h91 : s[p + 1]? = some 91
      · rw [if_pos h91]
        exact hb.variantTail_E IH _ _ _ (Nat.le_of_lt (hb.stop2 (by omega) h91))
      · rw [if_neg h91]
        exact .err (by omega)
  · rw [if_neg h42]
    by_cases h91 : s[p]? = some 91
    · rw [if_pos h91]
      exact hb.variantTail_E IH _ _ _ (Nat.le_of_lt (hb.stop2 hp h91))
    · rw [if_neg h91]
      split
      · exact .ok hp
      · exact .err hp

theorem Bar.argTail_E (hb : Bar s n E) {f : Nat} (IH : BSpecs s n E f) (pos : List (Inline Span))
    (named : List (Span × Inline Span)) (expr : Inline Span) {q : Nat} (hq : q ≤ E) :
    UN E E (argTail s f pos named expr q) := by
  have hlt := hb.lt
  have next : ∀ pos' named' q', q' ≤ E → UN E E (getCallArgsLoop s f pos' named' (argSep s q')) := by
    intro pos' named' q' h1
    exact IH.callArgsLoop pos' named' _
      (hb.skipBlank_le_E (hb.takeByteIf_le_E (b := 44) (hb.skipBlank_le_E h1) (by decide)))
  have h5 := hb.skipBlank_le_E hq
  unfold argTail
  split
  · by_cases h58 : s[skipBlank s q]? = some 58
    · rw [if_pos h58]
      split
      · exact .err h5
      · have h6 := hb.stop2 h5 h58
        exact (IH.inline true _ (hb.skipBlank_le_E (p := skipBlank s q + 1) (by omega))).bind fun val q3 _ h9 =>
          next _ _ q3 h9
    · rw [if_neg h58]
      split
      · exact .err h5
      · exact next _ _ _ h5
  · split
    · exact .err hq
    · exact next _ _ _ hq

theorem callArgsLoop_bar_step (hb : Bar s n E) {f : Nat} (IH : BSpecs s n E f)
    (pos : List (Inline Span)) (named : List (Span × Inline Span)) (p : Nat) (hp : p ≤ E) :
    UN E E (getCallArgsLoop s (f + 1) pos named p) := by
  rw [getCallArgsLoop_unfold]
  by_cases hc : p < s.size ∧ s[p]? ≠ some 41
  · rw [if_pos hc]
    exact (IH.inline false p hp).bind fun exp q _ h1 => hb.argTail_E IH pos named exp h1
  · rw [if_neg hc]
    exact .ok hp

theorem inline_bar_step (hb : Bar s n E) {f : Nat} (IH : BSpecs s n E f) (ol : Bool) (p : Nat) (hp : p ≤ E) :
    UN E E (getInline s (f + 1) ol p) := by
  have hlt := hb.lt
  refine getInline_cases (motive := fun r => UN E E r) s f ol p ?_ ?_ ?_ ?_ ?_ ?_ ?_
  · exact fun k => .err hp
  · intro h34
    have h1 := hb.stop2 hp h34
    unfold inlineStr
    refine ((hb.edge.scanString_lt h1).weaken (Nat.le_refl _) (by omega)).bind fun _ q _ h2 => ?_
    by_cases h : s[q]? = some 34
    · rw [if_pos h]
      split
      · exact .ok (by omega)
      · trivial
    · rw [if_neg h]
      exact .err (by omega)
  · intro b _ _
    exact (hb.getNumberLiteral_E hp).bind fun sp q _ h1 => .ok h1
  · intro h45 _ hc
    obtain ⟨b1, hb1, hb2⟩ := (isIdentifierStart_iff s (p + 1)).mp hc
    have hp2 := hb.succ_le_E (hb.succ_le_E hp h45 (by decide)) hb1 (by intro h; subst h; exact absurd hb2 (by decide))
    unfold inlineTerm
    refine (hb.getIdentifierUnchecked_E hp2).bind fun id q _ h1 => ?_
    refine (hb.getAttributeAccessor_E h1).bind fun attr q1 _ h6 => ?_
    exact (IH.callArguments q1 h6).bind fun args q2 _ h9 => .ok h9
  · intro h36 _
    have h1 := hb.stop2 hp h36
    exact (hb.getIdentifier_E (p := p + 1) (by omega)).bind fun id q _ h2 => .ok h2
  · intro b hb' halpha
    have hp1 := hb.succ_le_E hp hb' (by intro h; subst h; exact absurd halpha (by decide))
    unfold inlineRef
    refine (hb.getIdentifierUnchecked_E hp1).bind fun id q _ h1 => ?_
    refine (IH.callArguments q h1).bind fun args q1 _ h6 => ?_
    split
    · split
      · exact .err h6
      · exact .ok h6
    · exact (hb.getAttributeAccessor_E h6).bind fun attr q2 _ h9 => .ok h9
  · intro h123 _
    have h1 := hb.stop2 hp h123
    exact (IH.placeable (p + 1) (by omega)).bind fun e q _ h2 => .ok h2

theorem patternLoop_bar_step (hb : Bar s n E) {f : Nat} (IH : BSpecs s n E f) (st : PatState) (p : Nat)
    (hp : p ≤ n) (hrole : p = n → st.role = .lineStart) : UN n E (getPatternLoop s (f + 1) st p) := by
  have hlt := hb.lt
  refine patLoop_cases (motive := fun r => UN n E r) s f st p ?_ ?_ ?_ ?_
  · exact fun _ => .ok hp
  · intro _ h123
    have h1 := hb.stop2 (hb.le_E hp) h123
    refine (IH.placeable (p + 1) (by omega)).bind fun e q hr hq => ?_
    obtain ⟨q', rfl, h125⟩ := getPlaceable_ok_brace hr
    have := hb.stop2 (by omega) h125
    exact IH.patternLoop _ _ (by omega) (fun h => by omega)
  · exact fun _ _ _ => .ok (hb.edge.patBreak_le hp)
  · intro indent p1 _ _ hpre
    have hp1 : p1 < n := by
      have hpn : p ≠ n := by
        intro hpn
        subst hpn
        rw [(hb.edge.patPre_none (Nat.lt_trans hb.lt hb.lt_size) (hrole rfl)).1] at hpre
        cases hpre
      exact hb.edge.patPre_lt (by omega) hpre
    cases hr : getTextSlice s p1 with
    | ok v q =>
      obtain ⟨start, stop, nb, term⟩ := v
      have hts := (hb.edge.getTextSlice_ok hp1 hr).2.2
      simp only [R.bind_ok, patAfterText]
      split
      · exact IH.patternLoop _ _ hts.1 (fun h => by rw [hts.2 h]; rfl)
      · trivial
    | err e q =>
      have := hb.edge.getTextSlice_err hp1 hr
      exact .err (by omega)
    | panic m => trivial
    | fuel => trivial

theorem bspecs_all (hb : Bar s n E) (f : Nat) : BSpecs s n E f := by
  induction f with
  | zero =>
    refine ⟨?_, ?_, ?_, ?_, ?_, ?_, ?_, ?_⟩ <;> intros <;> simp only [fuel_zero, un_fuel]
  | succ f ih =>
    exact {
      patternLoop := fun st p h1 h2 => patternLoop_bar_step hb ih st p h1 h2
      pattern := fun p h => pattern_bar_step hb ih p h
      placeable := fun p h => placeable_bar_step hb ih p h
      expression := fun p h => expression_bar_step hb ih p h
      inline := fun ol p h => inline_bar_step hb ih ol p h
      callArguments := fun p h => callArguments_bar_step hb ih p h
      callArgsLoop := fun pos named p h => callArgsLoop_bar_step hb ih pos named p h
      variants := fun hd acc p h => variants_bar_step hb ih hd acc p h }

theorem Bar.getPattern_lt (hb : Bar s n E) (f : Nat) {p : Nat} (hp : p < n) : UN n E (getPattern s f p) :=
  (bspecs_all hb f).pattern p hp

end FluentProofs.Parser

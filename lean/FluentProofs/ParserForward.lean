import FluentProofs.ParserLineHead
import FluentProofs.ParserBasics
/-!
# What the parser does when the bytes at the cursor are known

The Hoare-style walks (`ParserHoare*`, `ParserLines`, `ParserLocal*`, `SerializerOut*`) speak of every outcome of a
function.  Two families reason *forward* instead: the grammar refinement (`Spec*`: the grammar has accepted) and the
serializer's parse-back (`Serializer{Parse,Pattern,ML,…}`: the text is what the writer wrote).  Both know the bytes at
the cursor and need the one branch the parser takes.  These are those facts, over the equations of `ParserSteps`.
-/
namespace FluentProofs.Parser
open FluentModel FluentModel.Syntax

theorem u8_beq_false {a b : UInt8} : (a == b) = false ↔ a ≠ b := @beq_eq_false_iff_ne _ _ instLawfulBEq a b

theorem byte_classes (b : UInt8) :
    (isAlpha b = true → isDigit b = false ∧ (b == 34) = false ∧ (b == 36) = false ∧ (b == 45) = false ∧
      (b == 95) = false ∧ (b == 123) = false) ∧
    (isDigit b = true → (b == 34) = false) := by
  simp only [isAlpha, isDigit, Bool.or_eq_true, Bool.and_eq_true, decide_eq_true_eq, UInt8.le_iff_toNat_le,
    u8_beq_false, ne_eq, Bool.and_eq_false_iff, decide_eq_false_iff_not, ← UInt8.toNat_inj,
    UInt8.toNat_ofNat]
  omega

/-! ## fuel: every function of the parser needs `4 * (bytes left) + c`; a call further right needs less -/

section
variable {n sz p q c : Nat}

theorem fuel_succ {k : Nat} (h : k + 1 ≤ n) : ∃ n', n = n' + 1 :=
  ⟨n - 1, (Nat.sub_add_cancel (Nat.le_trans (Nat.le_add_left 1 k) h)).symm⟩

theorem fuel_step {d : Nat} (h : 4 * (sz - p) + c ≤ n + 1) (hpq : p < q) (hq : q ≤ sz)
    (hd : d ≤ c + 3 := by decide) : 4 * (sz - q) + d ≤ n := by
  have h1 : 4 * (sz - q) + 4 ≤ 4 * (sz - p) :=
    Nat.mul_le_mul_left 4 (Nat.sub_lt_sub_left (Nat.lt_of_lt_of_le hpq hq) hpq)
  have h2 : 4 * (sz - q) + (c + 4) = 4 * (sz - q) + 4 + c := by rw [Nat.add_comm c 4, Nat.add_assoc]
  exact Nat.le_of_succ_le_succ
    (Nat.le_trans (Nat.add_le_add_left (Nat.succ_le_succ hd) _) (h2 ▸ Nat.le_trans (Nat.add_le_add_right h1 c) h))

theorem fuel_mono (h : 4 * (sz - p) + c ≤ n) (hpq : p ≤ q) : 4 * (sz - q) + c ≤ n :=
  Nat.le_trans (Nat.add_le_add_right (Nat.mul_le_mul_left 4 (Nat.sub_le_sub_left hpq sz)) c) h

theorem fuel_two (h : 4 * (sz - p) + 1 ≤ n) (hp : p < sz) : 0 + 2 ≤ n :=
  Nat.le_trans (Nat.succ_le_succ (Nat.mul_pos (by decide) (Nat.sub_pos_of_lt hp))) h

end

variable {s : Src} {p q q0 n : Nat} {b : UInt8} {ol : Bool} {st : PatState} {e : Inline Span} {attr : Option Span}

theorem skipBlank_le_size (hp : p ≤ s.size) : skipBlank s p ≤ s.size :=
  (skipBlank_after s p).le_size hp

theorem skipBlank_ge (s : Src) (p : Nat) : p ≤ skipBlank s p := (skipBlank_after s p).le

theorem skipBlank_idem (s : Src) (p : Nat) : skipBlank s (skipBlank s p) = skipBlank s p :=
  skipBlank_of_not_blank (skipBlank_first s p).stops

theorem skipBlank_at {b : UInt8} (h : s[p]? = some b) (h1 : b ≠ 32) (h2 : b ≠ 10) (h3 : b ≠ 13) :
    skipBlank s p = p :=
  skipBlank_of_not_blank fun hb => hb.elim (fun e => h1 (Option.some.inj (h.symm.trans e))) fun hb =>
    hb.elim (fun e => h2 (Option.some.inj (h.symm.trans e))) fun e => h3 (Option.some.inj (h.symm.trans e.1))

theorem skipBlank_space (s : Src) (p : Nat) (h : s[p]? = some 32) : skipBlank s p = skipBlank s (p + 1) := by
  unfold skipBlank
  have := get_lt h
  rw [show s.size - p = (s.size - (p + 1)) + 1 by omega, skipBlankGo, h]
  rfl

theorem skipBlankInline_space (s : Src) (p : Nat) (h : s[p]? = some 32) :
    skipBlankInline s p = skipBlankInline s (p + 1) := by
  unfold skipBlankInline
  have := get_lt h
  rw [show s.size - p = (s.size - (p + 1)) + 1 by omega, skipBlankInlineGo, h]
  simp

theorem skipBlankInline_run (s : Src) (k p : Nat) (hsp : ∀ j, j < k → s[p + j]? = some 32)
    (hb : s[p + k]? ≠ some 32) : skipBlankInline s p = p + k :=
  (LineHead.of_run hsp rfl hb).sbi

theorem getInline_at_quote (h : s[p]? = some 34) : getInline s (n + 1) ol p = inlineStr s p := by
  rw [getInline_unfold, h]; rfl

theorem getInline_at_digit (h : s[p]? = some b) (hd : isDigit b = true) : getInline s (n + 1) ol p = inlineNum s p := by
  rw [getInline_unfold, h]
  exact (if_neg (ne_of_beq_false ((byte_classes b).2 hd))).trans (if_pos hd)

theorem getInline_at_minus (h : s[p]? = some 45) :
    getInline s (n + 1) ol p =
      if ol = false ∧ isIdentifierStart s (p + 1) then inlineTerm s n p else inlineNum s p := by
  rw [getInline_unfold, h]; rfl

theorem getInline_at_dollar (h : s[p]? = some 36) : getInline s (n + 1) false p = inlineVar s p := by
  rw [getInline_unfold, h]; rfl

theorem getInline_at_alpha (h : s[p]? = some b)
    (hb : isAlpha b = true) : getInline s (n + 1) ol p = inlineRef s n p := by
  obtain ⟨f2, f1, f4, f3, _⟩ := (byte_classes b).1 hb
  rw [getInline_unfold, h]
  exact (if_neg (ne_of_beq_false f1)).trans <| (if_neg (Bool.eq_false_iff.mp f2)).trans <|
    (if_neg (ne_of_beq_false f3)).trans <| (if_neg fun h => ne_of_beq_false f4 h.1).trans (if_pos hb)

theorem getInline_at_brace (h : s[p]? = some 123) : getInline s (n + 1) false p = inlineNested s n p := by
  rw [getInline_unfold, h]; rfl

theorem getInline_ok_head {e : Inline Span} {q : Nat}
    (h : getInline s n ol p = .ok e q) : p < s.size ∧ s[p]? ≠ some 41 := by
  cases n with
  | zero => rw [getInline] at h; cases h
  | succ n =>
    rw [getInline_unfold] at h
    cases hb : s[p]? with
    | none => rw [hb] at h; cases h
    | some b =>
      refine ⟨get_lt hb, fun h41 => ?_⟩
      rw [hb, Option.some.inj h41] at h
      -- on `)` every test of `get_inline_expression` fails: evaluation leaves the error
      cases h

theorem getIdentifier_unchecked (h : s[p]? = some b) (hb : isAlpha b = true) :
    getIdentifier s p = getIdentifierUnchecked s (p + 1) := by
  have : isIdentifierStart s p = true := by rw [isIdentifierStart, h]; exact hb
  rw [getIdentifier, this]; rfl

theorem getCallArguments_none {k n p : Nat} (hn : k + 1 ≤ n) (h : s[skipBlank s p]? ≠ some 40) :
    getCallArguments s n p = .ok none (skipBlank s p) := by
  obtain ⟨n, rfl⟩ := fuel_succ hn
  rw [getCallArguments_unfold, if_neg h]

theorem getAttributeAccessor_none (p : Nat) (h : s[p]? ≠ some 46) : getAttributeAccessor s p = .ok none p := by
  rw [getAttributeAccessor_eq, if_neg h]

/-- `name`, `name.attr`: the parser skips blank after the name before it looks for `(` and for `.` -/
theorem getInline_msg_at {k : Nat} (hb : s[p]? = some b) (hba : isAlpha b = true)
    (i1 : getIdentifier s p = .ok ⟨p, q0⟩ q0) (hn : k + 2 ≤ n) (h40 : s[skipBlank s q0]? ≠ some 40)
    (ha : getAttributeAccessor s (skipBlank s q0) = .ok attr q) :
    getInline s n false p = .ok (.msg ⟨p, q0⟩ attr) q := by
  obtain ⟨n, rfl⟩ := fuel_succ hn
  rw [getIdentifier_unchecked hb hba] at i1
  rw [getInline_at_alpha hb hba]
  simp only [inlineRef, i1, R.bind_ok, getCallArguments_none (Nat.le_of_succ_le_succ hn) h40, ha]

theorem getInline_term_at {q1 q2 : Nat} (h45 : s[p]? = some 45) (hb : s[p + 1]? = some b)
    (hba : isAlpha b = true) (i1 : getIdentifier s (p + 1) = .ok ⟨p + 1, q0⟩ q0)
    (a1 : getAttributeAccessor s q0 = .ok attr q1) {args : Option (List (Inline Span) × List (Span × Inline Span))}
    (c1 : getCallArguments s n q1 = .ok args q2) :
    getInline s (n + 1) false p = .ok (.term ⟨p + 1, q0⟩ attr args) q2 := by
  have hst : isIdentifierStart s (p + 1) = true := by rw [isIdentifierStart, hb]; exact hba
  rw [getIdentifier_unchecked hb hba] at i1
  rw [getInline_at_minus h45, if_pos ⟨rfl, hst⟩]
  simp only [inlineTerm, i1, R.bind_ok, a1, c1]

theorem getCallArgsLoop_arg {n : Nat} {pos : List (Inline Span)} {named : List (Span × Inline Span)}
    {e : Inline Span} (h : getInline s n false p = .ok e q) :
    getCallArgsLoop s (n + 1) pos named p = argTail s n pos named e q := by
  rw [getCallArgsLoop_unfold, if_pos (getInline_ok_head h), h, R.bind_ok]

theorem argTail_positional {n : Nat} {pos : List (Inline Span)} {named : List (Span × Inline Span)}
    {e : Inline Span} (hemp : named.isEmpty = true) (hnc : s[skipBlank s q]? ≠ some 58) :
    argTail s n pos named e q = getCallArgsLoop s n (pos ++ [e]) named (argSep s q) := by
  have hsep : argSep s (skipBlank s q) = argSep s q := by unfold argSep; rw [skipBlank_idem s q]
  unfold argTail
  cases e with
  | msg id attr =>
    cases attr with
    | none => simp only [if_neg hnc, hemp, Bool.not_true, Bool.false_eq_true, if_false, hsep]
    | some a => simp only [hemp, Bool.not_true, Bool.false_eq_true, if_false]
  | _ => simp only [hemp, Bool.not_true, Bool.false_eq_true, if_false]

theorem getCallArgsLoop_close {k n : Nat} (hn : k + 1 ≤ n) (h : s[p]? = some 41)
    (pos : List (Inline Span)) (named : List (Span × Inline Span)) :
    getCallArgsLoop s n pos named p = .ok (pos, named) p := by
  obtain ⟨n, rfl⟩ := fuel_succ hn
  rw [getCallArgsLoop_unfold, if_neg fun hc => hc.2 h]

theorem exprTail_inline (hnt : ∀ a b c, e ≠ .term a (some b) c)
    (h45 : s[q]? ≠ some 45) : exprTail s n e q = .ok (.inline e) q := by
  unfold exprTail
  rw [if_neg fun h => h45 h.1]
  cases e with
  | term a b c =>
    cases b with
    | some b' => exact absurd rfl (hnt a b' c)
    | none => rfl
  | _ => rfl

theorem getPlaceable_close {p : Nat} {exp : Expr Span}
    (he : getExpression s n (skipBlank s p) = .ok exp q) (h125 : s[q]? = some 125)
    (hnt : ∀ a b c, exp ≠ .inline (.term a (some b) c)) : getPlaceable s (n + 1) p = .ok exp (q + 1) := by
  rw [getPlaceable_unfold, he, R.bind_ok, skipBlankInline_of_ne (by rw [h125]; decide), expectByte_pos h125, R.bind_ok, if_neg]
  cases exp with
  | select e vs => nofun
  | inline e =>
    cases e with
    | term a b c =>
      cases b with
      | some b' => exact absurd rfl (hnt a b' c)
      | none => nofun
    | _ => nofun

theorem memchr3_here (h : BreakAt s p) : memchr3 s p = some p := memchr3_eq_some.mpr (.here h)

theorem memchr3_crlf (h13 : s[p]? = some 13) (h10 : s[p + 1]? = some 10) : memchr3 s p = some (p + 1) := by
  refine memchr3_eq_some.mpr ⟨Nat.le_succ p, fun j h1 h2 hj => ?_, Or.inl h10⟩
  obtain rfl : j = p := Nat.le_antisymm (Nat.le_of_lt_succ h2) h1
  rcases hj with h | h | h <;> rw [h13] at h <;> cases h

theorem slice_at_lf (h10 : s[p]? = some 10) :
    getTextSlice s p = .ok (p, p + 1, false, .lineFeed) (p + 1) := by
  rw [getTextSlice, if_neg (Nat.not_lt.mpr (Nat.le_of_lt (get_lt h10))), memchr3_here (Or.inl h10)]
  simp only [h10, gt_iff_lt, Nat.lt_irrefl, false_and, if_false, nonBlank_self]

theorem slice_at_crlf (h13 : s[p]? = some 13) (h10 : s[p + 1]? = some 10) :
    getTextSlice s p = .ok (p, p, false, .crlf) (p + 1) := by
  rw [getTextSlice, if_neg (Nat.not_lt.mpr (Nat.le_of_lt (get_lt h13))), memchr3_crlf h13 h10]
  simp only [h10, Nat.add_sub_cancel, h13, gt_iff_lt, Nat.lt_add_one, beq_self_eq_true, and_self, if_true, nonBlank_self]

theorem slice_at_brace (h123 : s[p]? = some 123) :
    getTextSlice s p = .ok (p, p, false, .placeableStart) p := by
  rw [getTextSlice, if_neg (Nat.not_lt.mpr (Nat.le_of_lt (get_lt h123))), memchr3_here (Or.inr (Or.inl h123))]
  simp only [h123, nonBlank_self]

/-- the common indent after one more indented line (the `match` in `get_pattern`'s loop) -/
def minOpt (c : Option Nat) (k : Nat) : Option Nat :=
  match c with
  | some c => some (min k c)
  | none => some k

theorem minOpt_eq (c : Option Nat) (k : Nat) :
    (match c with
     | some c => if k < c then some k else some c
     | none => some k) = minOpt c k := by
  cases c with
  | none => rfl
  | some c =>
    show (if k < c then some k else some c) = some (min k c)
    by_cases h : k < c
    · rw [if_pos h, Nat.min_eq_left (Nat.le_of_lt h)]
    · rw [if_neg h, Nat.min_eq_right (Nat.le_of_not_lt h)]

theorem minOpt_ne_none (c : Option Nat) (k : Nat) : minOpt c k ≠ none := by
  cases c <;> exact fun h => nomatch h

theorem minOpt_zero (c : Option Nat) : minOpt c 0 = some 0 := by
  cases c with
  | none => rfl
  | some c => exact congrArg some (Nat.zero_min c)

theorem minOpt_comm (c : Option Nat) (j k : Nat) : minOpt (minOpt c k) j = minOpt (minOpt c j) k := by
  cases c with
  | none => show some (min j k) = some (min k j); rw [Nat.min_comm]
  | some c => show some (min j (min k c)) = some (min k (min j c)); rw [Nat.min_left_comm]

theorem patPre_line {d : Nat} {b : UInt8} (hrole : st.role = .lineStart)
    (hd : skipBlankInline s p = p + d) (hb : s[p + d]? = some b) (h0 : d = 0 → isEol s (p + d) = true)
    (h1 : 0 < d → isBytePatternContinuation b = true) : patPre s st p = some (d, p + d) := by
  rw [patPre_lineStart hrole ⟨hd, hb⟩]
  cases d with
  | zero => exact (if_pos rfl).trans (if_pos (h0 rfl))
  | succ d => exact (if_neg (Nat.succ_ne_zero d)).trans (if_pos (h1 (Nat.succ_pos d)))

theorem patPre_stop {d : Nat} {b : UInt8} (hrole : st.role = .lineStart)
    (hd : skipBlankInline s p = p + d) (hb : s[p + d]? = some b) (h0 : d = 0 → isEol s (p + d) = false)
    (h1 : 0 < d → isBytePatternContinuation b = false) : patPre s st p = none ∧ patBreak s p = p := by
  rw [patPre_lineStart hrole ⟨hd, hb⟩, patBreak_eq ⟨hd, hb⟩]
  cases d with
  | zero => exact ⟨(if_pos rfl).trans (if_neg (Bool.eq_false_iff.mp (h0 rfl))), if_pos rfl⟩
  | succ d =>
    have hc := Bool.eq_false_iff.mp (h1 (Nat.succ_pos d))
    exact ⟨(if_neg (Nat.succ_ne_zero d)).trans (if_neg hc), (if_neg (Nat.succ_ne_zero d)).trans (if_neg hc)⟩

theorem patPre_eof {d : Nat} (hrole : st.role = .lineStart)
    (hd : skipBlankInline s p = p + d) (hb : s[p + d]? = none) : patPre s st p = none ∧ patBreak s p = p + d :=
  ⟨patPre_lineStart hrole ⟨hd, hb⟩, patBreak_eq ⟨hd, hb⟩⟩

/-- the state after a text slice: its placeholder `ph` appended, the common indent now `ci`; with `sv` (the slice
survives the final trim) it is the last non-blank element for the time being -/
def textPushed (st : PatState) (ph : Placeholder) (ci : Option Nat) (sv : Bool) (role : TextPos) : PatState :=
  { elements := st.elements ++ [ph]
    lastNonBlank := if sv then some st.elements.length else st.lastNonBlank
    commonIndent := ci
    role := role
    keptCommonIndent := if sv then ci else st.keptCommonIndent }

theorem st2Of_mid {stop : Nat} {nb sv : Bool} {term : Termination}
    (hrole : st.role ≠ .lineStart) (hne : p < stop) (hsv : survivesOf s p stop nb = some sv) :
    st2Of s st p 0 p stop nb term = some (textPushed st (.text p stop 0 st.role) st.commonIndent sv st.role) := by
  have h1 : (st.role == TextPos.lineStart) = false := beq_false_of_ne hrole
  have h2 : (p != stop) = true := bne_iff_ne.mpr (Nat.ne_of_lt hne)
  simp [st2Of, elOf, h1, h2, hsv, hrole, textPushed]

theorem st2Of_empty {indent start : Nat} {nb : Bool} {term : Termination}
    (hterm : term ≠ .placeableStart ∨ st.role ≠ .lineStart) :
    st2Of s st p indent start start nb term = some st := by
  have : (st.role == TextPos.lineStart && term == Termination.placeableStart) = false := by
    rcases hterm with h | h
    · rw [beq_false_of_ne h, Bool.and_false]
    · rw [beq_false_of_ne h, Bool.false_and]
  simp [st2Of, this]

theorem st2Of_lf {indent p1 : Nat} (h : st.role ≠ .lineStart → indent = 0 ∧ p1 = p) :
    st2Of s st p indent p1 (p1 + 1) false .lineFeed =
      some (textPushed st (.text p1 (p1 + 1) 0 st.role) st.commonIndent false st.role) := by
  by_cases hrole : st.role = .lineStart
  · have h2 : (p1 != p1 + 1) = true := by simp
    simp [st2Of, elOf, survivesOf, hrole, h2, usub, textPushed]
  · obtain ⟨rfl, rfl⟩ := h hrole
    exact st2Of_mid hrole (Nat.lt_succ_self _) rfl

theorem st2Of_textline {indent p1 stop : Nat} {term : Termination} {sv : Bool}
    (hrole : st.role = .lineStart) (hne : p1 < stop) (hsv : survivesOf s p1 stop true = some sv) :
    st2Of s st p indent p1 stop true term =
      some (textPushed st (.text p stop indent .lineStart) (minOpt st.commonIndent indent) sv st.role) := by
  have h2 : (p1 != stop) = true := bne_iff_ne.mpr (Nat.ne_of_lt hne)
  cases sv <;> simp [st2Of, elOf, hrole, h2, hsv, textPushed] <;> exact minOpt_eq _ _

theorem st2Of_placeableLed {indent p1 : Nat} (hrole : st.role = .lineStart) :
    st2Of s st p indent p1 p1 false .placeableStart =
      some (textPushed st (.text p p1 indent .lineStart) (minOpt st.commonIndent indent) false st.role) := by
  simp [st2Of, elOf, survivesOf, hrole, textPushed]
  exact minOpt_eq _ _

theorem patLoop_slice {st st2 : PatState} {indent p1 start stop q : Nat} {nb : Bool}
    {term : Termination} (hlt : p < s.size) (h123 : s[p]? ≠ some 123) (hpre : patPre s st p = some (indent, p1))
    (hts : getTextSlice s p1 = .ok (start, stop, nb, term) q)
    (hst : st2Of s st p indent start stop nb term = some st2) :
    getPatternLoop s (n + 1) st p = getPatternLoop s n { st2 with role := patRole term } q := by
  rw [patLoop_text s n st p hlt h123, hpre]
  simp only [hts, R.bind_ok, patAfterText, hst]

theorem patLoop_placed {q : Nat} {e : Expr Span} (h123 : s[p]? = some 123)
    (hpl : getPlaceable s n (p + 1) = .ok e q) :
    getPatternLoop s (n + 1) st p = getPatternLoop s n (patPlaced st e) q := by
  rw [patLoop_placeable s n st p (get_lt h123) h123, hpl]
  rfl

theorem LineHead.bnd {d : Nat} {o : Option UInt8} (h : LineHead s p d o) (hs : AsciiThenBoundary s) (hbp : Bnd s p) :
    Bnd s (p + d) :=
  h.sbi ▸ (skipBlankInline_after s p).bnd hs hbp

theorem LineHead.le_size {d : Nat} {o : Option UInt8} (h : LineHead s p d o) (hp : p ≤ s.size) : p + d ≤ s.size :=
  h.sbi ▸ (skipBlankInline_after s p).le_size hp

theorem head_lt_size {d : Nat} {b : UInt8} (hb : s[p + d]? = some b) : p < s.size :=
  Nat.lt_of_le_of_lt (Nat.le_add_right p d) (get_lt hb)

theorem line_not_brace {d : Nat} (hsp : ∀ j, p ≤ j → j < p + d → s[j]? = some 32) {b : UInt8}
    (hb : s[p + d]? = some b) (hne : b ≠ 123) : s[p]? ≠ some 123 := by
  cases d with
  | zero => exact fun h' => hne (Option.some.inj (hb.symm.trans h'))
  | succ d =>
    rw [hsp p (Nat.le_refl _) (Nat.lt_add_of_pos_right (Nat.succ_pos d))]
    exact fun h' => absurd (Option.some.inj h') (by decide)

/-- a line break begins at `x` -/
def EolAt (s : Src) (x : Nat) : Prop := s[x]? = some 10 ∨ (s[x]? = some 13 ∧ s[x + 1]? = some 10)

theorem patPre_blank {d : Nat} (hrole : st.role = .lineStart)
    (hd : skipBlankInline s p = p + d)
    (heol : EolAt s (p + d)) :
    patPre s st p = some (d, p + d) := by
  rcases heol with h10 | ⟨h13, h10⟩
  · exact patPre_line hrole hd h10 (fun _ => by rw [isEol, h10]; rfl) (fun _ => by decide)
  · exact patPre_line hrole hd h13 (fun _ => by rw [isEol, h13, h10]; rfl) (fun _ => by decide)

theorem patStart_inline (h : skipEol s (skipBlankInline s p) = none) :
    patStart s p = (.initialLineStart, skipBlankInline s p) := by rw [patStart, h]

theorem patStart_block {q : Nat} (h : skipEol s (skipBlankInline s p) = some q) :
    patStart s p = (.lineStart, (skipBlankBlock s q).1) := by rw [patStart, h]

theorem getPattern_block {n p0 q : Nat} (h : skipEol s (skipBlankInline s p0) = some q) :
    getPattern s (n + 1) p0 =
      (getPatternLoop s n ⟨[], none, none, .lineStart, none⟩ (skipBlankBlock s q).1).bind (patClose s) := by
  rw [getPattern_unfold, patStart_block h]

theorem isEol_false {b : UInt8} (hb : s[p]? = some b) (h10 : b ≠ 10)
    (hcr : ¬ (b = 13 ∧ s[p + 1]? = some 10)) : isEol s p = false :=
  Bool.eq_false_iff.mpr fun h => (isEol_cases h).elim (fun h0 => nomatch hb.symm.trans h0) fun h' =>
    h'.elim (fun h0 => h10 (Option.some.inj (hb.symm.trans h0))) fun h0 => hcr ⟨Option.some.inj (hb.symm.trans h0.1), h0.2⟩

theorem finishElements_past (s : Src) (ci : Option Nat) (L j : Nat) (l : List Placeholder) (h : L < j) :
    finishElements s ci L j l = some [] := by
  cases l with
  | nil => rfl
  | cons x xs => simp only [finishElements, h, if_true]

theorem fe_placeable {c : Option Nat} {lnb i : Nat} {e : Expr Span} {rest : List Placeholder}
    {R : List (PatElem Span)} (hi : i ≤ lnb) (h : finishElements s c lnb i (.placeable e :: rest) = some R) :
    ∃ R', finishElements s c lnb (i + 1) rest = some R' ∧ R = .placeable e :: R' := by
  rw [finishElements_placeable, if_neg (Nat.not_lt.mpr hi)] at h
  cases hr : finishElements s c lnb (i + 1) rest with
  | none => rw [hr] at h; cases h
  | some R' => rw [hr] at h; exact ⟨R', rfl, (Option.some.inj h).symm⟩

theorem fe_text {c : Option Nat} {lnb i start stop indent : Nat} {role : TextPos} {rest : List Placeholder}
    {R : List (PatElem Span)} (hi : i ≤ lnb) (h : finishElements s c lnb i (.text start stop indent role :: rest) = some R) :
    (feStart c start indent role = stop ∧ finishElements s c lnb (i + 1) rest = some R) ∨
    (feStart c start indent role < stop ∧ stop ≤ s.size ∧ ∃ R', finishElements s c lnb (i + 1) rest = some R' ∧
      R = .text (if lnb == i then trimEnd s ⟨feStart c start indent role, stop⟩ else ⟨feStart c start indent role, stop⟩) :: R') := by
  rw [finishElements_text, if_neg (Nat.not_lt.mpr hi)] at h
  generalize feStart c start indent role = a at h ⊢
  by_cases heq : a = stop
  · rw [if_pos (beq_iff_eq.mpr heq)] at h
    exact Or.inl ⟨heq, h⟩
  · rw [if_neg (mt beq_iff_eq.mp heq)] at h
    cases hsl : slice s a stop with
    | none => rw [hsl] at h; cases h
    | some sp =>
      obtain ⟨rfl, hv⟩ := slice_eq_some hsl
      rw [hsl] at h
      cases hr : finishElements s c lnb (i + 1) rest with
      | none => rw [hr] at h; cases h
      | some R' =>
        rw [hr] at h
        exact Or.inr ⟨Nat.lt_of_le_of_ne hv.1 heq, hv.2.2.le, R', rfl, (Option.some.inj h).symm⟩

end FluentProofs.Parser

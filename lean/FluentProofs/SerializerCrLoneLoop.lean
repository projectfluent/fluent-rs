import FluentProofs.SerializerML
/-!
# Serializer lemmas: the `get_pattern` loop on the text of a class pattern (C04)

`mlLoop`: the loop of `get_pattern` on the elements of a class pattern written at an indent level.  The induction over
the elements carries `MlInv` (loop state, cursor, elements still to be read); one lemma per kind of element says what
one iteration does and re-establishes `MlInv` for the rest: `mlPlaceable`, `mlGhost` (the indentation in front of a
placeable that starts a line), `mlText`.  A text element is read by `get_text_slice` at its first non-blank byte
(`TextStep`: in mid-line, or at a line start after the indentation and excess blanks); where the slice ends depends only
on what follows the text (`mlText_cut`): its own final `\n`, a placeable, the pattern's last line feed, or — a text that
ends with `\r` in front of the text `"\n"` is written with a second `\r` (`crPad`) — the slice ends in front of that
second `\r` (termination `.crlf`), the cursor is left at the `\n` with role `LineStart` (the second alternative of
`MlInv.role`), and the next iteration pushes the `\n` as an element of its own, so the elements come back as they were.
-/
namespace FluentProofs.Ser
open FluentModel FluentModel.Syntax FluentModel.Syntax.Ser FluentProofs.Parser

/-- the loop is in state `st` at `p`, in front of the text of the elements `es`, which stands in `[p, E)` with the pattern's line
feed at `E`; `nl`: at the start of a line; `cfin`: the common indent once all of `es` is read -/
structure MlInv (s : Src) (L : Nat) (nl : Bool) (es : List (PatElem Bytes)) (st : PatState) (p E : Nat)
    (cfin : Option Nat) : Prop where
  ml : mlElems nl es = true
  last : mlLastOK es = true
  nonl : es = [] → nl = false   -- the last element does not end with `\n`
  lev : 0 < L ∨ isMultiline es = false   -- a pattern with a line break is written at a level > 0
  levNl : nl = true → 0 < L
  role : mlRole nl st.role ∨ (nl = false ∧ st.role = .lineStart ∧ ∃ es', es = .text [10] :: es')
  ci : ciAfter (4 * L) st.commonIndent (excesses nl es) = cfin
  cf : excesses nl es ≠ [] → cfin = some (4 * L)   -- if a line still to be read counts, the common indent ends as the writer's
  bnd : Bnd s p
  txt : AtTo s p (elemsText L nl es) E
  lf : s[E]? = some 10

/-- started in `st` at `p` the loop collects placeholders for `es` (and trailing blank lines) and stops at `q'` -/
def LoopRes (s : Src) (n : Nat) (st : PatState) (p q' : Nat) (cfin : Option Nat) (es : List (PatElem Bytes)) : Prop :=
  ∃ phs tr, getPatternLoop s n st p =
      .ok ⟨st.elements ++ phs ++ tr,
        (if es.isEmpty then st.lastNonBlank else some (st.elements.length + phs.length - 1)),
        cfin, .lineStart, (if es.isEmpty then st.keptCommonIndent else cfin)⟩ q' ∧ MPh s cfin phs es

theorem LoopRes.cons {s : Src} {n m : Nat} {st st1 : PatState} {p p1 q' : Nat} {cfin : Option Nat} {e : PatElem Bytes}
    {es : List (PatElem Bytes)} {pre : List Placeholder}
    (hstep : getPatternLoop s n st p = getPatternLoop s m st1 p1) (hel : st1.elements = st.elements ++ pre)
    (hpre : pre ≠ [])
    (hlast : es = [] → st1.lastNonBlank = some (st.elements.length + pre.length - 1) ∧ st1.keptCommonIndent = cfin)
    (hmph : ∀ phs, MPh s cfin phs es → MPh s cfin (pre ++ phs) (e :: es))
    (h : LoopRes s m st1 p1 q' cfin es) : LoopRes s n st p q' cfin (e :: es) := by
  obtain ⟨phs, tr, hloop, hrel⟩ := h
  refine ⟨pre ++ phs, tr, ?_, hmph phs hrel⟩
  rw [hstep, hloop, hel]
  have hlen : 0 < pre.length := List.length_pos_iff.mpr hpre
  cases es with
  | nil =>
    simp only [MPh] at hrel; subst hrel
    obtain ⟨h1, h2⟩ := hlast rfl
    simp [h1, h2]
  | cons e2 rest =>
    have := MPh_ne hrel (by simp)
    have hlen2 : 0 < phs.length := List.length_pos_iff.mpr this
    simp only [List.isEmpty_cons, Bool.false_eq_true, if_false, List.append_assoc, List.length_append]
    congr 3
    omega

theorem PlParse.atTo {s : Src} (hs : AsciiThenBoundary s) {fp : Expr Bytes → Nat} {L : Nat} {x : Expr Bytes}
    (h : PlParse fp L x) {p q : Nat} (hat : AtTo s p (exprText L x) q) :
    s[p]? = some 123 ∧ Bnd s q ∧ ∀ {n}, fp x ≤ n → ∃ ex, getPlaceable s n (p + 1) = .ok ex q ∧ ex.mapS (spanBytes s) = x := by
  exact ⟨hat.head h.head, hat.bnd_end hs h.last (by decide), fun hn => by
    obtain ⟨hat, rfl⟩ := hat; exact h.parse s p _ hs hat hn⟩

theorem MlInv.plRole {s : Src} {L : Nat} {nl : Bool} {x : Expr Bytes} {es : List (PatElem Bytes)} {st : PatState}
    {p E : Nat} {cfin : Option Nat} (inv : MlInv s L nl (.placeable x :: es) st p E cfin) : mlRole nl st.role :=
  inv.role.resolve_right (by rintro ⟨_, _, _, h⟩; cases h)

theorem mlPlaceable {s : Src} (hs : AsciiThenBoundary s) {L : Nat} {fp : Expr Bytes → Nat} {x : Expr Bytes}
    {es : List (PatElem Bytes)} {st : PatState} {p E : Nat} {cfin : Option Nat}
    (inv : MlInv s L false (.placeable x :: es) st p E cfin) (hx : PlParse fp L x) {m : Nat} (hm : fp x ≤ m) :
    ∃ ex p1, ex.mapS (spanBytes s) = x ∧
      getPatternLoop s (m + 1) st p = getPatternLoop s m
        ⟨st.elements ++ [.placeable ex], some st.elements.length, st.commonIndent, .continuation, st.commonIndent⟩ p1 ∧
      MlInv s L false es
        ⟨st.elements ++ [.placeable ex], some st.elements.length, st.commonIndent, .continuation, st.commonIndent⟩ p1 E
        cfin := by
  obtain ⟨p1, hX, hR⟩ := atTo_append.mp (by simpa only [elemsText_pl, Bool.false_eq_true, if_false, List.nil_append] using inv.txt)
  obtain ⟨h123, hbq, hparse⟩ := hx.atTo hs hX
  obtain ⟨ex, hpe, hme⟩ := hparse hm
  exact ⟨ex, p1, hme, patternLoop_placeable_step s m st p ex _ h123 (mlRole_false inv.plRole) hpe,
    { ml := by simpa [mlElems] using inv.ml
      last := mlLastOK_tail inv.last
      nonl := fun _ => rfl
      lev := inv.lev.imp id isMultiline_tail
      levNl := fun h => by cases h
      role := Or.inl (by simp [mlRole])
      ci := by simpa [excesses] using inv.ci
      cf := by simpa [excesses] using inv.cf
      bnd := hbq
      txt := hR
      lf := inv.lf }⟩

/-- the indentation in front of a placeable that starts a line: a text placeholder that `finishElements` drops -/
theorem mlGhost {s : Src} {L : Nat} {x : Expr Bytes} {es : List (PatElem Bytes)}
    {st : PatState} {p E : Nat} {cfin : Option Nat} (inv : MlInv s L true (.placeable x :: es) st p E cfin)
    (hhead : (exprText L x).head? = some 123) (m : Nat) :
    cfin = some (4 * L) ∧
      getPatternLoop s (m + 1) st p = getPatternLoop s m
        ⟨st.elements ++ [.text p (p + 4 * L) (4 * L) .lineStart], st.lastNonBlank, ciStep (4 * L) st.commonIndent 0,
          .continuation, st.keptCommonIndent⟩ (p + 4 * L) ∧
      MlInv s L false (.placeable x :: es)
        ⟨st.elements ++ [.text p (p + 4 * L) (4 * L) .lineStart], st.lastNonBlank, ciStep (4 * L) st.commonIndent 0,
          .continuation, st.keptCommonIndent⟩ (p + 4 * L) E cfin := by
  have hLp := inv.levNl rfl
  obtain ⟨m₀, hS, hR⟩ := atTo_append.mp (by simpa only [elemsText_pl, if_true] using inv.txt)
  obtain ⟨rfl, hsp⟩ := atTo_spaces hS
  obtain ⟨r, hr⟩ := exprText_head_of hhead
  have h123 : s[p + 4 * L]? = some 123 := hR.head (by simp [hr])
  have hcfin : cfin = some (4 * L) := inv.cf (by simp [excesses])
  refine ⟨hcfin, ?_, ?_⟩
  · have := step_ls_led s m st p (4 * L) 0 (mlRole_true inv.plRole) (by omega) (by simpa using hsp) (by simpa using h123)
    simpa using this
  · exact
      { ml := by simpa [mlElems] using inv.ml
        last := inv.last
        nonl := fun h => by cases h
        lev := inv.lev
        levNl := fun h => by cases h
        role := Or.inl (by simp [mlRole])
        ci := by simpa [excesses, ciAfter] using inv.ci
        cf := fun _ => hcfin
        bnd := bnd_of_ascii h123 (by decide)
        txt := by simpa only [elemsText_pl, Bool.false_eq_true, if_false, List.nil_append] using hR
        lf := inv.lf }

theorem MlInv.afterText {s : Src} {L : Nat} {nl : Bool} {v : Bytes} {es : List (PatElem Bytes)} {st : PatState}
    {p E : Nat} {cfin : Option Nat} (inv : MlInv s L nl (.text v :: es) st p E cfin) (hes : es ≠ []) {st1 : PatState}
    {q : Nat}
    (hci : st1.commonIndent =
      if nl && v != [10] then ciStep (4 * L) st.commonIndent (leadSpaces v) else st.commonIndent)
    (hrole : mlRole (endsNl v) st1.role ∨ (endsNl v = false ∧ st1.role = .lineStart ∧ ∃ es', es = .text [10] :: es'))
    (hb : Bnd s q) (hat : AtTo s q (elemsText L (endsNl v) es) E) : MlInv s L (endsNl v) es st1 q E cfin where
  ml := (mlElems_text_iff.mp inv.ml).2.2.2
  last := mlLastOK_tail inv.last
  nonl := fun h => absurd h hes
  lev := inv.lev.imp id isMultiline_tail
  levNl := fun hnv => inv.lev.elim id fun h => by
    simp only [isMultiline, Bool.or_eq_false_iff, List.contains_eq_mem, decide_eq_false_iff_not] at h
    exact absurd (List.mem_of_getLast? (by simpa [endsNl] using hnv)) h.1
  role := hrole
  ci := by
    rw [hci, ← inv.ci, excesses]
    split <;> rfl
  cf := fun h => inv.cf (by rw [excesses]; simp [h])
  bnd := hb
  txt := hat
  lf := inv.lf

/-- one iteration of the loop on a text whose content (after `ind` blanks) starts at `p + ind`: whatever
`get_text_slice` cuts there is pushed as a placeholder; `ci1` is the common indent afterwards -/
def TextStep (s : Src) (m : Nat) (st : PatState) (p ind : Nat) (ci1 : Option Nat) : Prop :=
  ∀ stop q nb term, getTextSlice s (p + ind) = .ok (p + ind, stop, nb, term) q → p + ind < stop → Bnd s stop →
    (st.role = .lineStart → nb = true) →
    ∃ st1, getPatternLoop s (m + 1) st p = getPatternLoop s m st1 q ∧
      st1.elements = st.elements ++ [.text p stop ind st.role] ∧ st1.commonIndent = ci1 ∧ st1.role = patRole term ∧
      (nb = true → (trimEnd s ⟨p + ind, stop⟩).stop ≠ p + ind →
        st1.lastNonBlank = some st.elements.length ∧ st1.keptCommonIndent = ci1)

theorem textStep_mid {s : Src} {m : Nat} {st : PatState} {p : Nat} (hp : p < s.size) (h123 : s[p]? ≠ some 123)
    (hrole : (st.role == .lineStart) = false) (hb : Bnd s p) : TextStep s m st p 0 st.commonIndent := by
  intro stop q nb term hts hne hbs _
  refine ⟨_, patternLoop_text_step s m st p stop q nb term hp h123 hrole hts hne (slice_ok (by omega) hb hbs),
    rfl, rfl, rfl, ?_⟩
  intro hnb hsv
  have : ((trimEnd s ⟨p, stop⟩).stop != p) = true := by simpa using hsv
  simp [hnb, this]

theorem textStep_ls {s : Src} {m : Nat} {st : PatState} {p I k : Nat} {c : UInt8} (hrole : st.role = .lineStart)
    (hI : 0 < I) (hsp : ∀ j, j < I + k → s[p + j]? = some 32) (hc : s[p + (I + k)]? = some c) (hc32 : c ≠ 32)
    (hcont : isBytePatternContinuation c = true) (hb : Bnd s (p + (I + k))) :
    TextStep s m st p (I + k) (ciStep I st.commonIndent k) := by
  intro stop q nb term hts hne hbs hnb
  rw [hnb hrole] at hts
  refine ⟨_, step_ls_content s m st p I k c stop q term hrole hI hsp hc hc32 hcont hts hne (slice_ok (by omega) hb hbs),
    by rw [hrole], rfl, rfl, ?_⟩
  intro _ hsv
  have : ((trimEnd s ⟨p + (I + k), stop⟩).stop != p + (I + k)) = true := by simpa using hsv
  simp [this]

/-- what `get_text_slice` cuts at the content `w` (in `[a, m)`) of the text element `v`, and where it leaves the cursor: in front
of the text of the remaining elements, or — after the last element — behind the line feed at `E` -/
theorem mlText_cut {s : Src} (hs : AsciiThenBoundary s) {L : Nat} {nl : Bool} {v : Bytes} {es : List (PatElem Bytes)}
    (hml : mlElems nl (.text v :: es) = true) (hlast : mlLastOK (.text v :: es) = true)
    (hhead : ∀ x es', es = .placeable x :: es' → (exprText L x).head? = some 123)
    {a m E : Nat} {w : Bytes} (hw : mlTextOK w = true) (hwl : w.getLast? = v.getLast?)
    (hW : AtTo s a w m) (hR : AtTo s m (crPad v es ++ elemsText L (endsNl v) es) E) (hlf : s[E]? = some 10) :
    ∃ stop q nb term, getTextSlice s a = .ok (a, stop, nb, term) q ∧ a < stop ∧ Bnd s stop ∧
      ((∃ c u, w = c :: u ∧ c ≠ 32 ∧ c ≠ 10) → nb = true) ∧
      ((es ≠ [] ∧ stop = m ∧ Bnd s q ∧ AtTo s q (elemsText L (endsNl v) es) E ∧
          (mlRole (endsNl v) (patRole term) ∨
            (endsNl v = false ∧ patRole term = .lineStart ∧ ∃ es', es = .text [10] :: es'))) ∨
       (es = [] ∧ m = E ∧ stop = E + 1 ∧ q = stop ∧ term = .lineFeed ∧ nb = true ∧
          (trimEnd s ⟨a, stop⟩).stop ≠ a ∧ ∃ x, v.getLast? = some x ∧ x ≠ 32 ∧ x ≠ 10 ∧ x ≠ 13)) := by
  have ham : a < m := by have := hW.len; have := List.length_pos_iff.mpr (mlTextOK_ne hw); omega
  have hnw : endsNl w = endsNl v := by simp only [endsNl, hwl]
  have hany : (∃ c u, w = c :: u ∧ c ≠ 32 ∧ c ≠ 10) → (w.any fun b => b != 32) = true := by
    rintro ⟨c, u, rfl, hc, _⟩; simp [hc]
  rcases ml_next v es nl hml hlast with ⟨hnv, hes⟩ | ⟨hnv, rfl, x, hx, x1, x2, x3⟩ | ⟨hnv, x, es', rfl⟩ |
    ⟨hnv, hcr, es', rfl⟩
  · -- `v` ends its line
    rw [crPad_of_notCr (endsCr_of_endsNl hnv), List.nil_append] at hR
    have hb := hW.bnd_end hs (by simpa [endsNl] using hnw.trans hnv) (by decide)
    refine ⟨_, _, _, _, mlSlice_nl hw (hnw.trans hnv) hW, ham, hb, ?_,
      Or.inl ⟨hes, rfl, hb, hR, Or.inl (by rw [hnv]; rfl)⟩⟩
    rintro ⟨c, u, rfl, hc, hc10⟩
    cases u with
    | nil => rw [hnv] at hnw; simp [endsNl] at hnw; exact absurd hnw hc10
    | cons y ys => simp [hc]
  · -- the last element: its text ends at `E`
    obtain rfl := atTo_nil.mp (by simpa [crPad, elemsText] using hR)
    have hcr : endsCr w = false := by simp [endsCr, hwl, hx, x3]
    have hxw : w.getLast? = some x := hwl.trans hx
    have htrim := trimEnd_lf s a m x ham hlf (hW.last hxw) x1 x3 x2
    refine ⟨_, _, _, _, mlSlice_last hw (hnw.trans hnv) hcr hW hlf, Nat.lt_succ_of_lt ham,
      bnd_succ hs hlf (by decide), hany,
      Or.inr ⟨rfl, rfl, rfl, rfl, rfl, getLast_any_ne32 w x hxw x1, ?_, x, hx, x1, x2, x3⟩⟩
    rw [htrim]; exact Nat.ne_of_gt ham
  · -- a placeable follows
    rw [crPad_pl, List.nil_append, hnv] at hR
    have h123 : s[m]? = some 123 := hR.head (by
      obtain ⟨r, hr⟩ := exprText_head_of (hhead x es' rfl)
      simp [elemsText, hr])
    have hb := bnd_of_ascii h123 (by decide)
    exact ⟨_, _, _, _, mlSlice_brace hw (hnw.trans hnv) hW h123, ham, hb, hany,
      Or.inl ⟨by simp, rfl, hb, by rw [hnv]; exact hR, Or.inl (by rw [hnv]; simp [mlRole, patRole])⟩⟩
  · -- `v` ends with `\r` and `\r\n` follows (the writer has doubled the `\r`)
    rw [crPad_cr hcr, hnv] at hR
    obtain ⟨h13, hR⟩ := atTo_cons.mp hR
    have h10 : s[m + 1]? = some 10 := hR.head (by simp [elemsText_tx])
    exact ⟨_, _, _, _, mlSlice_crlf hw (hnw.trans hnv) hW h13 h10, ham,
      bnd_of_ascii h13 (by decide), hany,
      Or.inl ⟨by simp, rfl, bnd_succ hs h13 (by decide), by rw [hnv]; exact hR, Or.inr ⟨hnv, rfl, es', rfl⟩⟩⟩

/-- the configuration behind a text element: in front of the remaining elements, or — behind the last element —
at a line start behind the pattern's line feed, with this text as the last non-blank placeholder -/
def AfterText (s : Src) (L : Nat) (v : Bytes) (es : List (PatElem Bytes)) (st st1 : PatState) (p1 E : Nat)
    (cfin : Option Nat) : Prop :=
  (es ≠ [] ∧ MlInv s L (endsNl v) es st1 p1 E cfin) ∨
  (es = [] ∧ p1 = E + 1 ∧ st1.role = .lineStart ∧ st1.lastNonBlank = some st.elements.length ∧
    st1.commonIndent = cfin ∧ st1.keptCommonIndent = cfin)

/-- one iteration on a text element, for both ways `mlText` meets it (in mid-line: `k = 0`; at a line start:
`k = leadSpaces v`, the excess indentation).  The element `v` stands in `[b0, m₁)`, its content `w` behind `k` blanks, the rest of the pattern's
text behind it; the iteration is a `TextStep` whose slice starts at the content (`p + ind = b0 + k`) and leaves `ci1` as the
common indent.  Then the placeholder pushed stands for `v` (`TextRel`) and the loop is in front of the rest (`AfterText`); where
the slice ends is `mlText_cut` -/
theorem mlContent {s : Src} (hs : AsciiThenBoundary s) {L : Nat} {nl : Bool} {v : Bytes} {es : List (PatElem Bytes)}
    {st : PatState} {p E : Nat} {cfin : Option Nat} (inv : MlInv s L nl (.text v :: es) st p E cfin)
    (hhead : ∀ x es', es = .placeable x :: es' → (exprText L x).head? = some 123)
    {m ind k b0 m₁ : Nat} {w : Bytes} {ci1 : Option Nat} (hstep : TextStep s m st p ind ci1)
    (hci1 : ci1 = if nl && v != [10] then ciStep (4 * L) st.commonIndent (leadSpaces v) else st.commonIndent)
    (hv : v = spacesL k ++ w) (hw : mlTextOK w = true)
    (hc : st.role = .lineStart → ∃ c u, w = c :: u ∧ c ≠ 32 ∧ c ≠ 10)
    (ha : p + ind = b0 + k) (heff : feStart cfin p ind st.role = b0) (hb0 : Bnd s b0)
    (hV : AtTo s b0 v m₁) (hR : AtTo s m₁ (crPad v es ++ elemsText L (endsNl v) es) E) :
    ∃ st1 p1 b, getPatternLoop s (m + 1) st p = getPatternLoop s m st1 p1 ∧
      st1.elements = st.elements ++ [.text p b ind st.role] ∧ TextRel s cfin p b ind st.role v es.isEmpty ∧
      AfterText s L v es st st1 p1 E cfin := by
  have hwne := mlTextOK_ne hw
  have hwl : w.getLast? = v.getLast? := by
    rw [hv, List.getLast?_append]; cases h : w.getLast? with
    | none => simp at h; exact absurd h hwne
    | some y => rfl
  have hvne : v ≠ [] := by rw [hv]; simp [hwne]
  obtain ⟨a, hK, hW⟩ := atTo_append.mp (hv ▸ hV)
  obtain rfl : a = p + ind := by rw [ha]; exact (atTo_spaces hK).1
  obtain ⟨stop, q, nb, term, hts, hne, hbs, hnb, hcase⟩ := mlText_cut hs inv.ml inv.last hhead hw hwl hW hR inv.lf
  obtain ⟨st1, hloop, hel, hci, hrole, hsv⟩ := hstep stop q nb term hts hne hbs (fun h => hnb (hc h))
  refine ⟨st1, q, stop, hloop, hel, ?_⟩
  rcases hcase with ⟨hes, rfl, hbq, hatq, hroleq⟩ | ⟨rfl, rfl, rfl, rfl, rfl, rfl, hsvv, hx⟩
  · exact ⟨⟨_, by rw [heff]; exact hb0, hbs, by rw [heff]; exact hV, hvne, by rw [List.isEmpty_eq_false_iff.mpr hes]; rfl⟩,
      Or.inl ⟨hes, inv.afterText hes (hci.trans hci1) (by rw [hrole]; exact hroleq) hbq hatq⟩⟩
  · obtain ⟨h1, h2⟩ := hsv rfl hsvv
    refine ⟨⟨_, by rw [heff]; exact hb0, hbs, by rw [heff]; exact hV, hvne, ⟨rfl, inv.lf, hx⟩⟩,
      Or.inr ⟨rfl, rfl, by rw [hrole]; rfl, h1, ?_, ?_⟩⟩
    · rw [hci, hci1, ← inv.ci, excesses]; split <;> rfl
    · rw [h2, hci1, ← inv.ci, excesses]; split <;> rfl

theorem mlText {s : Src} (hs : AsciiThenBoundary s) {L : Nat} {nl : Bool} {v : Bytes} {es : List (PatElem Bytes)}
    {st : PatState} {p E : Nat} {cfin : Option Nat} (inv : MlInv s L nl (.text v :: es) st p E cfin)
    (hhead : ∀ x es', es = .placeable x :: es' → (exprText L x).head? = some 123) (m : Nat) :
    ∃ st1 p1 a b ind, getPatternLoop s (m + 1) st p = getPatternLoop s m st1 p1 ∧
      st1.elements = st.elements ++ [.text a b ind st.role] ∧ TextRel s cfin a b ind st.role v es.isEmpty ∧
      AfterText s L v es st st1 p1 E cfin := by
  obtain ⟨hvok, _, hls, _⟩ := mlElems_text_iff.mp inv.ml
  have hvne := mlTextOK_ne hvok
  -- the indentation in `[p, b0)` (nothing in mid-line), `v` in `[b0, m₁)`
  obtain ⟨b0, hS, h⟩ := atTo_append.mp (by simpa only [elemsText_tx] using inv.txt)
  obtain ⟨m₁, hV, hR⟩ := atTo_append.mp h
  -- a text `"\n"` at a line start: the line break is pushed as an element of its own
  have blank : v = [10] → Bnd s b0 → nl = true ∨ st.role = .lineStart →
      ∀ st1, st1.elements = st.elements ++ [.text b0 (b0 + 1) 0 st.role] → st1.commonIndent = st.commonIndent →
        st1.role = .lineStart →
        s[b0]? = some 10 ∧ TextRel s cfin b0 (b0 + 1) 0 st.role v es.isEmpty ∧ AfterText s L v es st st1 (b0 + 1) E cfin := by
    intro hv hb0 hnl st1 hel hci hrole
    subst hv
    have hes : es ≠ [] := by
      intro h0; subst h0; have := inv.last; simp [mlLastOK] at this
    have hnv : endsNl ([10] : Bytes) = true := by decide
    have h10 := (atTo_cons.mp hV).1
    obtain rfl := atTo_nil.mp (atTo_cons.mp hV).2
    rw [crPad_of_notCr (by decide), hnv, List.nil_append] at hR
    have hb1 : Bnd s (b0 + 1) := bnd_succ hs h10 (by decide)
    refine ⟨h10, ⟨_, by rwa [feStart_zero], hb1, by rw [feStart_zero]; exact hV, by simp,
        by rw [List.isEmpty_eq_false_iff.mpr hes]; rfl⟩,
      Or.inl ⟨hes, inv.afterText hes ?_ (Or.inl (by rw [hnv, hrole]; rfl)) hb1 (by rw [hnv]; exact hR)⟩⟩
    rw [hci]; simp
  cases nl with
  | false =>
    obtain rfl := atTo_nil.mp (by simpa using hS)
    by_cases hpend : st.role = .lineStart
    · -- behind a text that ended with `\r`: the `\n` of the doubled `\r\n`
      have hv10 : v = [10] := by
        rcases inv.role with h | ⟨_, _, es', h⟩
        · simp [mlRole, hpend] at h
        · injection h with h1 _; injection h1
      obtain ⟨h10, h1, h2⟩ := blank hv10 inv.bnd (Or.inr hpend)
        { st with elements := st.elements ++ [.text p (p + 1) 0 .lineStart] } (by rw [hpend]) rfl hpend
      exact ⟨_, _, _, _, _, patternLoop_blank s m st p hpend h10, by rw [hpend], h1, h2⟩
    · have hroleF : (st.role == .lineStart) = false := by simpa using hpend
      have hvlen : 0 < v.length := List.length_pos_iff.mpr hvne
      have hp0 := at_get hV.txt 0 hvlen
      rw [Nat.add_zero] at hp0
      have h123 : s[p]? ≠ some 123 := by
        rw [hp0]; simpa using (mlTextOK_mem hvok _ (List.getElem_mem hvlen)).1
      obtain ⟨st1, p1, b, h1, h2, h3, h4⟩ := mlContent hs inv hhead (m := m) (k := 0) (w := v)
        (textStep_mid (get_lt hp0) h123 hroleF inv.bnd) (by simp) (by simp [spacesL]) hvok
        (fun h => absurd h hpend) rfl (feStart_zero _ _ _) inv.bnd hV hR
      exact ⟨st1, p1, p, b, 0, h1, h2, h3, h4⟩
  | true =>
    have hroleT : st.role = .lineStart := mlRole_true (inv.role.resolve_right (by rintro ⟨h, _⟩; cases h))
    have hLp := inv.levNl rfl
    obtain ⟨rfl, hsp⟩ := atTo_spaces (by simpa using hS)
    have hbI : Bnd s (p + 4 * L) := by
      have := bnd_succ hs (hsp (4 * L - 1) (by omega)) (by decide)
      rwa [show p + (4 * L - 1) + 1 = p + 4 * L by omega] at this
    by_cases hblank : v = [10]
    · obtain ⟨h10, h1, h2⟩ := blank hblank hbI (Or.inl rfl)
        ⟨st.elements ++ [.text (p + 4 * L) (p + 4 * L + 1) 0 .lineStart], st.lastNonBlank, st.commonIndent, .lineStart,
          st.keptCommonIndent⟩ (by rw [hroleT]) rfl rfl
      exact ⟨_, _, _, _, _, step_ls_blank s m st p (4 * L) hroleT (by omega) hsp h10, by rw [hroleT], h1, h2⟩
    · have hlsok : lineStartOK v es = true := (hls rfl).resolve_left hblank
      have hvb : (v != [10]) = true := by simpa using hblank
      have hcfin : cfin = some (4 * L) := inv.cf (by simp [excesses, hvb])
      -- the blanks of `v` in `[p + 4L, c₀)`, its content from `c₀` on
      obtain ⟨c₀, hK, hU⟩ := atTo_append.mp ((leadSpaces_split v) ▸ hV)
      obtain ⟨hc₀, hsp2⟩ := atTo_spaces hK
      obtain rfl : c₀ = p + (4 * L + leadSpaces v) := by omega
      have hsp' : ∀ j, j < 4 * L + leadSpaces v → s[p + j]? = some 32 := by
        intro j hj
        by_cases h1 : j < 4 * L
        · exact hsp j h1
        · have := hsp2 (j - 4 * L) (by omega)
          rwa [show p + 4 * L + (j - 4 * L) = p + j by omega] at this
      have heff : feStart cfin p (4 * L + leadSpaces v) st.role = p + 4 * L := by
        simp [feStart, hcfin, hroleT]
      cases hu : v.dropWhile (fun b => b == 32) with
      | nil =>
        -- only blanks, in front of a placeable
        rw [hu] at hU
        obtain rfl := atTo_nil.mp hU
        simp only [lineStartOK, hu] at hlsok
        obtain ⟨x, es', rfl⟩ : ∃ x es', es = .placeable x :: es' := by
          cases es with
          | nil => simp at hlsok
          | cons e es' => cases e with
            | text w => simp at hlsok
            | placeable x => exact ⟨x, es', rfl⟩
        have hnv : endsNl v = false := endsNl_of_blanks hvne hu
        rw [crPad_pl, List.nil_append, hnv] at hR
        have h123 : s[p + (4 * L + leadSpaces v)]? = some 123 := hR.head (by
          obtain ⟨r, hr⟩ := exprText_head_of (hhead x es' rfl)
          simp [elemsText, hr])
        have hbc : Bnd s (p + (4 * L + leadSpaces v)) := bnd_of_ascii h123 (by decide)
        refine ⟨_, _, _, _, _, step_ls_led s m st p (4 * L) (leadSpaces v) hroleT (by omega) hsp' h123, by rw [hroleT],
          ⟨_, by rw [heff]; exact hbI, hbc, by rw [heff]; exact hV, hvne, rfl⟩,
          Or.inl ⟨by simp, inv.afterText (by simp) (by simp [hvb]) (Or.inl (by rw [hnv]; simp [mlRole])) hbc
            (by rw [hnv]; exact hR)⟩⟩
      | cons c u' =>
        rw [hu] at hU
        simp only [lineStartOK, hu] at hlsok
        have hc0 : s[p + (4 * L + leadSpaces v)]? = some c := (atTo_cons.mp hU).1
        have hcm : c ∈ v := by rw [leadSpaces_split v, hu]; simp
        obtain ⟨hcont, hc32⟩ := cont_of_start c hlsok (mlTextOK_mem hvok c hcm).2
        have hc10 : c ≠ 10 := by simp [contentStartOK] at hlsok; exact hlsok.1.1.1.2
        have hklt : leadSpaces v < v.length := by
          have := congrArg List.length (leadSpaces_split v); rw [hu] at this; simp [spacesL] at this; omega
        have huok : mlTextOK (c :: u') = true := by
          rw [← hu, dropWhile_eq_drop]; exact mlTextOK_drop hvok _ hklt
        have hbc : Bnd s (p + (4 * L + leadSpaces v)) := by
          have := bnd_succ hs (hsp' (4 * L + leadSpaces v - 1) (by omega)) (by decide)
          rwa [show p + (4 * L + leadSpaces v - 1) + 1 = p + (4 * L + leadSpaces v) by omega] at this
        obtain ⟨st1, p1, b, h1, h2, h3, h4⟩ := mlContent hs inv hhead (m := m) (k := leadSpaces v) (w := c :: u')
          (textStep_ls hroleT (by omega) hsp' hc0 hc32 hcont hbc)
          (by simp [hvb]) (by rw [← hu]; exact leadSpaces_split v) huok
          (fun _ => ⟨c, u', rfl, hc32, hc10⟩) (by omega) heff hbI hV hR
        exact ⟨st1, p1, p, b, _, h1, h2, h3, h4⟩

/-- **the `get_pattern` loop on the elements of a class pattern** written at level `L`, whose text ends at `E` -/
theorem mlLoop {s : Src} (hs : AsciiThenBoundary s) (L : Nat) (fp : Expr Bytes → Nat) {E q' : Nat}
    (hf : PatFollow s (E + 1) q') (es : List (PatElem Bytes)) :
    ∀ (_ : ∀ x, PatElem.placeable x ∈ es → PlParse fp L x) (nl : Bool) (n p : Nat) (st : PatState) (cfin : Option Nat),
      MlInv s L nl es st p E cfin → loopFuel fp nl es + (q' - E) + 1 ≤ n → LoopRes s n st p q' cfin es := by
  induction es with
  | nil =>
    intro _ nl n p st cfin inv hn
    obtain rfl : nl = false := inv.nonl rfl
    obtain rfl := atTo_nil.mp (by simpa [elemsText] using inv.txt)
    have hrole : mlRole false st.role := inv.role.resolve_right (by rintro ⟨_, _, _, h⟩; cases h)
    obtain ⟨tr, htr⟩ := mlLoop_nil hs n p q' st (mlRole_false hrole) inv.bnd inv.lf hf (by simpa [loopFuel] using hn)
    have hci : st.commonIndent = cfin := inv.ci
    exact ⟨[], tr, by rw [htr, hci]; simp, by simp [MPh]⟩
  | cons e es ih =>
    intro hpl nl n p st cfin inv hn
    have ih' := ih (fun x hx => hpl x (List.mem_cons_of_mem _ hx))
    have hq' := hf.1
    cases e with
    | placeable x =>
      have hx := hpl x List.mem_cons_self
      cases nl with
      | false =>
        obtain ⟨m, rfl⟩ : ∃ m, n = m + 1 := ⟨n - 1, by simp only [loopFuel] at hn; omega⟩
        simp only [loopFuel, Bool.false_eq_true, if_false] at hn
        obtain ⟨ex, p1, hme, hstep, inv1⟩ := mlPlaceable hs inv hx (m := m) (by omega)
        refine LoopRes.cons hstep rfl (by simp) (fun hes => ⟨by simp, ?_⟩)
          (fun phs h => by simp only [MPh]; exact Or.inl ⟨ex, phs, rfl, hme, h⟩) (ih' false m p1 _ cfin inv1 (by omega))
        subst hes; exact inv1.ci
      | true =>
        obtain ⟨m, rfl⟩ : ∃ m, n = m + 2 := ⟨n - 2, by simp only [loopFuel] at hn; omega⟩
        simp only [loopFuel, if_true] at hn
        obtain ⟨hcfin, hstep0, inv0⟩ := mlGhost inv hx.head (m + 1)
        obtain ⟨ex, p1, hme, hstep, inv1⟩ := mlPlaceable hs inv0 hx (m := m) (by omega)
        refine LoopRes.cons (pre := [.text p (p + 4 * L) (4 * L) .lineStart, .placeable ex]) (hstep0.trans hstep)
          (by simp) (by simp) (fun hes => ⟨by simp, ?_⟩)
          (fun phs h => by
            simp only [MPh]
            exact Or.inr ⟨p, p + 4 * L, 4 * L, ex, phs, rfl, by simp [feStart, hcfin], hme, h⟩)
          (ih' false m p1 _ cfin inv1 (by omega))
        subst hes; exact inv1.ci
    | text v =>
      obtain ⟨m, rfl⟩ : ∃ m, n = m + 1 := ⟨n - 1, by simp only [loopFuel] at hn; omega⟩
      simp only [loopFuel] at hn
      obtain ⟨st1, p1, a, b, ind, hstep, hel, hrel, haft⟩ := mlText hs inv
        (fun x es' h => (hpl x (by simp [h])).head) m
      rcases haft with ⟨hes, inv1⟩ | ⟨rfl, rfl, hrole, hlnb, hci, hkci⟩
      · exact LoopRes.cons hstep hel (by simp) (fun h => absurd h hes)
          (fun phs h => by simp only [MPh]; exact ⟨a, b, ind, st.role, phs, rfl, hrel, h⟩)
          (ih' (endsNl v) m p1 st1 cfin inv1 (by omega))
      · -- the last element: only blank lines follow
        obtain ⟨tr, htr⟩ := patternLoop_finish s q' (q' - (E + 1)) m (E + 1) st1 hrole (by omega) hf.2.1 hf.2.2
          (by omega)
        refine ⟨[.text a b ind st.role], tr, ?_, by simp only [MPh]; exact ⟨a, b, ind, st.role, [], rfl, hrel, rfl⟩⟩
        rw [hstep, htr, hel, hlnb, hci, hkci]
        simp

end FluentProofs.Ser

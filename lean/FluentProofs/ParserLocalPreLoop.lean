import FluentProofs.ParserLocalPreEntry
/-!
# Locality of the parser, PREFIX family, part 4: the two entry loops

`runLoop_prefix`: a loop on a source that ends at `n`, finished without an error, is a prefix of every loop whose steps
follow its steps below `n` (`Follows`): that loop arrives at the cursor `n` with the accumulators the first ended with (up
to the blank-line count of the last step, which only matters for a pending comment).  Both entry loops on `s₂` follow
those on `s₁` when `Pre n s₁ s₂` (`loopStep_follows`, `loopStepRt_follows`): `parseLoop_prefix`, `parseRuntimeLoop_prefix`.
-/
namespace FluentProofs.Parser
open FluentModel.Syntax

/-- below `n`, where `step₁` goes on without an error into a state from which its loop (on a source that ends at `n`) ends
without errors, `step₂` does the same, up to the blank-line count when the cursor arrives at `n` -/
def Follows (n : Nat) (step₁ step₂ : Option (List Span) → Nat → Nat → StepR) : Prop :=
  ∀ lc cnt p ab lc₁ cnt₁ p₁, p < n → step₁ lc cnt p = .next ab [] lc₁ cnt₁ p₁ →
    (∃ N body b, runLoop n step₁ N body [] lc₁ cnt₁ p₁ = .done (b, [])) →
    ∃ cnt₂, step₂ lc cnt p = .next ab [] lc₁ cnt₂ p₁ ∧ (cnt₂ = cnt₁ ∨ p₁ = n)

/-- `J`: what is known of the pending comment all along (the runtime loop: there is none) -/
theorem runLoop_prefix {n : Nat} {step₁ : Option (List Span) → Nat → Nat → StepR} (J : Option (List Span) → Prop)
    (hle : ∀ lc cnt p ab lc₁ cnt₁ p₁, p < n → J lc → step₁ lc cnt p = .next ab [] lc₁ cnt₁ p₁ →
      (∃ N body b, runLoop n step₁ N body [] lc₁ cnt₁ p₁ = .done (b, [])) → J lc₁ ∧ p₁ ≤ n) :
    ∀ (N₁ : Nat) (body : List (Entry Span)) (lc : Option (List Span)) (cnt p : Nat) (b : List (Entry Span)), p ≤ n → J lc →
      runLoop n step₁ N₁ body [] lc cnt p = .done (b, []) →
      ∃ body' lc', J lc' ∧ b = body' ++ flushC lc' ∧
        ∀ (size₂ : Nat) (step₂ : Option (List Span) → Nat → Nat → StepR), n ≤ size₂ → Follows n step₁ step₂ →
          ∀ (N₂ : Nat) (r : List (Entry Span) × List PErr), runLoop size₂ step₂ N₂ body [] lc cnt p = .done r →
            ∃ N₂' cnt', N₂' ≤ N₂ ∧ runLoop size₂ step₂ N₂' body' [] lc' cnt' n = .done r := by
  intro N₁
  induction N₁ with
  | zero => intro body lc cnt p b _ _ hr; cases hr
  | succ N₁ ih =>
    intro body lc cnt p b hp hJ hr
    by_cases hpn : p = n
    · subst hpn
      have hb := runLoop_done_end (Nat.le_refl _) hr
      exact ⟨body, lc, hJ, (Prod.mk.inj hb).1, fun _ _ _ _ N₂ r hr₂ => ⟨N₂, cnt, Nat.le_refl _, hr₂⟩⟩
    · have hlt : p < n := by omega
      obtain ⟨ab, lc₁, cnt₁, p₁, hst, hr'⟩ := runLoop_done_noerr_next hlt hr
      obtain ⟨hJ₁, hp₁⟩ := hle lc cnt p ab lc₁ cnt₁ p₁ hlt hJ hst ⟨_, _, _, hr'⟩
      -- the step of the other loop, and the rest of its run
      have other : ∀ size₂ step₂, n ≤ size₂ → Follows n step₁ step₂ → ∀ N₂ r,
          runLoop size₂ step₂ N₂ body [] lc cnt p = .done r →
          ∃ N₂' cnt₂, N₂' + 1 = N₂ ∧ (cnt₂ = cnt₁ ∨ p₁ = n) ∧
            runLoop size₂ step₂ N₂' (body ++ ab) [] lc₁ cnt₂ p₁ = .done r := by
        intro size₂ step₂ hn₂ hf N₂ r hr₂
        obtain ⟨cnt₂, e1, e2⟩ := hf lc cnt p ab lc₁ cnt₁ p₁ hlt hst ⟨_, _, _, hr'⟩
        cases N₂ with
        | zero => cases hr₂
        | succ N₂ =>
          rw [runLoop_unfold, if_pos (Nat.lt_of_lt_of_le hlt hn₂), e1] at hr₂
          exact ⟨N₂, cnt₂, rfl, e2, by simpa using hr₂⟩
      by_cases hp₁n : p₁ = n
      · subst hp₁n
        cases N₁ with
        | zero => cases hr'
        | succ N₁ =>
          have hb := runLoop_done_end (Nat.le_refl _) hr'
          refine ⟨body ++ ab, lc₁, hJ₁, (Prod.mk.inj hb).1, fun size₂ step₂ hn₂ hf N₂ r hr₂ => ?_⟩
          obtain ⟨N₂', cnt₂, hN, _, hfin⟩ := other size₂ step₂ hn₂ hf N₂ r hr₂
          exact ⟨N₂', cnt₂, by omega, hfin⟩
      · obtain ⟨body', lc', hJ', hb, hrest⟩ := ih _ _ _ _ b hp₁ hJ₁ hr'
        refine ⟨body', lc', hJ', hb, fun size₂ step₂ hn₂ hf N₂ r hr₂ => ?_⟩
        obtain ⟨N₂', cnt₂, hN, e2, hfin⟩ := other size₂ step₂ hn₂ hf N₂ r hr₂
        obtain rfl : cnt₂ = cnt₁ := e2.resolve_right hp₁n
        obtain ⟨N₂'', cnt', hle', hfin'⟩ := hrest size₂ step₂ hn₂ hf N₂' r hfin
        exact ⟨N₂'', cnt', by omega, hfin'⟩

theorem pre_dot_next {s : Src} {q : Nat} (hdot : s[skipBlankInline s q]? = some 46) (F : Nat) :
    (skipBlankBlock s q).1 = q ∧ q < s.size ∧ (∃ e, getEntry s F q = .err e q) ∧
      (∃ e, getEntryRuntime s F q = .err e q) := by
  have hlt := get_lt hdot
  have hge := (skipBlankInline_after s q).le
  have hq : q < s.size := by omega
  have e1 : (skipBlankBlock s q).1 = q := by
    unfold skipBlankBlock
    obtain ⟨k, hk⟩ : ∃ k, s.size - q + 1 = k + 1 := ⟨s.size - q, rfl⟩
    rw [hk]
    simp only [skipBlankBlockGo, skipEol_none_of (p := skipBlankInline s q) (by rw [hdot]; decide) (by rw [hdot]; decide),
      hlt, if_true]
  have hq0 : s[q]? = some 46 ∨ s[q]? = some 32 := by
    by_cases he : skipBlankInline s q = q
    · left; rw [he] at hdot; exact hdot
    · right; exact skipBlankInline_spaces s q q (Nat.le_refl _) (by omega)
  have h35 : s[q]? ≠ some 35 := by rcases hq0 with e | e <;> rw [e] <;> decide
  have h45 : s[q]? ≠ some 45 := by rcases hq0 with e | e <;> rw [e] <;> decide
  have his : isIdentifierStart s q = false := by
    unfold isIdentifierStart
    rcases hq0 with e | e <;> rw [e] <;> rfl
  obtain ⟨e, he, _⟩ := getMessage_err_of_not_alpha (fuel := F) (es := q) his
  refine ⟨e1, hq, ⟨e, ?_⟩, ⟨e, ?_⟩⟩
  · rw [getEntry_of_not_hash s F q h35, if_neg h45, he, R.bind_err]
  · rw [getEntryRuntime_of_not_hash s F q h35, if_neg h45, he, R.bind_err]

/-- an attribute-looking line after an entry: the next iteration reports an error -/
theorem loop_dot_false {s : Src} {F N : Nat} {body : List (Entry Span)} {lc : Option (List Span)} {cnt q : Nat}
    {b : List (Entry Span)} (hdot : s[skipBlankInline s q]? = some 46) :
    runLoop s.size (loopStep s F) N body [] lc cnt (skipBlankBlock s q).1 ≠ .done (b, []) ∧
    runLoop s.size (fun _ _ => loopStepRt s F) N body [] lc cnt (skipBlankBlock s q).1 ≠ .done (b, []) := by
  obtain ⟨e1, hq, ⟨e, he⟩, ⟨e', he'⟩⟩ := pre_dot_next hdot F
  rw [e1]
  constructor <;> intro hr <;> cases N with
  | zero => cases hr
  | succ N =>
    obtain ⟨ab, lc', cnt', p', hst, _⟩ := runLoop_done_noerr_next hq hr
    first
    | exact loopStep_err he _ _ _ _ _ hst rfl
    | (rw [loopStepRt_err_eq he'] at hst
       obtain ⟨_, _, _, _, _, h2, _⟩ := junkStep_next hst
       cases h2)

theorem pre_self {n : Nat} {s₁ : Src} (hsz : s₁.size = n) (hls : LS s₁ n) : Pre n s₁ s₁ :=
  ⟨hsz, fun _ _ => rfl, hls, Or.inl hsz⟩

theorem loopStep_pre {n : Nat} {s₁ s₂ : Src} (h : Pre n s₁ s₂) {F₁ F₂ : Nat} (hF : F₁ ≤ F₂) {lc : Option (List Span)}
    {cnt p : Nat} {ab : List (Entry Span)} {lc₁ : Option (List Span)} {cnt₁ p₁ : Nat} (hlt : p < n)
    (hst : loopStep s₁ F₁ lc cnt p = .next ab [] lc₁ cnt₁ p₁)
    (hgo : ∃ N body b, runLoop n (loopStep s₁ F₁) N body [] lc₁ cnt₁ p₁ = .done (b, [])) :
    p₁ ≤ n ∧ ∃ cnt₂, loopStep s₂ F₂ lc cnt p = .next ab [] lc₁ cnt₂ p₁ ∧ (cnt₂ = cnt₁ ∨ p₁ = n) := by
  obtain ⟨e, q, hge⟩ := loopStep_next_ok hst
  rw [loopStep_ok hge] at hst
  injection hst with h1 _ h3 h4 h5
  subst h1 h3 h4 h5
  obtain ⟨N, body, b, hgo⟩ := hgo
  -- no attribute-looking line follows a message or term: the next iteration would report an error
  have hdot : s₁[p]? ≠ some 35 → s₁[skipBlankInline s₁ q]? ≠ some 46 := fun _ hd =>
    (loop_dot_false (F := F₁) hd).1 (h.size ▸ hgo)
  obtain ⟨c1, q', c2, c3⟩ := getEntry_pre h hF hlt hge hdot
  obtain ⟨d1, d2⟩ := skipBlankBlock_curRel h c1 c3
  refine ⟨h.loc.edge₁.skipBlankBlock_le c1, (skipBlankBlock s₂ q').2, ?_, d2⟩
  rw [loopStep_ok c2, d1]

theorem loopStep_follows {n : Nat} {s₁ s₂ : Src} (h : Pre n s₁ s₂) {F₁ F₂ : Nat} (hF : F₁ ≤ F₂) :
    Follows n (loopStep s₁ F₁) (loopStep s₂ F₂) := fun _ _ _ _ _ _ _ hlt hst hgo => (loopStep_pre h hF hlt hst hgo).2

theorem loopStepRt_pre {n : Nat} {s₁ s₂ : Src} (h : Pre n s₁ s₂) {F₁ F₂ : Nat} (hF : F₁ ≤ F₂)
    {p : Nat} {ab : List (Entry Span)} {lc₁ : Option (List Span)} {cnt₁ p₁ : Nat} (hlt : p < n)
    (hst : loopStepRt s₁ F₁ p = .next ab [] lc₁ cnt₁ p₁)
    (hgo : ∃ N body b, runLoop n (fun _ _ => loopStepRt s₁ F₁) N body [] lc₁ cnt₁ p₁ = .done (b, [])) :
    p₁ ≤ n ∧ loopStepRt s₂ F₂ p = .next ab [] lc₁ cnt₁ p₁ := by
  cases hge : getEntryRuntime s₁ F₁ p with
  | ok o q =>
    rw [loopStepRt_ok hge] at hst
    injection hst with h1 _ h3 h4 h5
    subst h1 h3 h4 h5
    obtain ⟨N, body, b, hgo⟩ := hgo
    have hdot : s₁[p]? ≠ some 35 → s₁[skipBlankInline s₁ q]? ≠ some 46 := fun _ hd =>
      (loop_dot_false (F := F₁) hd).2 (h.size ▸ hgo)
    obtain ⟨c1, c2⟩ := getEntryRuntime_pre h hF hlt hge hdot
    exact ⟨h.loc.edge₁.skipBlankBlock_le c1, by rw [loopStepRt_ok c2, skipBlankBlock_loc h.loc c1]⟩
  | err e q =>
    rw [loopStepRt_err_eq hge] at hst
    obtain ⟨_, _, _, _, _, h2, _⟩ := junkStep_next hst
    cases h2
  | panic m => unfold loopStepRt at hst; rw [hge] at hst; cases hst
  | fuel => unfold loopStepRt at hst; rw [hge] at hst; cases hst

theorem loopStepRt_follows {n : Nat} {s₁ s₂ : Src} (h : Pre n s₁ s₂) {F₁ F₂ : Nat} (hF : F₁ ≤ F₂) :
    Follows n (fun _ _ => loopStepRt s₁ F₁) (fun _ _ => loopStepRt s₂ F₂) := fun _ _ _ _ _ cnt₁ _ hlt hst hgo =>
  ⟨cnt₁, (loopStepRt_pre h hF hlt hst hgo).2, Or.inl rfl⟩

theorem parseLoop_prefix {n : Nat} {s₁ : Src} (hsz : s₁.size = n) (hls : LS s₁ n) (F₁ : Nat) :
    ∀ (N₁ : Nat) (body : List (Entry Span)) (lc : Option (List Span)) (cnt p : Nat) (b : List (Entry Span)), p ≤ n →
      parseLoop s₁ F₁ N₁ body [] lc cnt p = .done (b, []) →
      ∃ body' lc', b = body' ++ flushC lc' ∧
        ∀ (s₂ : Src) (F₂ : Nat), Pre n s₁ s₂ → F₁ ≤ F₂ →
          ∀ (N₂ : Nat) (r : List (Entry Span) × List PErr), parseLoop s₂ F₂ N₂ body [] lc cnt p = .done r →
            ∃ N₂' cnt', N₂' ≤ N₂ ∧ parseLoop s₂ F₂ N₂' body' [] lc' cnt' n = .done r := by
  intro N₁ body lc cnt p b hp hr
  rw [parseLoop_eq_run, hsz] at hr
  obtain ⟨body', lc', _, hb, H⟩ := runLoop_prefix (fun _ => True)
    (fun lc cnt p ab lc₁ cnt₁ p₁ hlt _ hst hgo =>
      ⟨trivial, (loopStep_pre (pre_self hsz hls) (Nat.le_refl F₁) hlt hst hgo).1⟩) N₁ body lc cnt p b hp trivial hr
  refine ⟨body', lc', hb, fun s₂ F₂ h hF N₂ r hr₂ => ?_⟩
  rw [parseLoop_eq_run] at hr₂
  obtain ⟨N₂', cnt', hN, hfin⟩ := H s₂.size (loopStep s₂ F₂) h.le₂ (loopStep_follows h hF) N₂ r hr₂
  exact ⟨N₂', cnt', hN, by rw [parseLoop_eq_run]; exact hfin⟩

theorem parseRuntimeLoop_prefix {n : Nat} {s₁ : Src} (hsz : s₁.size = n) (hls : LS s₁ n) (F₁ : Nat) :
    ∀ (N₁ : Nat) (body : List (Entry Span)) (p : Nat) (b : List (Entry Span)), p ≤ n →
      parseRuntimeLoop s₁ F₁ N₁ body [] p = .done (b, []) →
      ∀ (s₂ : Src) (F₂ : Nat), Pre n s₁ s₂ → F₁ ≤ F₂ →
        ∀ (N₂ : Nat) (r : List (Entry Span) × List PErr), parseRuntimeLoop s₂ F₂ N₂ body [] p = .done r →
          ∃ N₂', N₂' ≤ N₂ ∧ parseRuntimeLoop s₂ F₂ N₂' b [] n = .done r := by
  intro N₁ body p b hp hr s₂ F₂ h hF N₂ r hr₂
  rw [parseRuntimeLoop_eq_run, hsz] at hr
  rw [parseRuntimeLoop_eq_run] at hr₂
  obtain ⟨body', lc', rfl, hb, H⟩ := runLoop_prefix (fun lc => lc = none)
    (fun lc cnt p ab lc₁ cnt₁ p₁ hlt _ hst hgo =>
      ⟨(loopStepRt_state hst).1, (loopStepRt_pre (pre_self hsz hls) (Nat.le_refl F₁) hlt hst hgo).1⟩)
    N₁ body none 0 p b hp rfl hr
  obtain ⟨N₂', cnt', hN, hfin⟩ := H s₂.size _ h.le₂ (loopStepRt_follows h hF) N₂ r hr₂
  refine ⟨N₂', hN, ?_⟩
  rw [parseRuntimeLoop_eq_run, hb, flushC, List.append_nil, runLoop_cnt _ _ _ _ 0 cnt']
  exact hfin

end FluentProofs.Parser

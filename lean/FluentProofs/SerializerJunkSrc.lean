import FluentProofs.SerializerJunkSrcEnd
import FluentProofs.SerializerJunkSrcHead
import FluentProofs.SerializerOutComment
import FluentProofs.ParserLinesWF
import FluentProofs.ParserLocalSimDefs
/-!
# Serializer lemmas: the Junk entries of a parse tree, seen in the source (C04)

`SrcGood s prev t`: for every Junk entry of the tree `t` (spans into the source `s`): its span starts at a line start that
is not blank, `get_entry` fails there and junk recovery ends at the span's end (`JunkSrc`); behind a message or term the
span starts where that entry ended (`EntryStop`); and behind it stands (`Cont`) the end of input, the next Junk, or — at a
line start — the `#` / entry head of the next entry.  `parse_srcGood`: the tree returned by `parse` has this property
(induction along the entry loop).  A fact about the parser and the source: that the tree is of the class is not used, only
that a comment `get_comment` returns has a line, so that the written text of the entry that carries it starts with `#`.
For `SerializerJunkTransfer` the file also declares the class of a tree's entries (`Cls`) and shows that the text of a class
entry with a comment starts with `#` (`hashHead`, `entryText_head_hash`).
-/
namespace FluentProofs.Ser
open FluentModel FluentModel.Syntax FluentModel.Syntax.Ser FluentProofs.Parser

/-- the class form of a parsed entry -/
def nE (s : Src) (e : Entry Span) : Entry Bytes := nEntry okSafe (e.mapS (spanBytes s))

theorem normSafe_resolve (s : Src) (t : Resource Span) : normSafe true (resolve s t) = t.map (nE s) := by
  simp only [normSafe, nRes, resolve, Bool.true_or]
  rw [List.filter_eq_self.mpr (fun _ _ => rfl), List.map_map]
  rfl

theorem skipBlankBlock_blockStop (s : Src) (q : Nat) : BlockStop s (skipBlankBlock s q).1 := by
  by_cases hlt : (skipBlankBlock s q).1 < s.size
  · have hnb := skipBlankBlock_notBlank s q hlt
    intro n c
    rw [skipBlankBlockGo]
    cases hE : skipEol s (skipBlankInline s (skipBlankBlock s q).1) with
    | some q' => exact absurd (Or.inl ⟨q', hE⟩) hnb
    | none => exact if_pos (Nat.lt_of_not_le fun h => hnb (Or.inr h))
  · exact Stopper.blockStop (Or.inl (Nat.le_of_not_lt hlt))

theorem entryStart_of_ends {s : Src} {q : Nat} (h : EndsAtEntryStart s q) : EntryStart s q := by
  rcases h with h | ⟨c, hc, hb, _⟩
  · exact Or.inl h
  · refine Or.inr ⟨c, hc, ?_⟩
    simp only [Bool.or_eq_true, beq_iff_eq] at hb
    rcases hb with (hb | hb) | hb
    · exact Or.inl hb
    · exact Or.inr (Or.inl hb)
    · exact Or.inr (Or.inr hb)

theorem at_span {s : Src} (a b : Nat) : At s a (spanBytes s ⟨a, b⟩) := by
  rw [at_iff_prefix, SpecLex.spanBytes_eq_seg]; exact List.take_prefix _ _

theorem eq_junk_of_isJunkS {e : Entry Span} (h : e.isJunk = true) : ∃ sp, e = .junk sp := by
  cases e <;> first | exact ⟨_, rfl⟩ | cases h

/-- what stands at `p`, where the entry loop (no comment pending) goes on to produce the entries `l` -/
def Cont (s : Src) (p : Nat) : List (Entry Span) → Prop
  | [] => s.size ≤ p
  | e :: es =>
    match e with
    | .junk sp => sp.start = p ∧ p < sp.stop ∧ sp.stop ≤ s.size ∧ Parser.LSE s sp.stop ∧ Cont s sp.stop es
    | e => p < s.size ∧ LS s p ∧ TailB s p ∧ s[p]? = (entryText false (nE s e)).head?

theorem cont_nonjunk {s : Src} {p : Nat} {e : Entry Span} {es : List (Entry Span)} (hj : e.isJunk = false) :
    Cont s p (e :: es) = (p < s.size ∧ LS s p ∧ TailB s p ∧ s[p]? = (entryText false (nE s e)).head?) := by
  cases e <;> first | rfl | (simp [Entry.isJunk] at hj)

/-- the span of a Junk entry as the entry loop left it: a non-blank line start at which `get_entry` fails, junk recovery
ending at `sp.stop`, a line start or the end of input -/
structure JunkSrc (s : Src) (sp : Span) : Prop where
  lt : sp.start < sp.stop
  le : sp.stop ≤ s.size
  ls : LS s sp.start
  block : BlockStop s sp.start
  fail : ∃ e q, getEntry s (exprFuel s) sp.start = .err e q ∧ skipToNextEntryStart s sp.start q = some sp.stop
  ends : Parser.LSE s sp.stop

/-- every Junk entry of the tree is a `JunkSrc`, starts where a preceding message / term ended, and is followed by
`Cont` -/
def SrcGood (s : Src) : Bool → List (Entry Span) → Prop
  | _, [] => True
  | prev, e :: es =>
    match e with
    | .junk sp => JunkSrc s sp ∧ (prev = true → EntryStop s sp.start) ∧ Cont s sp.stop es ∧ SrcGood s false es
    | e => SrcGood s (isMT (nE s e)) es

theorem SrcGood.nonjunk {s : Src} {prev : Bool} {e : Entry Span} {es : List (Entry Span)} (he : e.isJunk = false) :
    SrcGood s prev (e :: es) = SrcGood s (isMT (nE s e)) es := by
  cases e <;> first | rfl | (simp [Entry.isJunk] at he)

theorem SrcGood.prev_irrel {s : Src} {prev prev' : Bool} {l : List (Entry Span)}
    (hl : ∀ e es, l = e :: es → e.isJunk = false) (h : SrcGood s prev l) : SrcGood s prev' l := by
  cases l with
  | nil => trivial
  | cons e es =>
    have he := hl e es rfl
    rw [SrcGood.nonjunk he] at h ⊢
    exact h

/-- the entry's text starts with a comment -/
def hashHead : Entry Bytes → Bool
  | .comment _ => true
  | .groupComment _ => true
  | .resourceComment _ => true
  | .message m => m.comment.isSome
  | .term t => t.comment.isSome
  | .junk _ => false

theorem entryText_head_hash (e : Entry Bytes) (he : rtEntry e = true) (hk : hashHead e = true) :
    (entryText false e).head? = some 35 := by
  -- in every case the text starts with a comment block whose marker starts with `#`
  have key : ∀ (pre : Bytes) (c : List Bytes) (rest : Bytes), pre.head? = some 35 → rtComment c = true →
      (commentText pre c ++ rest).head? = some 35 := by
    intro pre c rest hp hc
    have := commentText_head35 pre c hp (rtComment_iff.mp hc).1
    cases hct : commentText pre c with
    | nil => rw [hct] at this; cases this
    | cons x xs => rw [hct] at this; exact this
  cases e with
  | message m =>
    simp only [rtEntry, Bool.and_eq_true] at he
    cases hc : m.comment with
    | none => simp only [hashHead, hc] at hk; cases hk
    | some c =>
      rw [hc] at he
      simp only [entryText, hc, optCommentText, List.append_assoc]
      exact key _ c _ rfl he.2
  | term t =>
    simp only [rtEntry, Bool.and_eq_true] at he
    cases hc : t.comment with
    | none => simp only [hashHead, hc] at hk; cases hk
    | some c =>
      rw [hc] at he
      simp only [entryText, hc, optCommentText]
      exact key _ c _ rfl he.2
  | comment c => exact key [35] c _ rfl he
  | groupComment c => exact key [35, 35] c _ rfl he
  | resourceComment c => exact key [35, 35, 35] c _ rfl he
  | junk c => cases hk

/-- the text of the entry that carries the comment `c` starts with `#` -/
theorem head35_of_comment {s : Src} {e : Entry Span} {c : List Span} (hc : c ≠ [])
    (he : e = .comment c ∨ e = .groupComment c ∨ e = .resourceComment c ∨
      (∃ m : Message Span, e = .message { m with comment := some c }) ∨
      ∃ t : Term Span, e = .term { t with comment := some c }) :
    (entryText false (nE s e)).head? = some 35 := by
  obtain ⟨l, ls, hl⟩ : ∃ l ls, nComment (c.map (spanBytes s)) = l :: ls := by
    cases c with
    | nil => exact absurd rfl hc
    | cons x xs => exact ⟨_, _, rfl⟩
  have key : ∀ (x : UInt8) (xs rest : Bytes), x = 35 →
      (commentText (x :: xs) (nComment (c.map (spanBytes s))) ++ rest).head? = some 35 := by
    intro x xs rest hx; rw [hl, hx]; rfl
  rcases he with rfl | rfl | rfl | ⟨m, rfl⟩ | ⟨t, rfl⟩
  · exact key 35 [] [10] rfl
  · exact key 35 [35] [10] rfl
  · exact key 35 [35, 35] [10] rfl
  · simp only [nE, Entry.mapS, nEntry, entryText, optCommentText, Option.map_some, List.append_assoc]
    exact key 35 [] _ rfl
  · simp only [nE, Entry.mapS, nEntry, entryText, optCommentText, Option.map_some]
    exact key 35 [] _ rfl

/-- the class of the entries of a tree (what `rtEntry_normSafe_of_parse_all` gives) -/
def Cls (s : Src) (l : List (Entry Span)) : Prop := ∀ e ∈ l, (∃ c, e = .junk c) ∨ rtEntry (nE s e) = true

theorem Cls.rt {s : Src} {l : List (Entry Span)} (h : Cls s l) {e : Entry Span} (he : e ∈ l) (hj : e.isJunk = false) :
    rtEntry (nE s e) = true := by
  rcases h e he with ⟨c, rfl⟩ | h
  · simp [Entry.isJunk] at hj
  · exact h

theorem cont_hash {s : Src} {p : Nat} {e : Entry Span} {es : List (Entry Span)} (hlt : p < s.size) (hls : LS s p)
    (h35 : s[p]? = some 35) (hj : e.isJunk = false) (hhd : (entryText false (nE s e)).head? = some 35) :
    Cont s p (e :: es) := by
  rw [cont_nonjunk hj]
  exact ⟨hlt, hls, Or.inl h35, by rw [hhd]; exact h35⟩

/-- the invariant of the loop position: where `skip_blank_block` stopped -/
def PosOK (s : Src) (p : Nat) : Prop := p < s.size → LS s p ∧ BlockStop s p

theorem posOK_after {s : Src} {q : Nat} (h : NextOk s q) : PosOK s (skipBlankBlock s q).1 :=
  fun hlt => ⟨(skipBlankBlock_LSE h).ls hlt, skipBlankBlock_blockStop s q⟩

theorem parseLoop_srcGood {s : Src} (hs : AsciiThenBoundary s) :
    ∀ (N : Nat) (lc : Option (List Span)) (cnt p : Nat) (prev : Bool) (l : List (Entry Span)) (errs : List PErr),
      parseLoop s (exprFuel s) N [] [] lc cnt p = .done (l, errs) → PosOK s p →
      (lc = none → prev = true → EntryStop s p) →
      SrcGood s prev l ∧ (lc = none → Cont s p l) := by
  intro N
  induction N with
  | zero => intro lc cnt p prev l errs h; simp [parseLoop_zero] at h
  | succ N ih =>
    intro lc cnt p prev l errs h hpos hmt
    by_cases hlt : p < s.size
    · obtain ⟨ab, ae, lc', cnt', p', l', errs', hst, h', rfl⟩ := parseLoop_done_next hlt h
      obtain ⟨hls, hblock⟩ := hpos hlt
      rcases loopStep_next hst with ⟨e, q, hge, rfl, _, rfl, rfl, rfl⟩ |
        ⟨e, q, q1', content, hge, hsk', hsl, rfl, _, rfl, rfl, rfl⟩
      · have hlines := getEntry_lines s (exprFuel s) p
        rw [hge] at hlines
        have hnext : PosOK s (skipBlankBlock s q).1 := posOK_after hlines.2.1
        -- behind a message or term: the loop goes on where it ended
        have hmtNext : ∀ {q}, EntryStop s q → PosOK s (skipBlankBlock s q).1 →
            parseLoop s (exprFuel s) N [] [] none (skipBlankBlock s q).2 (skipBlankBlock s q).1 = .done (l', errs') →
            SrcGood s true l' := fun hend hnext h' =>
          (ih none _ _ true l' errs' h' hnext (fun _ _ => by rw [hend.block.sbb]; exact hend)).1
        rcases getEntry_ok_inv hge with ⟨h35, r, hgc, hk⟩ | ⟨h45, t', rfl, hgt⟩ | ⟨_, m, rfl, hgm⟩
        · -- the comment read in this round is not empty, so the text of the entry that carries it starts with `#`
          have hne : r.1 ≠ [] := getComment_ne h35 hgc
          rcases hk with rfl | rfl | rfl
          · obtain ⟨rest, hhead⟩ := parseLoop_pending_head h'
            -- the head of `l'` carries the comment
            obtain ⟨e0, rest0, hl', hj0, hk0⟩ :
                ∃ e0 rest0, l' = e0 :: rest0 ∧ e0.isJunk = false ∧ (entryText false (nE s e0)).head? = some 35 := by
              rcases hhead with h1 | ⟨m, h1⟩ | ⟨t', h1⟩
              · exact ⟨_, _, h1, rfl, head35_of_comment hne (Or.inl rfl)⟩
              · exact ⟨_, _, h1, rfl, head35_of_comment hne (Or.inr (Or.inr (Or.inr (Or.inl ⟨m, rfl⟩))))⟩
              · exact ⟨_, _, h1, rfl, head35_of_comment hne (Or.inr (Or.inr (Or.inr (Or.inr ⟨t', rfl⟩))))⟩
            have hirr : ∀ e es, l' = e :: es → e.isJunk = false := by
              intro e es he; rw [hl'] at he; injection he with h1 _; rw [← h1]; exact hj0
            obtain ⟨g1, _⟩ := ih (some r.1) _ _ false l' errs' h' hnext (fun hx => by cases hx)
            cases lc with
            | none =>
              refine ⟨SrcGood.prev_irrel hirr g1, fun _ => ?_⟩
              show Cont s p l'
              rw [hl']
              exact cont_hash hlt hls h35 hj0 hk0
            | some c0 =>
              show SrcGood s prev (.comment c0 :: l') ∧ _
              exact ⟨by rw [SrcGood.nonjunk rfl]; exact SrcGood.prev_irrel hirr g1, fun hx => by cases hx⟩
          · obtain ⟨g1, _⟩ := ih none _ _ false l' errs' h' hnext (fun _ hx => by cases hx)
            cases lc with
            | none =>
              show SrcGood s prev (.groupComment r.1 :: l') ∧ (none = none → Cont s p (.groupComment r.1 :: l'))
              exact ⟨by rw [SrcGood.nonjunk rfl]; exact g1,
                fun _ => cont_hash hlt hls h35 rfl (head35_of_comment hne (Or.inr (Or.inl rfl)))⟩
            | some c0 =>
              show SrcGood s prev (.comment c0 :: .groupComment r.1 :: l') ∧ _
              exact ⟨by rw [SrcGood.nonjunk rfl, SrcGood.nonjunk rfl]; exact g1, fun hx => by cases hx⟩
          · obtain ⟨g1, _⟩ := ih none _ _ false l' errs' h' hnext (fun _ hx => by cases hx)
            cases lc with
            | none =>
              show SrcGood s prev (.resourceComment r.1 :: l') ∧ (none = none → Cont s p (.resourceComment r.1 :: l'))
              exact ⟨by rw [SrcGood.nonjunk rfl]; exact g1,
                fun _ => cont_hash hlt hls h35 rfl (head35_of_comment hne (Or.inr (Or.inr (Or.inl rfl))))⟩
            | some c0 =>
              show SrcGood s prev (.comment c0 :: .resourceComment r.1 :: l') ∧ _
              exact ⟨by rw [SrcGood.nonjunk rfl, SrcGood.nonjunk rfl]; exact g1, fun hx => by cases hx⟩
        · have g1 := hmtNext (getTerm_end hgt) hnext h'
          obtain ⟨⟨E, hbar⟩, _, hcm⟩ := getTerm_bar hgt hls
          cases lc with
          | none =>
            show SrcGood s prev (.term t' :: l') ∧ (none = none → Cont s p (.term t' :: l'))
            refine ⟨by rw [SrcGood.nonjunk rfl]; exact g1, fun _ => ⟨hlt, hls, Or.inr ⟨E, hbar⟩, ?_⟩⟩
            rw [h45]
            simp [nE, Entry.mapS, nEntry, entryText, hcm, optCommentText]
          | some c0 =>
            refine ⟨?_, fun hx => by cases hx⟩
            by_cases hc2 : cnt < 2
            · simp only [recorded, if_pos hc2, List.singleton_append]
              rw [SrcGood.nonjunk rfl]; exact g1
            · simp only [recorded, if_neg hc2, List.cons_append, List.nil_append]
              rw [SrcGood.nonjunk rfl, SrcGood.nonjunk rfl]; exact g1
        · have g1 := hmtNext (getMessage_end hgm) hnext h'
          obtain ⟨⟨E, hbar⟩, hid1, hid2, hid3, hcm⟩ := getMessage_bar hgm hls
          cases lc with
          | none =>
            show SrcGood s prev (.message m :: l') ∧ (none = none → Cont s p (.message m :: l'))
            refine ⟨by rw [SrcGood.nonjunk rfl]; exact g1, fun _ => ⟨hlt, hls, Or.inr ⟨E, hbar⟩, ?_⟩⟩
            have : (entryText false (nE s (.message m))).head? = (spanBytes s m.id).head? := by
              simp only [nE, Entry.mapS, nEntry, entryText, hcm, Option.map_none, optCommentText, List.nil_append,
                List.append_assoc]
              cases hb : spanBytes s m.id with
              | nil => exact absurd hb (spanBytes_ne_nil (a := m.id.start) (b := m.id.stop) (by omega) hid3)
              | cons x xs => simp
            rw [this, show m.id = ⟨m.id.start, m.id.stop⟩ from rfl, spanBytes_head (by omega) hid3, hid1]
          | some c0 =>
            refine ⟨?_, fun hx => by cases hx⟩
            by_cases hc2 : cnt < 2
            · simp only [recorded, if_pos hc2, List.singleton_append]
              rw [SrcGood.nonjunk rfl]; exact g1
            · simp only [recorded, if_neg hc2, List.cons_append, List.nil_append]
              rw [SrcGood.nonjunk rfl, SrcGood.nonjunk rfl]; exact g1
      · have hq12 : p ≤ q ∧ q ≤ s.size ∧ (q = p → ∀ b, s[p]? = some b → isEntryByte b = false) := by
          rcases getEntry_post hs p hlt with ⟨e', hr, hne⟩ | hg
          · rw [hge] at hr; injection hr with _ hq; subst hq
            exact ⟨Nat.le_refl _, Nat.le_of_lt hlt, fun _ => hne⟩
          · rw [hge] at hg
            simp only [good_err] at hg
            exact ⟨by omega, hg.2, fun hx => by omega⟩
        obtain ⟨q1, hsk, hpq1, hbq1⟩ := skipToNextEntryStart_spec s p q hq12.1 hq12.2.1 hlt hq12.2.2
        obtain rfl : q1 = q1' := Option.some.inj (hsk.symm.trans hsk')
        obtain ⟨rfl, _⟩ := slice_eq_some hsl
        have hends := skipToNextEntryStart_ends s p q q1 hsk
        have hst : EntryStart s q1 := entryStart_of_ends hends
        rw [hst.blockStop.sbb] at h'
        have hpos1 : PosOK s q1 := fun hlt1 => ⟨(endsAtEntryStart_LSE hends).ls hlt1, hst.blockStop⟩
        obtain ⟨g1, g2⟩ := ih none 0 q1 false l' errs' h' hpos1 (fun _ hx => by cases hx)
        have hjs : JunkSrc s ⟨p, q1⟩ :=
          ⟨hpq1, hbq1.le, hls, hblock, ⟨e, q, hge, hsk⟩, endsAtEntryStart_LSE hends⟩
        cases lc with
        | none =>
          show SrcGood s prev (.junk ⟨p, q1⟩ :: l') ∧ (none = none → Cont s p (.junk ⟨p, q1⟩ :: l'))
          exact ⟨⟨hjs, fun hp => hmt rfl hp, g2 rfl, g1⟩, fun _ => ⟨rfl, hpq1, hbq1.le, endsAtEntryStart_LSE hends, g2 rfl⟩⟩
        | some c0 =>
          show SrcGood s prev (.comment c0 :: .junk ⟨p, q1⟩ :: l') ∧ _
          exact ⟨by rw [SrcGood.nonjunk rfl]; exact ⟨hjs, fun hp => absurd hp (by simp [nE, Entry.mapS, nEntry, isMT]), g2 rfl, g1⟩,
            fun hx => by cases hx⟩
    · rw [parseLoop_loopStep, if_neg hlt] at h
      injection h with h
      simp only [List.nil_append, Prod.mk.injEq] at h
      obtain ⟨rfl, _⟩ := h
      cases lc with
      | none => exact ⟨trivial, fun _ => by simp only [Parser.flushC, Cont]; omega⟩
      | some c0 => exact ⟨by simp only [Parser.flushC]; rw [SrcGood.nonjunk rfl]; trivial, fun hx => by cases hx⟩

theorem parse_srcGood {s : Src} (hs : AsciiThenBoundary s) {t : Resource Span} {errs : List PErr}
    (h : parse s = .done (t, errs)) : SrcGood s false t := by
  unfold parse at h
  exact (parseLoop_srcGood hs _ none 0 _ false t errs h (posOK_after (Or.inl (LS_zero s)))
    (fun _ hx => by cases hx)).1

end FluentProofs.Ser

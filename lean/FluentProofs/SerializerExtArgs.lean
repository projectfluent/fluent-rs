import FluentProofs.SerializerExt
/-!
# Serializer lemmas: call arguments in the level-indexed inline layer (C04)

`F(a, { $x -> … }, k: G({ … }))`, `-t.a(…)`: if every positional argument and every value of a named argument
has the round-trip property at level `L` (`InlRT L`), so has the call.
-/
namespace FluentProofs.Ser
open FluentModel FluentModel.Syntax FluentModel.Syntax.Ser FluentProofs.Parser

theorem olFree_of_head (L : Nat) (v : Inline Bytes)
    (h : (∃ r, inlineText L v = 34 :: r) ∨ (∃ b r, inlineText L v = b :: r ∧ isDigit b = true) ∨
      (∃ d r, inlineText L v = 45 :: d :: r ∧ isDigit d = true) ∨ (∃ b r, inlineText L v = b :: r ∧ isAlpha b = true)) :
    OLFree L v := by
  intro s p n hat
  rcases h with ⟨r, hr⟩ | ⟨b, r, hr, hb⟩ | ⟨d, r, hr, hd⟩ | ⟨b, r, hr, hb⟩
  · rw [hr, at_cons] at hat; exact getInline_ol_quote s n p hat.1
  · rw [hr, at_cons] at hat; exact getInline_ol_digit s n p b hat.1 hb
  · rw [hr] at hat; simp only [at_cons] at hat; exact getInline_ol_minus s n p d hat.1 hat.2.1 hd
  · rw [hr, at_cons] at hat; exact getInline_ol_alpha s n p b hat.1 hb

/-- the writer at the separator in front of every argument but the first -/
theorem sep_rt {L : Nat} {w : Writer} (written : Bool) (hw : WS w L false) :
    ∃ w1, (if written = true then w.writeLiteral [44, 32] else w) = w1 ∧
      w1.buffer = w.buffer ++ (if written then [44, 32] else [] : Bytes).toArray ∧ WS w1 L false := by
  cases written with
  | true =>
    obtain ⟨hb, hw'⟩ := ws_writeTidy hw [44, 32] (by decide)
    exact ⟨_, rfl, by simpa using hb, hw'⟩
  | false => exact ⟨w, rfl, by simp, hw⟩

theorem serNamed_rt (L : Nat) (named : List (Bytes × Inline Bytes)) (hn : NamedOK L named) :
    ∀ (w : Writer) (written : Bool), WS w L false →
      ∃ w', (serNamed w written named).map (fun w2 => w2.writeLiteral [41]) = some w' ∧
        w'.buffer = w.buffer ++ ((if written && !named.isEmpty then [44, 32] else []) ++ namedText L named).toArray ∧
        WS w' L false := by
  induction named with
  | nil =>
    intro w written hw
    obtain ⟨hb, hw1⟩ := ws_writeTidy hw [41] (by decide)
    exact ⟨_, by simp [serNamed], by rw [hb]; simp [namedText], hw1⟩
  | cons x xs ih =>
    obtain ⟨n, v⟩ := x
    intro w written hw
    obtain ⟨hid, hv, _⟩ : validIdent n = true ∧ InlRT L v ∧ OLFree L v := hn (n, v) (List.mem_cons_self)
    obtain ⟨w1, e1, hb1, hw1⟩ := sep_rt written hw
    obtain ⟨hb2, hw2⟩ := ws_writeTidy hw1 n (validIdent_tidy hid)
    obtain ⟨hb3, hw3⟩ := ws_writeTidy hw2 [58, 32] (by decide)
    obtain ⟨w4, hs4, hb4, hw4⟩ := hv.ser _ hw3
    obtain ⟨w5, hs5, hb5, hw5⟩ := ih hn.tail w4 true hw4
    refine ⟨w5, ?_, ?_, hw5⟩
    · rw [serNamed]
      simp only [lit_comma, lit_colon, e1, hs4]
      exact hs5
    · rw [hb5, hb4, hb3, hb2, hb1]
      apply Array.ext'
      cases written <;> cases xs <;> simp [namedText]

theorem serArgs_rt (L : Nat) (xs : List (Inline Bytes)) (hx : ∀ x ∈ xs, InlRT L x) (named : List (Bytes × Inline Bytes))
    (hn : NamedOK L named) :
    ∀ (w : Writer) (written : Bool), WS w L false →
      ∃ w', serArgs w written xs named = some w' ∧
        w'.buffer = w.buffer ++ ((if written && !(xs.isEmpty && named.isEmpty) then [44, 32] else []) ++
          posText L xs named.isEmpty (namedText L named)).toArray ∧
        WS w' L false := by
  induction xs with
  | nil =>
    intro w written hw
    obtain ⟨w', h1, h2, h3⟩ := serNamed_rt L named hn w written hw
    refine ⟨w', ?_, by simpa [posText] using h2, h3⟩
    simp only [serArgs, serPositional]
    exact h1
  | cons x xs ih =>
    intro w written hw
    obtain ⟨w1, e1, hb1, hw1⟩ := sep_rt written hw
    obtain ⟨w2, hs2, hb2, hw2⟩ := (hx x (List.mem_cons_self)).ser _ hw1
    obtain ⟨w3, hs3, hb3, hw3⟩ := ih (fun y hy => hx y (List.mem_cons_of_mem _ hy)) w2 true hw2
    refine ⟨w3, ?_, ?_, hw3⟩
    · rw [serArgs_cons, e1, hs2]
      exact hs3
    · rw [hb3, hb2, hb1]
      apply Array.ext'
      rw [posText]
      cases written <;> cases xs <;> cases named <;> simp

theorem InlRT.argParse {L : Nat} {x : Inline Bytes} (h : InlRT L x) : ArgParse (inlineText L) (textFuel L) x :=
  ⟨h.head, fun _ _ _ _ hs hat hf hfu => h.parse_atTo hs hat hf hfu⟩

theorem InlRT.argParseOL {L : Nat} {v : Inline Bytes} (h : InlRT L v) (hol : OLFree L v) :
    ArgParseOL (inlineText L) (textFuel L) v := by
  refine ⟨h.head, fun s p q fuel hs hat hf hsb hfu => ?_⟩
  obtain ⟨n, rfl⟩ : ∃ n, fuel = n + 1 := ⟨fuel - 1, by simp only [textFuel] at hfu; omega⟩
  obtain ⟨v', ev, rv⟩ := h.parse_atTo hs hat hf hfu
  rw [endPos_stay v s _ hsb] at ev
  exact ⟨v', by rw [hol s p n hat.txt]; exact ev, rv⟩

/-- `(` at `q`, the arguments written at level `L` and `)` in `[q + 1, E)` -/
theorem getCallArguments_text {s : Src} (hs : AsciiThenBoundary s) (L : Nat) (pos : List (Inline Bytes))
    (hx : ∀ x ∈ pos, InlRT L x) (named : List (Bytes × Inline Bytes)) (hn : NamedOK L named)
    (hnd : (named.map Prod.fst).Nodup) {q E : Nat} (m : Nat) (h40 : s[q]? = some 40)
    (hT : AtTo s (q + 1) (posText L pos named.isEmpty (namedText L named)) E)
    (hm : 4 * (posText L pos named.isEmpty (namedText L named)).length + 4 ≤ m) :
    ∃ xs' named', getCallArguments s (m + 1) q = .ok (some (xs', named')) E ∧
      mapInl (spanBytes s) xs' = pos ∧ mapNamed (spanBytes s) named' = named := by
  rw [namedText_eq, posText_eq] at hT hm
  exact getCallArguments_argsG hs (inlineText L) (textFuel L) pos (fun x h => (hx x h).argParse) named
    (fun nv h => ⟨(hn nv h).1, (hn nv h).2.1.argParseOL (hn nv h).2.2⟩) hnd m h40 hT
    (Nat.le_trans (argsFuel_le L pos named) hm)

theorem inlRT_fn (L : Nat) (id : Bytes) (pos : List (Inline Bytes)) (named : List (Bytes × Inline Bytes))
    (hid : validIdent id = true) (hcallee : isCalleeName id = true) (hx : ∀ x ∈ pos, InlRT L x)
    (hn : NamedOK L named) (hnd : (named.map Prod.fst).Nodup) : InlRT L (.fn id pos named) := by
  obtain ⟨c, rest, hidc, hc, _⟩ := validIdent_head hid
  refine ⟨⟨c, by simp [inlineText, hidc], alpha_notBlank c hc⟩, fun w hw => ?_, fun s p fuel hs h hf hfuel => ?_⟩
  · obtain ⟨hb1, hw1⟩ := ws_writeTidy hw id (validIdent_tidy hid)
    obtain ⟨hb2, hw2⟩ := ws_writeTidy hw1 [40] (by decide)
    obtain ⟨w3, hs3, hb3, hw3⟩ := serArgs_rt L pos hx named hn _ false hw2
    refine ⟨w3, by rw [serInline_fn_call]; exact hs3, ?_, hw3⟩
    rw [hb3, hb2, hb1]
    apply Array.ext'
    simp [inlineText]
  · simp only [inlineText] at h hf hfuel ⊢
    obtain ⟨m, rfl⟩ : ∃ m, fuel = m + 2 := ⟨fuel - 2, by simp at hfuel; omega⟩
    -- the name in `[p, m₁)`, `(` at `m₁`, the arguments up to `E`
    obtain ⟨E, hE, h⟩ : ∃ E, p + (id ++ 40 :: posText L pos named.isEmpty (namedText L named)).length = E ∧
        AtTo s p (id ++ 40 :: posText L pos named.isEmpty (namedText L named)) E := ⟨_, rfl, h.atTo⟩
    rw [hE]
    obtain ⟨m₁, hI, hr⟩ := atTo_append.mp h
    obtain ⟨h40, hT⟩ := atTo_cons.mp hr
    obtain ⟨xs', named', hca, hmx, hmn⟩ := getCallArguments_text hs L pos hx named hn hnd m h40 hT
      (by simp at hfuel; omega)
    exact ⟨.fn ⟨p, m₁⟩ xs' named', getInline_fn_call hs hid hcallee (m + 1) hI h40 hca,
      by simp [Inline.mapS, hI.span, hmx, hmn]⟩

/-- the writer at the optional `.attr` of a reference -/
theorem attr_rt {L : Nat} (attr : Option Bytes) (hattr : optIdent attr = true) (w : Writer) (hw : WS w L false) :
    (refHead w attr).buffer = w.buffer ++ (attrBytes attr).toArray ∧ WS (refHead w attr) L false := by
  cases attr with
  | none => exact ⟨by simp [refHead, attrBytes], hw⟩
  | some a =>
    simp only [optIdent] at hattr
    simp only [refHead, lit_dot]
    obtain ⟨hba, hwa⟩ := ws_writeTidy hw [46] (by decide)
    obtain ⟨hbb, hwb⟩ := ws_writeTidy hwa a (validIdent_tidy hattr)
    exact ⟨by rw [hbb, hba]; apply Array.ext'; simp [attrBytes], hwb⟩

theorem inlRT_term_args (L : Nat) (id : Bytes) (attr : Option Bytes) (pos : List (Inline Bytes))
    (named : List (Bytes × Inline Bytes)) (hid : validIdent id = true) (hattr : optIdent attr = true)
    (hx : ∀ x ∈ pos, InlRT L x) (hn : NamedOK L named) (hnd : (named.map Prod.fst).Nodup) :
    InlRT L (.term id attr (some (pos, named))) := by
  refine ⟨⟨45, by simp [inlineText], by decide⟩, fun w hw => ?_, fun s p fuel hs h hf hfuel => ?_⟩
  · obtain ⟨hb0, hw0⟩ := ws_writeTidy hw [45] (by decide)
    obtain ⟨hb1, hw1⟩ := ws_writeTidy hw0 id (validIdent_tidy hid)
    obtain ⟨hba, hwa⟩ := attr_rt attr hattr _ hw1
    obtain ⟨hb2, hw2⟩ := ws_writeTidy hwa [40] (by decide)
    obtain ⟨w3, hs3, hb3, hw3⟩ := serArgs_rt L pos hx named hn _ false hw2
    refine ⟨w3, ?_, ?_, hw3⟩
    · rw [serInline_term_call]; exact hs3
    · rw [hb3, hb2, hba, hb1, hb0]
      apply Array.ext'
      simp [inlineText]
  · simp only [inlineText] at h hf hfuel ⊢
    obtain ⟨m, rfl⟩ : ∃ m, fuel = m + 2 := ⟨fuel - 2, by simp at hfuel; omega⟩
    -- `-name` in `[p, m₁)`, the attribute in `[m₁, m₂)`, `(` at `m₂`, the arguments up to `E`
    obtain ⟨E, hE, h⟩ : ∃ E,
        p + (45 :: (id ++ attrBytes attr ++ 40 :: posText L pos named.isEmpty (namedText L named))).length = E ∧
        AtTo s p (45 :: (id ++ attrBytes attr ++ 40 :: posText L pos named.isEmpty (namedText L named))) E :=
      ⟨_, rfl, h.atTo⟩
    rw [hE]
    obtain ⟨h0, hr⟩ := atTo_cons.mp h
    rw [List.append_assoc] at hr
    obtain ⟨m₁, hI, hr⟩ := atTo_append.mp hr
    obtain ⟨m₂, hA, hr⟩ := atTo_append.mp hr
    obtain ⟨h40, hT⟩ := atTo_cons.mp hr
    obtain ⟨xs', named', hca, hmx, hmn⟩ := getCallArguments_text hs L pos hx named hn hnd m h40 hT
      (by simp at hfuel; omega)
    obtain ⟨a', hin, hma⟩ := getInline_term_call hs hid hattr (m + 1) h0 hI hA
      (fun c hc => by rw [h40] at hc; cases hc; decide) (fun _ => by rw [h40]; decide) hca
    exact ⟨.term ⟨p + 1, m₁⟩ a' (some (xs', named')), hin, by simp [Inline.mapS, hI.span, hma, hmx, hmn]⟩

end FluentProofs.Ser

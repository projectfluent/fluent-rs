import FluentProofs.ParserHoareExpr
/-!
# Cursors and error positions only move forward

`Fwd p r`: the outcome `r` of a parser function started at `p` has its cursor at or after `p`, and an error is
`mkErr k q` raised at that cursor `q`.  This holds of every leaf and of the eight mutually recursive functions
(`fwdspecs_all`, one walk), and both statements in use are read off it: error *positions* are at or after the start
(`Mono`, `MSpecs`, here), error *cursors* are (`CurGe` of `ParserLocalSimDefs`, `GSpecs` in `ParserLocalSimGe`).
Hypothesis-free: any byte array, any fuel.  Beside the walk of the string-literal scanner stands the fact that its result does
not depend on a fuel that reaches the end of the source (`scanString_eq`), which needs that its cursor moves forward.
-/
namespace FluentProofs.Parser
open FluentModel.Syntax

def Mono {α : Type} (p : Nat) (r : R α) : Prop :=
  match r with
  | .ok _ q => p ≤ q
  | .err e _ => p ≤ e.posStart
  | .panic _ => True
  | .fuel => True

@[simp] theorem mono_ok {α : Type} (p : Nat) (a : α) (q : Nat) : Mono p (.ok a q : R α) ↔ p ≤ q := Iff.rfl
@[simp] theorem mono_err {α : Type} (p : Nat) (e : PErr) (q : Nat) : Mono p (.err e q : R α) ↔ p ≤ e.posStart := Iff.rfl
@[simp] theorem mono_panic {α : Type} (p : Nat) (m : String) : Mono p (.panic m : R α) ↔ True := Iff.rfl
@[simp] theorem mono_fuel {α : Type} (p : Nat) : Mono p (.fuel : R α) ↔ True := Iff.rfl

theorem Mono.ok_le {α : Type} {p : Nat} {r : R α} {a : α} {q : Nat} (h : Mono p r) (e : r = .ok a q) : p ≤ q := by
  subst e; exact h

theorem Mono.ok {α : Type} {p q : Nat} {a : α} (h : p ≤ q) : Mono p (.ok a q) := h

theorem Mono.err {α : Type} {p q : Nat} (k : EK) (h : p ≤ q) : Mono p (.err (mkErr k q) q : R α) := h

theorem Mono.bind {α β : Type} {p p' : Nat} {r : R α} {f : α → Nat → R β} (h : Mono p r) (hp : p' ≤ p)
    (hf : ∀ a q, p ≤ q → Mono p' (f a q)) : Mono p' (r.bind f) := by
  cases r with
  | ok a q => exact hf a q h
  | err e q => exact Nat.le_trans hp h
  | panic m => trivial
  | fuel => trivial

/-- how a leaf or expression-level parser function started at `p` ends: with its cursor at or after `p`, and, if it fails,
with an error `mkErr k q` raised at that cursor.  (The entry level is different: `get_message` and `get_term` report
`mkErr2` errors that start at the entry.) -/
def Fwd {α : Type} (p : Nat) (r : R α) : Prop :=
  match r with
  | .ok _ q => p ≤ q
  | .err e q => p ≤ q ∧ ∃ k, e = mkErr k q
  | .panic _ => True
  | .fuel => True

theorem Fwd.mono {α : Type} {p : Nat} {r : R α} (h : Fwd p r) : Mono p r := by
  cases r with
  | ok a q => exact h
  | err e q => obtain ⟨h1, k, rfl⟩ := h; exact h1
  | panic m => trivial
  | fuel => trivial

theorem Fwd.ok {α : Type} {p q : Nat} {a : α} (h : p ≤ q) : Fwd p (.ok a q) := h

theorem Fwd.err {α : Type} {p q : Nat} (k : EK) (h : p ≤ q) : Fwd p (.err (mkErr k q) q : R α) := ⟨h, k, rfl⟩

theorem Fwd.weaken {α : Type} {p p' : Nat} {r : R α} (h : Fwd p r) (hp : p' ≤ p) : Fwd p' r := by
  cases r with
  | ok a q => exact Nat.le_trans hp h
  | err e q => exact ⟨Nat.le_trans hp h.1, h.2⟩
  | panic m => trivial
  | fuel => trivial

theorem Fwd.bind {α β : Type} {p p' : Nat} {r : R α} {f : α → Nat → R β} (h : Fwd p r) (hp : p' ≤ p)
    (hf : ∀ a q, p ≤ q → Fwd p' (f a q)) : Fwd p' (r.bind f) := by
  cases r with
  | ok a q => exact hf a q h
  | err e q => exact ⟨Nat.le_trans hp h.1, h.2⟩
  | panic m => trivial
  | fuel => trivial

theorem Fwd.ok_le {α : Type} {p : Nat} {r : R α} {a : α} {q : Nat} (h : Fwd p r) (e : r = .ok a q) : p ≤ q := by
  subst e; exact h

theorem expectByte_fwd (s : Src) (p : Nat) (b : UInt8) : Fwd p (expectByte s p b) := by
  unfold expectByte
  split
  · exact .ok (Nat.le_succ p)
  · exact .err _ (Nat.le_refl p)

theorem takeByteIf_le (s : Src) (p : Nat) (b : UInt8) : p ≤ (takeByteIf s p b).1 := by
  unfold takeByteIf; split <;> simp

theorem skipDigits_fwd (s : Src) (p : Nat) : Fwd p (skipDigits s p) := by
  unfold skipDigits
  simp only []
  split
  · exact .err _ (Nat.le_refl p)
  · exact .ok (scanWhile_le s isDigit p)

theorem getNumberLiteral_fwd (s : Src) (p : Nat) : Fwd p (getNumberLiteral s p) := by
  rw [getNumberLiteral_eq]
  have h0 := takeByteIf_le s p 45
  refine (skipDigits_fwd s _).bind h0 fun _ p2 h1 => ?_
  split
  · refine (skipDigits_fwd s _).bind (by omega) fun _ p4 h3 => ?_
    split
    · exact .ok (by omega)
    · trivial
  · split
    · exact .ok (by omega)
    · trivial

theorem getIdentifierUnchecked_fwd (s : Src) (p : Nat) : Fwd p (getIdentifierUnchecked s p) := by
  unfold getIdentifierUnchecked
  simp only []
  split
  · trivial
  · split
    · exact .ok (scanWhile_le s isIdentByte p)
    · trivial

theorem getIdentifier_fwd (s : Src) (p : Nat) : Fwd p (getIdentifier s p) := by
  unfold getIdentifier
  split
  · exact .err _ (Nat.le_refl p)
  · exact (getIdentifierUnchecked_fwd s (p + 1)).weaken (Nat.le_succ p)

theorem getAttributeAccessor_fwd (s : Src) (p : Nat) : Fwd p (getAttributeAccessor s p) := by
  rw [getAttributeAccessor_eq]
  split
  · exact (getIdentifier_fwd s (p + 1)).bind (Nat.le_succ p) fun _ q h => .ok (by omega)
  · exact .ok (Nat.le_refl p)

theorem skipUnicodeEscapeSequence_fwd (s : Src) (p len : Nat) :
    Fwd p (skipUnicodeEscapeSequence s p len) := by
  unfold skipUnicodeEscapeSequence
  have := (skipHexGo_after s len p).le
  simp only []
  split
  · split
    · exact .err _ this
    · trivial
  · exact .ok this

theorem scanStringGo_fwd (s : Src) (n p : Nat) : Fwd p (scanStringGo s n p) := by
  induction n generalizing p with
  | zero => exact .ok (Nat.le_refl p)
  | succ n ih =>
    refine scanStringGo_cases₂ (motive := fun r _ => Fwd p r) s s n n p p rfl (fun _ => rfl) ?_ ?_ ?_ ?_ ?_ ?_
    · exact fun _ => .ok (Nat.le_refl p)
    · exact fun _ _ _ _ => (ih (p + 2)).weaken (by omega)
    · exact fun _ len _ _ _ => (skipUnicodeEscapeSequence_fwd s (p + 2) len).bind (by omega) fun _ q hq =>
        (ih q).weaken (by omega)
    · exact fun _ _ _ _ _ => .err _ (Nat.le_refl p)
    · exact fun _ => .err _ (Nat.le_refl p)
    · exact fun _ _ _ _ _ => (ih (p + 1)).weaken (by omega)

theorem scanString_fwd (s : Src) (p : Nat) : Fwd p (scanString s p) := scanStringGo_fwd s _ p

theorem scanStringGo_eof {s : Src} {p : Nat} (h : s[p]? = none) (k : Nat) : scanStringGo s k p = .ok () p := by
  cases k with
  | zero => rfl
  | succ k => simp only [scanStringGo, h]

theorem scanStringGo_fuel (s : Src) : ∀ (k k' p : Nat), s.size ≤ p + k → s.size ≤ p + k' →
    scanStringGo s k p = scanStringGo s k' p := by
  have eof : ∀ k p, s.size ≤ p → scanStringGo s k p = .ok () p := fun k p hp =>
    scanStringGo_eof (Array.getElem?_eq_none_iff.mpr hp) k
  intro k
  induction k with
  | zero => intro k' p h _; rw [eof 0 p h, eof k' p h]
  | succ k ih =>
    intro k' p h1 h2
    cases k' with
    | zero => rw [eof _ p h2, eof 0 p h2]
    | succ k' =>
      refine scanStringGo_cases₂ (motive := fun r₁ r₂ => r₁ = r₂) s s k k' p p rfl (fun _ => rfl) ?_ ?_ ?_ ?_ ?_ ?_
      · exact fun _ => rfl
      · exact fun _ _ _ _ => ih k' (p + 2) (by omega) (by omega)
      · intro _ len _ _ _
        cases hu : skipUnicodeEscapeSequence s (p + 2) len with
        | ok u q =>
          have := (skipUnicodeEscapeSequence_fwd s (p + 2) len).ok_le hu
          rw [R.bind_ok, R.bind_ok]
          exact ih k' q (by omega) (by omega)
        | err e q => rw [R.bind_err, R.bind_err]
        | panic m => rw [R.bind_panic, R.bind_panic]
        | fuel => rw [R.bind_fuel, R.bind_fuel]
      · exact fun _ _ _ _ _ => rfl
      · exact fun _ => rfl
      · exact fun _ _ _ _ _ => ih k' (p + 1) (by omega) (by omega)

theorem scanString_eq (s : Src) {k p : Nat} (h : s.size ≤ p + k) : scanString s p = scanStringGo s k p :=
  scanStringGo_fuel s _ k p (by omega) h

theorem getTextSlice_fwd (s : Src) (p : Nat) : Fwd p (getTextSlice s p) := by
  by_cases hp : p ≤ s.size
  · rcases getTextSlice_cases s p hp with ⟨e, h1, _, _, he⟩ | ⟨stop, nb, term, q, he, e, h1, _, _, hS⟩ <;> rw [he]
    · exact .err _ h1
    · refine .ok ?_
      rcases hS with ⟨_, _, _, rfl, _⟩ | ⟨_, _, _, rfl, _⟩ | ⟨_, _, _, _, rfl, _⟩ | ⟨_, _, _, _, _, rfl, _⟩ <;> omega
  · unfold getTextSlice
    rw [if_pos (by omega)]
    exact .ok (Nat.le_refl p)

theorem variantKey_fwd (s : Src) (p : Nat) : Fwd p (variantKey s p) := by
  rw [variantKey_eq]
  split
  · exact (getNumberLiteral_fwd s p).bind (Nat.le_refl p) fun _ _ h => .ok h
  · exact (getIdentifier_fwd s p).bind (Nat.le_refl p) fun _ _ h => .ok h

structure FwdSpecs (s : Src) (n : Nat) : Prop where
  patternLoop : ∀ st p, Fwd p (getPatternLoop s n st p)
  pattern : ∀ p, Fwd p (getPattern s n p)
  placeable : ∀ p, Fwd p (getPlaceable s n p)
  expression : ∀ p, Fwd p (getExpression s n p)
  inline : ∀ ol p, Fwd p (getInline s n ol p)
  callArguments : ∀ p, Fwd p (getCallArguments s n p)
  callArgsLoop : ∀ pos named p, Fwd p (getCallArgsLoop s n pos named p)
  variants : ∀ hd acc p, Fwd p (getVariants s n hd acc p)

theorem patStart_le (s : Src) (p : Nat) : p ≤ (patStart s p).2 := (After.patStart s p).le
theorem argSep_le (s : Src) (q : Nat) : q ≤ argSep s q := (After.argSep s q).le
theorem patPre_le {s : Src} {st : PatState} {p indent p1 : Nat} (h : patPre s st p = some (indent, p1)) : p ≤ p1 := by
  have := (patPre_some h).1; omega
theorem patBreak_le (s : Src) (p : Nat) : p ≤ patBreak s p := by
  rcases patBreak_cases s p with h | h <;> rw [h]
  · exact Nat.le_refl p
  · exact (skipBlankInline_after s p).le

theorem patClose_fwd (s : Src) (st : PatState) (q : Nat) : Fwd q (patClose s st q) := by
  unfold patClose
  split
  · split
    · exact .ok (Nat.le_refl q)
    · trivial
  · exact .ok (Nat.le_refl q)

theorem inlineStr_fwd (s : Src) (p : Nat) : Fwd p (inlineStr s p) := by
  refine (scanString_fwd s (p + 1)).bind (Nat.le_succ p) fun _ q h1 => ?_
  split
  · split
    · exact .ok (by omega)
    · trivial
  · exact .err _ (by omega)

theorem inlineNum_fwd (s : Src) (p : Nat) : Fwd p (inlineNum s p) :=
  (getNumberLiteral_fwd s p).bind (Nat.le_refl p) fun _ _ h => .ok h

theorem inlineVar_fwd (s : Src) (p : Nat) : Fwd p (inlineVar s p) :=
  (getIdentifier_fwd s (p + 1)).bind (Nat.le_succ p) fun id q h1 => .ok (by omega)

theorem patAfterText_fwd {s : Src} {n : Nat} (IH : FwdSpecs s n) (st : PatState) (p indent : Nat) (v : Nat × Nat × Bool × Termination) (q : Nat) :
    Fwd q (patAfterText s n st p indent v q) := by
  unfold patAfterText
  split
  · exact IH.patternLoop _ q
  · trivial

section
variable {s : Src} {n : Nat} (IH : FwdSpecs s n)
include IH

theorem exprTail_fwd (exp : Inline Span) (q : Nat) : Fwd q (exprTail s n exp q) := by
  unfold exprTail
  split
  · split
    · exact .err _ (Nat.le_refl q)
    · have h7 := (skipBlankInline_after s (q + 2)).le
      split
      · exact .err _ (by omega)
      · rename_i q3 hq3
        have h8 := (skipEol_after hq3).le
        have h9 := (skipBlank_after s q3).le
        exact (IH.variants false [] _).bind (by omega) fun vs q5 h11 => .ok (by omega)
  · split
    · exact .err _ (Nat.le_refl q)
    · exact .ok (Nat.le_refl q)

theorem variantTail_fwd (hd dflt : Bool) (acc : List (Variant Span)) (p : Nat) :
    Fwd p (variantTail s n hd dflt acc p) := by
  unfold variantTail
  have h3 := (skipBlank_after s p).le
  refine (variantKey_fwd s _).bind h3 fun key q h4 => ?_
  have h9 := (skipBlank_after s q).le
  refine (expectByte_fwd s _ 93).bind (by omega) fun _ q2 h11 => ?_
  refine (IH.pattern q2).bind (by omega) fun o q3 h15 => ?_
  cases o with
  | none => exact .err _ (by omega)
  | some value =>
    have h19 := (skipBlank_after s q3).le
    exact (IH.variants _ _ _).weaken (by omega)

theorem argTail_fwd (pos : List (Inline Span)) (named : List (Span × Inline Span)) (exp : Inline Span) (q : Nat) :
    Fwd q (argTail s n pos named exp q) := by
  have next_ok : ∀ pos' named' q', q ≤ q' → Fwd q (getCallArgsLoop s n pos' named' (argSep s q')) :=
    fun pos' named' q' h1 => (IH.callArgsLoop pos' named' _).weaken (Nat.le_trans h1 (argSep_le s q'))
  have h5 := (skipBlank_after s q).le
  unfold argTail
  split
  · split
    · split
      · exact .err _ h5
      · have h7 := (skipBlank_after s (skipBlank s q + 1)).le
        exact (IH.inline true _).bind (by omega) fun val q3 h9 => next_ok _ _ q3 (by omega)
    · split
      · exact .err _ h5
      · exact next_ok _ _ _ h5
  · split
    · exact .err _ (Nat.le_refl q)
    · exact next_ok _ _ _ (Nat.le_refl q)

theorem inlineTerm_fwd (p : Nat) : Fwd p (inlineTerm s n p) := by
  refine (getIdentifierUnchecked_fwd s (p + 2)).bind (by omega) fun id q h1 => ?_
  refine (getAttributeAccessor_fwd s q).bind (by omega) fun attr q1 h6 => ?_
  exact (IH.callArguments q1).bind (by omega) fun args q2 h9 => .ok (by omega)

theorem inlineRef_fwd (p : Nat) : Fwd p (inlineRef s n p) := by
  refine (getIdentifierUnchecked_fwd s (p + 1)).bind (Nat.le_succ p) fun id q h1 => ?_
  refine (IH.callArguments q).bind (by omega) fun args q1 h6 => ?_
  cases args with
  | some pn =>
    simp only []
    split
    · exact .err _ (by omega)
    · exact .ok (by omega)
  | none => exact (getAttributeAccessor_fwd s q1).bind (by omega) fun attr q2 h9 => .ok (by omega)

theorem inlineNested_fwd (p : Nat) : Fwd p (inlineNested s n p) :=
  (IH.placeable (p + 1)).bind (Nat.le_succ p) fun e q h1 => .ok (by omega)

theorem placeable_fwd_step (p : Nat) : Fwd p (getPlaceable s (n + 1) p) := by
  rw [getPlaceable_unfold]
  have h0 := (skipBlank_after s p).le
  refine (IH.expression _).bind h0 fun e q h1 => ?_
  have h2 := (skipBlankInline_after s q).le
  refine (expectByte_fwd s _ 125).bind (by omega) fun _ q2 h3 => ?_
  split
  · exact .err _ (by omega)
  · exact .ok (by omega)

theorem pattern_fwd_step (p : Nat) : Fwd p (getPattern s (n + 1) p) := by
  rw [getPattern_unfold]
  exact (IH.patternLoop _ _).bind (patStart_le s p) fun st q h1 =>
    (patClose_fwd s st q).weaken (Nat.le_trans (patStart_le s p) h1)

theorem callArguments_fwd_step (p : Nat) : Fwd p (getCallArguments s (n + 1) p) := by
  rw [getCallArguments_unfold]
  have h1 := (skipBlank_after s p).le
  split
  · have h3 := (skipBlank_after s (skipBlank s p + 1)).le
    refine (IH.callArgsLoop [] [] _).bind (by omega) fun r q h5 => ?_
    exact (expectByte_fwd s q 41).bind (by omega) fun _ q2 h8 => .ok (by omega)
  · exact .ok h1

theorem expression_fwd_step (p : Nat) : Fwd p (getExpression s (n + 1) p) := by
  rw [getExpression_unfold]
  exact (IH.inline false p).bind (Nat.le_refl p) fun exp q h1 =>
    (exprTail_fwd IH exp _).weaken (Nat.le_trans h1 (skipBlank_after s q).le)

theorem variants_fwd_step (hd : Bool) (acc : List (Variant Span)) (p : Nat) : Fwd p (getVariants s (n + 1) hd acc p) := by
  rw [getVariants_unfold]
  split
  · split
    · exact .err _ (Nat.le_succ p)
    · split
      · exact (variantTail_fwd IH _ _ acc (p + 2)).weaken (by omega)
      · exact .err _ (Nat.le_succ p)
  · split
    · exact (variantTail_fwd IH _ _ acc (p + 1)).weaken (by omega)
    · split
      · exact .ok (Nat.le_refl p)
      · exact .err _ (Nat.le_refl p)

theorem callArgsLoop_fwd_step (pos : List (Inline Span)) (named : List (Span × Inline Span)) (p : Nat) :
    Fwd p (getCallArgsLoop s (n + 1) pos named p) := by
  rw [getCallArgsLoop_unfold]
  split
  · exact (IH.inline false p).bind (Nat.le_refl p) fun exp q h1 => (argTail_fwd IH pos named exp q).weaken h1
  · exact .ok (Nat.le_refl p)

theorem inline_fwd_step (ol : Bool) (p : Nat) : Fwd p (getInline s (n + 1) ol p) :=
  getInline_cases (motive := fun r => Fwd p r) s n ol p (fun k => .err k (Nat.le_refl p))
    (fun _ => inlineStr_fwd s p) (fun _ _ _ => inlineNum_fwd s p) (fun _ _ _ => inlineTerm_fwd IH p)
    (fun _ _ => inlineVar_fwd s p) (fun _ _ _ => inlineRef_fwd IH p) (fun _ _ => inlineNested_fwd IH p)

theorem patternLoop_fwd_step (st : PatState) (p : Nat) : Fwd p (getPatternLoop s (n + 1) st p) := by
  refine patLoop_cases (motive := fun r => Fwd p r) s n st p ?_ ?_ ?_ ?_
  · exact fun _ => .ok (Nat.le_refl p)
  · intro _ _
    exact (IH.placeable (p + 1)).bind (Nat.le_succ p) fun e q h1 => (IH.patternLoop _ q).weaken (by omega)
  · exact fun _ _ _ => .ok (patBreak_le s p)
  · intro indent p1 _ _ hpre
    have hp1 := patPre_le hpre
    exact (getTextSlice_fwd s p1).bind hp1 fun v q h1 =>
      (patAfterText_fwd IH st p indent v q).weaken (Nat.le_trans hp1 h1)

end

theorem fwdspecs_all (s : Src) (n : Nat) : FwdSpecs s n := by
  induction n with
  | zero =>
    refine ⟨?_, ?_, ?_, ?_, ?_, ?_, ?_, ?_⟩ <;> intros <;> simp only [fuel_zero] <;> trivial
  | succ n ih =>
    exact {
      patternLoop := patternLoop_fwd_step ih
      pattern := pattern_fwd_step ih
      placeable := placeable_fwd_step ih
      expression := expression_fwd_step ih
      inline := inline_fwd_step ih
      callArguments := callArguments_fwd_step ih
      callArgsLoop := callArgsLoop_fwd_step ih
      variants := variants_fwd_step ih }

theorem expectByte_mono (s : Src) (p : Nat) (b : UInt8) : Mono p (expectByte s p b) :=
  (expectByte_fwd s p b).mono
theorem getNumberLiteral_mono (s : Src) (p : Nat) : Mono p (getNumberLiteral s p) :=
  (getNumberLiteral_fwd s p).mono
theorem getIdentifierUnchecked_mono (s : Src) (p : Nat) : Mono p (getIdentifierUnchecked s p) :=
  (getIdentifierUnchecked_fwd s p).mono
theorem getIdentifier_mono (s : Src) (p : Nat) : Mono p (getIdentifier s p) :=
  (getIdentifier_fwd s p).mono
theorem getAttributeAccessor_mono (s : Src) (p : Nat) : Mono p (getAttributeAccessor s p) :=
  (getAttributeAccessor_fwd s p).mono
theorem scanString_mono (s : Src) (p : Nat) : Mono p (scanString s p) :=
  (scanString_fwd s p).mono
theorem variantKey_mono (s : Src) (p : Nat) : Mono p (variantKey s p) :=
  (variantKey_fwd s p).mono

theorem getIdentifier_ok_lt {s : Src} {p : Nat} {id : Span} {q : Nat} (h : getIdentifier s p = .ok id q) : p < q := by
  unfold getIdentifier at h
  split at h
  · cases h
  · exact (getIdentifierUnchecked_fwd s (p + 1)).ok_le h

structure MSpecs (s : Src) (n : Nat) : Prop where
  patternLoop : ∀ st p, Mono p (getPatternLoop s n st p)
  pattern : ∀ p, Mono p (getPattern s n p)
  placeable : ∀ p, Mono p (getPlaceable s n p)
  expression : ∀ p, Mono p (getExpression s n p)
  inline : ∀ ol p, Mono p (getInline s n ol p)
  callArguments : ∀ p, Mono p (getCallArguments s n p)
  callArgsLoop : ∀ pos named p, Mono p (getCallArgsLoop s n pos named p)
  variants : ∀ hd acc p, Mono p (getVariants s n hd acc p)

theorem mspecs_all (s : Src) (n : Nat) : MSpecs s n :=
  have h := fwdspecs_all s n
  { patternLoop := fun st p => (h.patternLoop st p).mono
    pattern := fun p => (h.pattern p).mono
    placeable := fun p => (h.placeable p).mono
    expression := fun p => (h.expression p).mono
    inline := fun ol p => (h.inline ol p).mono
    callArguments := fun p => (h.callArguments p).mono
    callArgsLoop := fun pos named p => (h.callArgsLoop pos named p).mono
    variants := fun hd acc p => (h.variants hd acc p).mono }

theorem getPattern_mono (s : Src) (fuel p : Nat) : Mono p (getPattern s fuel p) := (mspecs_all s fuel).pattern p

theorem getAttribute_mono (s : Src) (fuel p : Nat) : Mono p (getAttribute s fuel p) := by
  rw [getAttribute_eq]
  refine (getIdentifier_mono s p).bind (Nat.le_refl p) fun id q h1 => ?_
  have h2 := (skipBlankInline_after s q).le
  refine (expectByte_mono s _ 61).bind (by omega) fun _ q2 h3 => ?_
  refine (getPattern_mono s fuel q2).bind (by omega) fun o q3 h4 => ?_
  cases o with
  | none => exact .err _ (by omega)
  | some pat => exact .ok (by omega)

end FluentProofs.Parser

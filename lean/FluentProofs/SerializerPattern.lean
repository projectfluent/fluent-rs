import FluentProofs.SerializerParse
import FluentProofs.SerializerTextsPattern
/-!
# Serializer round trip: `get_text_slice` and the loop of `get_pattern` in mid-line (C04, parser half, loop chain)

What `get_text_slice` cuts in front of `{`, `\n` and `\r\n`, `trim_end` behind a byte that stays, single iterations of the loop
in mid-line and its end at a line that does not continue the pattern.
-/
namespace FluentProofs.Ser
open FluentModel FluentModel.Syntax FluentModel.Syntax.Ser FluentProofs.Parser

theorem skipBlank_endPos_gen (i : Inline Bytes) (s : Src) (pe : Nat) (b : UInt8) (h32 : s[pe]? = some 32)
    (hb : s[pe + 1]? = some b) (b1 : b ≠ 32) (b2 : b ≠ 10) (b3 : b ≠ 13) (b4 : b ≠ 40) (b5 : b ≠ 46) :
    skipBlank s (endPos i s pe) = pe + 1 ∧ Follow s pe := by
  have h1 : skipBlank s (pe + 1) = pe + 1 := skipBlank_at hb b1 b2 b3
  have h2 : skipBlank s pe = pe + 1 := by rw [skipBlank_space s pe h32, h1]
  refine ⟨?_, ⟨fun c hc => ?_, ?_, ?_⟩⟩
  · unfold endPos; split <;> simp [h1, h2]
  · rw [h32] at hc; cases hc; decide
  · rw [h2, hb]; simpa using b4
  · rw [h2, hb]; simpa using b5

theorem memchr3_at {s : Src} {v : Bytes} {p q : Nat} (h : AtTo s p v q) (hv : ∀ b ∈ v, b ≠ 10 ∧ b ≠ 123 ∧ b ≠ 125)
    {c : UInt8} (hc : s[q]? = some c) (hc' : c = 10 ∨ c = 123 ∨ c = 125) : memchr3 s p = some q :=
  memchr3_eq_some.mpr ⟨h.le, (fun j h1 h2 hj => by
    obtain ⟨b, hb, hsb⟩ := h.skips h1 h2
    obtain ⟨b1, b2, b3⟩ := hv b hb
    rw [BreakAt, hsb] at hj
    rcases hj with hj | hj | hj <;> cases hj <;> contradiction), (by
    rw [BreakAt, hc]
    rcases hc' with rfl | rfl | rfl <;> simp)⟩

theorem nonBlank_at {s : Src} {v : Bytes} {p q : Nat} (h : AtTo s p v q) : nonBlank s p q = v.any (fun b => b != 32) := by
  rw [Bool.eq_iff_iff, nonBlank_iff, List.any_eq_true]
  constructor
  · rintro ⟨j, c, h1, h2, hj, hc⟩
    obtain ⟨b, hb, hsb⟩ := h.skips h1 h2
    rw [hsb] at hj; cases hj
    exact ⟨c, hb, by simpa using hc⟩
  · rintro ⟨b, hb, hne⟩
    obtain ⟨i, hi, rfl⟩ := List.mem_iff_getElem.mp hb
    exact ⟨p + i, v[i], Nat.le_add_right _ _, by have := h.len; omega, at_get h.txt i hi, by simpa using hne⟩

/-! `get_text_slice` on a text `v` in `[p, q)` without line feed or brace, by the byte at `q` -/

theorem getTextSlice_brace {s : Src} {v : Bytes} (hv : ∀ b ∈ v, b ≠ 10 ∧ b ≠ 123 ∧ b ≠ 125) {p q : Nat} (h : AtTo s p v q)
    (hc : s[q]? = some 123) : getTextSlice s p = .ok (p, q, v.any (fun b => b != 32), .placeableStart) q := by
  have hlt := get_lt hc
  have := h.le
  unfold getTextSlice
  simp only [show ¬ p > s.size by omega, if_false]
  rw [memchr3_at h hv hc (by decide)]
  simp only [hc, nonBlank_at h]

theorem getTextSlice_lf {s : Src} {v : Bytes} (hv : ∀ b ∈ v, b ≠ 10 ∧ b ≠ 123 ∧ b ≠ 125) (hne : v ≠ [])
    (hl13 : v.getLast? ≠ some 13) {p q : Nat} (h : AtTo s p v q) (hc : s[q]? = some 10) :
    getTextSlice s p = .ok (p, q + 1, v.any (fun b => b != 32), .lineFeed) (q + 1) := by
  have hlt := get_lt hc
  have := h.le
  unfold getTextSlice
  simp only [show ¬ p > s.size by omega, if_false]
  rw [memchr3_at h hv hc (by decide)]
  simp only [hc]
  have h13 : s[q - 1]? ≠ some 13 := by
    cases hx : v.getLast? with
    | none => exact absurd (List.getLast?_eq_none_iff.mp hx) hne
    | some x => rw [h.last hx]; rw [hx] at hl13; exact hl13
  simp only [beq_iff_eq, h13, and_false, if_false, nonBlank_at h]

/-- the slice ends in front of the `\r`, the cursor is left AT the `\n` -/
theorem getTextSlice_crlf {s : Src} {v : Bytes} (hv : ∀ b ∈ v, b ≠ 10 ∧ b ≠ 123 ∧ b ≠ 125) {p q : Nat} (h : AtTo s p v q)
    (h13 : s[q]? = some 13) (h10 : s[q + 1]? = some 10) :
    getTextSlice s p = .ok (p, q, v.any (fun b => b != 32), .crlf) (q + 1) := by
  have hlt := get_lt h10
  have := h.le
  have hat2 : AtTo s p (v ++ [13]) (q + 1) := atTo_append.mpr ⟨q, h, atTo_cons.mpr ⟨h13, atTo_nil.mpr rfl⟩⟩
  have hv2 : ∀ b ∈ v ++ [13], b ≠ 10 ∧ b ≠ 123 ∧ b ≠ 125 := by
    intro b hb
    simp only [List.mem_append, List.mem_singleton] at hb
    rcases hb with hb | rfl
    · exact hv b hb
    · decide
  unfold getTextSlice
  simp only [show ¬ p > s.size by omega, if_false, memchr3_at hat2 hv2 h10 (by decide), h10]
  simp only [show q + 1 > p by omega, show q + 1 - 1 = q by omega, h13,
    beq_self_eq_true, and_self, if_true, nonBlank_at h]

theorem trimEndGo_stop (s : Src) (start n e : Nat) (c : UInt8) (he : start < e) (hc : s[e - 1]? = some c)
    (h1 : c ≠ 32) (h2 : c ≠ 13) (h3 : c ≠ 10) : trimEndGo s start n e = e := by
  cases n with
  | zero => rfl
  | succ n =>
    rw [trimEndGo]
    simp [he, hc, h1, h2, h3]

theorem trimEnd_lf (s : Src) (a e : Nat) (c : UInt8) (hae : a < e) (h10 : s[e]? = some 10) (hc : s[e - 1]? = some c)
    (h1 : c ≠ 32) (h2 : c ≠ 13) (h3 : c ≠ 10) : trimEnd s ⟨a, e + 1⟩ = ⟨a, e⟩ := by
  unfold trimEnd
  simp only
  rw [show e + 1 - a = (e - a) + 1 by omega, trimEndGo]
  simp only [show e + 1 > a by omega, if_true, Nat.add_sub_cancel, h10]
  simp only [show ((10 : UInt8) == 32 || (10 : UInt8) == 13 || (10 : UInt8) == 10) = true by decide, if_true]
  rw [trimEndGo_stop s a _ e c hae hc h1 h2 h3]

theorem trimEnd_none (s : Src) (a e : Nat) (c : UInt8) (hae : a < e) (hc : s[e - 1]? = some c)
    (h1 : c ≠ 32) (h2 : c ≠ 13) (h3 : c ≠ 10) : trimEnd s ⟨a, e⟩ = ⟨a, e⟩ := by
  unfold trimEnd
  simp only
  rw [trimEndGo_stop s a _ e c hae hc h1 h2 h3]

theorem patternLoop_text_step (s : Src) (n : Nat) (st : PatState) (p stop q : Nat) (nb : Bool) (term : Termination)
    (hp : p < s.size) (h123 : s[p]? ≠ some 123) (hrole : (st.role == .lineStart) = false)
    (hts : getTextSlice s p = .ok (p, stop, nb, term) q) (hne : p < stop)
    (hsl : slice s p stop = some ⟨p, stop⟩) :
    getPatternLoop s (n + 1) st p =
      getPatternLoop s n
        { elements := st.elements ++ [.text p stop 0 st.role],
          lastNonBlank := if nb && (trimEnd s ⟨p, stop⟩).stop != p then some st.elements.length else st.lastNonBlank,
          commonIndent := st.commonIndent,
          role := patRole term,
          keptCommonIndent := if nb && (trimEnd s ⟨p, stop⟩).stop != p then st.commonIndent
            else st.keptCommonIndent } q := by
  have hrole' : st.role ≠ .lineStart := by simpa using hrole
  rw [patLoop_slice hp h123 (patPre_other p hrole') hts
    (st2Of_mid hrole' hne (sv := nb && (trimEnd s ⟨p, stop⟩).stop != p) (by cases nb <;> simp [survivesOf, hsl]))]
  cases nb <;> rfl

theorem patternLoop_placeable_step (s : Src) (n : Nat) (st : PatState) (p : Nat) (ex : Expr Span) (q : Nat)
    (h123 : s[p]? = some 123) (hrole : (st.role == .lineStart) = false)
    (hpl : getPlaceable s n (p + 1) = .ok ex q) :
    getPatternLoop s (n + 1) st p =
      getPatternLoop s n
        { elements := st.elements ++ [.placeable ex], lastNonBlank := some st.elements.length,
          commonIndent := st.commonIndent, role := .continuation, keptCommonIndent := st.commonIndent } q := by
  rw [patLoop_placeable s n st p (get_lt h123) h123, hpl]
  simp only [R.bind_ok, patPlaced, hrole, Bool.false_eq_true, if_false]

theorem patternLoop_end (s : Src) (n : Nat) (st : PatState) (q : Nat) (hrole : st.role = .lineStart)
    (hend : LineEndOK s q) : getPatternLoop s (n + 1) st q = .ok st q := by
  rcases hend with hq | ⟨b, hb, b1, b2, b3, b4⟩
  · exact patLoop_exit s n st q hq
  · have hpre := patPre_stop (st := st) (d := 0) hrole (skipBlankInline_of_ne (by rw [hb]; simpa using b2)) hb
      (fun _ => isEol_false hb b3 fun h => b4 h.1 h.2) (fun h => absurd h (Nat.lt_irrefl 0))
    rw [patLoop_text s n st q (get_lt hb) (by rw [hb]; simpa using b1), hpre.1, hpre.2]
end FluentProofs.Ser

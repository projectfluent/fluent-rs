import FluentProofs.SerializerJunkText
import FluentProofs.SerializerNorm
import FluentProofs.SerializerSources
/-!
# Serializer lemmas: the round trip for the class `RoundTrippable` of `SerializerNorm` (C04)

The Junk-free statements (`serialize_text`, `roundtrip_rt_tree`) are the case "no Junk entry" of the
statements of `SerializerJunkText`: there is one error per Junk, and without Junk the option `with_junk` makes no difference.
-/
namespace FluentProofs.Ser
open FluentModel FluentModel.Syntax FluentModel.Syntax.Ser FluentProofs.Parser

theorem isJunk_of_rt {r : List (Entry Bytes)} (hr : ∀ e ∈ r, rtEntry e = true) : ∀ e ∈ r, isJunk e = false := by
  intro e he
  have := hr e he
  cases e with
  | junk c => simp [rtEntry] at this
  | _ => rfl

theorem serialize_text (withJunk : Bool) (r : List (Entry Bytes)) (hr : ∀ e ∈ r, rtEntry e = true) :
    serialize withJunk r = some (resText false r) := by
  rw [serialize_noJunk withJunk r (isJunk_of_rt hr), serialize_textJ r (JGood.of_rt false r hr),
    resTextJ_eq_resText false r hr]

/-- the round trip of a resource of class entries, on trees: no error, the tree resolves to the resource (whitespace-only
comment lines emptied), and serialising it again gives the same text; both options -/
theorem roundtrip_rt_tree (withJunk : Bool) (r : Resource Bytes) (hr : ∀ e ∈ r, rtEntry e = true) :
    ∃ out, serialize withJunk r = some out ∧
      (AsciiThenBoundary out.toArray →
        ∃ t', parse out.toArray = .done (t', []) ∧ resolve out.toArray t' = r.map canonEntry ∧
          serialize withJunk (resolve out.toArray t') = some out) := by
  have hnj := isJunk_of_rt hr
  obtain ⟨out, hser, hparse⟩ := roundtrip_junk_tree r (JGood.of_rt false r hr)
  refine ⟨out, by rw [serialize_noJunk withJunk r hnj]; exact hser, fun hs => ?_⟩
  obtain ⟨t', errs', hp, hres, hfix, hcount⟩ := hparse hs
  rw [List.filter_eq_nil_iff.mpr fun e he => by simp [hnj e he]] at hcount
  refine ⟨t', by rw [hp, List.eq_nil_of_length_eq_zero hcount], hres, ?_⟩
  rw [serialize_noJunk withJunk _ (by
    rw [hres]
    intro e he
    obtain ⟨e', he', rfl⟩ := List.mem_map.mp he
    rw [isJunk_canon]; exact hnj e' he')]
  exact hfix

/-- **`C04.roundtrip_class_partial`.**  For every resource of the class `RoundTrippable withJunk`
(decidable): the serializer returns `out`; if `out` has the `&str` invariant, `parse out` returns —
without errors — a tree that is equal to the resource under `norm` (precisely: it resolves to the
written entries with whitespace-only comment lines emptied), and serialising it again gives `out`. -/
theorem roundtrip_rt (withJunk : Bool) (r : Resource Bytes) (h : RoundTrippable withJunk r = true) :
    ∃ out, serialize withJunk r = some out ∧
      (AsciiThenBoundary out.toArray →
        ∃ t', parse out.toArray = .done (t', []) ∧
          norm withJunk (resolve out.toArray t') = norm withJunk r ∧
          serialize withJunk (resolve out.toArray t') = some out) := by
  have hw := written_rt withJunk r h
  obtain ⟨out, hser, hparse⟩ := roundtrip_rt_tree withJunk (written withJunk r) hw
  have hser' : serialize withJunk r = some out := by
    cases withJunk with
    | true => simpa [written] using hser
    | false => rw [← serialize_dropJunk]; simpa [written] using hser
  refine ⟨out, hser', fun hs => ?_⟩
  obtain ⟨t', hp, hres, hfix⟩ := hparse hs
  refine ⟨t', hp, ?_, hfix⟩
  rw [hres, norm_canon]
  cases withJunk with
  | true => simp [written]
  | false => simp only [written, Bool.false_eq_true, if_false]; exact norm_dropJunk r

/-- **`C04.roundtrip_class_sources`**: both full C04 statements for every `String` whose parse tree
is `RoundTrippable` — no side condition. -/
theorem roundtrip_rt_source (str : String) (withJunk : Bool) (t : Resource Span) (errs : List PErr)
    (hp : parse str.toUTF8.data = .done (t, errs))
    (h : RoundTrippable withJunk (resolve str.toUTF8.data t) = true) :
    ∃ out, serialize withJunk (resolve str.toUTF8.data t) = some out ∧
      ∃ t', parse out.toArray = .done (t', []) ∧
        norm withJunk (resolve out.toArray t') = norm withJunk (resolve str.toUTF8.data t) ∧
        serialize withJunk (resolve out.toArray t') = some out := by
  obtain ⟨out, h1, h2⟩ := roundtrip_rt withJunk _ h
  exact ⟨out, h1, h2 (serialize_atb_of_parse str t errs hp withJunk out h1)⟩

end FluentProofs.Ser

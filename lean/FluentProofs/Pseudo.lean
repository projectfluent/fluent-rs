import FluentModel.Pseudo
import FluentProofs.UnescapeChar
/-!
# Lemmas for C20 (pseudolocalisation)

`imgChar` / `image` are the specification written from the property text: every ASCII letter is replaced
by its table counterpart for the selected style (doubled exactly for `a e o u` when elongation is on), every
other character is left untouched and in place; `transform_spec` says that the model's `transform` computes `image`.

The rest of the file is about the DOM-aware variant, which transforms the text between the matches of a list of
byte ranges and copies the matches: byte lengths of images (`blen_*`), the splice loop against `flattenImage`
(`spliceLoop_spec`, `transformDomWith_spec`), that the matchers behind `findParts` return proper suffixes and that
its parts flatten back to the input (`findParts_flatten`) whatever the fuel above the length (`findParts_fuel`),
that an ordered, boundary-aligned match list is the offsets of such a decomposition (`ValidMatches`,
`validMatches_decompose`), and the number of characters of an image (`length_image`).
-/
namespace FluentProofs.Pseudo
open FluentModel FluentModel.Pseudo

def smallOf (T : Tables) (flipped : Bool) : List Nat := if flipped then T.flippedSmall else T.small
def capsOf (T : Tables) (flipped : Bool) : List Nat := if flipped then T.flippedCaps else T.caps

/-- all four tables have one entry per letter -/
def FullTables (T : Tables) : Prop :=
  T.small.length = 26 ∧ T.caps.length = 26 ∧ T.flippedSmall.length = 26 ∧ T.flippedCaps.length = 26

def isLower (c : Char) : Prop := 97 ≤ c.toNat ∧ c.toNat ≤ 122
def isUpper (c : Char) : Prop := 65 ≤ c.toNat ∧ c.toNat ≤ 90
instance (c : Char) : Decidable (isLower c) := by unfold isLower; exact inferInstance
instance (c : Char) : Decidable (isUpper c) := by unfold isUpper; exact inferInstance

/-- the letters that are doubled when elongation is on -/
def isElongated (c : Char) : Prop := c = 'a' ∨ c = 'e' ∨ c = 'o' ∨ c = 'u'
instance (c : Char) : Decidable (isElongated c) := by unfold isElongated; exact inferInstance

def imgChar (T : Tables) (flipped elongate : Bool) (c : Char) : List Char :=
  if isLower c then
    let nc := Char.ofNat ((smallOf T flipped).getD (c.toNat - 97) 0)
    if elongate = true ∧ isElongated c then [nc, nc] else [nc]
  else if isUpper c then [Char.ofNat ((capsOf T flipped).getD (c.toNat - 65) 0)]
  else [c]

def image (T : Tables) (flipped elongate : Bool) (s : List Char) : List Char :=
  s.flatMap (imgChar T flipped elongate)

/-- the case rule for `imgChar`: lower-case letter, upper-case letter, any other character -/
theorem imgChar_cases (T : Tables) (flipped elongate : Bool) (c : Char) :
    (isLower c → imgChar T flipped elongate c =
        List.replicate (if elongate = true ∧ isElongated c then 2 else 1)
          (Char.ofNat ((smallOf T flipped).getD (c.toNat - 97) 0))) ∧
    (isUpper c → imgChar T flipped elongate c = [Char.ofNat ((capsOf T flipped).getD (c.toNat - 65) 0)]) ∧
    (¬ isLower c → ¬ isUpper c → imgChar T flipped elongate c = [c]) := by
  unfold imgChar
  refine ⟨?_, ?_, ?_⟩
  · intro h
    rw [if_pos h]
    by_cases he : elongate = true ∧ isElongated c
    · simp only [if_pos he]; rfl
    · simp only [if_neg he]; rfl
  · intro h
    have hn : ¬ isLower c := by unfold isLower; unfold isUpper at h; omega
    rw [if_neg hn, if_pos h]
  · intro h1 h2
    rw [if_neg h1, if_neg h2]

theorem isAsciiLetter_iff (c : Char) : isAsciiLetter c = true ↔ isLower c ∨ isUpper c := by
  simp [isAsciiLetter, isLower, isUpper]

theorem length_smallOf {T : Tables} (hT : FullTables T) (flipped : Bool) : (smallOf T flipped).length = 26 := by
  cases flipped
  · exact hT.1
  · exact hT.2.2.1

theorem length_capsOf {T : Tables} (hT : FullTables T) (flipped : Bool) : (capsOf T flipped).length = 26 := by
  cases flipped
  · exact hT.2.1
  · exact hT.2.2.2

theorem isElongated_iff (c : Char) :
    isElongated c ↔ c.toNat = 97 ∨ c.toNat = 101 ∨ c.toNat = 111 ∨ c.toNat = 117 := by
  have e : ∀ d : Char, c = d ↔ c.toNat = d.toNat := fun d => ⟨fun h => h ▸ rfl, char_eq_of_toNat⟩
  simp only [isElongated, e, Char.reduceToNat]

theorem transformChar_spec (T : Tables) (hT : FullTables T) (flipped elongate : Bool) (c : Char)
    (hc : isAsciiLetter c = true) :
    transformChar (smallOf T flipped) (capsOf T flipped) elongate c = .done (imgChar T flipped elongate c) := by
  have hs := length_smallOf hT flipped
  have hcp := length_capsOf hT flipped
  unfold transformChar imgChar isLower isUpper
  rcases (isAsciiLetter_iff c).1 hc with hl | hu
  · have hl' : 97 ≤ c.toNat ∧ c.toNat ≤ 122 := hl
    have hidx : c.toNat - 97 < (smallOf T flipped).length := by omega
    simp only [Nat.mod_eq_of_lt (show c.toNat < 256 by omega), hl', decide_true, Bool.and_self, and_self, if_true,
      List.getElem?_eq_getElem hidx, List.getD_eq_getElem?_getD, Option.getD_some, isElongated_iff,
      Bool.and_eq_true, Bool.or_eq_true, beq_iff_eq, or_assoc]
    split <;> rfl
  · have hu' : 65 ≤ c.toNat ∧ c.toNat ≤ 90 := hu
    have hidx : c.toNat - 65 < (capsOf T flipped).length := by omega
    have hnl : ¬ (97 ≤ c.toNat ∧ c.toNat ≤ 122) := by omega
    have hnl' : (decide (97 ≤ c.toNat) && decide (c.toNat ≤ 122)) = false := by simpa using hnl
    simp only [Nat.mod_eq_of_lt (show c.toNat < 256 by omega), hnl, hnl', hu', decide_true, Bool.and_self, and_self,
      if_true, if_false, Bool.false_eq_true,
      List.getElem?_eq_getElem hidx, List.getD_eq_getElem?_getD, Option.getD_some]

theorem imgChar_nonletter (T : Tables) (flipped elongate : Bool) (c : Char) (hc : isAsciiLetter c = false) :
    imgChar T flipped elongate c = [c] := by
  have : ¬ (isLower c ∨ isUpper c) := by
    rw [← isAsciiLetter_iff]; simp [hc]
  exact (imgChar_cases T flipped elongate c).2.2 (fun h => this (Or.inl h)) (fun h => this (Or.inr h))

theorem replaceAll_spec (T : Tables) (hT : FullTables T) (flipped elongate : Bool) (s : List Char) :
    replaceAll (transformChar (smallOf T flipped) (capsOf T flipped) elongate) s =
      .done (image T flipped elongate s) := by
  induction s with
  | nil => rfl
  | cons c cs ih =>
    unfold replaceAll
    cases hc : isAsciiLetter c
    · simp only [Bool.false_eq_true, ↓reduceIte, ih]
      show Outcome.done (c :: image T flipped elongate cs) = _
      simp [image, imgChar_nonletter T flipped elongate c hc]
    · simp only [↓reduceIte, transformChar_spec T hT flipped elongate c hc, ih]
      show Outcome.done (imgChar T flipped elongate c ++ image T flipped elongate cs) = _
      simp [image]

/-- `transform` never panics and is the per-character image -/
theorem transform_spec (T : Tables) (hT : FullTables T) (flipped elongate : Bool) (s : List Char) :
    transform T flipped elongate s = .done (image T flipped elongate s) := by
  have := replaceAll_spec T hT flipped elongate s
  unfold transform
  cases flipped <;> simpa [smallOf, capsOf] using this

@[simp] theorem blen_nil : blen [] = 0 := rfl
@[simp] theorem blen_cons (c : Char) (cs : List Char) : blen (c :: cs) = c.utf8Size + blen cs := rfl

theorem blen_append (a b : List Char) : blen (a ++ b) = blen a + blen b := by
  induction a with
  | nil => simp
  | cons c a ih => simp [ih]; omega

theorem blen_imgChar_ge (T : Tables) (flipped elongate : Bool) (c : Char) :
    c.utf8Size ≤ blen (imgChar T flipped elongate c) := by
  obtain ⟨hlower, hupper, hother⟩ := imgChar_cases T flipped elongate c
  by_cases hl : isLower c
  · rw [hlower hl, utf8Size_of_lt_128 c (by unfold isLower at hl; omega)]
    generalize Char.ofNat _ = nc
    have := nc.utf8Size_pos
    split <;> simp [List.replicate] <;> omega
  · by_cases hu : isUpper c
    · rw [hupper hu, utf8Size_of_lt_128 c (by unfold isUpper at hu; omega)]
      generalize Char.ofNat _ = nc
      have := nc.utf8Size_pos
      simp; omega
    · rw [hother hl hu]; simp

/-- … hence `transform_sub.len() - sub_len` never underflows -/
theorem blen_image_ge (T : Tables) (flipped elongate : Bool) (s : List Char) :
    blen s ≤ blen (image T flipped elongate s) := by
  induction s with
  | nil => simp [image]
  | cons c cs ih =>
    have := blen_imgChar_ge T flipped elongate c
    simp only [image, List.flatMap_cons, blen_append, blen_cons] at ih ⊢
    omega

theorem splitAtByte_zero (cs : List Char) : splitAtByte cs 0 = some ([], cs) := by
  cases cs <;> rfl

theorem splitAtByte_append (a b : List Char) : splitAtByte (a ++ b) (blen a) = some (a, b) := by
  induction a with
  | nil => exact splitAtByte_zero b
  | cons c a ih =>
    have hpos := c.utf8Size_pos
    obtain ⟨k, hk⟩ : ∃ k, c.utf8Size + blen a = k + 1 := ⟨c.utf8Size + blen a - 1, by omega⟩
    rw [blen_cons, hk, List.cons_append, splitAtByte, if_pos (by omega),
      show k + 1 - c.utf8Size = blen a by omega, ih]

theorem strIndex_split (a b c : List Char) :
    strIndex (a ++ (b ++ c)) (blen a) (blen a + blen b) = .done b := by
  unfold strIndex
  rw [if_pos (by omega), splitAtByte_append]
  have : blen a + blen b - blen a = blen b := by omega
  simp only [this, splitAtByte_append]

theorem replaceRange_split (a b c w : List Char) :
    replaceRange (a ++ (b ++ c)) (blen a) (blen a + blen b) w = .done (a ++ w ++ c) := by
  unfold replaceRange
  rw [if_pos (by omega), splitAtByte_append]
  have : blen a + blen b - blen a = blen b := by omega
  simp only [this, splitAtByte_append]

theorem strIndex_suffix (a b : List Char) : strIndex (a ++ b) (blen a) (blen (a ++ b)) = .done b := by
  have := strIndex_split a b []
  rwa [List.append_nil, ← blen_append] at this

theorem replaceRange_suffix (a b w : List Char) :
    replaceRange (a ++ b) (blen a) (blen (a ++ b)) w = .done (a ++ w) := by
  have := replaceRange_split a b [] w
  rwa [List.append_nil, List.append_nil, ← blen_append] at this

theorem checkedSub_ok (a b : Nat) (h : b ≤ a) : checkedSub a b = .done (a - b) := by
  unfold checkedSub; rw [if_pos h]

/-- source text of a decomposition into `(text, match)` pairs -/
def flatten (parts : List (List Char × List Char)) : List Char :=
  parts.flatMap fun p => p.1 ++ p.2

/-- expected output of a decomposition: every text segment transformed, every match copied -/
def flattenImage (T : Tables) (flipped elongate : Bool) (parts : List (List Char × List Char)) : List Char :=
  parts.flatMap fun p => image T flipped elongate p.1 ++ p.2

@[simp] theorem bind_done {α β : Type} (a : α) (f : α → Outcome β) : (Outcome.done a >>= f) = f a := rfl

theorem spliceLoop_step (tr : List Char → Outcome (List Char)) (A A' seg R w : List Char) (capEnd diff : Nat)
    (ms : List (Nat × Nat)) (h : blen A + diff = blen A') (htr : tr seg = .done w) (hge : blen seg ≤ blen w) :
    spliceLoop tr (A ++ (seg ++ R)) ((blen A + blen seg, capEnd) :: ms) (A' ++ (seg ++ R)) (blen A) diff =
      spliceLoop tr (A ++ (seg ++ R)) ms (A' ++ w ++ R) capEnd (diff + (blen w - blen seg)) := by
  rw [spliceLoop, checkedSub_ok _ _ (Nat.le_add_right _ _), bind_done, strIndex_split, bind_done, htr, bind_done,
    checkedSub_ok _ _ (by omega), bind_done, h, show blen A + blen seg + diff = blen A' + blen seg by omega,
    replaceRange_split, bind_done, Nat.add_sub_cancel_left]

/-- Loop invariant: `A` = source consumed so far, `A'` = its output; `pos = |A|`, `pos + diff = |A'|`,
`result = A' ++ (rest of the source)`. -/
theorem spliceLoop_spec (T : Tables) (hT : FullTables T) (flipped elongate : Bool)
    (parts : List (List Char × List Char)) : ∀ (A A' last : List Char) (diff : Nat),
    blen A + diff = blen A' →
    spliceLoop (transform T flipped elongate) (A ++ (flatten parts ++ last)) (offsets (blen A) parts)
        (A' ++ (flatten parts ++ last)) (blen A) diff =
      .done (A' ++ flattenImage T flipped elongate parts ++ last, blen (A ++ flatten parts),
        blen (A' ++ flattenImage T flipped elongate parts) - blen (A ++ flatten parts)) := by
  induction parts with
  | nil =>
    intro A A' last diff h
    simp only [flatten, flattenImage, List.flatMap_nil, List.nil_append, List.append_nil, offsets, spliceLoop]
    congr 3; omega
  | cons p parts ih =>
    intro A A' last diff h
    obtain ⟨seg, tag⟩ := p
    have hge := blen_image_ge T flipped elongate seg
    have hfl : flatten ((seg, tag) :: parts) ++ last = seg ++ ((tag ++ flatten parts) ++ last) := by
      simp [flatten]
    rw [hfl, offsets, spliceLoop_step _ A A' seg _ _ _ diff _ h (transform_spec T hT _ _ seg) hge]
    have hA : blen A + blen seg + blen tag = blen (A ++ (seg ++ tag)) := by
      simp [blen_append]; omega
    have := ih (A ++ (seg ++ tag)) (A' ++ (image T flipped elongate seg ++ tag)) last
      (diff + (blen (image T flipped elongate seg) - blen seg)) (by simp only [blen_append]; omega)
    simp only [List.append_assoc] at this ⊢
    rw [hA, this]
    simp [flatten, flattenImage, List.append_assoc]
theorem blen_flattenImage_ge (T : Tables) (flipped elongate : Bool) (parts : List (List Char × List Char)) :
    blen (flatten parts) ≤ blen (flattenImage T flipped elongate parts) := by
  induction parts with
  | nil => simp [flatten, flattenImage]
  | cons p parts ih =>
    have := blen_image_ge T flipped elongate p.1
    simp only [flatten, flattenImage, List.flatMap_cons, blen_append] at ih ⊢
    omega

/-- `[` … `]` iff `with_markers` -/
def bracket (withMarkers : Bool) (r : List Char) : List Char :=
  if withMarkers then '[' :: r ++ [']'] else r

theorem transformDomWith_spec (T : Tables) (hT : FullTables T) (flipped elongate withMarkers : Bool)
    (parts : List (List Char × List Char)) (last : List Char)
    (hlen : (flatten parts ++ last).length ≠ 1) :
    transformDomWith T (offsets 0 parts) (flatten parts ++ last) flipped elongate withMarkers =
      .done (bracket withMarkers
        (flattenImage T flipped elongate parts ++ image T flipped elongate last)) := by
  unfold transformDomWith
  have hloop := spliceLoop_spec T hT flipped elongate parts [] [] last 0 rfl
  simp only [List.nil_append, blen_nil] at hloop
  rw [if_neg (by simpa using hlen), hloop]
  simp only [bind_done]
  rw [strIndex_suffix, bind_done, transform_spec T hT, bind_done,
    Nat.add_sub_cancel' (blen_flattenImage_ge T flipped elongate parts), replaceRange_suffix, bind_done]
  cases withMarkers <;> rfl

theorem transformDomWith_one (T : Tables) (ms : List (Nat × Nat)) (s : List Char)
    (flipped elongate withMarkers : Bool) (h : s.length = 1) :
    transformDomWith T ms s flipped elongate withMarkers = .done s := by
  unfold transformDomWith
  simp [h]

/-- what a matcher leaves after consuming a first character `c` is a proper suffix -/
theorem suffix_tail_proper {α : Type} {t r : List α} (c : α) (h : t <:+ r) :
    t <:+ c :: r ∧ t.length < (c :: r).length :=
  ⟨h.trans (List.suffix_cons c r), Nat.lt_succ_of_le h.length_le⟩

theorem matchEntity_suffix {l t : List Char} (h : matchEntity l = some t) :
    t <:+ l ∧ t.length < l.length := by
  unfold matchEntity at h
  split at h
  · rename_i c r
    split at h
    · split at h
      · rename_i t' heq
        cases h
        have hs : (';' :: t) <:+ (c :: r) := by rw [← heq]; exact List.dropWhile_suffix _
        exact suffix_tail_proper '&' ((List.suffix_cons ';' t).trans hs)
      · cases h
    · cases h
  · cases h

theorem matchClose_suffix {l t : List Char} (h : matchClose l = some t) : t <:+ l := by
  unfold matchClose at h
  split at h
  · rename_i t' heq
    cases h
    have hs : ('>' :: t) <:+ l := by rw [← heq]; exact List.dropWhile_suffix _
    exact (List.suffix_cons '>' t).trans hs
  · cases h

theorem matchLazy_suffix : ∀ {l t : List Char}, matchLazy l = some t → t <:+ l := by
  intro l
  induction l with
  | nil => intro t h; simp [matchLazy] at h
  | cons c r ih =>
    intro t h
    unfold matchLazy at h
    split at h
    · rename_i t' heq
      cases h
      exact matchClose_suffix heq
    · split at h
      · exact (ih h).trans (List.suffix_cons c r)
      · cases h

theorem matchBody_suffix {l t : List Char} (h : matchBody l = some t) : t <:+ l := by
  unfold matchBody at h
  split at h
  · cases h
  · rename_i c r
    split at h
    · exact (matchLazy_suffix h).trans (List.suffix_cons c r)
    · cases h

theorem matchAfterLt_suffix : ∀ {l t : List Char}, matchAfterLt l = some t → t <:+ l := by
  intro l
  induction l with
  | nil => intro t h; simp [matchAfterLt] at h
  | cons c r ih =>
    intro t h
    unfold matchAfterLt at h
    split at h
    · split at h
      · rename_i t' heq
        cases h
        exact (ih heq).trans (List.suffix_cons c r)
      · exact matchBody_suffix h
    · exact matchBody_suffix h

theorem matchTag_suffix {l t : List Char} (h : matchTag l = some t) : t <:+ l ∧ t.length < l.length := by
  unfold matchTag at h
  split at h
  · exact suffix_tail_proper '<' (matchAfterLt_suffix h)
  · cases h

theorem matchHere_suffix {l t : List Char} (h : matchHere l = some t) : t <:+ l ∧ t.length < l.length := by
  unfold matchHere at h
  split at h
  · rename_i t' heq; cases h; exact matchEntity_suffix heq
  · exact matchTag_suffix h

theorem findParts_flatten : ∀ (fuel : Nat) (acc l : List Char),
    flatten (findParts fuel acc l).1 ++ (findParts fuel acc l).2 = acc.reverse ++ l := by
  intro fuel
  induction fuel with
  | zero => intro acc l; simp [findParts, flatten]
  | succ fuel ih =>
    intro acc l
    cases l with
    | nil => simp [findParts, flatten]
    | cons c r =>
      unfold findParts
      split
      · rename_i t heq
        obtain ⟨hsuf, _⟩ := matchHere_suffix heq
        have hih := ih [] t
        simp only [List.reverse_nil, List.nil_append] at hih
        have htake : (c :: r).take ((c :: r).length - t.length) ++ t = c :: r := by
          have := List.take_append_drop ((c :: r).length - t.length) (c :: r)
          rwa [← List.suffix_iff_eq_drop.1 hsuf] at this
        simp only [flatten, List.flatMap_cons]
        simp only [flatten] at hih
        rw [List.append_assoc, List.append_assoc, hih, htake]
      · have := ih (c :: acc) r
        simpa using this

theorem findParts_fuel : ∀ (f₁ f₂ : Nat) (acc l : List Char), l.length < f₁ → l.length < f₂ →
    findParts f₁ acc l = findParts f₂ acc l := by
  intro f₁
  induction f₁ with
  | zero => intro f₂ acc l h; omega
  | succ f₁ ih =>
    intro f₂ acc l h1 h2
    obtain ⟨f₂, rfl⟩ : ∃ k, f₂ = k + 1 := ⟨f₂ - 1, by omega⟩
    cases l with
    | nil => simp [findParts]
    | cons c r =>
      unfold findParts
      split
      · rename_i t heq
        obtain ⟨_, hlt⟩ := matchHere_suffix heq
        rw [ih f₂ [] t (by omega) (by omega)]
      · exact ih f₂ (c :: acc) r (by simp at h1; omega) (by simp at h2; omega)

/-- byte offset `i` is a char boundary of `s` (the length of a prefix of characters) -/
def IsBoundary (s : List Char) (i : Nat) : Prop := ∃ a b, s = a ++ b ∧ blen a = i

/-- matches are ordered, non-overlapping (`lo` = end of the previous one) and boundary-aligned -/
def ValidMatches (s : List Char) : Nat → List (Nat × Nat) → Prop
  | _, [] => True
  | lo, (a, b) :: ms => lo ≤ a ∧ a ≤ b ∧ IsBoundary s a ∧ IsBoundary s b ∧ ValidMatches s b ms

theorem prefix_of_blen_le : ∀ (A R A₁ R₁ : List Char), A ++ R = A₁ ++ R₁ → blen A ≤ blen A₁ →
    ∃ seg, A₁ = A ++ seg ∧ R = seg ++ R₁ := by
  intro A
  induction A with
  | nil => intro R A₁ R₁ h _; exact ⟨A₁, rfl, by simpa using h⟩
  | cons c A ih =>
    intro R A₁ R₁ h hle
    cases A₁ with
    | nil =>
      have := c.utf8Size_pos
      simp at hle; omega
    | cons c₁ A₁ =>
      simp only [List.cons_append, List.cons.injEq] at h
      obtain ⟨rfl, h⟩ := h
      obtain ⟨seg, h1, h2⟩ := ih R A₁ R₁ h (by simp at hle; omega)
      exact ⟨seg, by simp [h1], h2⟩

theorem validMatches_decompose (s : List Char) (ms : List (Nat × Nat)) : ∀ (A R : List Char),
    s = A ++ R → ValidMatches s (blen A) ms →
    ∃ parts last, R = flatten parts ++ last ∧ ms = offsets (blen A) parts := by
  induction ms with
  | nil => intro A R _ _; exact ⟨[], R, by simp [flatten], rfl⟩
  | cons m ms ih =>
    intro A R hs hv
    obtain ⟨a, b⟩ := m
    obtain ⟨hlo, hab, ⟨A₁, R₁, hs₁, hA₁⟩, ⟨A₂, R₂, hs₂, hA₂⟩, hrest⟩ := hv
    obtain ⟨seg, hseg, hR⟩ := prefix_of_blen_le A R A₁ R₁ (by rw [← hs, ← hs₁]) (by omega)
    obtain ⟨tag, htag, hR₁⟩ := prefix_of_blen_le A₁ R₁ A₂ R₂ (by rw [← hs₁, ← hs₂]) (by omega)
    rw [← hA₂] at hrest
    obtain ⟨parts, last, hR₂, hms⟩ := ih A₂ R₂ hs₂ hrest
    refine ⟨(seg, tag) :: parts, last, ?_, ?_⟩
    · rw [hR, hR₁, hR₂]; simp [flatten]
    · have e1 : a = blen A + blen seg := by rw [← hA₁, hseg, blen_append]
      have e2 : b = blen A + blen seg + blen tag := by rw [← hA₂, htag, hseg, blen_append, blen_append]
      simp only [offsets]
      rw [hms, e1, e2, htag, hseg]
      simp [blen_append, Nat.add_assoc]

theorem isElongated_isLower (c : Char) (h : isElongated c) : isLower c := by
  rcases h with rfl | rfl | rfl | rfl <;> decide

theorem length_imgChar (T : Tables) (flipped elongate : Bool) (c : Char) :
    (imgChar T flipped elongate c).length = if elongate = true ∧ isElongated c then 2 else 1 := by
  obtain ⟨hlower, hupper, hother⟩ := imgChar_cases T flipped elongate c
  by_cases hl : isLower c
  · rw [hlower hl, List.length_replicate]
  · have he : ¬ (elongate = true ∧ isElongated c) := fun h => hl (isElongated_isLower c h.2)
    rw [if_neg he]
    by_cases hu : isUpper c
    · rw [hupper hu]; rfl
    · rw [hother hl hu]; rfl

theorem length_image (T : Tables) (flipped elongate : Bool) (s : List Char) :
    (image T flipped elongate s).length =
      s.length + (if elongate = true then s.countP (fun c => decide (isElongated c)) else 0) := by
  induction s with
  | nil => simp [image]
  | cons c cs ih =>
    simp only [image, List.flatMap_cons, List.length_append, List.length_cons] at ih ⊢
    rw [ih, length_imgChar, List.countP_cons]
    cases elongate
    · simp; omega
    · by_cases h : isElongated c
      · simp [h]; omega
      · simp [h]; omega

end FluentProofs.Pseudo

import FluentProofs.ParserLocalPreExpr
/-!
# Locality of the parser, PREFIX family, part 3: attributes, messages, terms, comments, entries

Under `Pre n s₁ s₂` a successful entry-level run on `s₁` started before `n` ends at or before `n` and is reproduced on
`s₂`.  Two provisos:

* `get_attributes` swallows the error of a failing attribute, and a failing attribute of `s₁` need not fail the same
  way on `s₂`; the hypothesis "the result cursor is not followed by an attribute-looking line"
  (`s₁[skipBlankInline s₁ q]? ≠ some 46`) excludes it;
* a comment whose last line ends at the end of `s₁` leaves the cursor at `n` on `s₁`, but at the final line feed
  (`n - 1`) on `s₂` when `s₂` goes on.
-/
namespace FluentProofs.Parser
open FluentModel.Syntax

section
variable {n : Nat} {s₁ s₂ : Src}

theorem getAttribute_pre (h : Pre n s₁ s₂) {F p : Nat} {a : Attribute Span} {q : Nat} (hp : p < n)
    (hr : getAttribute s₁ F p = .ok a q) : q ≤ n ∧ ∀ M, F ≤ M → getAttribute s₂ M p = .ok a q := by
  rw [getAttribute_eq] at hr
  obtain ⟨id, q0, hid, hr⟩ := R.bind_eq_ok hr
  obtain ⟨_, q2, hx, hr⟩ := R.bind_eq_ok hr
  obtain ⟨rfl, hb⟩ := expectByte_ok hx
  obtain ⟨o, q3, hpat, hr⟩ := R.bind_eq_ok hr
  have hq0 := ((getIdentifier_loc h.loc hp).2 id q0 hid).1
  obtain ⟨c1, c2⟩ := getPattern_pre h (h.succ_lt hb (by decide)) hpat
  have e : q3 = q := by cases o <;> cases hr; rfl
  refine ⟨by omega, fun M hM => ?_⟩
  rw [getAttribute_eq, (getIdentifier_loc h.loc hp).1, hid, R.bind_ok, skipBlankInline_loc h.loc (Nat.le_of_lt hq0),
    expectByte_loc h.loc (h.loc.edge₁.skipBlankInline_lt hq0), hx, R.bind_ok, c2 M hM, R.bind_ok]
  exact hr

theorem getAttributesGo_pre (h : Pre n s₁ s₂) (F k₁ : Nat) : ∀ (acc : List (Attribute Span)) (p : Nat)
    (attrs : List (Attribute Span)) (q : Nat), p ≤ n → getAttributesGo s₁ F k₁ acc p = .ok attrs q →
    s₁[skipBlankInline s₁ q]? ≠ some 46 →
    q ≤ n ∧ ∀ M, F ≤ M → ∀ k₂, k₁ ≤ k₂ → getAttributesGo s₂ M k₂ acc p = .ok attrs q := by
  induction k₁ with
  | zero => intro acc p attrs q _ hr; simp [getAttributesGo] at hr
  | succ k₁ ih =>
    intro acc p attrs q hp hr hdot
    rw [getAttributesGo_unfold] at hr
    have hp1 := h.loc.edge₁.skipBlankInline_le hp
    have e2 : s₂[skipBlankInline s₁ p]? = some 46 ↔ s₁[skipBlankInline s₁ p]? = some 46 := by
      by_cases hpn : skipBlankInline s₁ p = n
      · rw [hpn, h.none₁ (Nat.le_refl _)]
        exact ⟨fun e => absurd e (h.ne_n (by decide)), fun e => nomatch e⟩
      · rw [h.get _ (by omega)]
    by_cases h46 : s₁[skipBlankInline s₁ p]? = some 46
    · rw [if_pos h46] at hr
      cases ha : getAttribute s₁ F (skipBlankInline s₁ p + 1) with
      | ok a q' =>
        rw [ha] at hr
        obtain ⟨c1, c2⟩ := getAttribute_pre h (h.succ_lt h46 (by decide)) ha
        obtain ⟨d1, d2⟩ := ih _ _ _ _ c1 hr hdot
        refine ⟨d1, fun M hM k₂ hk => ?_⟩
        obtain ⟨k₂', rfl⟩ : ∃ k, k₂ = k + 1 := ⟨k₂ - 1, by omega⟩
        rw [getAttributesGo_unfold, skipBlankInline_loc h.loc hp, if_pos (e2.mpr h46), c2 M hM]
        exact d2 M hM k₂' (by omega)
      | err e q' =>
        rw [ha] at hr
        cases hr
        exact absurd h46 hdot
      | panic m' => rw [ha] at hr; cases hr
      | fuel => rw [ha] at hr; cases hr
    · rw [if_neg h46] at hr
      cases hr
      refine ⟨hp, fun M hM k₂ hk => ?_⟩
      obtain ⟨k₂', rfl⟩ : ∃ k, k₂ = k + 1 := ⟨k₂ - 1, by omega⟩
      rw [getAttributesGo_unfold, skipBlankInline_loc h.loc hp, if_neg (fun e => h46 (e2.mp e))]

theorem getAttributes_pre (h : Pre n s₁ s₂) {F p : Nat} {attrs : List (Attribute Span)} {q : Nat} (hp : p ≤ n)
    (hr : getAttributes s₁ F p = .ok attrs q) (hdot : s₁[skipBlankInline s₁ q]? ≠ some 46) :
    q ≤ n ∧ ∀ M, F ≤ M → getAttributes s₂ M p = .ok attrs q := by
  unfold getAttributes at hr
  obtain ⟨c1, c2⟩ := getAttributesGo_pre h F _ _ _ _ _ hp hr hdot
  refine ⟨c1, fun M hM => ?_⟩
  unfold getAttributes
  exact c2 M hM _ (by have := h.size; have := h.le₂; omega)

theorem getMessage_pre (h : Pre n s₁ s₂) {F es p : Nat} {m : Message Span} {q : Nat} (hp : p < n)
    (hr : getMessage s₁ F es p = .ok m q) (hdot : s₁[skipBlankInline s₁ q]? ≠ some 46) :
    q ≤ n ∧ ∀ M, F ≤ M → getMessage s₂ M es p = .ok m q := by
  rw [getMessage_eq] at hr
  obtain ⟨id, q0, hid, hr⟩ := R.bind_eq_ok hr
  obtain ⟨_, q2, hx, hr⟩ := R.bind_eq_ok hr
  obtain ⟨rfl, hb⟩ := expectByte_ok hx
  obtain ⟨o, q3, hpat, hr⟩ := R.bind_eq_ok hr
  obtain ⟨attrs, q5, hat, hr⟩ := R.bind_eq_ok hr
  have hq0 := ((getIdentifier_loc h.loc hp).2 id q0 hid).1
  obtain ⟨c1, c2⟩ := getPattern_pre h (h.succ_lt hb (by decide)) hpat
  have e : q5 = q := by split at hr <;> cases hr; rfl
  obtain ⟨d1, d2⟩ := getAttributes_pre h (h.loc.edge₁.skipBlankBlock_le c1) hat (e ▸ hdot)
  refine ⟨by omega, fun M hM => ?_⟩
  rw [getMessage_eq, (getIdentifier_loc h.loc hp).1, hid, R.bind_ok, skipBlankInline_loc h.loc (Nat.le_of_lt hq0),
    expectByte_loc h.loc (h.loc.edge₁.skipBlankInline_lt hq0), hx, R.bind_ok, c2 M hM, R.bind_ok, skipBlankBlock_loc h.loc c1,
    d2 M hM, R.bind_ok]
  exact hr

theorem getTerm_pre (h : Pre n s₁ s₂) {F es p : Nat} {t : Term Span} {q : Nat} (hp : p < n)
    (hr : getTerm s₁ F es p = .ok t q) (hdot : s₁[skipBlankInline s₁ q]? ≠ some 46) :
    q ≤ n ∧ ∀ M, F ≤ M → getTerm s₂ M es p = .ok t q := by
  rw [getTerm_eq] at hr
  obtain ⟨_, p0, hx0, hr⟩ := R.bind_eq_ok hr
  obtain ⟨rfl, hb0⟩ := expectByte_ok hx0
  obtain ⟨id, q0, hid, hr⟩ := R.bind_eq_ok hr
  obtain ⟨_, q2, hx, hr⟩ := R.bind_eq_ok hr
  obtain ⟨rfl, hb⟩ := expectByte_ok hx
  obtain ⟨o, q3, hpat, hr⟩ := R.bind_eq_ok hr
  obtain ⟨attrs, q5, hat, hr⟩ := R.bind_eq_ok hr
  have hp0 : p + 1 < n := h.succ_lt hb0 (by decide)
  have hq0 := ((getIdentifier_loc h.loc hp0).2 id q0 hid).1
  have hq1 : skipBlankInline s₁ q0 + 1 < n := h.succ_lt hb (by decide)
  obtain ⟨c1, c2⟩ := getPattern_pre h (h.loc.edge₁.skipBlankInline_lt hq1) hpat
  have e : q5 = q := by cases o <;> cases hr; rfl
  obtain ⟨d1, d2⟩ := getAttributes_pre h (h.loc.edge₁.skipBlankBlock_le c1) hat (e ▸ hdot)
  refine ⟨by omega, fun M hM => ?_⟩
  rw [getTerm_eq, expectByte_loc h.loc hp, hx0, R.bind_ok, (getIdentifier_loc h.loc hp0).1, hid, R.bind_ok,
    skipBlankInline_loc h.loc (Nat.le_of_lt hq0), expectByte_loc h.loc (h.loc.edge₁.skipBlankInline_lt hq0), hx, R.bind_ok,
    skipBlankInline_loc h.loc (Nat.le_of_lt hq1), c2 M hM, R.bind_ok, skipBlankBlock_loc h.loc c1, d2 M hM, R.bind_ok]
  exact hr

theorem skipComment_pre (h : Pre n s₁ s₂) {p : Nat} (hp : p < n) :
    skipComment s₂ p = skipComment s₁ p ∧ skipComment s₁ p ≤ n := by
  obtain ⟨q, hq, hf⟩ := skipComment_first s₁ p
  obtain ⟨q', hq', hf'⟩ := skipComment_first s₂ p
  -- `s₁` ends behind the line feed in front of `n`
  have hq1 : q ≤ n - 1 := hf.le_of_stop (by omega) ⟨by
      rcases h.ls with h0 | h10
      · omega
      · rw [isEol, h10]; rfl, by rw [show n - 1 + 1 = n by omega, h.none₁ (Nat.le_refl _)]; nofun⟩
  have e : q' = q := hf'.unique (hf.congr fun j _ hj => by
    have e35 : s₂[j + 1]? = some 35 ↔ s₁[j + 1]? = some 35 := by
      rw [← isCurrentByte_iff, ← isCurrentByte_iff, h.cur (show j + 1 ≤ n by omega) (by decide)]
    unfold CommentEnd
    rw [isEol_loc h.loc (show j < n by omega), Ne, Ne, e35])
  rw [hq, hq', e]
  exact ⟨rfl, by omega⟩

/-- how the cursor `q'` left by `get_comment` on `s₂` relates to the cursor `q` left on `s₁` -/
def CurRel (n : Nat) (s₂ : Src) (q q' : Nat) : Prop := q' = q ∨ (q = n ∧ q' + 1 = n ∧ n < s₂.size)

theorem getCommentGo_pre (h : Pre n s₁ s₂) (hn : 0 < n) (k₁ : Nat) : ∀ (k₂ level : Nat) (content : List Span) (p : Nat)
    (v : List Span × Nat) (q : Nat), p ≤ n → k₁ ≤ k₂ → getCommentGo s₁ k₁ level content p = .ok v q →
    q ≤ n ∧ ∃ q', getCommentGo s₂ k₂ level content p = .ok v q' ∧ CurRel n s₂ q q' := by
  induction k₁ with
  | zero => intro k₂ level content p v q _ _ hr; cases hr
  | succ k₁ ih =>
    intro k₂ level content p v q hp hk hr
    obtain ⟨k₂, rfl⟩ : ∃ k, k₂ = k + 1 := ⟨k₂ - 1, by omega⟩
    rw [getCommentGo_unfold] at hr ⊢
    by_cases hpn : p = n
    · -- at the seam `s₁` has ended; if `s₂` goes on, it shows a line that is no comment and the cursor steps back
      subst hpn
      rw [commentStep_end (by rw [h.size]; omega)] at hr
      cases hr
      by_cases hlt : p < s₂.size
      · rw [commentStep_noHash hlt (h.ne_n (by decide)) hn]
        exact ⟨hp, p - 1, rfl, Or.inr ⟨rfl, by omega, hlt⟩⟩
      · rw [commentStep_end hlt]
        exact ⟨hp, p, rfl, Or.inl rfl⟩
    · have hlt : p < n := by omega
      have e := commentStep_win h.loc.win level content.isEmpty hlt (Or.inl rfl)
      rw [Nat.add_zero, CStep.shift_zero] at e
      rw [e]
      cases hst : commentStep s₁ level content.isEmpty p with
      | line l sp p' =>
        rw [hst] at hr
        exact ih k₂ l _ p' v q (h.loc.edge₁.commentLine_le (commentStep_line hst).2 hlt).2.2 (by omega) hr
      | stop lv q0 =>
        rw [hst] at hr; cases hr
        obtain ⟨hq, _, _⟩ := commentStep_stop hst
        exact ⟨by omega, _, rfl, Or.inl rfl⟩
      | bad q0 => rw [hst] at hr; cases hr
      | panic m => rw [hst] at hr; cases hr

theorem getComment_pre (h : Pre n s₁ s₂) {p : Nat} {v : List Span × Nat} {q : Nat} (hp : p < n)
    (hr : getComment s₁ p = .ok v q) : q ≤ n ∧ ∃ q', getComment s₂ p = .ok v q' ∧ CurRel n s₂ q q' := by
  unfold getComment at hr ⊢
  exact getCommentGo_pre h (by omega) _ _ _ _ _ _ _ (Nat.le_of_lt hp) (by have := h.size; have := h.le₂; omega) hr

theorem getEntry_pre (h : Pre n s₁ s₂) {F₁ F₂ p : Nat} {e : Entry Span} {q : Nat} (hF : F₁ ≤ F₂) (hp : p < n)
    (hr : getEntry s₁ F₁ p = .ok e q) (hdot : s₁[p]? ≠ some 35 → s₁[skipBlankInline s₁ q]? ≠ some 46) :
    q ≤ n ∧ ∃ q', getEntry s₂ F₂ p = .ok e q' ∧ CurRel n s₂ q q' := by
  rw [getEntry_unfold] at hr
  rw [getEntry_unfold, h.get p hp]
  by_cases h35 : s₁[p]? = some 35
  · rw [if_pos h35] at hr ⊢
    obtain ⟨cl, q0, hc, hr⟩ := R.bind_eq_ok hr
    obtain ⟨c1, q', c2, c3⟩ := getComment_pre h hp hc
    obtain ⟨rfl, he⟩ := entryOfComment_ok hr
    exact ⟨c1, q', by rw [c2, R.bind_ok, he], c3⟩
  rw [if_neg h35] at hr ⊢
  by_cases h45 : s₁[p]? = some 45
  · rw [if_pos h45] at hr ⊢
    obtain ⟨t, q0, ht, hr⟩ := R.bind_eq_ok hr
    cases hr
    obtain ⟨c1, c2⟩ := getTerm_pre h hp ht (hdot h35)
    rw [c2 F₂ hF]
    exact ⟨c1, q, rfl, Or.inl rfl⟩
  · rw [if_neg h45] at hr ⊢
    obtain ⟨m, q0, hm, hr⟩ := R.bind_eq_ok hr
    cases hr
    obtain ⟨c1, c2⟩ := getMessage_pre h hp hm (hdot h35)
    rw [c2 F₂ hF]
    exact ⟨c1, q, rfl, Or.inl rfl⟩

theorem getEntryRuntime_pre (h : Pre n s₁ s₂) {F₁ F₂ p : Nat} {o : Option (Entry Span)} {q : Nat} (hF : F₁ ≤ F₂)
    (hp : p < n) (hr : getEntryRuntime s₁ F₁ p = .ok o q)
    (hdot : s₁[p]? ≠ some 35 → s₁[skipBlankInline s₁ q]? ≠ some 46) :
    q ≤ n ∧ getEntryRuntime s₂ F₂ p = .ok o q := by
  rw [getEntryRuntime_unfold] at hr
  rw [getEntryRuntime_unfold, h.get p hp]
  by_cases h35 : s₁[p]? = some 35
  · rw [if_pos h35] at hr ⊢
    rw [(skipComment_pre h hp).1]
    cases hr
    exact ⟨(skipComment_pre h hp).2, rfl⟩
  rw [if_neg h35] at hr ⊢
  by_cases h45 : s₁[p]? = some 45
  · rw [if_pos h45] at hr ⊢
    obtain ⟨t, q0, ht, hr⟩ := R.bind_eq_ok hr
    cases hr
    obtain ⟨c1, c2⟩ := getTerm_pre h hp ht (hdot h35)
    rw [c2 F₂ hF]
    exact ⟨c1, rfl⟩
  · rw [if_neg h45] at hr ⊢
    obtain ⟨m, q0, hm, hr⟩ := R.bind_eq_ok hr
    cases hr
    obtain ⟨c1, c2⟩ := getMessage_pre h hp hm (hdot h35)
    rw [c2 F₂ hF]
    exact ⟨c1, rfl⟩

theorem skipBlankBlock_curRel (h : Pre n s₁ s₂) {q q' : Nat} (hq : q ≤ n) (hrel : CurRel n s₂ q q') :
    (skipBlankBlock s₂ q').1 = (skipBlankBlock s₁ q).1 ∧
      ((skipBlankBlock s₂ q').2 = (skipBlankBlock s₁ q).2 ∨ (skipBlankBlock s₁ q).1 = n) := by
  rcases hrel with rfl | ⟨rfl, hq', hlt⟩
  · rw [skipBlankBlock_loc h.loc hq]; exact ⟨rfl, Or.inl rfl⟩
  · have e1 : (skipBlankBlock s₁ q).1 = q := by
      have := h.loc.edge₁.skipBlankBlock_le hq
      have := skipBlankBlock_le s₁ q
      omega
    refine ⟨?_, Or.inr e1⟩
    rw [e1]
    have h10 : s₂[q']? = some 10 := by
      have := h.loc.symm.ls.resolve_left (by omega)
      rwa [show q - 1 = q' by omega] at this
    have hsb : skipBlankInline s₂ q' = q' := skipBlankInline_of_ne (by rw [h10]; decide)
    have hse : skipEol s₂ q' = some q := by
      unfold skipEol; rw [h10]; simp only []; congr 1
    have hsb2 : skipBlankInline s₂ q = q := skipBlankInline_of_ne (h.ne_n (by decide))
    have hse2 : skipEol s₂ q = none := h.loc.edge₂.skipEol_none
    rw [skipBlankBlock_eq s₂ (k := s₂.size + 2) (Nat.succ_pos _) (by omega), skipBlankBlockGo_unfold, hsb, hse]
    show (skipBlankBlockGo s₂ (s₂.size + 1) q 1).1 = q
    rw [skipBlankBlockGo_unfold, hsb2, hse2]
    simp only [hlt, if_true]

end
end FluentProofs.Parser

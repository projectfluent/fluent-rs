import FluentProofs.SerializerTexts
/-!
# Serializer round trip: texts and classes of patterns, selects and placeables (C04)

Definitions and facts about byte lists (of the writer only that its tests `isSelectInline` and `isMultiline` fail on the
select-free single-line class; `validInner_cases` is the case rule for the placeables of that class): the texts written at an indent level, the class of patterns and expressions the parser
reads back as they are (`rtPattern`), and the round-trip predicates `InlRT`, `ExprRT`, `PlRT`, `PatRT` (writer half: the text is
appended; parser half: the text is read back).
-/
namespace FluentProofs.Ser
open FluentModel FluentModel.Syntax FluentModel.Syntax.Ser FluentProofs.Parser

def validText (v : Bytes) : Bool := !v.isEmpty && v.all fun b => b != 10 && b != 13 && b != 123 && b != 125

theorem validText_mem {v : Bytes} (h : validText v = true) : ∀ b ∈ v, b ≠ 10 ∧ b ≠ 13 ∧ b ≠ 123 ∧ b ≠ 125 := by
  intro b hb
  simp only [validText, Bool.and_eq_true, List.all_eq_true] at h
  have := h.2 b hb
  simpa [and_assoc] using this

theorem validText_ne {v : Bytes} (h : validText v = true) : v ≠ [] := by
  intro h0; subst h0; simp [validText] at h

/-- what follows the pattern's line: end of input, or a line that starts with a byte that cannot
continue the pattern -/
def LineEndOK (s : Src) (q : Nat) : Prop :=
  s.size ≤ q ∨ ∃ b, s[q]? = some b ∧ b ≠ 123 ∧ b ≠ 32 ∧ b ≠ 10 ∧ (b = 13 → s[q + 1]? ≠ some 10)

def validElem : PatElem Bytes → Bool
  | .text v => validText v
  | .placeable e => validInner e

/-- the text `serialize_element` writes -/
def elemBytes : PatElem Bytes → Bytes
  | .text v => v
  | .placeable (.inline (.placeable e)) => 123 :: 123 :: 32 :: (innerBytes e ++ [32, 125, 125])
  | .placeable (.inline i) => 123 :: 32 :: (inlineBytes i ++ [32, 125])
  | .placeable (.select _ _) => []

def patBytes : List (PatElem Bytes) → Bytes
  | [] => []
  | e :: es => elemBytes e ++ patBytes es

def noAdjText : List (PatElem Bytes) → Bool
  | .text _ :: .text _ :: _ => false
  | _ :: rest => noAdjText rest
  | [] => true

/-- the last element, if a text, does not end with a byte that `trim` removes (` `; `\r`, `\n` are
excluded by `validText` already) -/
def lastOK : List (PatElem Bytes) → Bool
  | [] => true
  | [.text v] => v.getLast? != some 32
  | _ :: rest => lastOK rest

def fuelElem : PatElem Bytes → Nat
  | .text _ => 0
  | .placeable (.inline (.placeable e)) => fuelInner e + 5
  | .placeable (.inline i) => fuelInline i + 2
  | .placeable (.select _ _) => 0

def fuelPat : List (PatElem Bytes) → Nat
  | [] => 2
  | e :: es => fuelElem e + fuelPat es + 1

theorem validInner_cases {x : Expr Bytes} (hv : validInner x = true) :
    (∃ j, x = .inline (.placeable (.inline j)) ∧ validInner (.inline j) = true) ∨
    (∃ i, x = .inline i ∧ validInner (.inline i) = true ∧
      elemBytes (.placeable x) = 123 :: 32 :: (inlineBytes i ++ [32, 125]) ∧
      fuelElem (.placeable x) = fuelInline i + 2 ∧
      ∀ w, serElement w (.placeable x) =
        (serInline (w.writeLiteral [123, 32]) i).map fun w1 => w1.writeLiteral [32, 125]) := by
  cases x with
  | select a b => simp [validInner] at hv
  | inline i =>
    cases i with
    | placeable e2 =>
      have hv2 : validInner e2 = true := by
        have : validInner (.inline (.placeable e2)) = validInline (.placeable e2) := rfl
        rw [this] at hv
        simpa [validInline] using hv
      cases e2 with
      | select a b => simp [validInner] at hv2
      | inline j => exact Or.inl ⟨j, rfl, hv2⟩
    | str v => exact Or.inr ⟨_, rfl, hv, rfl, rfl, fun _ => rfl⟩
    | num v => exact Or.inr ⟨_, rfl, hv, rfl, rfl, fun _ => rfl⟩
    | var v => exact Or.inr ⟨_, rfl, hv, rfl, rfl, fun _ => rfl⟩
    | msg a b => exact Or.inr ⟨_, rfl, hv, rfl, rfl, fun _ => rfl⟩
    | term a b c => exact Or.inr ⟨_, rfl, hv, rfl, rfl, fun _ => rfl⟩
    | fn a b c => exact Or.inr ⟨_, rfl, hv, rfl, rfl, fun _ => rfl⟩

theorem elemBytes_placeable_head (e : Expr Bytes) (hv : validInner e = true) :
    ∃ rest, elemBytes (.placeable e) = 123 :: rest := by
  rcases validInner_cases hv with ⟨j, rfl, _⟩ | ⟨i, rfl, _, hb, _⟩
  · exact ⟨_, rfl⟩
  · exact ⟨_, hb⟩

theorem elemBytes_placeable_last (e : Expr Bytes) (hv : validInner e = true) :
    ∃ pre, elemBytes (.placeable e) = pre ++ [125] := by
  rcases validInner_cases hv with ⟨j, rfl, _⟩ | ⟨i, rfl, _, hb, _⟩
  · exact ⟨123 :: 123 :: 32 :: (innerBytes (.inline j) ++ [32, 125]), by simp [elemBytes]⟩
  · exact ⟨123 :: 32 :: (inlineBytes i ++ [32]), by rw [hb]; simp⟩

theorem noAdjText_tail {e : PatElem Bytes} {es : List (PatElem Bytes)} (h : noAdjText (e :: es) = true) :
    noAdjText es = true := by
  cases e <;> cases es <;> try rfl
  all_goals (rename_i r rs; cases r <;> simp_all [noAdjText])

theorem lastOK_tail {e : PatElem Bytes} {es : List (PatElem Bytes)} (h : lastOK (e :: es) = true) :
    lastOK es = true := by
  cases es with
  | nil => rfl
  | cons r rs => cases e <;> simpa [lastOK] using h

theorem getLast_any_ne32 (v : Bytes) (c : UInt8) (h : v.getLast? = some c) (hc : c ≠ 32) :
    v.any (fun b => b != 32) = true := by
  rw [List.any_eq_true]
  exact ⟨c, List.mem_of_getLast? h, by simpa using hc⟩

/-- the first element, if a text, does not start with a space (`get_pattern` skips blanks after `=`) -/
def firstOK : List (PatElem Bytes) → Bool
  | .text (b :: _) :: _ => b != 32
  | _ => true

/-- **valid single-line pattern**: non-empty; texts non-empty without `\n`, `\r`, `{`, `}`; placeables
hold a valid inline expression (no select, no term attribute); no two adjacent texts; does not start
or end with a space -/
def validSingleLine (es : List (PatElem Bytes)) : Bool :=
  !es.isEmpty && es.all validElem && noAdjText es && firstOK es && lastOK es

theorem validSingleLine_elems {es : List (PatElem Bytes)} (h : validSingleLine es = true) :
    ∀ e ∈ es, validElem e = true := by
  simp only [validSingleLine, Bool.and_eq_true, List.all_eq_true] at h
  exact h.1.1.1.2

theorem validText_tidy {v : Bytes} (h : validText v = true) : tidy v = true :=
  tidy_of_all v (validText_ne h) (fun b hb => by have := validText_mem h b hb; exact ⟨this.1, this.2.1⟩)

mutual
theorem isSelectInline_valid (i : Inline Bytes) (hv : validInline i = true) : isSelectInline i = false := by
  cases i with
  | placeable e => simp only [isSelectInline]; exact isSelectExpr_valid e (by simpa [validInline] using hv)
  | _ => rfl
theorem isSelectExpr_valid (e : Expr Bytes) (hv : validInner e = true) : isSelectExpr e = false := by
  cases e with
  | select a b => simp [validInner] at hv
  | inline i => simp only [isSelectExpr]; exact isSelectInline_valid i (validInner_inline hv)
end

theorem isMultiline_valid (es : List (PatElem Bytes)) (hv : ∀ e ∈ es, validElem e = true) : isMultiline es = false := by
  induction es with
  | nil => rfl
  | cons e es ih =>
    have ih' := ih (fun x hx => hv x (List.mem_cons_of_mem _ hx))
    have he := hv e (List.mem_cons_self)
    cases e with
    | text v =>
      have := validText_mem (by simpa [validElem] using he : validText v = true)
      simp only [isMultiline, ih', Bool.or_false]
      rw [List.contains_eq_mem]
      simp only [decide_eq_false_iff_not]
      intro h10; exact (this 10 h10).1 rfl
    | placeable x =>
      have hvx : validInner x = true := by simpa [validElem] using he
      simp only [isMultiline, ih', Bool.or_false]
      exact isSelectExpr_valid x hvx

theorem namedTail_length (named : List (Bytes × Inline Bytes)) : named.length + 1 ≤ (namedTail named).length := by
  induction named with
  | nil => simp [namedTail]
  | cons x xs ih => obtain ⟨n, v⟩ := x; rw [namedTail]; simp; omega

mutual
theorem fuelInline_le (e : Inline Bytes) (hv : validInline e = true) :
    fuelInline e ≤ 2 * (inlineBytes e).length + 2 := by
  cases e with
  | str v => simp [fuelInline]
  | num v => simp [fuelInline]
  | var v => simp [fuelInline]
  | msg a b => simp [fuelInline]
  | term id attr args =>
    cases args with
    | none => simp [fuelInline]
    | some pn =>
      obtain ⟨pos, named⟩ := pn
      simp only [validInline, Bool.and_eq_true] at hv
      have := fuelArgs_le pos hv.1.1.2 named (fuelNamed named) (fuelNamed_le named hv.1.2)
      simp only [fuelInline, inlineBytes, List.length_cons, List.length_append]
      omega
  | fn id pos named =>
    simp only [validInline, Bool.and_eq_true] at hv
    have := fuelArgs_le pos hv.1.1.2 named (fuelNamed named) (fuelNamed_le named hv.1.2)
    have hid : 1 ≤ id.length := by
      have := validIdent_ne_nil hv.1.1.1.1
      cases id <;> simp_all
    simp only [fuelInline, inlineBytes, List.length_cons, List.length_append]
    omega
  | placeable e =>
    cases e with
    | select a b => simp [validInline, validInner] at hv
    | inline i =>
      have := fuelInline_le i (validInner_inline (by simpa [validInline] using hv))
      simp only [fuelInline, fuelInner, inlineBytes, innerBytes, List.length_cons, List.length_append, List.length_nil]
      omega

/-- `fn` = the fuel of the named arguments, bounded by their text (`fuelNamed_le`, passed as a hypothesis so
that the mutual induction stays structural) -/
theorem fuelArgs_le (xs : List (Inline Bytes)) (hv : validInl xs = true) (named : List (Bytes × Inline Bytes))
    (fn : Nat) (hfn : fn + 2 ≤ 2 * (namedTail named).length) :
    fuelArgs xs + fn ≤ 2 * (posTail xs named.isEmpty (namedTail named)).length + 1 := by
  cases xs with
  | nil =>
    simp only [fuelArgs, posTail]
    omega
  | cons x xs =>
    simp only [validInl, Bool.and_eq_true] at hv
    have h1 := fuelInline_le x hv.1
    have h2 := fuelArgs_le xs hv.2 named fn hfn
    rw [posTail]
    simp only [fuelArgs, List.length_append]
    by_cases hl : (xs.isEmpty && named.isEmpty) = true
    · simp only [Bool.and_eq_true, List.isEmpty_iff] at hl
      obtain ⟨rfl, rfl⟩ := hl
      simp [fuelArgs, posTail, namedTail] at h2 hfn ⊢
      omega
    · simp only [hl, Bool.false_eq_true, if_false, List.length_cons, List.length_nil]
      omega

theorem fuelNamed_le (named : List (Bytes × Inline Bytes)) (hv : validNamed named = true) :
    fuelNamed named + 2 ≤ 2 * (namedTail named).length := by
  cases named with
  | nil => simp [fuelNamed, namedTail]
  | cons x xs =>
    obtain ⟨n, v⟩ := x
    simp only [validNamed, Bool.and_eq_true] at hv
    have h1 := fuelInline_le v hv.1.2
    have h2 := fuelNamed_le xs hv.2
    have hn : 1 ≤ n.length := by
      have := validIdent_ne_nil hv.1.1.1
      cases n <;> simp_all
    rw [namedTail]
    simp only [fuelNamed, List.length_append, List.length_cons, List.length_nil]
    omega
end

theorem fuelElem_le (e : PatElem Bytes) (hv : validElem e = true) : fuelElem e + 1 ≤ 3 * (elemBytes e).length := by
  cases e with
  | text v =>
    have := List.length_pos_iff.mpr (validText_ne (by simpa [validElem] using hv : validText v = true))
    simp [fuelElem, elemBytes]; omega
  | placeable x =>
    rcases validInner_cases (by simpa [validElem] using hv : validInner x = true) with ⟨j, rfl, hvj⟩ | ⟨i, rfl, hvi, hb, hf, _⟩
    · have := fuelInline_le j (validInner_inline hvj)
      simp [fuelElem, fuelInner, elemBytes, innerBytes]; omega
    · have := fuelInline_le i (validInner_inline hvi)
      rw [hb, hf]; simp; omega

/-- the role the loop of `get_pattern` has at a line start (`nl`) resp. in mid-line -/
def mlRole (nl : Bool) (r : TextPos) : Prop := if nl then r = .lineStart else (r == .lineStart) = false

def spacesL (n : Nat) : Bytes := List.replicate n 32

def endsNl (v : Bytes) : Bool := v.getLast? == some 10

def endsCr (v : Bytes) : Bool := v.getLast? == some 13

/-- what the writer inserts behind the text `v`: a second `\r` when `v` ends with `\r` and the next element is a text
that starts with `\n` (`TextWriter::write_literal`, the fix for F24) -/
def crPad (v : Bytes) : List (PatElem Bytes) → Bytes
  | .text u :: _ => if endsCr v && u.head? == some 10 then [13] else []
  | _ => []

def keyBytes : VKey Bytes → Bytes
  | .ident n => n
  | .num v => v

/-- `\n` or ` ` — how `serialize_pattern` starts -/
def patPrefix (p : List (PatElem Bytes)) : Bytes := if startsOnNewLine p then [10] else [32]

/-- the indent level at which the elements of a pattern are written, when the pattern is written at level `L` -/
def elemLevel (L : Nat) (p : List (PatElem Bytes)) : Nat := if isMultiline p then L + 1 else L

mutual
/-- the text `serialize_inline_expression` writes at indent level `L`: `inlineBytes`, except that a select
expression inside a nested placeable (directly, or inside call arguments) is written over several lines — its
variants at level `L + 1`, and whatever follows it after `4·L` spaces -/
def inlineText (L : Nat) : Inline Bytes → Bytes
  | .str v => 34 :: (v ++ [34])
  | .num v => v
  | .var id => 36 :: id
  | .msg id attr => id ++ attrBytes attr
  | .term id attr none => 45 :: (id ++ attrBytes attr)
  | .term id attr (some (pos, named)) =>
    45 :: (id ++ attrBytes attr ++ 40 :: posText L pos named.isEmpty (namedText L named))
  | .fn id pos named => id ++ 40 :: posText L pos named.isEmpty (namedText L named)
  | .placeable e => 123 :: (innerText L e ++ [125])
def posText (L : Nat) : List (Inline Bytes) → (noNamed : Bool) → (namedText : Bytes) → Bytes
  | [], _, nt => nt
  | x :: xs, nn, nt => inlineText L x ++ (if xs.isEmpty && nn then [] else [44, 32]) ++ posText L xs nn nt
def namedText (L : Nat) : List (Bytes × Inline Bytes) → Bytes
  | [] => [41]
  | (n, v) :: xs => n ++ [58, 32] ++ inlineText L v ++ (if xs.isEmpty then [] else [44, 32]) ++ namedText L xs
/-- what `serialize_expression` writes at level `L`; for a select expression this includes the `4·L` spaces
that the writer puts in front of whatever is written next (the closing brace) -/
def innerText (L : Nat) : Expr Bytes → Bytes
  | .inline i => inlineText L i
  | .select sel vs => inlineText L sel ++ [32, 45, 62, 10] ++ variantsText (L + 1) vs ++ spacesL (4 * L)
/-- text of a placeable element written at indent level `L` (without the indentation in front of it) -/
def exprText (L : Nat) : Expr Bytes → Bytes
  | .inline (.placeable e) => 123 :: 123 :: 32 :: (innerText L e ++ [32, 125, 125])
  | .inline i => 123 :: 32 :: (inlineText L i ++ [32, 125])
  | .select sel vs =>
    123 :: 32 :: (inlineText L sel ++ [32, 45, 62, 10] ++ variantsText (L + 1) vs ++ spacesL (4 * L) ++ [125])
def variantsText (L : Nat) : List (Variant Bytes) → Bytes
  | [] => []
  | v :: vs => variantText L v ++ 10 :: variantsText L vs
def variantText (L : Nat) : Variant Bytes → Bytes
  | .mk key value dflt =>
    (if dflt then spacesL (4 * L - 1) ++ [42] else spacesL (4 * L)) ++
      91 :: (keyBytes key ++ 93 :: (patPrefix value ++ elemsText (elemLevel L value) (startsOnNewLine value) value))
/-- the elements of a pattern written at level `L`; `nl` = the writer is at the start of a line -/
def elemsText (L : Nat) (nl : Bool) : List (PatElem Bytes) → Bytes
  | [] => []
  | .text v :: es => (if nl then spacesL (4 * L) else []) ++ v ++ crPad v es ++ elemsText L (endsNl v) es
  | .placeable x :: es => (if nl then spacesL (4 * L) else []) ++ exprText L x ++ elemsText L false es
end

/-- what `serialize_pattern` writes at indent level `L` -/
def patText (L : Nat) (p : List (PatElem Bytes)) : Bytes :=
  patPrefix p ++ elemsText (elemLevel L p) (startsOnNewLine p) p

/-! the text of the elements with its first element split off, nested to the right (the form in which a text is taken apart from
the front) -/

theorem elemsText_pl (L : Nat) (nl : Bool) (x : Expr Bytes) (es : List (PatElem Bytes)) :
    elemsText L nl (.placeable x :: es) = (if nl then spacesL (4 * L) else []) ++ (exprText L x ++ elemsText L false es) := by
  rw [elemsText, List.append_assoc]

theorem elemsText_tx (L : Nat) (nl : Bool) (v : Bytes) (es : List (PatElem Bytes)) :
    elemsText L nl (.text v :: es) =
      (if nl then spacesL (4 * L) else []) ++ (v ++ (crPad v es ++ elemsText L (endsNl v) es)) := by
  rw [elemsText, List.append_assoc, List.append_assoc]

mutual
theorem inlineText_valid (L : Nat) (e : Inline Bytes) (hv : validInline e = true) : inlineText L e = inlineBytes e := by
  cases e with
  | str v => simp [inlineText, inlineBytes]
  | num v => simp [inlineText, inlineBytes]
  | var v => simp [inlineText, inlineBytes]
  | msg a b => simp [inlineText, inlineBytes]
  | term id attr args =>
    cases args with
    | none => simp [inlineText, inlineBytes]
    | some pn =>
      obtain ⟨pos, named⟩ := pn
      simp only [validInline, Bool.and_eq_true] at hv
      simp only [inlineText, inlineBytes]
      rw [namedText_valid L named hv.1.2, posText_valid L pos hv.1.1.2]
  | fn id pos named =>
    simp only [validInline, Bool.and_eq_true] at hv
    simp only [inlineText, inlineBytes]
    rw [namedText_valid L named hv.1.2, posText_valid L pos hv.1.1.2]
  | placeable e =>
    cases e with
    | select a b => simp [validInline, validInner] at hv
    | inline i =>
      have := inlineText_valid L i (validInner_inline (by simpa [validInline] using hv))
      simp [inlineText, innerText, inlineBytes, innerBytes, this]
theorem posText_valid (L : Nat) (xs : List (Inline Bytes)) (hv : validInl xs = true) (nn : Bool) (nt : Bytes) :
    posText L xs nn nt = posTail xs nn nt := by
  cases xs with
  | nil => simp [posText, posTail]
  | cons x xs =>
    simp only [validInl, Bool.and_eq_true] at hv
    rw [posText, posTail, inlineText_valid L x hv.1, posText_valid L xs hv.2]
theorem namedText_valid (L : Nat) (named : List (Bytes × Inline Bytes)) (hv : validNamed named = true) :
    namedText L named = namedTail named := by
  cases named with
  | nil => simp [namedText, namedTail]
  | cons x xs =>
    obtain ⟨n, v⟩ := x
    simp only [validNamed, Bool.and_eq_true] at hv
    rw [namedText, namedTail, inlineText_valid L v hv.1.2, namedText_valid L xs hv.2]
end

theorem exprText_inline_valid (L : Nat) (i : Inline Bytes) (hv : validInner (.inline i) = true) :
    exprText L (.inline i) = elemBytes (.placeable (.inline i)) := by
  rcases validInner_cases hv with ⟨j, hj, hvj⟩ | ⟨i', hi, hvi, hb, _⟩
  · cases hj
    simp [exprText, innerText, elemBytes, innerBytes, inlineText_valid L j (validInner_inline hvj)]
  · cases hi
    rw [hb, ← inlineText_valid L i (validInner_inline hv)]
    cases i with
    | placeable e2 => simp [elemBytes] at hb
    | _ => rfl

def crlfEnd (v : Bytes) : Bool := v.getLast? == some 10 && v.dropLast.getLast? == some 13

/-- text bytes: non-empty, no braces, `\n` only as the last byte and not behind a `\r` (a lone `\r` is allowed
everywhere) -/
def mlTextOK (v : Bytes) : Bool :=
  !v.isEmpty && v.all (fun b => b != 123 && b != 125) && v.dropLast.all (fun b => b != 10) && !crlfEnd v

def leadSpaces (v : Bytes) : Nat := (v.takeWhile (fun b => b == 32)).length

def contentStartOK (b : UInt8) : Bool := b != 32 && b != 10 && b != 46 && b != 91 && b != 42

/-- a text element at the start of a line (not a blank line): spaces, then a byte that continues the
pattern — or only spaces, directly in front of a placeable -/
def lineStartOK (v : Bytes) (es : List (PatElem Bytes)) : Bool :=
  match v.dropWhile (fun b => b == 32) with
  | [] => (match es with
    | .placeable _ :: _ => true
    | _ => false)
  | c :: _ => contentStartOK c

def mlElems : Bool → List (PatElem Bytes) → Bool
  | _, [] => true
  | _, .placeable _ :: es => mlElems false es
  | nl, .text v :: es =>
    mlTextOK v &&
      (match es with
       | .text u :: _ => endsNl v || (endsCr v && u == [10])
       | _ => true) &&
      (!nl || v == [10] || lineStartOK v es) && mlElems (endsNl v) es

theorem mlElems_text (nl : Bool) (v : Bytes) (es : List (PatElem Bytes)) :
    mlElems nl (.text v :: es) =
      (mlTextOK v && (match es with | .text u :: _ => endsNl v || (endsCr v && u == [10]) | _ => true) &&
        (!nl || v == [10] || lineStartOK v es) && mlElems (endsNl v) es) := by
  cases es with
  | nil => simp [mlElems]
  | cons e es' => cases e <;> simp [mlElems]

theorem mlElems_text_iff {nl : Bool} {v : Bytes} {es : List (PatElem Bytes)} :
    mlElems nl (.text v :: es) = true ↔
      mlTextOK v = true ∧ (∀ u es', es = .text u :: es' → endsNl v = true ∨ (endsCr v = true ∧ u = [10])) ∧
        (nl = true → v = [10] ∨ lineStartOK v es = true) ∧ mlElems (endsNl v) es = true := by
  rw [mlElems_text]
  simp only [Bool.and_eq_true, Bool.or_eq_true, Bool.not_eq_true', beq_iff_eq, and_assoc]
  refine and_congr_right fun _ => and_congr ?_ (and_congr_left fun _ => ?_)
  · cases es with
    | nil => simp
    | cons e es' => cases e <;> simp
  · cases nl <;> simp

/-- excess indentation of the lines that take part in the common-indent computation -/
def excesses : Bool → List (PatElem Bytes) → List Nat
  | _, [] => []
  | nl, .placeable _ :: es => (if nl then [0] else []) ++ excesses false es
  | nl, .text v :: es => (if nl && v != [10] then [leadSpaces v] else []) ++ excesses (endsNl v) es

/-- the last element, if a text, ends with a byte that `trim` keeps -/
def mlLastOK : List (PatElem Bytes) → Bool
  | [] => true
  | [.text v] => v.getLast? != some 32 && v.getLast? != some 10 && v.getLast? != some 13
  | _ :: rest => mlLastOK rest

def mlFirstOK (p : List (PatElem Bytes)) : Bool :=
  match p with
  | .text v :: _ => if startsOnNewLine p then v != [10] else v.head? != some 32 && v.head? != some 10
  | _ => true

/-- **the pattern class** (texts; the placeables are constrained separately): line-split texts (a lone `\r` is an
ordinary byte of a text; a text does not end with `\r\n`; two texts are adjacent only across a line break — the first
ends with `\n`, or it ends with `\r` and the second is `"\n"`: the shape the parser returns for `…\r\r\n`), lines start
with a byte that continues a pattern, the last text does not end with a byte `trim` removes (space, `\n`, `\r`), some
line has no excess indentation (or no line takes part in the common-indent computation: an inline start followed only
by a select expression) -/
def mlPattern (p : List (PatElem Bytes)) : Bool :=
  !p.isEmpty && mlElems (startsOnNewLine p) p && mlLastOK p && mlFirstOK p &&
    (!isMultiline p || (excesses (startsOnNewLine p) p).isEmpty || (excesses (startsOnNewLine p) p).contains 0)

def ciStep (I : Nat) (cur : Option Nat) (x : Nat) : Option Nat :=
  match cur with
  | some c => if I + x < c then some (I + x) else some c
  | none => some (I + x)

def ciAfter (I : Nat) : Option Nat → List Nat → Option Nat
  | cur, [] => cur
  | cur, x :: xs => ciAfter I (ciStep I cur x) xs

def ciGE (I : Nat) : Option Nat → Prop
  | none => True
  | some c => I ≤ c

theorem ciStep_ge (I : Nat) (cur : Option Nat) (x : Nat) (h : ciGE I cur) : ciGE I (ciStep I cur x) := by
  cases cur with
  | none => simp [ciStep, ciGE]
  | some c => simp only [ciStep]; split <;> simp [ciGE] <;> first | omega | exact h

theorem ciAfter_ge (I : Nat) (cur : Option Nat) (xs : List Nat) (h : ciGE I cur) : ciGE I (ciAfter I cur xs) := by
  induction xs generalizing cur with
  | nil => exact h
  | cons x xs ih => exact ih _ (ciStep_ge I cur x h)

theorem ciAfter_zero (I : Nat) (cur : Option Nat) (xs : List Nat) (h : ciGE I cur) (h0 : 0 ∈ xs) :
    ciAfter I cur xs = some I := by
  induction xs generalizing cur with
  | nil => simp at h0
  | cons x xs ih =>
    simp only [List.mem_cons] at h0
    rcases h0 with rfl | h0
    · -- after a line without excess the common indent is `I` and stays
      have h1 : ciStep I cur 0 = some I := by
        cases cur with
        | none => simp [ciStep]
        | some c => simp only [ciStep, ciGE] at h ⊢; split <;> simp <;> omega
      simp only [ciAfter, h1]
      clear ih h
      induction xs with
      | nil => rfl
      | cons y ys ih2 =>
        simp only [ciAfter, ciStep]
        rw [if_neg (by omega)]
        exact ih2
    · exact ih _ (ciStep_ge I cur x h) h0

/-- a line on which `get_pattern` stops: end of input, a byte in column 0 that is no blank / line end
/ `{`, or an indented `.`, `[`, `*`, `}` -/
def Stopper (s : Src) (q : Nat) : Prop :=
  s.size ≤ q ∨ (∃ b, s[q]? = some b ∧ b ≠ 32 ∧ b ≠ 10 ∧ (b = 13 → s[q + 1]? ≠ some 10) ∧ b ≠ 123) ∨
    (∃ k b, 0 < k ∧ (∀ j, j < k → s[q + j]? = some 32) ∧ s[q + k]? = some b ∧ (b = 46 ∨ b = 91 ∨ b = 42 ∨ b = 125))

/-- empty lines, then a stopper line at `q'` -/
def PatFollow (s : Src) (q q' : Nat) : Prop :=
  q ≤ q' ∧ (∀ j, q ≤ j → j < q' → s[j]? = some 10) ∧ Stopper s q'

theorem mlTextOK_ne {v : Bytes} (h : mlTextOK v = true) : v ≠ [] := by
  intro h0; subst h0; simp [mlTextOK] at h

theorem mlTextOK_mem {v : Bytes} (h : mlTextOK v = true) : ∀ b ∈ v, b ≠ 123 ∧ b ≠ 125 := by
  intro b hb
  simp only [mlTextOK, Bool.and_eq_true, List.all_eq_true] at h
  have := h.1.1.2 b hb
  simpa using this

theorem mlTextOK_init {v : Bytes} (h : mlTextOK v = true) : ∀ b ∈ v.dropLast, b ≠ 10 := by
  intro b hb
  simp only [mlTextOK, Bool.and_eq_true, List.all_eq_true] at h
  simpa using h.1.2 b hb

theorem mlTextOK_nocrlf {v : Bytes} (h : mlTextOK v = true) : crlfEnd v = false := by
  simp only [mlTextOK, Bool.and_eq_true, Bool.not_eq_true'] at h
  exact h.2

theorem dropLast_snoc_exists (v : Bytes) (hne : v ≠ []) : ∃ x, v = v.dropLast ++ [x] := by
  cases hl : v.getLast? with
  | none => simp at hl; exact absurd hl hne
  | some x => exact ⟨x, dropLast_snoc v x hl⟩

theorem mlTextOK_clean {v : Bytes} (h : mlTextOK v = true) (hn : endsNl v = false) :
    ∀ b ∈ v, b ≠ 10 ∧ b ≠ 123 ∧ b ≠ 125 := by
  have hne := mlTextOK_ne h
  intro b hb
  obtain ⟨h2, h3⟩ := mlTextOK_mem h b hb
  refine ⟨?_, h2, h3⟩
  intro h0; subst h0
  obtain ⟨x, hx⟩ := dropLast_snoc_exists v hne
  rw [hx] at hb
  simp only [List.mem_append, List.mem_singleton] at hb
  rcases hb with hb | rfl
  · exact mlTextOK_init h 10 hb rfl
  · have : v.getLast? = some 10 := by rw [hx]; simp
    simp [endsNl, this] at hn

theorem crlfEnd_iff (v : Bytes) : crlfEnd v = true ↔ ∃ pre, v = pre ++ [13, 10] := by
  constructor
  · intro h
    simp only [crlfEnd, Bool.and_eq_true, beq_iff_eq] at h
    have h1 := dropLast_snoc v 10 h.1
    have h2 := dropLast_snoc v.dropLast 13 h.2
    exact ⟨v.dropLast.dropLast, by rw [List.append_cons, ← h2, ← h1]⟩
  · rintro ⟨pre, rfl⟩
    have h1 : (pre ++ [13, 10]).dropLast = pre ++ [13] := by
      rw [show pre ++ [13, 10] = (pre ++ [13]) ++ [10] by simp, List.dropLast_concat]
    simp [crlfEnd, h1]

theorem mlTextOK_drop {v : Bytes} (hv : mlTextOK v = true) (k : Nat) (hk : k < v.length) : mlTextOK (v.drop k) = true := by
  have hcr := mlTextOK_nocrlf hv
  simp only [mlTextOK, Bool.and_eq_true, Bool.not_eq_true', List.isEmpty_eq_false_iff, List.all_eq_true] at hv ⊢
  refine ⟨⟨⟨?_, fun b hb => hv.1.1.2 b (List.mem_of_mem_drop hb)⟩, ?_⟩, ?_⟩
  · intro h0; have := congrArg List.length h0; simp at this; omega
  · intro b hb
    apply hv.1.2 b
    rw [List.dropLast_eq_take] at hb ⊢
    have : b ∈ (v.drop k).take ((v.drop k).length - 1) := hb
    rw [List.length_drop] at this
    have h2 : (v.drop k).take (v.length - k - 1) = (v.take (v.length - 1)).drop k := by
      rw [List.drop_take]; congr 1; omega
    rw [h2] at this
    exact List.mem_of_mem_drop this
  · cases hc : crlfEnd (v.drop k) with
    | false => rfl
    | true =>
      obtain ⟨pre, hpre⟩ := (crlfEnd_iff _).mp hc
      have : crlfEnd v = true := (crlfEnd_iff v).mpr ⟨v.take k ++ pre, by
        rw [List.append_assoc, ← hpre, List.take_append_drop]⟩
      rw [this] at hcr; cases hcr

theorem leadSpaces_split (v : Bytes) : v = spacesL (leadSpaces v) ++ v.dropWhile (fun b => b == 32) := by
  have h1 : v.takeWhile (fun b => b == 32) = spacesL (leadSpaces v) := by
    unfold leadSpaces spacesL
    apply List.eq_replicate_iff.mpr
    refine ⟨rfl, fun b hb => ?_⟩
    have := mem_takeWhile_pred _ _ b hb
    simpa using this
  rw [← h1, List.takeWhile_append_dropWhile]

theorem dropWhile_eq_drop (v : Bytes) : v.dropWhile (fun b => b == 32) = v.drop (leadSpaces v) := by
  have := leadSpaces_split v
  have h2 : (spacesL (leadSpaces v) ++ v.dropWhile (fun b => b == 32)).drop (leadSpaces v) =
      v.dropWhile (fun b => b == 32) := by
    rw [List.drop_append_of_le_length (by simp [spacesL])]
    simp [spacesL]
  rw [← this] at h2
  exact h2.symm

theorem endsNl_of_blanks {v : Bytes} (hne : v ≠ []) (hu : v.dropWhile (fun b => b == 32) = []) : endsNl v = false := by
  have hv := leadSpaces_split v
  rw [hu, List.append_nil] at hv
  have hk : leadSpaces v ≠ 0 := fun h0 => hne (by rw [hv, h0]; rfl)
  have : v.getLast? = some 32 := by rw [hv]; simp [spacesL, List.getLast?_replicate, hk]
  simp [endsNl, this]

/-- writer state: indent level, buffer does not end with `\r`, and whether it ends with `\n` -/
def WS (w : Writer) (L : Nat) (nl : Bool) : Prop := w.indentLevel = L ∧ endsWith w 13 = false ∧ endsWith w 10 = nl

/-- writer state without the condition on a trailing `\r` (the state behind a text element that ends with `\r`) -/
def WSc (w : Writer) (L : Nat) (nl : Bool) : Prop := w.indentLevel = L ∧ endsWith w 10 = nl

theorem WS.toC {w : Writer} {L : Nat} {nl : Bool} (h : WS w L nl) : WSc w L nl := ⟨h.1, h.2.2⟩

/-- round-trip property of a placeable element written at indent level `L` -/
structure PlRT (L : Nat) (x : Expr Bytes) : Prop where
  head : (exprText L x).head? = some 123
  last : (exprText L x).getLast? = some 125
  ser : ∀ (w : Writer) (nl : Bool), WSc w L nl →
    ∃ w', serElement w (.placeable x) = some w' ∧
      w'.buffer = w.buffer ++ ((if nl then spacesL (4 * L) else []) ++ exprText L x).toArray ∧ WS w' L false
  parse : ∀ (s : Src) (p n : Nat), AsciiThenBoundary s → At s p (exprText L x) → 4 * (exprText L x).length + 11 ≤ n →
    ∃ ex, getPlaceable s n (p + 1) = .ok ex (p + (exprText L x).length) ∧ ex.mapS (spanBytes s) = x

theorem mlRole_false {r : TextPos} (h : mlRole false r) : (r == .lineStart) = false := by simpa [mlRole] using h
theorem mlRole_true {r : TextPos} (h : mlRole true r) : r = .lineStart := by simpa [mlRole] using h

theorem isMultiline_tail {e : PatElem Bytes} {es : List (PatElem Bytes)} (h : isMultiline (e :: es) = false) :
    isMultiline es = false := by
  cases e <;> simp [isMultiline] at h <;> exact h.2

theorem mlLastOK_tail {e : PatElem Bytes} {es : List (PatElem Bytes)} (h : mlLastOK (e :: es) = true) :
    mlLastOK es = true := by
  cases es with
  | nil => rfl
  | cons r rs => cases e <;> simpa [mlLastOK] using h

theorem cont_of_start : ∀ c : UInt8, contentStartOK c = true → c ≠ 125 → isBytePatternContinuation c = true ∧ c ≠ 32 := by
  intro c h h125
  simp only [contentStartOK, Bool.and_eq_true, bne_iff_ne, ne_eq] at h
  simp [isBytePatternContinuation, h.1.1.1.1, h.1.1.2, h.1.2, h.2, h125]

theorem crPad_of_notCr {v : Bytes} (h : endsCr v = false) (es : List (PatElem Bytes)) : crPad v es = [] := by
  cases es with
  | nil => rfl
  | cons e es' => cases e <;> simp [crPad, h]

theorem endsCr_of_endsNl {v : Bytes} (h : endsNl v = true) : endsCr v = false := by
  simp only [endsNl, beq_iff_eq] at h
  simp [endsCr, h]

theorem crPad_pl (v : Bytes) (x : Expr Bytes) (es : List (PatElem Bytes)) : crPad v (.placeable x :: es) = [] := rfl

theorem crPad_cr {v : Bytes} (h : endsCr v = true) (es : List (PatElem Bytes)) : crPad v (.text [10] :: es) = [13] := by
  simp [crPad, h]

theorem ml_next (v : Bytes) (es : List (PatElem Bytes)) (nl : Bool) (hml : mlElems nl (.text v :: es) = true)
    (hlast : mlLastOK (.text v :: es) = true) :
    (endsNl v = true ∧ es ≠ []) ∨ (endsNl v = false ∧ es = [] ∧ ∃ x, v.getLast? = some x ∧ x ≠ 32 ∧ x ≠ 10 ∧ x ≠ 13) ∨
      (endsNl v = false ∧ ∃ x es', es = .placeable x :: es') ∨
      (endsNl v = false ∧ endsCr v = true ∧ ∃ es', es = .text [10] :: es') := by
  obtain ⟨hvok, hadj, _, _⟩ := mlElems_text_iff.mp hml
  cases hn : endsNl v
  · right
    cases es with
    | nil =>
      left
      refine ⟨rfl, rfl, ?_⟩
      have hne := mlTextOK_ne hvok
      cases hl : v.getLast? with
      | none => simp at hl; exact absurd hl hne
      | some x =>
        simp only [mlLastOK, hl, Bool.and_eq_true, bne_iff_ne, ne_eq, Option.some.injEq] at hlast
        exact ⟨x, rfl, hlast.1.1, hlast.1.2, hlast.2⟩
    | cons e es' =>
      right
      cases e with
      | text w =>
        right
        obtain ⟨hcr, rfl⟩ := (hadj w es' rfl).resolve_left (by rw [hn]; decide)
        exact ⟨rfl, hcr, es', rfl⟩
      | placeable x => exact Or.inl ⟨rfl, x, es', rfl⟩
  · left
    refine ⟨rfl, ?_⟩
    intro h0; subst h0
    simp only [endsNl, beq_iff_eq] at hn
    simp [mlLastOK, hn] at hlast

/-- what the loop of `get_pattern` needs of a placeable element written at level `L`: its text starts with `{`, ends
with `}`, and `get_placeable` reads it back when given the fuel `fp x` -/
structure PlParse (fp : Expr Bytes → Nat) (L : Nat) (x : Expr Bytes) : Prop where
  head : (exprText L x).head? = some 123
  last : (exprText L x).getLast? = some 125
  parse : ∀ (s : Src) (p n : Nat), AsciiThenBoundary s → At s p (exprText L x) → fp x ≤ n →
    ∃ ex, getPlaceable s n (p + 1) = .ok ex (p + (exprText L x).length) ∧ ex.mapS (spanBytes s) = x

/-- iterations of the loop (and nesting below them) that the elements take: one per element, one more for the
indentation in front of a placeable that starts a line -/
def loopFuel (fp : Expr Bytes → Nat) : Bool → List (PatElem Bytes) → Nat
  | _, [] => 0
  | _, .text v :: es => loopFuel fp (endsNl v) es + 1
  | nl, .placeable x :: es => max (fp x) (loopFuel fp false es) + (if nl then 2 else 1)

theorem spaces_toList (n : Nat) : (spaces n).toList = spacesL n := by simp [spaces, spacesL]

def finalNl : Bool → List (PatElem Bytes) → Bool
  | nl, [] => nl
  | _, .text v :: es => finalNl (endsNl v) es
  | _, .placeable _ :: es => finalNl false es

theorem crPad_nil (es : List (PatElem Bytes)) : crPad [] es = [] := crPad_of_notCr (by decide) es

theorem mlLastOK_notCr {v : Bytes} {es : List (PatElem Bytes)} (h : mlLastOK (.text v :: es) = true)
    (hcr : endsCr v = true) : es ≠ [] := by
  intro h0; subst h0
  simp only [endsCr, beq_iff_eq] at hcr
  simp [mlLastOK, hcr] at h

theorem finalNl_last (nl : Bool) (es : List (PatElem Bytes)) (hne : es ≠ []) (hl : mlLastOK es = true) :
    finalNl nl es = false := by
  induction es generalizing nl with
  | nil => exact absurd rfl hne
  | cons e es ih =>
    cases es with
    | nil =>
      cases e with
      | text v =>
        simp only [mlLastOK, Bool.and_eq_true, bne_iff_ne, ne_eq] at hl
        simp only [finalNl, endsNl, beq_eq_false_iff_ne, ne_eq]
        exact hl.1.2
      | placeable x => rfl
    | cons e2 rest =>
      have := fun nl' => ih nl' (by simp) (mlLastOK_tail hl)
      cases e <;> simp only [finalNl] <;> exact this _

theorem exprText_head_of {L : Nat} {x : Expr Bytes} (h : (exprText L x).head? = some 123) :
    ∃ rest, exprText L x = 123 :: rest := by
  cases hx : exprText L x with
  | nil => simp [hx] at h
  | cons a as => simp [hx] at h; subst h; exact ⟨as, rfl⟩

theorem mlTextOK_cr_lone {v : Bytes} (hv : mlTextOK v = true) (pre post : Bytes) (h : v = pre ++ 13 :: post) :
    post.head? ≠ some 10 := by
  intro h10
  cases post with
  | nil => simp at h10
  | cons b post' =>
    simp only [List.head?_cons, Option.some.injEq] at h10
    subst h10
    cases post' with
    | nil =>
      have : crlfEnd v = true := (crlfEnd_iff v).mpr ⟨pre, h⟩
      rw [mlTextOK_nocrlf hv] at this; cases this
    | cons c r =>
      apply mlTextOK_init hv 10 _ rfl
      rw [h, show pre ++ 13 :: 10 :: c :: r = (pre ++ [13, 10]) ++ (c :: r) by simp,
        List.dropLast_append_of_ne_nil (by simp)]
      simp

theorem text_tail_lone (L : Nat) (nl : Bool) (v : Bytes) (es : List (PatElem Bytes))
    (hpl : ∀ x, PatElem.placeable x ∈ es → (exprText L x).head? = some 123)
    (hml : mlElems nl (.text v :: es) = true) (hlast : mlLastOK (.text v :: es) = true) (pre post : Bytes)
    (h : v = pre ++ 13 :: post) :
    ∃ b2 r2, post ++ crPad v es ++ elemsText L (endsNl v) es = b2 :: r2 ∧ b2 ≠ 10 := by
  have hvok : mlTextOK v = true := (mlElems_text_iff.mp hml).1
  have hlone := mlTextOK_cr_lone hvok pre post h
  cases post with
  | cons b2 r => exact ⟨b2, r ++ crPad v es ++ elemsText L (endsNl v) es, by simp, by simpa using hlone⟩
  | nil =>
    have hcr : v.getLast? = some 13 := by rw [h]; simp
    rcases ml_next v es nl hml hlast with ⟨hnv, _⟩ | ⟨_, _, x, hx, _, _, x3⟩ | ⟨hnv, x, es', hes⟩ | ⟨hnv, _, es', hes⟩
    · simp [endsNl, hcr] at hnv
    · rw [hcr] at hx; cases hx; exact absurd rfl x3
    · subst hes
      obtain ⟨rest, hr⟩ := exprText_head_of (hpl x (List.mem_cons_self))
      exact ⟨123, rest ++ elemsText L false es', by simp [crPad, hnv, elemsText, hr], by decide⟩
    · subst hes
      exact ⟨13, elemsText L (endsNl v) (.text [10] :: es'), by simp [crPad, endsCr, hcr], by decide⟩

theorem elemsText_first_line (L : Nat) (p : List (PatElem Bytes)) (hne : p ≠ [])
    (hpl : ∀ x, PatElem.placeable x ∈ p → (exprText L x).head? = some 123) (hml : mlElems true p = true)
    (hlast : mlLastOK p = true)
    (hfirst : ∀ v es, p = .text v :: es → v ≠ [10]) :
    ∃ k b rest, elemsText L true p = spacesL k ++ b :: rest ∧ b ≠ 32 ∧ b ≠ 10 ∧
      (b = 13 → ∃ b2 r2, rest = b2 :: r2 ∧ b2 ≠ 10) := by
  cases p with
  | nil => exact absurd rfl hne
  | cons e es =>
    cases e with
    | placeable x =>
      obtain ⟨rest, hr⟩ := exprText_head_of (hpl x (List.mem_cons_self))
      exact ⟨4 * L, 123, rest ++ elemsText L false es, by simp [elemsText, hr], by decide, by decide,
        fun h => by cases h⟩
    | text v =>
      have hv10 := hfirst v es rfl
      have hml0 := hml
      obtain ⟨hvok, _, hls, _⟩ := mlElems_text_iff.mp hml
      have hlsok : lineStartOK v es = true := (hls rfl).resolve_left hv10
      have hsplit := leadSpaces_split v
      cases hu : v.dropWhile (fun b => b == 32) with
      | nil =>
        simp only [lineStartOK, hu] at hlsok
        cases es with
        | nil => simp at hlsok
        | cons e2 es' =>
          cases e2 with
          | text w => simp at hlsok
          | placeable x =>
            obtain ⟨rest, hr⟩ := exprText_head_of (hpl x (by simp))
            have hnv : endsNl v = false := endsNl_of_blanks (mlTextOK_ne hvok) hu
            refine ⟨4 * L + leadSpaces v, 123, rest ++ elemsText L false es', ?_, by decide, by decide,
              fun h => by cases h⟩
            rw [hu] at hsplit
            simp only [elemsText, if_true, hnv, Bool.false_eq_true, if_false, List.nil_append, hr, crPad]
            generalize leadSpaces v = k at hsplit ⊢
            rw [hsplit]
            simp [spacesL, ← List.replicate_append_replicate]
      | cons c u' =>
        simp only [lineStartOK, hu] at hlsok
        simp only [contentStartOK, Bool.and_eq_true, bne_iff_ne, ne_eq] at hlsok
        rw [hu] at hsplit
        refine ⟨4 * L + leadSpaces v, c, u' ++ crPad v es ++ elemsText L (endsNl v) es, ?_, hlsok.1.1.1.1,
          hlsok.1.1.1.2, ?_⟩
        · simp only [elemsText, if_true]
          generalize leadSpaces v = k at hsplit ⊢
          generalize endsNl v = nv
          generalize crPad v es = pad
          rw [hsplit]
          simp [spacesL, ← List.replicate_append_replicate]
        · intro hc; subst hc
          exact text_tail_lone L true v es (fun x hx => hpl x (List.mem_cons_of_mem _ hx)) hml0 hlast _ u' hsplit

theorem excesses_single (p : List (PatElem Bytes)) (h : isMultiline p = false) : excesses false p = [] := by
  induction p with
  | nil => rfl
  | cons e es ih =>
    cases e with
    | placeable x =>
      simp only [isMultiline, Bool.or_eq_false_iff] at h
      simp [excesses, ih h.2]
    | text v =>
      simp only [isMultiline, Bool.or_eq_false_iff] at h
      have hnv : endsNl v = false := by
        simp only [endsNl, beq_eq_false_iff_ne, ne_eq]
        intro hl
        have := List.mem_of_getLast? hl
        have h1 := h.1
        rw [List.contains_eq_mem] at h1
        simp [this] at h1
      simp [excesses, hnv, ih h.2]

theorem elemsText_first_inline (L : Nat) (p : List (PatElem Bytes)) (hne : p ≠ [])
    (hpl : ∀ x, PatElem.placeable x ∈ p → (exprText L x).head? = some 123) (hml : mlElems false p = true)
    (hlast : mlLastOK p = true)
    (hfirst : ∀ v es, p = .text v :: es → v.head? ≠ some 32 ∧ v.head? ≠ some 10) :
    ∃ b rest, elemsText L false p = b :: rest ∧ b ≠ 32 ∧ b ≠ 10 ∧ (b = 13 → ∃ b2 r2, rest = b2 :: r2 ∧ b2 ≠ 10) := by
  cases p with
  | nil => exact absurd rfl hne
  | cons e es =>
    cases e with
    | placeable x =>
      obtain ⟨rest, hr⟩ := exprText_head_of (hpl x (List.mem_cons_self))
      exact ⟨123, rest ++ elemsText L false es, by simp [elemsText, hr], by decide, by decide, fun h => by cases h⟩
    | text v =>
      obtain ⟨h1, h2⟩ := hfirst v es rfl
      have hml0 := hml
      have hvok := (mlElems_text_iff.mp hml).1
      cases v with
      | nil => exact absurd rfl (mlTextOK_ne hvok)
      | cons b rest =>
        refine ⟨b, rest ++ crPad (b :: rest) es ++ elemsText L (endsNl (b :: rest)) es, by simp [elemsText], ?_, ?_, ?_⟩
        · simpa using h1
        · simpa using h2
        · intro hb; subst hb
          exact text_tail_lone L false _ es (fun x hx => hpl x (List.mem_cons_of_mem _ hx)) hml0 hlast [] rest rfl

/-- four units of fuel per byte of the text pay for the loop and for the placeables (`PlRT.parse`) -/
theorem loopFuel_le (L : Nat) (es : List (PatElem Bytes))
    (hhead : ∀ x, PatElem.placeable x ∈ es → (exprText L x).head? = some 123) :
    ∀ nl, mlElems nl es = true →
      loopFuel (fun x => 4 * (exprText L x).length + 11) nl es ≤ 4 * (elemsText L nl es).length + 13 := by
  induction es with
  | nil => intro nl _; simp [loopFuel]
  | cons e es ih =>
    intro nl hml
    have ih' := ih (fun x hx => hhead x (List.mem_cons_of_mem _ hx))
    cases e with
    | text v =>
      obtain ⟨hvok, _, _, hml'⟩ := mlElems_text_iff.mp hml
      have hv : 0 < v.length := List.length_pos_iff.mpr (mlTextOK_ne hvok)
      have := ih' (endsNl v) hml'
      simp only [loopFuel, elemsText, List.length_append]
      omega
    | placeable x =>
      obtain ⟨rest, hr⟩ := exprText_head_of (hhead x List.mem_cons_self)
      have hx : 0 < (exprText L x).length := by rw [hr]; simp
      have := ih' false (by simpa [mlElems] using hml)
      simp only [loopFuel, elemsText, List.length_append]
      split <;> omega

/-- round-trip property of a pattern written at indent level `L` -/
structure PatRT (L : Nat) (p : List (PatElem Bytes)) : Prop where
  ser : ∀ w : Writer, WS w L false →
    ∃ w', serPattern w p = some w' ∧ w'.buffer = w.buffer ++ (patText L p).toArray ∧ WS w' L false
  parse : ∀ (s : Src) (q q' n : Nat), AsciiThenBoundary s → At s q (patText L p ++ [10]) →
    PatFollow s (q + (patText L p).length + 1) q' → 4 * (q' - q) + 8 ≤ n →
    ∃ els, getPattern s n q = .ok (some els) q' ∧ mapPat (spanBytes s) els = p

theorem elemBytes_inline_last (i : Inline Bytes) (hv : validInner (.inline i) = true) :
    (elemBytes (.placeable (.inline i))).getLast? = some 125 := by
  obtain ⟨pre, hp⟩ := elemBytes_placeable_last (.inline i) hv
  rw [hp]; simp

theorem endsNl_validText {v : Bytes} (h : validText v = true) : endsNl v = false := by
  simp only [endsNl, beq_eq_false_iff_ne, ne_eq]
  intro hl; exact (validText_mem h 10 (List.mem_of_getLast? hl)).1 rfl

theorem mlTextOK_validText {v : Bytes} (h : validText v = true) : mlTextOK v = true := by
  have hm := validText_mem h
  simp only [mlTextOK, Bool.and_eq_true, Bool.not_eq_true', List.isEmpty_eq_false_iff, List.all_eq_true, bne_iff_ne, ne_eq]
  refine ⟨⟨⟨validText_ne h, fun b hb => ⟨(hm b hb).2.2.1, (hm b hb).2.2.2⟩⟩,
    fun b hb => (hm b (List.dropLast_subset v hb)).1⟩, ?_⟩
  simp [crlfEnd, show (v.getLast? == some 10) = false from endsNl_validText h]

theorem crPad_noAdj (v : Bytes) (es : List (PatElem Bytes)) (h : noAdjText (.text v :: es) = true) : crPad v es = [] := by
  cases es with
  | nil => rfl
  | cons e es' => cases e with
    | text w => simp [noAdjText] at h
    | placeable x => rfl

theorem mlElems_valid (es : List (PatElem Bytes)) (hv : ∀ e ∈ es, validElem e = true) (hadj : noAdjText es = true) :
    mlElems false es = true := by
  induction es with
  | nil => rfl
  | cons e es ih =>
    have ih' := ih (fun x hx => hv x (List.mem_cons_of_mem _ hx)) (noAdjText_tail hadj)
    cases e with
    | placeable x => simpa [mlElems] using ih'
    | text v =>
      have hvv : validText v = true := by simpa [validElem] using hv _ List.mem_cons_self
      simp only [mlElems, mlTextOK_validText hvv, endsNl_validText hvv, ih', Bool.true_and, Bool.and_true, Bool.not_false,
        Bool.true_or, Bool.false_or]
      cases es with
      | nil => rfl
      | cons e2 es' => cases e2 with
        | text w => simp [noAdjText] at hadj
        | placeable x => rfl

theorem elemsText_valid (L : Nat) (es : List (PatElem Bytes)) (hv : ∀ e ∈ es, validElem e = true)
    (hadj : noAdjText es = true) : elemsText L false es = patBytes es := by
  induction es with
  | nil => rfl
  | cons e es ih =>
    have ih' := ih (fun x hx => hv x (List.mem_cons_of_mem _ hx)) (noAdjText_tail hadj)
    cases e with
    | text v =>
      have hvv : validText v = true := by simpa [validElem] using hv _ List.mem_cons_self
      simp [elemsText, patBytes, elemBytes, crPad_noAdj v es hadj, endsNl_validText hvv, ih']
    | placeable x =>
      have hvx : validInner x = true := by simpa [validElem] using hv _ List.mem_cons_self
      cases x with
      | select a b => simp [validInner] at hvx
      | inline i => simp [elemsText, patBytes, exprText_inline_valid L i hvx, ih']

theorem mlLastOK_valid (es : List (PatElem Bytes)) (hv : ∀ e ∈ es, validElem e = true) (hl : lastOK es = true) :
    mlLastOK es = true := by
  induction es with
  | nil => rfl
  | cons e es ih =>
    cases es with
    | cons e2 rest =>
      have := ih (fun x hx => hv x (List.mem_cons_of_mem _ hx)) (lastOK_tail hl)
      cases e <;> simpa [mlLastOK] using this
    | nil =>
      cases e with
      | placeable x => rfl
      | text v =>
        have hvv : validText v = true := by simpa [validElem] using hv _ List.mem_cons_self
        have hm := validText_mem hvv
        simp only [lastOK, bne_iff_ne, ne_eq] at hl
        simp only [mlLastOK, Bool.and_eq_true, bne_iff_ne, ne_eq]
        exact ⟨⟨hl, fun h => (hm 10 (List.mem_of_getLast? h)).1 rfl⟩, fun h => (hm 13 (List.mem_of_getLast? h)).2.1 rfl⟩

theorem mlPattern_valid (es : List (PatElem Bytes)) (hv : validSingleLine es = true) : mlPattern es = true := by
  simp only [validSingleLine, Bool.and_eq_true, Bool.not_eq_true', List.all_eq_true] at hv
  obtain ⟨⟨⟨⟨hne, hve⟩, hadj⟩, hfirst⟩, hlast⟩ := hv
  have hm := isMultiline_valid es hve
  have hs : startsOnNewLine es = false := by simp [startsOnNewLine, hm]
  simp only [mlPattern, hne, hs, mlElems_valid es hve hadj, mlLastOK_valid es hve hlast, hm, Bool.not_false,
    Bool.true_and, Bool.true_or, Bool.and_true]
  unfold mlFirstOK
  split
  · rename_i v es' 
    have hvv : validText v = true := by simpa [validElem] using hve _ List.mem_cons_self
    have h10 := (validText_mem hvv 10)
    rw [hs]
    cases v with
    | nil => simp [validText] at hvv
    | cons b r => simp [firstOK] at hfirst; simp [hfirst]; intro hb; exact (h10 (by simp [hb])).1 rfl
  · rfl

theorem loopFuel_le_fuelPat (es : List (PatElem Bytes)) (hv : ∀ e ∈ es, validElem e = true) :
    loopFuel (fun x => fuelElem (.placeable x)) false es + 2 ≤ fuelPat es := by
  induction es with
  | nil => simp [loopFuel, fuelPat]
  | cons e es ih =>
    have ih' := ih (fun x hx => hv x (List.mem_cons_of_mem _ hx))
    cases e with
    | text v =>
      have hvv : validText v = true := by simpa [validElem] using hv _ List.mem_cons_self
      have h0 : fuelElem (.text v) = 0 := rfl
      simp only [loopFuel, endsNl_validText hvv, fuelPat, h0]; omega
    | placeable x => simp only [loopFuel, fuelPat, Bool.false_eq_true, if_false]; omega

theorem patText_valid (es : List (PatElem Bytes)) (hv : validSingleLine es = true) : patText 0 es = 32 :: patBytes es := by
  have hve := validSingleLine_elems hv
  have hadj : noAdjText es = true := by
    simp only [validSingleLine, Bool.and_eq_true] at hv; exact hv.1.1.2
  simp [patText, patPrefix, startsOnNewLine, elemLevel, isMultiline_valid es hve, elemsText_valid 0 es hve hadj]

def isDefault : Variant Bytes → Bool
  | .mk _ _ d => d

def variantValue : Variant Bytes → List (PatElem Bytes)
  | .mk _ v _ => v

def variantKey' : Variant Bytes → VKey Bytes
  | .mk k _ _ => k

def validKey : VKey Bytes → Bool
  | .ident n => validIdent n
  | .num v => validNumber v

/-- selectors the parser accepts: string / number literal, variable, function call, term attribute -/
def validSelector (sel : Inline Bytes) : Bool :=
  validInline sel &&
    (match sel with
     | .str _ => true
     | .num _ => true
     | .var _ => true
     | .fn _ _ _ => true
     | .term _ (some _) _ => true
     | _ => false)

theorem keyBytes_tidy (k : VKey Bytes) (h : validKey k = true) : tidy (keyBytes k) = true := by
  cases k with
  | ident n => exact validIdent_tidy h
  | num v => exact validNumber_tidy h

theorem tidy_ne_last {x : Bytes} (h : tidy x = true) : x ≠ [] ∧ x.getLast? ≠ some 13 ∧ endsNl x = false := by
  unfold tidy at h
  split at h
  · cases h
  · rename_i b hb
    simp at h
    refine ⟨by intro h0; simp [h0] at hb, by rw [hb]; simpa using h.2, by simp [endsNl, hb, h.1]⟩

def selShape : Inline Span → Prop
  | .str _ => True
  | .num _ => True
  | .var _ => True
  | .fn _ _ _ => True
  | .term _ (some _) _ => True
  | _ => False

theorem keyBytes_head (key : VKey Bytes) (hk : validKey key = true) :
    ∃ b, (keyBytes key).head? = some b ∧ b ≠ 32 ∧ b ≠ 10 ∧ b ≠ 13 := by
  cases key with
  | ident n =>
    obtain ⟨b, rest, hn, hb, _⟩ := validIdent_head hk
    obtain ⟨h1, h2, h3, _⟩ := (notBlank_iff b).mp (alpha_notBlank b hb)
    exact ⟨b, by simp [keyBytes, hn], h1, h2, h3⟩
  | num v =>
    rcases validNumber_head hk with ⟨d, rest, rfl, hd⟩ | ⟨d, rest, rfl, hd⟩
    · obtain ⟨h1, h2, h3, _⟩ := (notBlank_iff d).mp (digit_notBlank d hd)
      exact ⟨d, by simp [keyBytes], h1, h2, h3⟩
    · exact ⟨45, by simp [keyBytes], by decide, by decide, by decide⟩

theorem variantsText_cons (L : Nat) (key : VKey Bytes) (value : List (PatElem Bytes)) (dflt : Bool)
    (rest : List (Variant Bytes)) :
    variantsText L (.mk key value dflt :: rest) =
      (if dflt then spacesL (4 * L - 1) ++ [42] else spacesL (4 * L)) ++
        91 :: (keyBytes key ++ 93 :: (patText L value ++ 10 :: variantsText L rest)) := by
  simp [variantsText, variantText, patText]

theorem defaultCount_cons (key : VKey Bytes) (value : List (PatElem Bytes)) (dflt hd : Bool) (rest : List (Variant Bytes))
    (h : ((Variant.mk key value dflt :: rest).filter isDefault).length + (if hd then 1 else 0) = 1) :
    (rest.filter isDefault).length + (if (hd || dflt) then 1 else 0) = 1 := by
  simp only [List.filter_cons, isDefault] at h
  cases dflt <;> cases hd <;> simp_all

/-- round-trip property of an inline expression written in mid-line at indent level `L`: (serializer) `serInline` appends
`inlineText L i`; (parser) `get_inline_expression` reads the text back when what follows cannot extend it (`Follow`) -/
structure InlRT (L : Nat) (i : Inline Bytes) : Prop where
  head : ∃ b, (inlineText L i).head? = some b ∧ notBlank b = true
  ser : ∀ w : Writer, WS w L false →
    ∃ w', serInline w i = some w' ∧ w'.buffer = w.buffer ++ (inlineText L i).toArray ∧ WS w' L false
  parse : ∀ (s : Src) (p fuel : Nat), AsciiThenBoundary s → At s p (inlineText L i) →
    Follow s (p + (inlineText L i).length) → 4 * (inlineText L i).length + 4 ≤ fuel →
    ∃ e', getInline s fuel false p = .ok e' (endPos i s (p + (inlineText L i).length)) ∧ e'.mapS (spanBytes s) = i

/-- round-trip property of the expression inside a pair of braces, written at indent level `L`:
(serializer) `serialize_expression` followed by a literal `c` that ends tidily appends `innerText L e ++ c`
(after a select the `4·L` spaces in front of `c` belong to `innerText`); (parser) `get_placeable`, started
anywhere in the blanks in front of the text, reads the text, `g` spaces and the closing brace -/
structure ExprRT (L : Nat) (e : Expr Bytes) : Prop where
  head : ∃ b, (innerText L e).head? = some b ∧ notBlank b = true
  ser : ∀ (w : Writer) (c : Bytes), WS w L false → tidy c = true →
    ∃ w1, serExpr w e = some w1 ∧ (w1.writeLiteral c).buffer = w.buffer ++ (innerText L e ++ c).toArray ∧
      WS (w1.writeLiteral c) L false
  parse : ∀ (s : Src) (p0 p g n : Nat), AsciiThenBoundary s → skipBlank s p0 = p →
    At s p (innerText L e ++ spacesL g ++ [125]) → 4 * ((innerText L e).length + g) + 6 ≤ n →
    ∃ ex, getPlaceable s n p0 = .ok ex (p + (innerText L e).length + g + 1) ∧ ex.mapS (spanBytes s) = e

theorem spacesL_length (n : Nat) : (spacesL n).length = n := by simp [spacesL]

theorem spacesL_add (a b : Nat) : spacesL a ++ spacesL b = spacesL (a + b) := by
  simp [spacesL, List.replicate_append_replicate]

theorem getLast?_of_snoc {l pre : Bytes} {c : UInt8} (h : l = pre ++ [c]) : l.getLast? = some c := by
  subst h; simp

/-- selectors `get_expression` accepts (shape only) -/
def selShapeB : Inline Bytes → Bool
  | .str _ => true
  | .num _ => true
  | .var _ => true
  | .fn _ _ _ => true
  | .term _ (some _) _ => true
  | _ => false

theorem selShape_of_shapeB (sel : Inline Bytes) (hv : selShapeB sel = true) (e' : Inline Span) (f : Span → Bytes)
    (hm : e'.mapS f = sel) : selShape e' := by
  cases e' with
  | str v => trivial
  | num v => trivial
  | var v => trivial
  | fn a b c => trivial
  | msg a b => simp only [Inline.mapS] at hm; subst hm; simp [selShapeB] at hv
  | placeable e => simp only [Inline.mapS] at hm; subst hm; simp [selShapeB] at hv
  | term a b c =>
    cases b with
    | some b => trivial
    | none =>
      cases c with
      | none => simp only [Inline.mapS] at hm; subst hm; simp [selShapeB] at hv
      | some pn => obtain ⟨x, y⟩ := pn; simp only [Inline.mapS] at hm; subst hm; simp [selShapeB] at hv

/-- on the text of `v`, `get_inline_expression(only_literal = true)` behaves like
`get_inline_expression(only_literal = false)` -/
def OLFree (L : Nat) (v : Inline Bytes) : Prop :=
  ∀ (s : Src) (p n : Nat), At s p (inlineText L v) → getInline s (n + 1) true p = getInline s (n + 1) false p

def NamedOK (L : Nat) (named : List (Bytes × Inline Bytes)) : Prop :=
  ∀ nv ∈ named, validIdent nv.1 = true ∧ InlRT L nv.2 ∧ OLFree L nv.2

theorem NamedOK.tail {L : Nat} {x : Bytes × Inline Bytes} {xs : List (Bytes × Inline Bytes)} (h : NamedOK L (x :: xs)) :
    NamedOK L xs := fun nv hnv => h nv (List.mem_cons_of_mem _ hnv)

theorem posText_eq (L : Nat) (xs : List (Inline Bytes)) (nn : Bool) (nt : Bytes) :
    posText L xs nn nt = posTextG (inlineText L) xs nn nt := by
  induction xs with
  | nil => rw [posText, posTextG]
  | cons x xs ih => rw [posText, posTextG, ih]

theorem namedText_eq (L : Nat) (named : List (Bytes × Inline Bytes)) :
    namedText L named = namedTextG (inlineText L) named := by
  induction named with
  | nil => rw [namedText, namedTextG]
  | cons x xs ih => obtain ⟨n, v⟩ := x; rw [namedText, namedTextG, ih]

abbrev textFuel (L : Nat) (x : Inline Bytes) : Nat := 4 * (inlineText L x).length + 4

theorem namedFuel_le (L : Nat) (named : List (Bytes × Inline Bytes)) :
    namedFuelG (textFuel L) named + 4 ≤ 4 * (namedTextG (inlineText L) named).length := by
  induction named with
  | nil => simp [namedFuelG, namedTextG]
  | cons x xs ih =>
    obtain ⟨n, v⟩ := x
    simp only [namedFuelG, namedTextG, textFuel, List.length_append, List.length_cons, List.length_nil]
    omega

theorem argsFuel_le (L : Nat) (xs : List (Inline Bytes)) (named : List (Bytes × Inline Bytes)) :
    argsFuelG (textFuel L) xs + namedFuelG (textFuel L) named + 3 ≤
      4 * (posTextG (inlineText L) xs named.isEmpty (namedTextG (inlineText L) named)).length + 4 := by
  induction xs with
  | nil => have := namedFuel_le L named; simp only [argsFuelG, posTextG]; omega
  | cons x xs ih =>
    simp only [argsFuelG, posTextG, textFuel, List.length_append]
    by_cases hl : (xs.isEmpty && named.isEmpty) = true
    · simp only [Bool.and_eq_true, List.isEmpty_iff] at hl
      obtain ⟨rfl, rfl⟩ := hl
      simp [argsFuelG, namedFuelG, posTextG, namedTextG]; omega
    · simp only [hl, Bool.false_eq_true, if_false, List.length_cons, List.length_nil]
      omega

mutual
/-- inline expressions of the class: like `validInline`, but a nested placeable may contain any `rtExpr`
(in particular a select expression) -/
def rtInline : Inline Bytes → Bool
  | .str v => validStrBody v
  | .num v => validNumber v
  | .var id => validIdent id
  | .msg id attr => validIdent id && optIdent attr
  | .term id attr none => validIdent id && optIdent attr
  | .term id attr (some (pos, named)) =>
    validIdent id && optIdent attr && rtInl pos && rtNamed named && namesNodup named
  | .fn id pos named => validIdent id && isCalleeName id && rtInl pos && rtNamed named && namesNodup named
  | .placeable e => rtExpr e
def rtInl : List (Inline Bytes) → Bool
  | [] => true
  | x :: xs => rtInline x && rtInl xs
def rtNamed : List (Bytes × Inline Bytes) → Bool
  | [] => true
  | (n, v) :: xs => validIdent n && isNamedValue v && rtInline v && rtNamed xs
/-- the expression inside `{ … }` (a pattern element or a nested placeable): an inline expression that is not
a term attribute, or a select whose selector is accepted by the parser, with exactly one default variant,
valid keys and class patterns as values -/
def rtExpr : Expr Bytes → Bool
  | .inline (.term _ (some _) _) => false
  | .inline i => rtInline i
  | .select sel vs => rtInline sel && selShapeB sel && rtVariants vs && decide ((vs.filter isDefault).length = 1)
def rtVariants : List (Variant Bytes) → Bool
  | [] => true
  | v :: vs => rtVariant v && rtVariants vs
def rtVariant : Variant Bytes → Bool
  | .mk key value _ => validKey key && mlPattern value && rtElems value
def rtElems : List (PatElem Bytes) → Bool
  | [] => true
  | .text _ :: es => rtElems es
  | .placeable x :: es => rtExpr x && rtElems es
end

/-- **`RoundTrippable` patterns**: `mlPattern` (line-split texts, line starts, common indent, trims) with
placeables of the class, recursively -/
def rtPattern (p : List (PatElem Bytes)) : Bool := mlPattern p && rtElems p

theorem rtExpr_inline {i : Inline Bytes} (h : rtExpr (.inline i) = true) :
    rtInline i = true ∧ ∀ a b c, i ≠ .term a (some b) c := by
  unfold rtExpr at h
  split at h
  · cases h
  · rename_i j hne heq
    cases heq
    exact ⟨h, fun a b c hi => hne a b c (by rw [hi])⟩
  · rename_i heq; cases heq

theorem rtExpr_of_rtInline {i : Inline Bytes} (hv : validInner (.inline i) = true) (hi : rtInline i = true) :
    rtExpr (.inline i) = true := by
  cases i with
  | term a b c =>
    cases b with
    | some b => simp [validInner] at hv
    | none => simpa [rtExpr] using hi
  | str v => simpa [rtExpr] using hi
  | num v => simpa [rtExpr] using hi
  | var v => simpa [rtExpr] using hi
  | msg a b => simpa [rtExpr] using hi
  | fn a b c => simpa [rtExpr] using hi
  | placeable e => simpa [rtExpr] using hi

mutual
theorem rtInline_of_valid (i : Inline Bytes) (h : validInline i = true) : rtInline i = true := by
  cases i with
  | str v => simpa [rtInline, validInline] using h
  | num v => simpa [rtInline, validInline] using h
  | var v => simpa [rtInline, validInline] using h
  | msg a b => simpa [rtInline, validInline] using h
  | term id attr args =>
    cases args with
    | none => simpa [rtInline, validInline] using h
    | some pn =>
      obtain ⟨pos, named⟩ := pn
      simp only [validInline, Bool.and_eq_true] at h
      simp only [rtInline, Bool.and_eq_true]
      exact ⟨⟨⟨h.1.1.1, rtInl_of_valid pos h.1.1.2⟩, rtNamed_of_valid named h.1.2⟩, h.2⟩
  | fn id pos named =>
    simp only [validInline, Bool.and_eq_true] at h
    simp only [rtInline, Bool.and_eq_true]
    exact ⟨⟨⟨h.1.1.1, rtInl_of_valid pos h.1.1.2⟩, rtNamed_of_valid named h.1.2⟩, h.2⟩
  | placeable e =>
    cases e with
    | select a b => simp [validInline, validInner] at h
    | inline j =>
      have hv : validInner (.inline j) = true := by simpa [validInline] using h
      exact rtExpr_of_rtInline hv (rtInline_of_valid j (validInner_inline hv))
theorem rtInl_of_valid (xs : List (Inline Bytes)) (h : validInl xs = true) : rtInl xs = true := by
  cases xs with
  | nil => rfl
  | cons x xs =>
    simp only [validInl, Bool.and_eq_true] at h
    simp only [rtInl, Bool.and_eq_true]
    exact ⟨rtInline_of_valid x h.1, rtInl_of_valid xs h.2⟩
theorem rtNamed_of_valid (named : List (Bytes × Inline Bytes)) (h : validNamed named = true) : rtNamed named = true := by
  cases named with
  | nil => rfl
  | cons x xs =>
    obtain ⟨n, v⟩ := x
    simp only [validNamed, Bool.and_eq_true] at h
    simp only [rtNamed, Bool.and_eq_true]
    exact ⟨⟨h.1.1, rtInline_of_valid v h.1.2⟩, rtNamed_of_valid xs h.2⟩
end

theorem rtExpr_of_validInner (i : Inline Bytes) (h : validInner (.inline i) = true) : rtExpr (.inline i) = true :=
  rtExpr_of_rtInline h (rtInline_of_valid i (validInner_inline h))

theorem selShapeB_of_validSelector {sel : Inline Bytes} (h : validSelector sel = true) : selShapeB sel = true := by
  simp only [validSelector, Bool.and_eq_true] at h
  cases sel with
  | term a b c => cases b <;> simp_all [selShapeB]
  | _ => simp_all [selShapeB]

theorem rtExpr_select_of_valid (sel : Inline Bytes) (vs : List (Variant Bytes)) (hsel : validSelector sel = true)
    (hvs : rtVariants vs = true) (hdef : (vs.filter isDefault).length = 1) : rtExpr (.select sel vs) = true := by
  have h1 : validInline sel = true := by simp only [validSelector, Bool.and_eq_true] at hsel; exact hsel.1
  simp only [rtExpr, Bool.and_eq_true, decide_eq_true_eq]
  exact ⟨⟨⟨rtInline_of_valid sel h1, selShapeB_of_validSelector hsel⟩, hvs⟩, hdef⟩

end FluentProofs.Ser

import FluentProofs.SerializerTexts
import FluentProofs.ParserForward
/-!
# Serializer round trip: the parser's leaf functions on a known text (C04, parser half)

The rules of `At s p bytes` (the source holds the text at the cursor) and of `AtTo s p T q`, the same with the end of the text as a
variable (both declared in `SerializerTexts`): taking a text apart (`atTo_append`, `atTo_cons`) names the positions between its
pieces, so that a statement of the parse-back can say "the identifier stands in `[p, q)`" instead of giving `q` as a sum of
lengths (the records `InlRT` … `PatRT` of `SerializerTextsPattern` are stated with `At` and lengths; their `parse_atTo` forms
are the ones in this style).  Then the scanners on such a text as
corollaries of `ParserScan`, and the leaf forms of an inline expression read back: identifier, number literal, string literal,
variable, attribute accessor, message reference without arguments.
-/
namespace FluentProofs.Ser
open FluentModel FluentModel.Syntax FluentModel.Syntax.Ser FluentProofs.Parser

@[simp] theorem at_nil (s : Src) (p : Nat) : At s p [] = True := by simp [At]
theorem at_cons (s : Src) (p : Nat) (b : UInt8) (bs : Bytes) : At s p (b :: bs) ↔ s[p]? = some b ∧ At s (p + 1) bs := by
  simp [At]

theorem at_append (s : Src) (p : Nat) (a b : Bytes) : At s p (a ++ b) ↔ At s p a ∧ At s (p + a.length) b := by
  induction a generalizing p with
  | nil => simp
  | cons x xs ih =>
    simp only [List.cons_append, at_cons, ih, List.length_cons, and_assoc]
    rw [show p + 1 + xs.length = p + (xs.length + 1) by omega]

theorem at_append_left {s : Src} {p : Nat} {a b : Bytes} (h : At s p (a ++ b)) : At s p a := ((at_append s p a b).mp h).1

theorem at_iff_prefix (s : Src) (p : Nat) (bs : Bytes) : At s p bs ↔ bs <+: SpecLex.rest s p := by
  induction bs generalizing p with
  | nil => exact ⟨fun _ => List.nil_prefix, fun _ => trivial⟩
  | cons b bs ih =>
    rw [at_cons, ih]
    rcases SpecLex.rest_cases s p with ⟨h, hr⟩ | ⟨c, h, hr⟩ <;> rw [h, hr]
    · exact ⟨fun h => (nomatch h.1), fun h => (nomatch List.prefix_nil.mp h)⟩
    · rw [List.cons_prefix_cons, Option.some.injEq, @eq_comm _ c]

theorem at_get {s : Src} {p : Nat} {bs : Bytes} (h : At s p bs) (i : Nat) (hi : i < bs.length) :
    s[p + i]? = some bs[i] := by
  have hp := (at_iff_prefix s p bs).mp h
  rw [← SpecLex.rest_get, List.getElem?_eq_getElem (Nat.lt_of_lt_of_le hi hp.length_le), hp.getElem hi]

theorem at_head {s : Src} {p : Nat} {bs : Bytes} {b : UInt8} (h : At s p bs) (hb : bs.head? = some b) :
    s[p]? = some b := by
  cases bs with
  | nil => simp at hb
  | cons x xs => simp at hb; subst hb; rw [at_cons] at h; exact h.1

theorem at_getLast {s : Src} {p : Nat} {bs : Bytes} {x : UInt8} (h : At s p bs) (hl : bs.getLast? = some x) :
    s[p + bs.length - 1]? = some x := by
  have hlen : 0 < bs.length := by cases bs <;> simp_all
  rw [List.getLast?_eq_getElem?, List.getElem?_eq_getElem (by omega)] at hl
  have := at_get h (bs.length - 1) (by omega)
  rw [show p + (bs.length - 1) = p + bs.length - 1 by omega] at this
  rw [this, hl]

theorem skipBlank_notBlank {s : Src} {p : Nat} {b : UInt8} (hb : s[p]? = some b) (hnb : notBlank b = true) :
    skipBlank s p = p := by
  obtain ⟨h1, h2, h3, _⟩ := (notBlank_iff b).mp hnb
  exact skipBlank_at hb h1 h2 h3

theorem at_toArray (pre bs rest : Bytes) : At (pre ++ bs ++ rest).toArray pre.length bs := by
  induction bs generalizing pre with
  | nil => simp
  | cons x xs ih =>
    rw [at_cons]
    constructor
    · simp
    · have := ih (pre ++ [x])
      simpa using this

theorem at_self (bs : Bytes) : At bs.toArray 0 bs := by
  have := at_toArray [] bs []
  simpa using this

theorem get_toArray_rest (pre bs rest : Bytes) (i : Nat) :
    (pre ++ bs ++ rest).toArray[pre.length + bs.length + i]? = rest[i]? := by
  simp only [List.getElem?_toArray, List.append_assoc]
  rw [List.getElem?_append_right (by omega), List.getElem?_append_right (by omega)]
  congr 1; omega

theorem At.atTo {s : Src} {p : Nat} {T : Bytes} (h : At s p T) : AtTo s p T (p + T.length) := ⟨h, rfl⟩

theorem atTo_nil {s : Src} {p q : Nat} : AtTo s p [] q ↔ p = q :=
  ⟨fun h => h.len, fun h => ⟨trivial, h⟩⟩

theorem atTo_cons {s : Src} {p q : Nat} {b : UInt8} {T : Bytes} :
    AtTo s p (b :: T) q ↔ s[p]? = some b ∧ AtTo s (p + 1) T q := by
  constructor
  · rintro ⟨h, rfl⟩
    rw [at_cons] at h
    exact ⟨h.1, h.2, by rw [List.length_cons]; omega⟩
  · rintro ⟨h0, h, rfl⟩
    exact ⟨(at_cons _ _ _ _).mpr ⟨h0, h⟩, by rw [List.length_cons]; omega⟩

/-- taking a text apart names the position between the pieces -/
theorem atTo_append {s : Src} {p q : Nat} {A B : Bytes} :
    AtTo s p (A ++ B) q ↔ ∃ m, AtTo s p A m ∧ AtTo s m B q := by
  constructor
  · rintro ⟨h, rfl⟩
    rw [at_append] at h
    exact ⟨_, ⟨h.1, rfl⟩, h.2, by rw [List.length_append]; omega⟩
  · rintro ⟨m, ⟨h1, rfl⟩, h2, rfl⟩
    exact ⟨(at_append _ _ _ _).mpr ⟨h1, h2⟩, by rw [List.length_append]; omega⟩

namespace AtTo
variable {s : Src} {p q : Nat} {T : Bytes}

theorem le (h : AtTo s p T q) : p ≤ q := by have := h.len; omega

theorem le_size (h : AtTo s p T q) (hne : T ≠ []) : q ≤ s.size := by
  have := ((at_iff_prefix s p T).mp h.txt).length_le
  rw [SpecLex.rest_length] at this
  have := List.length_pos_iff.mpr hne
  have := h.len
  omega

theorem span (h : AtTo s p T q) : spanBytes s ⟨p, q⟩ = T := by
  rw [← h.len, SpecLex.spanBytes_eq_seg, ← SpecLex.seg_take]
  exact (List.prefix_iff_eq_take.mp ((at_iff_prefix s p T).mp h.txt)).symm

theorem head (h : AtTo s p T q) {b : UInt8} (hb : T.head? = some b) : s[p]? = some b := at_head h.txt hb

theorem last (h : AtTo s p T q) {b : UInt8} (hb : T.getLast? = some b) : s[q - 1]? = some b := by
  rw [← h.len]; exact at_getLast h.txt hb

/-- the positions inside the text hold its bytes -/
theorem skips (h : AtTo s p T q) {j : Nat} (h1 : p ≤ j) (h2 : j < q) : ∃ b ∈ T, s[j]? = some b := by
  have := at_get h.txt (j - p) (by have := h.len; omega)
  rw [show p + (j - p) = j by omega] at this
  exact ⟨_, List.getElem_mem _, this⟩

theorem bnd_end (hs : AsciiThenBoundary s) (h : AtTo s p T q) {x : UInt8} (hl : T.getLast? = some x) (hx : x < 128) :
    Bnd s q := by
  have hlen : 0 < T.length := by cases T <;> simp_all
  have := bnd_succ hs (h.last hl) hx
  rwa [show q - 1 + 1 = q by have := h.len; omega] at this

theorem last_bnd (hs : AsciiThenBoundary s) (h : AtTo s p T q) (hne : T ≠ []) (hasc : ∀ b ∈ T, b < 128) : Bnd s q := by
  cases hl : T.getLast? with
  | none => exact absurd (List.getLast?_eq_none_iff.mp hl) hne
  | some x => exact h.bnd_end hs hl (hasc x (List.mem_of_getLast? hl))

theorem head_bnd (h : AtTo s p T q) (hne : T ≠ []) (hasc : ∀ b ∈ T, b < 128) : Bnd s p := by
  obtain ⟨x, xs, rfl⟩ := List.exists_cons_of_ne_nil hne
  exact bnd_of_ascii (atTo_cons.mp h).1 (hasc x (by simp))

end AtTo

theorem scanWhile_at {s : Src} {pred : UInt8 → Bool} {bs : Bytes} {p q : Nat} (h : AtTo s p bs q)
    (hall : ∀ b ∈ bs, pred b = true) (hstop : NoPredAt s pred q) : scanWhile s pred p = q :=
  scanWhile_eq_iff.mpr ⟨h.le, (fun j h1 h2 hj => by
    obtain ⟨b, hb, hsb⟩ := h.skips h1 h2
    have := hj b hsb
    rw [hall b hb] at this
    cases this), hstop⟩

theorem getIdentifierUnchecked_at {s : Src} (hs : AsciiThenBoundary s) {p q : Nat} {id : Bytes}
    (hv : validIdent id = true) (h : AtTo s p id q) (hstop : NoPredAt s isIdentByte q) :
    getIdentifierUnchecked s (p + 1) = .ok ⟨p, q⟩ q := by
  have hall := validIdent_all hv
  have hb2 : Bnd s q := h.last_bnd hs (validIdent_ne_nil hv) fun b hb => isIdentByte_lt b (hall b hb)
  obtain ⟨b, rest, rfl, hb, hrest⟩ := validIdent_head hv
  obtain ⟨h0, hr⟩ := atTo_cons.mp h
  unfold getIdentifierUnchecked
  simp only [scanWhile_at hr hrest hstop, usub, show 1 ≤ p + 1 by omega, if_true, Nat.add_sub_cancel]
  rw [slice_ok (Nat.le_of_succ_le hr.le) (bnd_of_ascii h0 (isAlpha_lt b hb)) hb2]

theorem at_ident_head {s : Src} {p : Nat} {id : Bytes} (hv : validIdent id = true) (h : At s p id) :
    ∃ b, s[p]? = some b ∧ isAlpha b = true := by
  obtain ⟨b, rest, rfl, hb, _⟩ := validIdent_head hv
  exact ⟨b, ((at_cons _ _ _ _).mp h).1, hb⟩

theorem getIdentifier_at {s : Src} (hs : AsciiThenBoundary s) {p q : Nat} {id : Bytes}
    (hv : validIdent id = true) (h : AtTo s p id q) (hstop : NoPredAt s isIdentByte q) :
    getIdentifier s p = .ok ⟨p, q⟩ q := by
  unfold getIdentifier
  obtain ⟨b, h0, hb⟩ := at_ident_head hv h.txt
  have : isIdentifierStart s p = true := by simp [isIdentifierStart, h0, hb]
  simp only [this, Bool.not_true, Bool.false_eq_true, if_false]
  exact getIdentifierUnchecked_at hs hv h hstop

theorem skipDigits_at {s : Src} {ds : Bytes} {p q : Nat} (h : AtTo s p ds q) (hne : ds ≠ [])
    (hall : ∀ b ∈ ds, isDigit b = true) (hstop : NoPredAt s isDigit q) : skipDigits s p = .ok () q := by
  unfold skipDigits
  rw [scanWhile_at h hall hstop]
  have : 0 < ds.length := List.length_pos_iff.mpr hne
  have := h.len
  simp; omega

theorem getNumberLiteral_at {s : Src} (hs : AsciiThenBoundary s) {p q : Nat} {v : Bytes}
    (hv : validNumber v = true) (h : AtTo s p v q) (hstop : NoPredAt s numStop q) :
    getNumberLiteral s p = .ok ⟨p, q⟩ q := by
  obtain ⟨sign, ip, frac, rfl, hsign, hip, hipd, hfrac⟩ := validNumber_decomp v hv
  have hstopd : NoPredAt s isDigit q := fun c hc => by
    have := hstop c hc; simp [numStop] at this; exact this.1
  have hasc : ∀ b ∈ sign ++ ip ++ frac, b < 128 := by
    intro b hb
    simp only [List.mem_append] at hb
    rcases hb with (hb | hb) | hb
    · rcases hsign with rfl | rfl <;> simp at hb; subst hb; decide
    · exact isDigit_lt b (hipd b hb)
    · rcases hfrac with rfl | ⟨fr, rfl, _, hfr⟩
      · simp at hb
      · simp at hb; rcases hb with rfl | hb
        · decide
        · exact isDigit_lt b (hfr b hb)
  have hne : sign ++ ip ++ frac ≠ [] := by simp [hip]
  have hsl : slice s p q = some ⟨p, q⟩ := slice_ok h.le (h.head_bnd hne hasc) (h.last_bnd hs hne hasc)
  -- the sign in `[p, m₁)`, the integer part in `[m₁, m₂)`, the fraction in `[m₂, q)`
  rw [List.append_assoc] at h
  obtain ⟨m₁, h1, h⟩ := atTo_append.mp h
  obtain ⟨m₂, h2, h3⟩ := atTo_append.mp h
  have e1 : takeByteIf s p 45 = (m₁, sign == [45]) := by
    rcases hsign with rfl | rfl
    · obtain rfl := atTo_nil.mp h1
      obtain ⟨d, ds, rfl⟩ := List.exists_cons_of_ne_nil hip
      have hd := hipd d (by simp)
      rw [takeByteIf_neg (p := p) (b := 45) (by rw [(atTo_cons.mp h2).1]; intro h; cases h; simp [isDigit] at hd)]
      simp
    · obtain ⟨h45, h1⟩ := atTo_cons.mp h1
      obtain rfl := atTo_nil.mp h1
      rw [takeByteIf_pos h45]; simp
  unfold getNumberLiteral
  simp only [e1]
  rcases hfrac with rfl | ⟨fr, rfl, hfrne, hfr⟩
  · obtain rfl := atTo_nil.mp h3
    rw [skipDigits_at h2 hip hipd hstopd]
    have e2 : takeByteIf s m₂ 46 = (m₂, false) :=
      takeByteIf_neg fun hc => by have := hstop 46 hc; simp [numStop] at this
    simp only [e2, Bool.false_eq_true, if_false, hsl]
  · obtain ⟨h46, h3⟩ := atTo_cons.mp h3
    rw [skipDigits_at h2 hip hipd fun c hc => by rw [h46] at hc; cases hc; decide]
    simp only [takeByteIf_pos h46, if_true, skipDigits_at h3 hfrne hfr hstopd, hsl]

theorem skipHexGo_at {s : Src} {hx : Bytes} {p q : Nat} (h : AtTo s p hx q) (hall : ∀ b ∈ hx, isHexDigit b = true) :
    skipHexGo s hx.length p = q := by
  rw [skipHexGo_eq]
  exact (scanWhileGo_first s isHexDigit hx.length p).unique ⟨h.le, fun j h1 h2 hj => by
    obtain ⟨b, hb, hsb⟩ := h.skips h1 h2
    rcases hj with hj | hj
    · have := hj b hsb; rw [hall b hb] at this; cases this
    · have := h.len; omega, Or.inr (Nat.le_of_eq h.len)⟩

theorem skipUnicode_at {s : Src} {hx : Bytes} {p q : Nat} (h : AtTo s p hx q) (hall : ∀ b ∈ hx, isHexDigit b = true) :
    skipUnicodeEscapeSequence s p hx.length = .ok () q := by
  unfold skipUnicodeEscapeSequence
  have := h.len
  simp [skipHexGo_at h hall, ← this]

/-- `\uXXXX` (four hex digits) and `\UXXXXXX` (six) -/
theorem scanStringGo_unicode {s : Src} (m : Nat) {p q : Nat} {u : UInt8} {hx : Bytes}
    (hu : (u = 117 ∧ hx.length = 4) ∨ (u = 85 ∧ hx.length = 6)) (hall : ∀ b ∈ hx, isHexDigit b = true)
    (h0 : s[p]? = some 92) (h1 : s[p + 1]? = some u) (h2 : AtTo s (p + 2) hx q) :
    scanStringGo s (m + 1) p = scanStringGo s m q := by
  have hsk := skipUnicode_at h2 hall
  rw [scanStringGo, h0]
  rcases hu with ⟨rfl, hl⟩ | ⟨rfl, hl⟩ <;> (rw [hl] at hsk; simp only [h1, hsk])

/-- the body `v` of a string literal in `[p, q)`, the closing quote at `q` -/
theorem scanStringGo_at {s : Src} {v : Bytes} (hv : validStrBody v = true) {p q : Nat} (n : Nat) (h : AtTo s p v q)
    (h34 : s[q]? = some 34) (hn : v.length < n) : scanStringGo s n p = .ok () q := by
  fun_induction validStrBody v generalizing p n
  case case1 =>
    obtain ⟨m, rfl⟩ : ∃ m, n = m + 1 := ⟨n - 1, by simp at hn; omega⟩
    obtain rfl := atTo_nil.mp h
    rw [scanStringGo, h34]; rfl
  case case2 r ih =>
    obtain ⟨m, rfl⟩ : ∃ m, n = m + 1 := ⟨n - 1, by omega⟩
    obtain ⟨h0, h⟩ := atTo_cons.mp h
    obtain ⟨h1, h⟩ := atTo_cons.mp h
    rw [scanStringGo, h0]
    simp only [h1]
    exact ih hv m h (by simp at hn; omega)
  case case3 r ih =>
    obtain ⟨m, rfl⟩ : ∃ m, n = m + 1 := ⟨n - 1, by omega⟩
    obtain ⟨h0, h⟩ := atTo_cons.mp h
    obtain ⟨h1, h⟩ := atTo_cons.mp h
    rw [scanStringGo, h0]
    simp only [h1]
    exact ih hv m h (by simp at hn; omega)
  case case4 a b c d r ih =>
    obtain ⟨m, rfl⟩ : ∃ m, n = m + 1 := ⟨n - 1, by omega⟩
    simp only [Bool.and_eq_true] at hv
    obtain ⟨h0, h⟩ := atTo_cons.mp h
    obtain ⟨h1, h⟩ := atTo_cons.mp h
    obtain ⟨m₁, hX, hR⟩ := atTo_append.mp (show AtTo s (p + 1 + 1) ([a, b, c, d] ++ r) q from h)
    rw [scanStringGo_unicode m (Or.inl ⟨rfl, rfl⟩) (by simp; exact ⟨hv.1.1.1.1, hv.1.1.1.2, hv.1.1.2, hv.1.2⟩) h0 h1 hX]
    exact ih hv.2 m hR (by simp at hn ⊢; omega)
  case case5 a b c d e f r ih =>
    obtain ⟨m, rfl⟩ : ∃ m, n = m + 1 := ⟨n - 1, by omega⟩
    simp only [Bool.and_eq_true] at hv
    obtain ⟨h0, h⟩ := atTo_cons.mp h
    obtain ⟨h1, h⟩ := atTo_cons.mp h
    obtain ⟨m₁, hX, hR⟩ := atTo_append.mp (show AtTo s (p + 1 + 1) ([a, b, c, d, e, f] ++ r) q from h)
    rw [scanStringGo_unicode m (Or.inr ⟨rfl, rfl⟩)
      (by simp; exact ⟨hv.1.1.1.1.1.1, hv.1.1.1.1.1.2, hv.1.1.1.1.2, hv.1.1.1.2, hv.1.1.2, hv.1.2⟩) h0 h1 hX]
    exact ih hv.2 m hR (by simp at hn ⊢; omega)
  case case6 => cases hv
  case case7 => cases hv
  case case8 => cases hv
  case case9 x r _ _ _ _ h92 h34' h10 ih =>
    obtain ⟨m, rfl⟩ : ∃ m, n = m + 1 := ⟨n - 1, by omega⟩
    obtain ⟨h0, h⟩ := atTo_cons.mp h
    rw [scanStringGo, h0]
    have hgo : scanStringGo s m (p + 1) = R.ok () q := ih hv m h (by simp at hn; omega)
    split
    · rename_i heq; cases heq
    · rename_i heq; simp at heq; exact absurd heq fun h => h92 h
    · rename_i heq; simp at heq; exact absurd heq fun h => h34' h
    · rename_i heq; simp at heq; exact absurd heq fun h => h10 h
    · exact hgo

theorem scanString_at {s : Src} {v : Bytes} (hv : validStrBody v = true) {p q : Nat} (h : AtTo s p v q)
    (h34 : s[q]? = some 34) : scanString s p = .ok () q :=
  scanStringGo_at hv _ h h34 (by have := h.len; have := get_lt h34; omega)

/-- the opening quote at `p`, the body in `[p + 1, q)`, the closing quote at `q` -/
theorem getInline_str {s : Src} (hs : AsciiThenBoundary s) {v : Bytes} (hv : validStrBody v = true) {p q : Nat} (n : Nat)
    (ol : Bool) (h0 : s[p]? = some 34) (h : AtTo s (p + 1) v q) (hq : s[q]? = some 34) :
    getInline s (n + 1) ol p = .ok (.str ⟨p + 1, q⟩) (q + 1) := by
  rw [getInline_at_quote h0, inlineStr, scanString_at hv h hq]
  simp only [R.bind_ok, hq, if_true]
  rw [slice_ok h.le (bnd_succ hs h0 (by decide)) (bnd_of_ascii hq (by decide))]

/-- `only_literal` does not guard the `is_ascii_alphabetic` branch of `get_inline_expression`: on a letter the
value of a named argument is parsed like any inline expression (a message reference or a function call) -/
theorem getInline_ol_alpha (s : Src) (n p : Nat) (b : UInt8) (h0 : s[p]? = some b) (hb : isAlpha b = true) :
    getInline s (n + 1) true p = getInline s (n + 1) false p := by
  rw [getInline_at_alpha h0 hb, getInline_at_alpha h0 hb]

/-! `only_literal` is only looked at in front of `$`, `{` and `-letter`: not at a quote, a digit or `-digit` either -/

theorem getInline_ol_quote (s : Src) (n p : Nat) (h0 : s[p]? = some 34) :
    getInline s (n + 1) true p = getInline s (n + 1) false p := by
  rw [getInline_at_quote h0, getInline_at_quote h0]

theorem getInline_ol_digit (s : Src) (n p : Nat) (b : UInt8) (h0 : s[p]? = some b) (hb : isDigit b = true) :
    getInline s (n + 1) true p = getInline s (n + 1) false p := by
  rw [getInline_at_digit h0 hb, getInline_at_digit h0 hb]

theorem getInline_ol_minus (s : Src) (n p : Nat) (d : UInt8) (h0 : s[p]? = some 45) (h1 : s[p + 1]? = some d)
    (hd : isDigit d = true) : getInline s (n + 1) true p = getInline s (n + 1) false p := by
  have : ¬ isIdentifierStart s (p + 1) = true := by simp [isIdentifierStart, h1, (digit_facts d hd).2.2]
  rw [getInline_at_minus h0, getInline_at_minus h0, if_neg fun h => this h.2, if_neg fun h => this h.2]

theorem getInline_num {s : Src} (hs : AsciiThenBoundary s) {v : Bytes} (hv : validNumber v = true) {p q : Nat} (n : Nat)
    (ol : Bool) (h : AtTo s p v q) (hstop : NoPredAt s numStop q) :
    getInline s (n + 1) ol p = .ok (.num ⟨p, q⟩) q := by
  have hnum := getNumberLiteral_at hs hv h hstop
  have : getInline s (n + 1) ol p = inlineNum s p := by
    rcases validNumber_head hv with ⟨d, rest, rfl, hd⟩ | ⟨d, rest, rfl, hd⟩
    · exact getInline_at_digit (atTo_cons.mp h).1 hd
    · obtain ⟨h45, h⟩ := atTo_cons.mp h
      rw [getInline_at_minus h45, if_neg (by simp [isIdentifierStart, (atTo_cons.mp h).1, (digit_facts d hd).2.2])]
  rw [this, inlineNum, hnum]; rfl

theorem getInline_var {s : Src} (hs : AsciiThenBoundary s) {id : Bytes} (hv : validIdent id = true) {p q : Nat} (n : Nat)
    (h0 : s[p]? = some 36) (h : AtTo s (p + 1) id q) (hstop : NoPredAt s isIdentByte q) :
    getInline s (n + 1) false p = .ok (.var ⟨p + 1, q⟩) q := by
  rw [getInline_at_dollar h0, inlineVar, getIdentifier_at hs hv h hstop]; rfl

/-- `.attr` or nothing in `[m, q)`, not followed by an identifier byte -/
theorem getAttributeAccessor_at {s : Src} (hs : AsciiThenBoundary s) {attr : Option Bytes} (hattr : optIdent attr = true)
    {m q : Nat} (h : AtTo s m (attrBytes attr) q) (hstop : NoPredAt s isIdentByte q) (hdot : attr = none → s[q]? ≠ some 46) :
    ∃ a', getAttributeAccessor s m = .ok a' q ∧ a'.map (spanBytes s) = attr := by
  cases attr with
  | none =>
    obtain rfl := atTo_nil.mp h
    exact ⟨none, getAttributeAccessor_none _ (hdot rfl), rfl⟩
  | some a =>
    obtain ⟨h46, hA⟩ := atTo_cons.mp h
    refine ⟨some ⟨m + 1, q⟩, ?_, by simp [hA.span]⟩
    unfold getAttributeAccessor
    simp only [takeByteIf_pos h46, if_true, getIdentifier_at hs hattr hA hstop]

theorem getInline_msg_none {s : Src} (hs : AsciiThenBoundary s) {id : Bytes} (hv : validIdent id = true) {p q : Nat} (n : Nat)
    (h : AtTo s p id q) (hstop : NoPredAt s isIdentByte q) (hf : NoCallNoAttr s q) :
    getInline s (n + 2) false p = .ok (.msg ⟨p, q⟩ none) (skipBlank s q) := by
  obtain ⟨b, h0, hb⟩ := at_ident_head hv h.txt
  exact getInline_msg_at h0 hb (getIdentifier_at hs hv h hstop) (Nat.le_refl _) hf.1 (getAttributeAccessor_none _ hf.2)

/-- `name.attr`: the name in `[p, m)`, the dot at `m`, the attribute in `[m + 1, q)` -/
theorem getInline_msg_some {s : Src} (hs : AsciiThenBoundary s) {id a : Bytes} (hv : validIdent id = true)
    (ha : validIdent a = true) {p m q : Nat} (n : Nat) (h1 : AtTo s p id m) (hdot : s[m]? = some 46)
    (h2 : AtTo s (m + 1) a q) (hstop : NoPredAt s isIdentByte q) :
    getInline s (n + 2) false p = .ok (.msg ⟨p, m⟩ (some ⟨m + 1, q⟩)) q := by
  obtain ⟨b, h0, hb⟩ := at_ident_head hv h1.txt
  have hstop1 : NoPredAt s isIdentByte m := fun c hc => by rw [hdot] at hc; cases hc; decide
  have hsb : skipBlank s m = m := skipBlank_at hdot (by decide) (by decide) (by decide)
  exact getInline_msg_at h0 hb (getIdentifier_at hs hv h1 hstop1) (Nat.le_refl _) (by rw [hsb, hdot]; decide)
    (by rw [hsb]; unfold getAttributeAccessor; simp only [takeByteIf_pos hdot, if_true, getIdentifier_at hs ha h2 hstop])

end FluentProofs.Ser

import FluentProofs.ResolverIso
import FluentProofs.ResolverEqns
/-!
# C09: isolation on vs off, run side by side

`withIso env b` is the bundle with the switch set.  `NoFlowEnv` / `NoIsolatedValueFlow` (no selector and no call argument is
resolved by writing a pattern into a string; syntactically `simpleInline`, `nfElems`) is the extra hypothesis of
additivity: under it such expressions resolve identically under both settings (`sinv_all`), and the two runs of every
writing function from the same scope end in the same scope (errors, counter, dirty flag) while the isolating output is
the plain output with balanced `fsi … pdi` pairs inserted (`Rel`, `inv2_all`).  No hypothesis on the bytes of the
pieces is needed for this; it is needed only to turn `Iso on off` into `strip on = off` (`Iso.strip_eq`, which asks for
`MarkFree off`).
-/
namespace FluentProofs.Bidi
open FluentModel FluentModel.Syntax FluentModel.Resolver
open FluentProofs.Resolver FluentProofs.ResolverRefine

theorem valueMatches_withIso (env : Env) (b : Bool) (k s : Value) : valueMatches (withIso env b) k s = valueMatches env k s := rfl

theorem selectVariant_withIso (env : Env) (b : Bool) : ∀ (vs : List (Variant Bytes)) (sel : Value),
    selectVariant (withIso env b) vs sel = selectVariant env vs sel
  | [], _ => by simp [selectVariant]
  | .mk k val d :: rest, sel => by
    simp only [selectVariant, withIso_tryNumber, valueMatches_withIso, selectVariant_withIso env b rest sel]

mutual
/-- expressions `resolveInline` evaluates without writing a pattern into a string -/
def simpleInline : Inline Bytes → Bool
  | .str _ => true
  | .num _ => true
  | .var _ => true
  | .fn _ pos named => simpleList pos && simpleNamed named
  | _ => false
def simpleList : List (Inline Bytes) → Bool
  | [] => true
  | x :: xs => simpleInline x && simpleList xs
def simpleNamed : List (Bytes × Inline Bytes) → Bool
  | [] => true
  | (_, x) :: xs => simpleInline x && simpleNamed xs
end

def simpleArgs : Option (List (Inline Bytes) × List (Bytes × Inline Bytes)) → Bool
  | .none => true
  | some (pos, named) => simpleList pos && simpleNamed named

mutual
/-- every selector and every call argument below is `simpleInline` -/
def nfInline : Inline Bytes → Bool
  | .str _ => true
  | .num _ => true
  | .var _ => true
  | .msg _ _ => true
  | .fn _ pos named => simpleList pos && simpleNamed named
  | .term _ _ args => simpleArgs args
  | .placeable e => nfExpr e
def nfExpr : Expr Bytes → Bool
  | .inline e => nfInline e
  | .select sel vs => simpleInline sel && nfVariants vs
def nfVariants : List (Variant Bytes) → Bool
  | [] => true
  | v :: vs => nfVariant v && nfVariants vs
def nfVariant : Variant Bytes → Bool
  | .mk _ val _ => nfElems val
def nfElems : List (PatElem Bytes) → Bool
  | [] => true
  | e :: es => nfElem e && nfElems es
def nfElem : PatElem Bytes → Bool
  | .text _ => true
  | .placeable e => nfExpr e
end

/-- no entry of the bundle resolves a selector or a call argument by writing a pattern into a string -/
structure NoFlowEnv (env : Env) : Prop where
  msgValue : ∀ id m p, env.msg id = some m → m.value = some p → nfElems p = true
  msgAttr : ∀ id m a, env.msg id = some m → a ∈ m.attributes → nfElems a.value = true
  termValue : ∀ id t, env.term id = some t → nfElems t.value = true
  termAttr : ∀ id t a, env.term id = some t → a ∈ t.attributes → nfElems a.value = true

theorem nfVariants_mem {vs : List (Variant Bytes)} {k : VKey Bytes} {v : Pattern Bytes} {d : Bool}
    (h : Variant.mk k v d ∈ vs) (ha : nfVariants vs = true) : nfElems v = true := by
  induction vs with
  | nil => cases h
  | cons x rest ih =>
    rw [nfVariants, Bool.and_eq_true] at ha
    rcases List.mem_cons.1 h with rfl | h
    · exact ha.1
    · exact ih h ha.2

theorem NoFlowEnv.reach {env : Env} (F : NoFlowEnv env) {p : Pattern Bytes} (h : Reach env p) : nfElems p = true :=
  Reach.elim F.msgValue F.msgAttr F.termValue F.termAttr h

/-! ## simple expressions resolve identically under both settings -/

structure SInv (env : Env) (n : Nat) : Prop where
  resolveInline : ∀ e sc, simpleInline e = true →
    resolveInline (withIso env true) n e sc = resolveInline (withIso env false) n e sc
  getArguments : ∀ a sc, simpleArgs a = true →
    getArguments (withIso env true) n a sc = getArguments (withIso env false) n a sc
  resolveList : ∀ es sc, simpleList es = true →
    resolveList (withIso env true) n es sc = resolveList (withIso env false) n es sc
  resolveNamed : ∀ es sc, simpleNamed es = true →
    resolveNamed (withIso env true) n es sc = resolveNamed (withIso env false) n es sc

theorem chosen_withIso (env : Env) (b : Bool) (vs : List (Variant Bytes)) (s : Value) :
    chosen (withIso env b) vs s = chosen env vs s := by
  cases s <;> first | exact selectVariant_withIso env b vs _ | rfl

theorem sinv_all (env : Env) : ∀ n, SInv env n
  | 0 => by
    constructor <;> intros <;>
      simp only [resolveInline_zero, getArguments_zero, resolveList_zero, resolveNamed_zero]
  | n + 1 => by
    have IH := sinv_all env n
    constructor
    · intro e sc he
      cases e with
      | str v => rw [resolveInline_str, resolveInline_str]; rfl
      | num v => rw [resolveInline_num, resolveInline_num]; rfl
      | var id => rw [resolveInline_var, resolveInline_var]; rfl
      | fn id pos named =>
        rw [resolveInline_fn, resolveInline_fn,
          IH.getArguments _ _ (show simpleArgs (some (pos, named)) = true from he)]; rfl
      | msg id attr => cases he
      | term id attr args => cases he
      | placeable e => cases he
    · intro a sc ha
      cases a with
      | none => rw [getArguments_none, getArguments_none]
      | some pn =>
        obtain ⟨pos, named⟩ := pn
        rw [simpleArgs, Bool.and_eq_true] at ha
        rw [getArguments_some, getArguments_some, IH.resolveList _ _ ha.1]
        congr 1; funext ⟨_, sc1⟩; exact congrArg (RR.bind · _) (IH.resolveNamed named sc1 ha.2)
    · intro es sc he
      cases es with
      | nil => rw [resolveList_nil, resolveList_nil]
      | cons e es =>
        rw [simpleList, Bool.and_eq_true] at he
        rw [resolveList_cons, resolveList_cons, IH.resolveInline _ _ he.1]
        congr 1; funext ⟨_, sc1⟩; exact congrArg (RR.bind · _) (IH.resolveList es sc1 he.2)
    · intro es sc he
      cases es with
      | nil => rw [resolveNamed_nil, resolveNamed_nil]
      | cons ke es =>
        obtain ⟨k, e⟩ := ke
        rw [simpleNamed, Bool.and_eq_true] at he
        rw [resolveNamed_cons, resolveNamed_cons, IH.resolveInline _ _ he.1]
        congr 1; funext ⟨_, sc1⟩; exact congrArg (RR.bind · _) (IH.resolveNamed es sc1 he.2)

/-- `NoIsolatedValueFlow`: neither the pattern nor any entry of the bundle resolves a select selector or
a call argument (of a function or of a parameterized term) by writing a pattern into a string: selectors
and arguments are string / number literals, variables, or function calls whose arguments are again of this
kind.  (Message / term / term-attribute references and nested placeables in these positions are excluded:
their value is the *written* string, which carries the marks — finding F15.) -/
structure NoIsolatedValueFlow (env : Env) (p : Pattern Bytes) : Prop where
  pattern : nfElems p = true
  bundle : NoFlowEnv env

/-- outcome of the isolating run (from `w₁`) against the plain run (from `w₂`) -/
def Rel (w₁ w₂ : Bytes) : RR (Bytes × Scope) → RR (Bytes × Scope) → Prop
  | .ok (a, s), .ok (b, t) => s = t ∧ ∃ on off, a = w₁ ++ on ∧ b = w₂ ++ off ∧ Iso on off
  | .panic m, .panic m' => m = m'
  | .fuel, .fuel => True
  | _, _ => False

theorem Rel.cases {w₁ w₂ : Bytes} {r₁ r₂ : RR (Bytes × Scope)} (h : Rel w₁ w₂ r₁ r₂) :
    (∃ s on off, r₁ = .ok (w₁ ++ on, s) ∧ r₂ = .ok (w₂ ++ off, s) ∧ Iso on off) ∨
    (∃ m, r₁ = .panic m ∧ r₂ = .panic m) ∨ (r₁ = .fuel ∧ r₂ = .fuel) := by
  rcases r₁ with ⟨⟨a, s⟩⟩ | ⟨m⟩ | _ <;> rcases r₂ with ⟨⟨b, t⟩⟩ | ⟨m'⟩ | _ <;> try exact h.elim
  · obtain ⟨rfl, on, off, rfl, rfl, hi⟩ := h
    exact Or.inl ⟨s, on, off, rfl, rfl, hi⟩
  · have : m = m' := h
    subst this; exact Or.inr (Or.inl ⟨m, rfl, rfl⟩)
  · exact Or.inr (Or.inr ⟨rfl, rfl⟩)

theorem Rel.ok {w₁ w₂ on off : Bytes} (s : Scope) (h : Iso on off) : Rel w₁ w₂ (.ok (w₁ ++ on, s)) (.ok (w₂ ++ off, s)) :=
  ⟨rfl, on, off, rfl, rfl, h⟩

theorem Rel.same {w₁ w₂ : Bytes} (o : Bytes) (s : Scope) : Rel w₁ w₂ (.ok (w₁ ++ o, s)) (.ok (w₂ ++ o, s)) :=
  Rel.ok s (Iso.refl o)

theorem Rel.nil {w₁ w₂ : Bytes} (s : Scope) : Rel w₁ w₂ (.ok (w₁, s)) (.ok (w₂, s)) :=
  ⟨rfl, [], [], by simp, by simp, Iso.nil⟩

theorem Rel.panic {w₁ w₂ : Bytes} (m : String) : Rel w₁ w₂ (.panic m) (.panic m) := rfl

theorem Rel.prefix {w₁ w₂ on off : Bytes} {r₁ r₂ : RR (Bytes × Scope)} (hi : Iso on off)
    (h : Rel (w₁ ++ on) (w₂ ++ off) r₁ r₂) : Rel w₁ w₂ r₁ r₂ := by
  rcases h.cases with ⟨s, on', off', rfl, rfl, hi'⟩ | ⟨m, rfl, rfl⟩ | ⟨rfl, rfl⟩
  · rw [List.append_assoc, List.append_assoc]; exact Rel.ok s (hi.append hi')
  · rfl
  · trivial

theorem Rel.bind {w₁ w₂ v₁ v₂ : Bytes} {r₁ r₂ : RR (Bytes × Scope)} {k₁ k₂ : Bytes × Scope → RR (Bytes × Scope)}
    (h : Rel v₁ v₂ r₁ r₂)
    (hk : ∀ s on off, Iso on off → Rel w₁ w₂ (k₁ (v₁ ++ on, s)) (k₂ (v₂ ++ off, s))) :
    Rel w₁ w₂ (r₁.bind k₁) (r₂.bind k₂) := by
  rcases h.cases with ⟨s, on, off, rfl, rfl, hi⟩ | ⟨m, rfl, rfl⟩ | ⟨rfl, rfl⟩
  · exact hk s on off hi
  · rfl
  · trivial

theorem Rel.bind_same {α : Type} {w₁ w₂ : Bytes} (r : RR (α × Scope)) {k₁ k₂ : α × Scope → RR (Bytes × Scope)}
    (hk : ∀ x s, Rel w₁ w₂ (k₁ (x, s)) (k₂ (x, s))) : Rel w₁ w₂ (r.bind k₁) (r.bind k₂) := by
  match r with
  | .ok (x, s) => exact hk x s
  | .panic m => rfl
  | .fuel => trivial

structure Inv2 (env : Env) (n : Nat) : Prop where
  writeElems : ∀ whole len els w₁ w₂ sc, nfElems els = true →
    Rel w₁ w₂ (writeElems (withIso env true) n whole len els w₁ sc) (writeElems (withIso env false) n whole len els w₂ sc)
  writePattern : ∀ p w₁ w₂ sc, nfElems p = true →
    Rel w₁ w₂ (writePattern (withIso env true) n p w₁ sc) (writePattern (withIso env false) n p w₂ sc)
  track : ∀ p e w₁ w₂ sc, nfElems p = true →
    Rel w₁ w₂ (track (withIso env true) n p e w₁ sc) (track (withIso env false) n p e w₂ sc)
  writeExpr : ∀ e w₁ w₂ sc, nfExpr e = true →
    Rel w₁ w₂ (writeExpr (withIso env true) n e w₁ sc) (writeExpr (withIso env false) n e w₂ sc)
  writeDefault : ∀ vs w₁ w₂ sc, nfVariants vs = true →
    Rel w₁ w₂ (writeDefault (withIso env true) n vs w₁ sc) (writeDefault (withIso env false) n vs w₂ sc)
  writeInline : ∀ e w₁ w₂ sc, nfInline e = true →
    Rel w₁ w₂ (writeInline (withIso env true) n e w₁ sc) (writeInline (withIso env false) n e w₂ sc)

theorem inv2_zero (env : Env) : Inv2 env 0 := by
  constructor <;> intros <;>
    simp only [writeElems_zero, writePattern_zero, track_zero, writeExpr_zero, writeDefault_zero, writeInline_zero] <;>
    trivial

section step
set_option linter.unusedSectionVars false
variable {env : Env} {n : Nat} (F : NoFlowEnv env) (IH : Inv2 env n)
include F IH

theorem writePattern_step2 (p : Pattern Bytes) (w₁ w₂ : Bytes) (sc : Scope) (hp : nfElems p = true) :
    Rel w₁ w₂ (writePattern (withIso env true) (n + 1) p w₁ sc) (writePattern (withIso env false) (n + 1) p w₂ sc) := by
  rw [writePattern_succ, writePattern_succ]; exact IH.writeElems _ _ _ _ _ _ hp

theorem writeDefault_step2 (vs : List (Variant Bytes)) (w₁ w₂ : Bytes) (sc : Scope) (hv : nfVariants vs = true) :
    Rel w₁ w₂ (writeDefault (withIso env true) (n + 1) vs w₁ sc) (writeDefault (withIso env false) (n + 1) vs w₂ sc) := by
  rw [writeDefault_succ, writeDefault_succ]
  cases hd : defaultVariant vs with
  | some v => obtain ⟨_, hk⟩ := defaultVariant_mem hd; exact IH.writePattern _ _ _ _ (nfVariants_mem hk hv)
  | none => exact Rel.nil _

theorem track_step2 (p : Pattern Bytes) (e : Inline Bytes) (w₁ w₂ : Bytes) (sc : Scope) (hp : nfElems p = true) :
    Rel w₁ w₂ (track (withIso env true) (n + 1) p e w₁ sc) (track (withIso env false) (n + 1) p e w₂ sc) := by
  rw [track_succ, track_succ]
  by_cases hc : travelledContains sc.travelled p = true
  · rw [if_pos hc, if_pos hc]; exact Rel.same _ _
  · rw [if_neg hc, if_neg hc]
    exact (IH.writePattern p w₁ w₂ _ hp).bind fun _ _ _ hi => Rel.ok _ hi

theorem writeElems_step2 (whole : Pattern Bytes) (len : Nat) (els : List (PatElem Bytes)) (w₁ w₂ : Bytes) (sc : Scope)
    (he : nfElems els = true) :
    Rel w₁ w₂ (writeElems (withIso env true) (n + 1) whole len els w₁ sc)
      (writeElems (withIso env false) (n + 1) whole len els w₂ sc) := by
  cases els with
  | nil => rw [writeElems_nil, writeElems_nil]; exact Rel.nil _
  | cons el rest =>
    cases el with
    | text v =>
      rw [nfElems, Bool.and_eq_true] at he
      rw [writeElems_text, writeElems_text]
      by_cases hd : sc.dirty = true
      · rw [if_pos hd, if_pos hd]; exact Rel.nil _
      · rw [if_neg hd, if_neg hd]
        exact Rel.prefix (Iso.refl (tr env v)) (IH.writeElems _ _ _ _ _ _ he.2)
    | placeable e =>
      rw [nfElems, Bool.and_eq_true, nfElem] at he
      rw [writeElems_placeable, writeElems_placeable]
      by_cases hd : sc.dirty = true
      · rw [if_pos hd, if_pos hd]; exact Rel.nil _
      rw [if_neg hd, if_neg hd]
      by_cases h255 : sc.placeables + 1 > 255
      · rw [if_pos h255, if_pos h255]; rfl
      rw [if_neg h255, if_neg h255]
      by_cases hmax : sc.placeables + 1 > Generated.maxPlaceables
      · rw [if_pos hmax, if_pos hmax]; exact Rel.nil _
      rw [if_neg hmax, if_neg hmax, openMark_off (env := withIso env false) rfl, closeMark_off (env := withIso env false) rfl]
      -- the marks of the isolating run: none, or the pair around the value and its fallback
      have hmarks : ∀ {on off : Bytes}, Iso on off →
          Iso (openMark (withIso env true) len e ++ (on ++ closeMark (withIso env true) len e)) off := by
        intro on off hi
        unfold openMark closeMark
        cases (withIso env true).useIsolating && decide (len > 1) && isolatable e
        · simpa using hi
        · exact hi.isolate
      refine Rel.prefix (w₁ := w₁) (w₂ := w₂) (on := []) (off := []) Iso.nil ?_
      refine (IH.writeExpr e _ (w₂ ++ []) _ he.1).bind fun s on off hi => ?_
      have := hmarks (hi.append (Iso.refl (fallback e s)))
      refine Rel.prefix this ?_
      simp only [List.append_assoc, List.append_nil] at *
      exact IH.writeElems _ _ _ _ _ _ he.2

theorem selectTail_step2 (vs : List (Variant Bytes)) (w₁ w₂ : Bytes) (sc : Scope) (s : Value) (hv : nfVariants vs = true) :
    Rel w₁ w₂ (selectTail (withIso env true) n vs w₁ sc s) (selectTail (withIso env false) n vs w₂ sc s) := by
  rcases chosen_cases env vs s with h | ⟨_, v, _, hm, h⟩ | ⟨m, _, h, _⟩
  · rw [selectTail_none ((chosen_withIso env true vs s).trans h), selectTail_none ((chosen_withIso env false vs s).trans h)]
    exact IH.writeDefault vs w₁ w₂ sc hv
  · rw [selectTail_some ((chosen_withIso env true vs s).trans h), selectTail_some ((chosen_withIso env false vs s).trans h)]
    exact IH.writePattern v _ _ _ (nfVariants_mem hm hv)
  · rw [selectTail_panic ((chosen_withIso env true vs s).trans h), selectTail_panic ((chosen_withIso env false vs s).trans h)]
    rfl

theorem writeExpr_step2 (e : Expr Bytes) (w₁ w₂ : Bytes) (sc : Scope) (he : nfExpr e = true) :
    Rel w₁ w₂ (writeExpr (withIso env true) (n + 1) e w₁ sc) (writeExpr (withIso env false) (n + 1) e w₂ sc) := by
  cases e with
  | inline e => rw [writeExpr_inline, writeExpr_inline]; exact IH.writeInline e _ _ _ he
  | select sel vs =>
    rw [nfExpr, Bool.and_eq_true] at he
    rw [writeExpr_select, writeExpr_select, (sinv_all env n).resolveInline sel sc he.1]
    exact Rel.bind_same _ fun _ _ => selectTail_step2 F IH vs w₁ w₂ _ _ he.2

theorem termTail_step2 (id : Bytes) (attr : Option Bytes)
    (args : Option (List (Inline Bytes) × List (Bytes × Inline Bytes))) (w₁ w₂ : Bytes) (named : ArgList) (sc : Scope) :
    Rel w₁ w₂ (termTail (withIso env true) n id attr args w₁ named sc)
      (termTail (withIso env false) n id attr args w₂ named sc) := by
  unfold termTail
  refine Rel.bind (v₁ := w₁) (v₂ := w₂) ?_ fun _ _ _ hi => Rel.ok _ hi
  show Rel w₁ w₂ (match termTarget env id attr with | some p => _ | .none => _)
    (match termTarget env id attr with | some p => _ | .none => _)
  cases ht : termTarget env id attr with
  | some p => exact IH.track _ _ _ _ _ (F.reach (reach_termTarget ht))
  | none => exact Rel.same _ _

theorem writeInline_step2 (e : Inline Bytes) (w₁ w₂ : Bytes) (sc : Scope) (he : nfInline e = true) :
    Rel w₁ w₂ (writeInline (withIso env true) (n + 1) e w₁ sc) (writeInline (withIso env false) (n + 1) e w₂ sc) := by
  cases e with
  | str v => rw [writeInline_str, writeInline_str]; exact Rel.same _ _
  | num v => rw [writeInline_num, writeInline_num]; exact Rel.same _ _
  | placeable e => rw [writeInline_placeable, writeInline_placeable]; exact IH.writeExpr e _ _ _ he
  | var id =>
    rw [writeInline_var, writeInline_var]
    split
    · split <;> exact Rel.same _ _
    · show Rel w₁ w₂ (match env.args.bind (·.get id) with | some v => _ | .none => _)
        (match env.args.bind (·.get id) with | some v => _ | .none => _)
      split <;> exact Rel.same _ _
  | msg id attr =>
    rw [writeInline_msg, writeInline_msg]
    show Rel w₁ w₂ (match msgTarget env id attr with | .pattern p => _ | .noValue => _ | .missing => _)
      (match msgTarget env id attr with | .pattern p => _ | .noValue => _ | .missing => _)
    cases ht : msgTarget env id attr with
    | pattern p => exact IH.track _ _ _ _ _ (F.reach (reach_msgTarget ht))
    | noValue => exact Rel.same _ _
    | missing => exact Rel.same _ _
  | fn id pos named =>
    rw [writeInline_fn, writeInline_fn,
      (sinv_all env n).getArguments (some (pos, named)) sc (show simpleArgs (some (pos, named)) = true from he)]
    refine Rel.bind_same _ fun x s => ?_
    show Rel w₁ w₂ (match env.fn id with | some f => _ | .none => _) (match env.fn id with | some f => _ | .none => _)
    cases env.fn id <;> exact Rel.same _ _
  | term id attr args =>
    rw [writeInline_term, writeInline_term, (sinv_all env n).getArguments args sc he]
    exact Rel.bind_same _ fun _ _ => termTail_step2 F IH id attr args w₁ w₂ _ _

end step

theorem inv2_all {env : Env} (F : NoFlowEnv env) : ∀ n, Inv2 env n
  | 0 => inv2_zero env
  | n + 1 =>
    have IH := inv2_all F n
    { writeElems := fun _ _ _ _ _ _ => writeElems_step2 F IH _ _ _ _ _ _
      writePattern := fun _ _ _ _ => writePattern_step2 F IH _ _ _ _
      track := fun _ _ _ _ _ => track_step2 F IH _ _ _ _ _
      writeExpr := fun _ _ _ _ => writeExpr_step2 F IH _ _ _ _
      writeDefault := fun _ _ _ _ => writeDefault_step2 F IH _ _ _ _
      writeInline := fun _ _ _ _ => writeInline_step2 F IH _ _ _ _ }

theorem resolvePattern_rel {env : Env} {p : Pattern Bytes} (F : NoIsolatedValueFlow env p) (fuel : Nat) (sc : Scope) :
    Rel [] [] (resolvePattern (withIso env true) fuel p sc) (resolvePattern (withIso env false) fuel p sc) := by
  refine resolvePattern_cases (T := fun r => Rel [] [] r (resolvePattern (withIso env false) fuel p sc)) _ fuel p sc
    (fun v hv => ?_) fun hnt => ?_
  · subst hv; exact Rel.same (w₁ := []) (w₂ := []) _ sc
  · rw [resolvePattern_of_not_text _ fuel hnt]; exact (inv2_all F.bundle fuel).writePattern p [] [] sc F.pattern

end FluentProofs.Bidi

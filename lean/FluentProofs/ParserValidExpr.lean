import FluentProofs.ParserValidLeaf
/-!
# `ValidEntry` pass over the eight mutually recursive parser functions

Partial-correctness style (no hypotheses on the source, the cursor or the fuel): whenever one of
the functions returns `ok`, the value it returns satisfies the AST-visible syntax rules of
`FluentProofs/ParserValid.lean`.  Joint induction on fuel (`VSpecs`).
-/
namespace FluentProofs.Parser
open FluentModel FluentModel.Syntax

/-- validity invariant of `get_pattern`'s loop state -/
def PSV (s : Src) (st : PatState) : Prop :=
  (∀ ph ∈ st.elements, PhV s ph) ∧
  ∀ lnb, st.lastNonBlank = some lnb → ∃ ph, st.elements[lnb]? = some ph ∧ Strong ph

structure VSpecs (s : Src) (n : Nat) : Prop where
  patternLoop : ∀ st p st' q, getPatternLoop s n st p = .ok st' q → PSV s st → PSV s st'
  pattern : ∀ p o q, getPattern s n p = .ok o q → ∀ els, o = some els → patOk s els = true
  placeable : ∀ p e q, getPlaceable s n p = .ok e q → vExpr s e = true
  expression : ∀ p e q, getExpression s n p = .ok e q → vExpr s e = true
  inline : ∀ ol p e q, getInline s n ol p = .ok e q → vInline s e = true
  callArguments : ∀ p o q, getCallArguments s n p = .ok o q → ∀ pos named, o = some (pos, named) →
    vInl s pos = true ∧ vNamed s named = true ∧ namesDistinct s (named.map (·.1)) = true
  callArgsLoop : ∀ pos named p r q, getCallArgsLoop s n pos named p = .ok r q →
    vInl s pos = true → vNamed s named = true → namesDistinct s (named.map (·.1)) = true →
    vInl s r.1 = true ∧ vNamed s r.2 = true ∧ namesDistinct s (r.2.map (·.1)) = true
  variants : ∀ hd acc p vs q, getVariants s n hd acc p = .ok vs q → vVariants s acc = true →
    acc.countP variantDefault = (if hd then 1 else 0) →
    vVariants s vs = true ∧ vs.countP variantDefault = 1

theorem placeable_vstep {s : Src} {n : Nat} (IH : VSpecs s n) (p : Nat) (e : Expr Span) (q : Nat)
    (h : getPlaceable s (n + 1) p = .ok e q) : vExpr s e = true := by
  rw [getPlaceable_unfold] at h
  obtain ⟨exp, q1, hr, h⟩ := R.bind_eq_ok h
  obtain ⟨_, q2, _, h⟩ := R.bind_eq_ok h
  split at h
  · cases h
  · cases h; exact IH.expression _ _ _ hr

theorem pattern_vstep {s : Src} {n : Nat} (IH : VSpecs s n) (p : Nat) (o : Option (Pattern Span)) (q : Nat)
    (h : getPattern s (n + 1) p = .ok o q) : ∀ els, o = some els → patOk s els = true := by
  rw [getPattern_unfold] at h
  obtain ⟨st, q1, hr, h⟩ := R.bind_eq_ok h
  have hst : PSV s st := IH.patternLoop _ _ _ _ hr ⟨by simp, by simp⟩
  intro els hels
  unfold patClose at h
  split at h
  · rename_i lnb hl
    split at h
    · rename_i els' hf
      cases h; cases hels
      have h1 := finishElements_vPat hf hst.1
      have h2 := finishElements_ne_nil hf (Nat.zero_le _) (by simpa using hst.2 lnb hl)
      unfold patOk
      cases els with
      | nil => exact (h2 rfl).elim
      | cons x xs => simpa using h1
    · cases h
  · cases h; cases hels

theorem callArguments_vstep {s : Src} {n : Nat} (IH : VSpecs s n) (p : Nat)
    (o : Option (List (Inline Span) × List (Span × Inline Span))) (q : Nat)
    (h : getCallArguments s (n + 1) p = .ok o q) : ∀ pos named, o = some (pos, named) →
      vInl s pos = true ∧ vNamed s named = true ∧ namesDistinct s (named.map (·.1)) = true := by
  rw [getCallArguments_unfold] at h
  intro pos named he
  split at h
  · obtain ⟨r, q1, hr, h⟩ := R.bind_eq_ok h
    obtain ⟨_, q2, _, h⟩ := R.bind_eq_ok h
    cases h; cases he
    exact IH.callArgsLoop _ _ _ _ _ hr rfl rfl rfl
  · cases h; cases he

theorem selectorOk_of_selectorError {exp : Inline Span} (h : selectorError exp = none) : selectorOk exp = true := by
  cases exp with
  | msg id attr => cases attr <;> cases h
  | term id attr args => cases attr <;> first | rfl | cases h
  | placeable e => cases h
  | _ => rfl

theorem expression_vstep {s : Src} {n : Nat} (IH : VSpecs s n) (p : Nat) (e : Expr Span) (q : Nat)
    (h : getExpression s (n + 1) p = .ok e q) : vExpr s e = true := by
  rw [getExpression_unfold] at h
  obtain ⟨exp, q1, hr, h⟩ := R.bind_eq_ok h
  have hexp := IH.inline _ _ _ _ hr
  unfold exprTail at h
  split at h
  · split at h
    · cases h
    · rename_i hbad
      split at h
      · cases h
      · obtain ⟨vs, q5, hr2, h⟩ := R.bind_eq_ok h
        cases h
        have hv := IH.variants _ _ _ _ _ hr2 rfl rfl
        simp [vExpr, hexp, selectorOk_of_selectorError hbad, hv.1, hv.2]
  · split at h
    · cases h
    · rename_i hnt
      cases h
      have : isTermAttr exp = false := by
        cases exp <;> try rfl
        rename_i id attr args
        cases attr with
        | none => rfl
        | some a => exact (hnt id a args rfl).elim
      simp [vExpr, hexp, this]

theorem variantKey_vkeyOk {s : Src} {p : Nat} {k : VKey Span} {q : Nat} (h : variantKey s p = .ok k q) :
    vkeyOk s k = true := by
  rw [variantKey_eq] at h
  split at h
  · obtain ⟨sp, q1, hr, h⟩ := R.bind_eq_ok h
    cases h; exact getNumberLiteral_numOk hr
  · obtain ⟨sp, q1, hr, h⟩ := R.bind_eq_ok h
    cases h; exact getIdentifier_identOk hr

theorem vVariants_append (s : Src) (xs : List (Variant Span)) (x : Variant Span) :
    vVariants s (xs ++ [x]) = (vVariants s xs && vVariant s x) := by
  induction xs with
  | nil => simp [vVariants]
  | cons y ys ih => simp [vVariants, ih, Bool.and_assoc]

theorem variantTail_valid {s : Src} {n : Nat} (IH : VSpecs s n) {hd dflt : Bool} {acc : List (Variant Span)} {p : Nat}
    {vs : List (Variant Span)} {q : Nat} (h : variantTail s n hd dflt acc p = .ok vs q)
    (hacc : vVariants s acc = true) (hcnt : acc.countP variantDefault + (if dflt then 1 else 0) = (if hd then 1 else 0)) :
    vVariants s vs = true ∧ vs.countP variantDefault = 1 := by
  unfold variantTail at h
  obtain ⟨key, q1, hk, h⟩ := R.bind_eq_ok h
  obtain ⟨_, q2, _, h⟩ := R.bind_eq_ok h
  obtain ⟨o, q3, hr3, h⟩ := R.bind_eq_ok h
  cases o with
  | none => cases h
  | some value =>
    have hpat := IH.pattern _ _ _ hr3 value rfl
    unfold patOk at hpat
    simp only [Bool.and_eq_true] at hpat
    refine IH.variants _ _ _ _ _ h ?_ ?_
    · rw [vVariants_append, hacc]
      simp [vVariant, variantKey_vkeyOk hk, hpat.1, hpat.2]
    · rw [List.countP_append, ← hcnt]
      cases dflt <;> simp [variantDefault]

theorem variants_vstep {s : Src} {n : Nat} (IH : VSpecs s n) (hd : Bool) (acc : List (Variant Span)) (p : Nat)
    (vs : List (Variant Span)) (q : Nat) (h : getVariants s (n + 1) hd acc p = .ok vs q)
    (hacc : vVariants s acc = true) (hcnt : acc.countP variantDefault = (if hd then 1 else 0)) :
    vVariants s vs = true ∧ vs.countP variantDefault = 1 := by
  rw [getVariants_unfold] at h
  split at h
  · split at h
    · cases h
    · rename_i hhd
      split at h
      · exact variantTail_valid IH h hacc (by simp [hcnt, hhd])
      · cases h
  · split at h
    · exact variantTail_valid IH h hacc (by simp [hcnt])
    · split at h
      · rename_i hhd
        cases h
        exact ⟨hacc, by simp [hcnt, hhd]⟩
      · cases h

theorem vInl_append (s : Src) (xs : List (Inline Span)) (x : Inline Span) :
    vInl s (xs ++ [x]) = (vInl s xs && vInline s x) := by
  induction xs with
  | nil => simp [vInl]
  | cons y ys ih => simp [vInl, ih, Bool.and_assoc]

theorem vNamed_append (s : Src) (xs : List (Span × Inline Span)) (n : Span) (x : Inline Span) :
    vNamed s (xs ++ [(n, x)]) = (vNamed s xs && (identOk s n && vInline s x)) := by
  induction xs with
  | nil => simp [vNamed]
  | cons y ys ih => obtain ⟨m, y⟩ := y; simp [vNamed, ih, Bool.and_assoc]

theorem callArgsLoop_vstep {s : Src} {n : Nat} (IH : VSpecs s n)
    (pos : List (Inline Span)) (named : List (Span × Inline Span)) (p : Nat)
    (r : List (Inline Span) × List (Span × Inline Span)) (q : Nat)
    (h : getCallArgsLoop s (n + 1) pos named p = .ok r q)
    (hpos : vInl s pos = true) (hnamed : vNamed s named = true)
    (hdist : namesDistinct s (named.map (·.1)) = true) :
    vInl s r.1 = true ∧ vNamed s r.2 = true ∧ namesDistinct s (r.2.map (·.1)) = true := by
  rw [getCallArgsLoop_unfold] at h
  split at h
  · obtain ⟨exp, q1, hr, h⟩ := R.bind_eq_ok h
    have hexp := IH.inline _ _ _ _ hr
    have hpos' : vInl s (pos ++ [exp]) = true := by rw [vInl_append, hpos, hexp]; rfl
    unfold argTail at h
    split at h
    · rename_i id
      split at h
      · split at h
        · cases h
        · rename_i hany
          obtain ⟨val, q3, hr2, h⟩ := R.bind_eq_ok h
          have hval := IH.inline _ _ _ _ hr2
          have hid : identOk s id = true := by
            simp only [vInline, Bool.and_eq_true] at hexp
            exact hexp.1
          refine IH.callArgsLoop _ _ _ _ _ h hpos ?_ ?_
          · rw [vNamed_append, hnamed, hid, hval]; rfl
          · rw [List.map_append]
            refine namesDistinct_append _ _ hdist ?_
            rw [List.any_map]
            simpa using hany
      · split at h
        · cases h
        · exact IH.callArgsLoop _ _ _ _ _ h hpos' hnamed hdist
    · split at h
      · cases h
      · exact IH.callArgsLoop _ _ _ _ _ h hpos' hnamed hdist
  · cases h; exact ⟨hpos, hnamed, hdist⟩

theorem inline_vstep {s : Src} {n : Nat} (IH : VSpecs s n) (ol : Bool) (p : Nat) (e : Inline Span) (q : Nat)
    (h : getInline s (n + 1) ol p = .ok e q) : vInline s e = true := by
  have num : inlineNum s p = .ok e q → vInline s e = true := by
    intro h
    obtain ⟨sp, q1, hr, h⟩ := R.bind_eq_ok h
    cases h; exact getNumberLiteral_numOk hr
  revert h
  refine getInline_cases (motive := fun r => r = .ok e q → vInline s e = true) s n ol p ?_ ?_ ?_ ?_ ?_ ?_ ?_
  · intro k h; cases h
  · intro _ h
    obtain ⟨_, q1, hr, h⟩ := R.bind_eq_ok h
    split at h
    · split at h
      · rename_i sp hsl
        cases h
        obtain ⟨rfl, _⟩ := slice_eq_some hsl
        exact (scanString_ok hr).2
      · cases h
    · cases h
  · exact fun _ _ _ => num
  · intro _ _ hc h
    obtain ⟨b', hb', ha'⟩ := (isIdentifierStart_iff s (p + 1)).mp hc
    obtain ⟨id, q1, hr, h⟩ := R.bind_eq_ok h
    have hid : identOk s id = true := getIdentifierUnchecked_identOk (p := p + 1) hb' ha' hr
    obtain ⟨attr, q2, hr2, h⟩ := R.bind_eq_ok h
    have hattr := getAttributeAccessor_identOk hr2
    obtain ⟨args, q3, hr3, h⟩ := R.bind_eq_ok h
    cases h
    cases args with
    | none => simp [vInline, hid, hattr]
    | some pn =>
      have := IH.callArguments _ _ _ hr3 pn.1 pn.2 rfl
      simp [vInline, hid, hattr, this.1, this.2.1, this.2.2]
  · intro _ _ h
    obtain ⟨id, q1, hr, h⟩ := R.bind_eq_ok h
    cases h; exact getIdentifier_identOk hr
  · intro b hb ha h
    obtain ⟨id, q1, hr, h⟩ := R.bind_eq_ok h
    have hid : identOk s id = true := getIdentifierUnchecked_identOk hb ha hr
    obtain ⟨args, q3, hr3, h⟩ := R.bind_eq_ok h
    cases args with
    | some pn =>
      simp only [] at h
      split at h
      · cases h
      · rename_i hcal
        have hcal : isCallee s id = true := by simpa using hcal
        cases h
        have := IH.callArguments _ _ _ hr3 pn.1 pn.2 rfl
        simp [vInline, hid, calleeOk_of hid hcal, this.1, this.2.1, this.2.2]
    | none =>
      obtain ⟨attr, q2, hr2, h⟩ := R.bind_eq_ok h
      cases h
      simp [vInline, hid, getAttributeAccessor_identOk hr2]
  · intro _ _ h
    obtain ⟨e', q1, hr, h⟩ := R.bind_eq_ok h
    cases h
    simpa [vInline] using IH.placeable _ _ _ hr

theorem st2Of_PSV {s : Src} {st st2 : PatState} {p indent start stop : Nat} {nb : Bool} {term : Termination}
    (h : st2Of s st p indent start stop nb term = some st2) (hst : PSV s st)
    (hind : p + indent = start) (hle : start ≤ stop)
    (hr : ∀ j, p ≤ j → j < stop → ∀ b, s[j]? = some b → noBrace b = true) : PSV s st2 := by
  rcases st2Of_cases s st p indent start stop nb term with ⟨ci, h'⟩ | ⟨ci, hc1, _, h'⟩ <;> rw [h'] at h
  · cases h; exact hst
  · obtain ⟨e, he, h⟩ := Option.bind_eq_some_iff.mp h
    obtain ⟨sv, hsv, h⟩ := Option.map_eq_some_iff.mp h
    subst h
    have hphv : PhV s e := by
      rcases elOf_some he with rfl | ⟨hc3, _, rfl⟩
      · exact hr
      · have hne : start ≠ stop := by
          intro heq
          simp only [Bool.and_eq_true, Bool.not_eq_eq_eq_not, Bool.not_true] at hc3
          rw [hc3.2] at hc1
          simp [heq] at hc1
        exact fun j j1 j2 b hb => hr j (by omega) j2 b hb
    have hsvt : sv = true → Strong e := by
      intro hs
      subst hs
      unfold survivesOf at hsv
      split at hsv
      · rename_i hnb
        obtain ⟨sp, hsl, hne⟩ := Option.map_eq_some_iff.mp hsv
        obtain ⟨rfl, hvs⟩ := slice_eq_some hsl
        have ht := trimEndGo_spec s start (stop - start) stop hvs.1 hvs.2.2
        have hne : (trimEnd s ⟨start, stop⟩).stop ≠ start := by simpa using hne
        have h2 : (trimEnd s ⟨start, stop⟩).stop ≤ stop := ht.2.1
        have h1 : start ≤ (trimEnd s ⟨start, stop⟩).stop := ht.1
        rcases elOf_some he with rfl | ⟨hc, _⟩
        · show p + indent < stop
          omega
        · simp [hnb] at hc
      · cases hsv
    refine ⟨?_, ?_⟩
    · intro ph hph
      simp only [patPush, List.mem_append, List.mem_singleton] at hph
      rcases hph with hph | rfl
      · exact hst.1 ph hph
      · exact hphv
    · intro lnb hl
      simp only [patPush] at hl ⊢
      cases sv with
      | true =>
        simp only [if_true, Option.some.injEq] at hl
        subst hl
        exact ⟨e, by simp, hsvt rfl⟩
      | false =>
        simp only [Bool.false_eq_true, if_false] at hl
        obtain ⟨ph, h1, h2⟩ := hst.2 lnb hl
        exact ⟨ph, getElem?_append_one_left h1, h2⟩

theorem patternLoop_vstep {s : Src} {n : Nat} (IH : VSpecs s n) (st : PatState) (p : Nat) (st' : PatState) (q : Nat)
    (h : getPatternLoop s (n + 1) st p = .ok st' q) (hst : PSV s st) : PSV s st' := by
  revert h
  refine patLoop_cases (motive := fun r => r = .ok st' q → PSV s st') s n st p ?_ ?_ ?_ ?_
  · intro _ h; cases h; exact hst
  · intro _ _ h
    obtain ⟨e, q1, hr, h⟩ := R.bind_eq_ok h
    refine IH.patternLoop _ _ _ _ h ⟨?_, ?_⟩
    · intro ph hph
      simp only [patPlaced, List.mem_append, List.mem_singleton] at hph
      rcases hph with hph | rfl
      · exact hst.1 ph hph
      · exact IH.placeable _ _ _ hr
    · intro lnb hl
      cases hl
      exact ⟨Placeholder.placeable e, by simp [patPlaced], trivial⟩
  · intro _ _ _ h; cases h; exact hst
  · intro indent p1 _ _ hpre h
    obtain ⟨f1, f0⟩ := patPre_some hpre
    have f2 : ∀ j, p ≤ j → j < p1 → s[j]? = some 32 := by
      rcases f0 with rfl | ⟨rfl, _⟩
      · intro j j1 j2; omega
      · exact skipBlankInline_spaces s p
    obtain ⟨⟨start, stop, nb, term⟩, q1, hr, h2⟩ := R.bind_eq_ok h
    obtain ⟨t1, t2, t3⟩ := getTextSlice_noBrace hr
    subst t1
    have hrange : ∀ j, p ≤ j → j < stop → ∀ b, s[j]? = some b → noBrace b = true := by
      intro j j1 j2 b hb
      by_cases hj : j < start
      · rw [f2 j j1 hj] at hb; cases hb; decide
      · exact t3 j (by omega) j2 b hb
    unfold patAfterText at h2
    split at h2
    · rename_i st2 hst2
      have hpsv := st2Of_PSV hst2 hst f1 t2 hrange
      exact IH.patternLoop _ _ _ _ h2 hpsv
    · cases h2

theorem vspecs_all (s : Src) (n : Nat) : VSpecs s n := by
  induction n with
  | zero =>
    exact {
      patternLoop := fun st p st' q h => by simp [getPatternLoop] at h
      pattern := fun p o q h => by simp [getPattern] at h
      placeable := fun p e q h => by simp [getPlaceable] at h
      expression := fun p e q h => by simp [getExpression] at h
      inline := fun ol p e q h => by simp [getInline] at h
      callArguments := fun p o q h => by simp [getCallArguments] at h
      callArgsLoop := fun pos named p r q h => by simp [getCallArgsLoop] at h
      variants := fun hd acc p vs q h => by simp [getVariants] at h }
  | succ n ih =>
    exact {
      patternLoop := fun st p st' q h hst => patternLoop_vstep ih st p st' q h hst
      pattern := fun p o q h => pattern_vstep ih p o q h
      placeable := fun p e q h => placeable_vstep ih p e q h
      expression := fun p e q h => expression_vstep ih p e q h
      inline := fun ol p e q h => inline_vstep ih ol p e q h
      callArguments := fun p o q h => callArguments_vstep ih p o q h
      callArgsLoop := fun pos named p r q h h1 h2 h3 => callArgsLoop_vstep ih pos named p r q h h1 h2 h3
      variants := fun hd acc p vs q h h1 h2 => variants_vstep ih hd acc p vs q h h1 h2 }

end FluentProofs.Parser

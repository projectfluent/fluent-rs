import FluentProofs.SerializerCrLoneLoop
/-!
# Serializer round trip: `get_pattern` reads a class pattern back (C04, parser half, loop chain)

`getPattern_mlFuel`: `get_pattern` on `patText L p` for a class pattern `p`, any level, and any fuel that covers the loop and the
placeables (`PlParse fp`: placeables are read back abstractly, so nothing here depends on how inline expressions are parsed);
`getPattern_ml` is the instance for placeables with the round-trip property `PlRT`; `PatRT.parse_atTo` and `PatRT.parse_driver`
(the fuel the driver passes) are the parser half of the record `PatRT` with the end of the text as a variable.
-/
namespace FluentProofs.Ser
open FluentModel FluentModel.Syntax FluentModel.Syntax.Ser FluentProofs.Parser

/-- the pattern's text in `[q, E)`, its line feed at `E`, then empty lines up to a stopper line at `q'` -/
theorem getPattern_mlFuel {s : Src} (hs : AsciiThenBoundary s) (fp : Expr Bytes → Nat) (L : Nat)
    (p : List (PatElem Bytes)) (hcl : mlPattern p = true)
    (hpl : ∀ x, PatElem.placeable x ∈ p → PlParse fp (elemLevel L p) x) {q E q' : Nat} (n : Nat)
    (hat : AtTo s q (patText L p) E) (h10 : s[E]? = some 10) (hf : PatFollow s (E + 1) q')
    (hn : loopFuel fp (startsOnNewLine p) p + (q' - E) + 2 ≤ n) :
    ∃ els, getPattern s n q = .ok (some els) q' ∧ mapPat (spanBytes s) els = p := by
  simp only [mlPattern, Bool.and_eq_true, Bool.not_eq_true', List.isEmpty_eq_false_iff] at hcl
  obtain ⟨⟨⟨⟨hne, hml⟩, hlast⟩, hfirst⟩, hexc⟩ := hcl
  obtain ⟨m, rfl⟩ : ∃ m, n = m + 1 := ⟨n - 1, by omega⟩
  have hhead : ∀ x, PatElem.placeable x ∈ p → (exprText (elemLevel L p) x).head? = some 123 := fun x hx => (hpl x hx).head
  have hpe : p.isEmpty = false := by cases p <;> simp_all
  -- the first byte (`\n` or ` `) at `q`, the elements in `[q + 1, E)`
  obtain ⟨b, hpre, hb128⟩ : ∃ b, patPrefix p = [b] ∧ b < 128 := by
    unfold patPrefix; split
    · exact ⟨10, rfl, by decide⟩
    · exact ⟨32, rfl, by decide⟩
  rw [patText, hpre] at hat
  obtain ⟨hb, hEl⟩ := atTo_cons.mp hat
  have loop : ∀ (role : TextPos), mlRole (startsOnNewLine p) role →
      (0 < elemLevel L p ∨ isMultiline p = false) → (startsOnNewLine p = true → 0 < elemLevel L p) →
      (excesses (startsOnNewLine p) p ≠ [] →
        ciAfter (4 * elemLevel L p) none (excesses (startsOnNewLine p) p) = some (4 * elemLevel L p)) →
      ∃ st, getPatternLoop s m ⟨[], none, none, role, none⟩ (q + 1) = .ok st q' ∧
        ∃ lnb els, st.lastNonBlank = some lnb ∧ finishElements s st.keptCommonIndent lnb 0 st.elements = some els ∧
          mapPat (spanBytes s) els = p := by
    intro role hrole hlev hlevNl hcf
    obtain ⟨phs, tr, hloop, hrel⟩ := mlLoop hs (elemLevel L p) fp hf p hpl
      (startsOnNewLine p) m (q + 1) ⟨[], none, none, role, none⟩ _
      { ml := hml, last := hlast, nonl := fun h => absurd h hne, lev := hlev, levNl := hlevNl, role := Or.inl hrole,
        ci := rfl, cf := hcf, bnd := bnd_succ hs hb hb128, txt := hEl, lf := h10 } (by omega)
    obtain ⟨els, hfin, hmap⟩ := finishElements_mph s _ p hne phs tr 0 hrel
    refine ⟨_, hloop, _, els, by rw [hpe]; rfl, ?_, hmap⟩
    simpa [hpe] using hfin
  cases hs1 : startsOnNewLine p
  · obtain rfl : b = 32 := by simpa [patPrefix, hs1] using hpre.symm
    rw [hs1] at hml hEl
    obtain ⟨b, rest, hbr, b1, b2, b3⟩ := elemsText_first_inline (elemLevel L p) p hne hhead hml hlast (by
      intro v es hp
      simp only [mlFirstOK, hp] at hfirst
      rw [← hp, hs1] at hfirst
      simpa using hfirst)
    rw [hbr] at hEl
    obtain ⟨hb0, hEl⟩ := atTo_cons.mp hEl
    have hsbi : skipBlankInline s q = q + 1 := by
      rw [skipBlankInline_space s q hb]
      exact skipBlankInline_of_ne (by rw [hb0]; simpa using b1)
    have heol : skipEol s (q + 1) = none := by
      apply skipEol_lone s (q + 1) b hb0 b2
      intro hb13
      obtain ⟨c2, r2, hr2, hc2⟩ := b3 hb13
      rw [hr2] at hEl
      rw [(atTo_cons.mp hEl).1]; simpa using hc2
    obtain ⟨st, hloop, lnb, els, hlnb, hfin, hmap⟩ := loop .initialLineStart (by simp [hs1, mlRole])
      (by
        cases hm : isMultiline p
        · exact Or.inr rfl
        · exact Or.inl (by simp [elemLevel, hm]))
      (by rw [hs1]; intro h; cases h)
      (by
        rw [hs1]
        intro hex
        cases hm : isMultiline p
        · exact absurd (excesses_single p hm) hex
        · rw [hm, hs1] at hexc
          simp only [Bool.not_true, Bool.false_or, Bool.or_eq_true, List.isEmpty_iff] at hexc
          exact ciAfter_zero _ none _ trivial (by simpa using hexc.resolve_left hex))
    refine ⟨els, ?_, hmap⟩
    rw [getPattern]
    simp only [hsbi, heol, hloop, hlnb, hfin]
  · obtain rfl : b = 10 := by simpa [patPrefix, hs1] using hpre.symm
    have hm : isMultiline p = true := by
      simp only [startsOnNewLine, Bool.and_eq_true] at hs1; exact hs1.2
    have hlev : elemLevel L p = L + 1 := by simp [elemLevel, hm]
    rw [hs1] at hml hexc hEl
    obtain ⟨k, b, rest, hkb, b1, b2, b3⟩ := elemsText_first_line (elemLevel L p) p hne hhead hml hlast (by
      intro v es hp
      simp only [mlFirstOK, hp] at hfirst
      rw [← hp, hs1] at hfirst
      simpa using hfirst)
    -- the first line: `k` blanks in `[q + 1, c₀)`, then the byte `b`
    rw [hkb] at hEl
    obtain ⟨c₀, hK, hB⟩ := atTo_append (A := spacesL k) |>.mp hEl
    obtain ⟨rfl, hsp⟩ := atTo_spaces hK
    obtain ⟨hb0, hB⟩ := atTo_cons.mp hB
    have hsbi : skipBlankInline s q = q := skipBlankInline_of_ne (q := q) (by rw [hb]; decide)
    have heol : skipEol s q = some (q + 1) := by simp [skipEol, hb]
    have hsbb : skipBlankBlock s (q + 1) = (q + 1, 0) :=
      skipBlankBlockGo_line hsp hb0 b1 b2 (by
        intro hb13
        obtain ⟨c2, r2, hr2, hc2⟩ := b3 hb13
        rw [hr2] at hB
        rw [(atTo_cons.mp hB).1]; simpa using hc2) _ 0
    rw [hm] at hexc
    simp only [Bool.not_true, Bool.false_or, Bool.or_eq_true, List.isEmpty_iff] at hexc
    obtain ⟨st, hloop, lnb, els, hlnb, hfin, hmap⟩ := loop .lineStart (by simp [hs1, mlRole])
      (Or.inl (by omega)) (fun _ => by omega)
      (by rw [hs1]; intro hex; exact ciAfter_zero _ none _ trivial (by simpa using hexc.resolve_left hex))
    refine ⟨els, ?_, hmap⟩
    rw [getPattern]
    simp only [hsbi, heol, hsbb, hloop, hlnb, hfin]

theorem PlRT.toParse {L : Nat} {x : Expr Bytes} (h : PlRT L x) :
    PlParse (fun x => 4 * (exprText L x).length + 11) L x := ⟨h.head, h.last, h.parse⟩

theorem getPattern_ml {s : Src} (hs : AsciiThenBoundary s) (L : Nat) (p : List (PatElem Bytes)) (hcl : mlPattern p = true)
    (hpl : ∀ x, PatElem.placeable x ∈ p → PlRT (elemLevel L p) x) {q E q' : Nat} (n : Nat)
    (hat : AtTo s q (patText L p) E) (h10 : s[E]? = some 10) (hf : PatFollow s (E + 1) q')
    (hn : 4 * (q' - q) + 8 ≤ n) :
    ∃ els, getPattern s n q = .ok (some els) q' ∧ mapPat (spanBytes s) els = p := by
  have hml : mlElems (startsOnNewLine p) p = true := by
    simp only [mlPattern, Bool.and_eq_true] at hcl; exact hcl.1.1.1.2
  have := loopFuel_le (elemLevel L p) p (fun x hx => (hpl x hx).head) _ hml
  have hlen : (patText L p).length = 1 + (elemsText (elemLevel L p) (startsOnNewLine p) p).length := by
    simp only [patText, patPrefix, List.length_append]; split <;> rfl
  have := hf.1
  have := hat.len
  exact getPattern_mlFuel hs _ L p hcl (fun x hx => (hpl x hx).toParse) n hat h10 hf (by omega)

/-- `get_pattern` on a class pattern with the fuel the driver passes (`4 · (q' - q) + 8` is below it, the empty lines
behind the pattern lying inside the source): the pattern's text with its line feed in `[q, N)` -/
theorem PatRT.parse_driver {L : Nat} {p : List (PatElem Bytes)} (h : PatRT L p) {s : Src} (hs : AsciiThenBoundary s)
    {q N q' n : Nat} (hat : AtTo s q (patText L p ++ [10]) N) (hf : PatFollow s N q')
    (hn : exprFuel s ≤ n) : ∃ els, getPattern s n q = .ok (some els) q' ∧ mapPat (spanBytes s) els = p := by
  have := hf.le (hat.le_size (by simp))
  obtain ⟨hat, rfl⟩ := hat
  have := hf.1
  exact h.parse s q q' n hs hat (by simpa [Nat.add_assoc] using hf) (by simp only [exprFuel] at hn; simp at this; omega)

/-- the parser half of `PatRT` with the end of the pattern's text as a variable: the text in `[q, E)`, its line feed at `E` -/
theorem PatRT.parse_atTo {L : Nat} {p : List (PatElem Bytes)} (h : PatRT L p) {s : Src} (hs : AsciiThenBoundary s)
    {q E q' n : Nat} (hat : AtTo s q (patText L p) E) (h10 : s[E]? = some 10) (hf : PatFollow s (E + 1) q')
    (hn : 4 * (q' - q) + 8 ≤ n) : ∃ els, getPattern s n q = .ok (some els) q' ∧ mapPat (spanBytes s) els = p := by
  obtain ⟨hat, rfl⟩ := hat
  exact h.parse s q q' n hs ((at_append _ _ _ _).mpr ⟨hat, (at_cons _ _ _ _).mpr ⟨h10, trivial⟩⟩) hf hn

end FluentProofs.Ser

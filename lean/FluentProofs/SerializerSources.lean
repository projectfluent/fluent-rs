import FluentProofs.SerializerUtf8
import FluentProofs.Props.C01
/-!
# Serializer lemmas: from trees to sources (C04)

For a tree that `parse` produced from a `String`, every string of the tree is a slice of valid UTF-8
at char boundaries, so the serializer's output satisfies the `&str` invariant
(`serialize_atb_of_parse`) and the tree-level round-trip theorems apply without that hypothesis.
-/
namespace FluentProofs.Ser
open FluentModel FluentModel.Syntax FluentModel.Syntax.Ser FluentProofs.Parser

theorem parse_strings_good (str : String) (t : Resource Span) (errs : List PErr)
    (hp : parse str.toUTF8.data = .done (t, errs)) :
    ∀ e ∈ resolve str.toUTF8.data t, allEntry GoodB e := by
  intro e he
  simp only [resolve, List.mem_map] at he
  obtain ⟨e', he', rfl⟩ := he
  have hv := (FluentProofs.C01.parse_slices_valid str (t, errs) hp).1 e' he'
  refine allEntry_mapS (FluentProofs.C01.ValidSlice str.toUTF8.data) GoodB _ ?_ e' hv
  intro sp hsp
  exact goodB_span (asciiThenBoundary_of_string str) (nch_of_string str) (slice_eq_some hsp).2

theorem serialize_atb_of_parse (str : String) (t : Resource Span) (errs : List PErr)
    (hp : parse str.toUTF8.data = .done (t, errs)) (withJunk : Bool) (out : Bytes)
    (h : serialize withJunk (resolve str.toUTF8.data t) = some out) : AsciiThenBoundary out.toArray :=
  serialize_atb withJunk _ (parse_strings_good str t errs hp) out h

end FluentProofs.Ser

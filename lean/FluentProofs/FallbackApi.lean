import FluentProofs.FallbackBatch
/-!
# C16 lemmas, part 3: the six request APIs of `Bundles` and histories of requests on one instance

`specResponse` says what one request answers, in terms of the specifications of parts 1 and 2 (`valueSpec`,
`batchSpec`), and how far its cursor moves.  That is what the model's `handle` does, on an instance that has already pulled any
number of bundles; so a history of requests produces `traceSpec`, each request answered as if it were the first.
The end of the file reads single results off the specifications: `resultOf` is the first answer among the locales
(`resultOf_first`), and entry `i` of a batch is `resultOf` of key `i` (`batchSpec_results`).
-/
namespace FluentProofs.Fallback
open FluentModel.Fallback

variable {I L A N T RE BE : Type}

/-- what a request answers over the locale list `lbs` in the given mode:
(response, errors pushed, bundles consumed by the request's cursor) -/
def specResponse (sync : Bool) (lbs : List (L × BundleResult I L A N T RE BE)) :
    Request I A → Response I L N T RE BE × List (LocErr I L RE BE) × Nat
  | .value k => (.value (valueSpec (T := T) k lbs).1, (valueSpec (T := T) k lbs).2.1, (valueSpec (T := T) k lbs).2.2)
  | .valueSync k =>
    match sync with
    | true => (.valueSync (.ok (valueSpec (T := T) k lbs).1), (valueSpec (T := T) k lbs).2.1,
               (valueSpec (T := T) k lbs).2.2)
    | false => (.valueSync (.error .syncRequestInAsyncMode), [], 0)
  | .values ks =>
    let s := batchSpec (valueAns (T := T)) missEntry valueFin ks lbs
    (.values s.1, s.2.1, s.2.2)
  | .valuesSync ks =>
    let s := batchSpec (valueAns (T := T)) missEntry valueFin ks lbs
    match sync with
    | true => (.valuesSync (.ok s.1), s.2.1, s.2.2)
    | false => (.valuesSync (.error .syncRequestInAsyncMode), [], 0)
  | .messages ks =>
    let s := batchSpec (messageAns (N := N) (T := T)) messageMiss messageFin ks lbs
    (.messages s.1, s.2.1, s.2.2)
  | .messagesSync ks =>
    let s := batchSpec (messageAns (N := N) (T := T)) messageMiss messageFin ks lbs
    match sync with
    | true => (.messagesSync (.ok s.1), s.2.1, s.2.2)
    | false => (.messagesSync (.error .syncRequestInAsyncMode), [], 0)
  | .clear => (.cleared, [], 0)

/-- the caller's `errors` vector after an operation -/
def errsAfter (errors : List (LocErr I L RE BE)) (req : Request I A) (pushed : List (LocErr I L RE BE)) :
    List (LocErr I L RE BE) :=
  match req with
  | .clear => []
  | _ => errors ++ pushed

theorem advance_zero (b : Bundles I L A N T RE BE) : b.advance 0 = b := by
  cases b <;> simp [Bundles.advance, CacheSt.advance]

theorem advance_source (b : Bundles I L A N T RE BE) (u : Nat) : (b.advance u).cache.source = b.cache.source := by
  cases b <;> rfl

theorem advance_isSync (b : Bundles I L A N T RE BE) (u : Nat) : (b.advance u).isSync = b.isSync := by
  cases b <;> rfl

theorem advance_pulled (b : Bundles I L A N T RE BE) (u : Nat) :
    (b.advance u).cache.pulled = max b.cache.pulled u := by
  cases b <;> rfl

theorem handle_spec (b : Bundles I L A N T RE BE) (lbs : List (L × BundleResult I L A N T RE BE))
    (hsrc : b.cache.source = lbs.map (·.2)) (h : PerLocale lbs) (req : Request I A)
    (errors : List (LocErr I L RE BE)) :
    b.handle req errors =
      .done ((specResponse b.isSync lbs req).1,
             errsAfter errors req (specResponse b.isSync lbs req).2.1,
             b.advance (specResponse b.isSync lbs req).2.2) := by
  cases b with
  | iter c =>
    simp only [Bundles.cache] at hsrc
    cases req <;>
      simp only [Bundles.handle, Bundles.formatValue, Bundles.formatValueSync, Bundles.formatValues,
        Bundles.formatValuesSync, Bundles.formatMessages, Bundles.formatMessagesSync, reply,
        formatValueFromIter, formatValuesFromIter, formatMessagesFromIter, hsrc,
        formatValueFromInner_spec _ lbs h, formatValuesFromInner_spec _ lbs h,
        formatMessagesFromInner_spec _ lbs h, Outcome.bind, Outcome.map, specResponse, errsAfter,
        Bundles.isSync, advance_zero]
  | stream c =>
    simp only [Bundles.cache] at hsrc
    cases req <;>
      simp only [Bundles.handle, Bundles.formatValue, Bundles.formatValueSync, Bundles.formatValues,
        Bundles.formatValuesSync, Bundles.formatMessages, Bundles.formatMessagesSync, reply,
        formatValueFromStream, formatValuesFromStream, formatMessagesFromStream, hsrc,
        formatValueFromInner_spec _ lbs h, formatValuesFromInner_spec _ lbs h,
        formatMessagesFromInner_spec _ lbs h, Outcome.bind, Outcome.map, specResponse, errsAfter,
        Bundles.isSync, advance_zero, List.append_nil]

/-- the trace a history must produce -/
def traceSpec (sync : Bool) (lbs : List (L × BundleResult I L A N T RE BE)) :
    Bundles I L A N T RE BE → List (LocErr I L RE BE) → List (Request I A) →
    List (Response I L N T RE BE × List (LocErr I L RE BE) × Bundles I L A N T RE BE)
  | _, _, [] => []
  | b, errors, req :: reqs =>
    let s := specResponse (N := N) (T := T) sync lbs req
    let errors' := errsAfter errors req s.2.1
    let b' := b.advance s.2.2
    (s.1, errors', b') :: traceSpec sync lbs b' errors' reqs

theorem run_spec (lbs : List (L × BundleResult I L A N T RE BE)) (h : PerLocale lbs)
    (reqs : List (Request I A)) (b : Bundles I L A N T RE BE) (hsrc : b.cache.source = lbs.map (·.2))
    (errors : List (LocErr I L RE BE)) :
    b.run errors reqs = .done (traceSpec b.isSync lbs b errors reqs) := by
  induction reqs generalizing b errors with
  | nil => rfl
  | cons req reqs ih =>
    simp only [Bundles.run, handle_spec b lbs hsrc h, Outcome.bind]
    rw [ih _ (by rw [advance_source, hsrc])]
    simp [traceSpec, advance_isSync]

theorem traceSpec_responses (sync : Bool) (lbs : List (L × BundleResult I L A N T RE BE))
    (b : Bundles I L A N T RE BE) (errors : List (LocErr I L RE BE)) (reqs : List (Request I A)) :
    (traceSpec sync lbs b errors reqs).map (·.1) =
      reqs.map fun r => (specResponse sync lbs r).1 := by
  induction reqs generalizing b errors with
  | nil => rfl
  | cons req reqs ih => simp [traceSpec, ih]

theorem resultOf_first {ρ : Type} (ans : Key I A → L × BundleResult I L A N T RE BE → Option (ρ × List RE))
    (k : Key I A) (pre post : List (L × BundleResult I L A N T RE BE)) (p : L × BundleResult I L A N T RE BE)
    (r : ρ × List RE) (hpre : ∀ q ∈ pre, ans k q = none) (hp : ans k p = some r) :
    resultOf ans k (pre ++ p :: post) = some r.1 := by
  have h1 : firstAns ans k pre = none := by
    simp only [firstAns, List.findSome?_eq_none_iff]
    intro q hq; simp [hpre q hq]
  simp [resultOf, firstAns_append, h1, firstAns_cons, hp]

theorem resultOf_eq_none_iff {ρ : Type} (ans : Key I A → L × BundleResult I L A N T RE BE → Option (ρ × List RE))
    (k : Key I A) (lbs : List (L × BundleResult I L A N T RE BE)) :
    resultOf ans k lbs = none ↔ ∀ q ∈ lbs, ans k q = none := by
  simp [resultOf, firstAns]

theorem valueSpec_result (k : Key I A) (lbs : List (L × BundleResult I L A N T RE BE)) :
    resultOf (valueAns) k lbs = (valueSpec k lbs).1 := by
  rw [valueSpec_eq_batch_singleton]

theorem batchSpec_results {ρ : Type} (ans : Key I A → L × BundleResult I L A N T RE BE → Option (ρ × List RE))
    (miss fin) (keys : List (Key I A)) (lbs : List (L × BundleResult I L A N T RE BE)) (i : Nat) (k : Key I A)
    (hk : keys[i]? = some k) :
    (batchSpec ans miss fin keys lbs).1[i]? = some (resultOf ans k lbs) ∧
      (batchSpec ans miss fin [k] lbs).1 = [resultOf ans k lbs] := by
  simp [batchSpec, hk]

end FluentProofs.Fallback

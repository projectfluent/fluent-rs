import FluentProofs.SerializerCongr
import FluentProofs.ParserBasics
/-!
# Serializer round trip: texts and classes of inline expressions (C04)

Definitions and facts about byte lists only; no writer and no parser lemma.  The select-free class `validInline` with the text
`inlineBytes` the serializer writes for it and the nesting budget `fuelInline` the parser needs, and what the parse-back
statements are phrased with (`At`, `AtTo`, `Follow`, `endPos`).
-/
namespace FluentProofs.Ser
open FluentModel FluentModel.Syntax FluentModel.Syntax.Ser FluentProofs.Parser

@[simp] theorem lit_quote : lit "\"" = [34] := rfl
@[simp] theorem lit_dollar : lit "$" = [36] := rfl
@[simp] theorem lit_lparen : lit "(" = [40] := rfl
@[simp] theorem lit_rparen : lit ")" = [41] := rfl
@[simp] theorem lit_dot : lit "." = [46] := rfl
@[simp] theorem lit_minus : lit "-" = [45] := rfl
@[simp] theorem lit_lbrace : lit "{" = [123] := rfl
@[simp] theorem lit_rbrace : lit "}" = [125] := rfl
@[simp] theorem lit_comma : lit ", " = [44, 32] := rfl
@[simp] theorem lit_colon : lit ": " = [58, 32] := rfl
@[simp] theorem lit_lbrace_sp : lit "{ " = [123, 32] := rfl
@[simp] theorem lit_sp_rbrace : lit " }" = [32, 125] := rfl
@[simp] theorem lit_eq : lit " =" = [32, 61] := rfl
@[simp] theorem lit_sp : lit " " = [32] := rfl
@[simp] theorem lit_dbl_lbrace : lit "{{ " = [123, 123, 32] := rfl
@[simp] theorem lit_dbl_rbrace : lit " }}" = [32, 125, 125] := rfl
@[simp] theorem lit_lbracket : lit "[" = [91] := rfl
@[simp] theorem lit_rbracket : lit "]" = [93] := rfl
@[simp] theorem lit_arrow : lit " ->" = [32, 45, 62] := rfl

/-- `[a-zA-Z][a-zA-Z0-9_-]*` -/
def validIdent : Bytes → Bool
  | [] => false
  | b :: rest => isAlpha b && rest.all isIdentByte

def numBody : Bytes → Bytes
  | 45 :: r => r
  | v => v

/-- `[0-9]+(\.[0-9]+)?` -/
def validNumBody (body : Bytes) : Bool :=
  !(body.takeWhile isDigit).isEmpty &&
    (match body.dropWhile isDigit with
     | [] => true
     | 46 :: fr => !fr.isEmpty && fr.all isDigit
     | _ => false)

/-- `-?[0-9]+(\.[0-9]+)?` -/
def validNumber (v : Bytes) : Bool := validNumBody (numBody v)

/-- body of a string literal: no raw `"` or `\n`, backslash only in `\\`, `\"`, `\uXXXX`, `\UXXXXXX` -/
def validStrBody : Bytes → Bool
  | [] => true
  | 92 :: 92 :: r => validStrBody r
  | 92 :: 34 :: r => validStrBody r
  | 92 :: 117 :: a :: b :: c :: d :: r =>
    isHexDigit a && isHexDigit b && isHexDigit c && isHexDigit d && validStrBody r
  | 92 :: 85 :: a :: b :: c :: d :: e :: f :: r =>
    isHexDigit a && isHexDigit b && isHexDigit c && isHexDigit d && isHexDigit e && isHexDigit f && validStrBody r
  | 92 :: _ => false
  | 34 :: _ => false
  | 10 :: _ => false
  | _ :: r => validStrBody r

/-- `is_callee` on the name -/
def isCalleeName (id : Bytes) : Bool := id.all fun c => isUpper c || isDigit c || c == 95 || c == 45

def isLiteral : Inline Bytes → Bool
  | .str _ => true
  | .num _ => true
  | _ => false

/-- what `get_inline_expression(only_literal = true)` accepts as the value of a named argument: string and
number literals, and — the `is_ascii_alphabetic` branch is not guarded by `only_literal` — message references
and function calls -/
def isNamedValue : Inline Bytes → Bool
  | .str _ => true
  | .num _ => true
  | .msg _ _ => true
  | .fn _ _ _ => true
  | _ => false

def optIdent : Option Bytes → Bool
  | none => true
  | some a => validIdent a

def namesNodup (named : List (Bytes × Inline Bytes)) : Bool := decide (named.map Prod.fst).Nodup

mutual
/-- **`ValidInline`**: the inline expressions that can be written in FTL syntax: identifiers and
number literals well-shaped, string literals with valid escapes only and no raw newline/quote,
callee names upper-case, named-argument names unique with values that are literals, message references or
function calls (`isNamedValue`), a nested placeable
contains an inline expression (no select) that is not a term attribute. -/
def validInline : Inline Bytes → Bool
  | .str v => validStrBody v
  | .num v => validNumber v
  | .var id => validIdent id
  | .msg id attr => validIdent id && optIdent attr
  | .term id attr none => validIdent id && optIdent attr
  | .term id attr (some (pos, named)) =>
    validIdent id && optIdent attr && validInl pos && validNamed named && namesNodup named
  | .fn id pos named => validIdent id && isCalleeName id && validInl pos && validNamed named && namesNodup named
  | .placeable e => validInner e
def validInl : List (Inline Bytes) → Bool
  | [] => true
  | x :: xs => validInline x && validInl xs
def validNamed : List (Bytes × Inline Bytes) → Bool
  | [] => true
  | (n, v) :: xs => validIdent n && isNamedValue v && validInline v && validNamed xs
def validInner : Expr Bytes → Bool
  | .inline (.term _ (some _) _) => false
  | .inline i => validInline i
  | .select _ _ => false
end

def attrBytes : Option Bytes → Bytes
  | none => []
  | some a => 46 :: a

mutual
def inlineBytes : Inline Bytes → Bytes
  | .str v => 34 :: (v ++ [34])
  | .num v => v
  | .var id => 36 :: id
  | .msg id attr => id ++ attrBytes attr
  | .term id attr none => 45 :: (id ++ attrBytes attr)
  | .term id attr (some (pos, named)) => 45 :: (id ++ attrBytes attr ++ 40 :: posTail pos named.isEmpty (namedTail named))
  | .fn id pos named => id ++ 40 :: posTail pos named.isEmpty (namedTail named)
  | .placeable e => 123 :: (innerBytes e ++ [125])
/-- positional arguments from the start of one of them, then the named ones, then `)` -/
def posTail : List (Inline Bytes) → (noNamed : Bool) → (namedText : Bytes) → Bytes
  | [], _, nt => nt
  | x :: xs, nn, nt => inlineBytes x ++ (if xs.isEmpty && nn then [] else [44, 32]) ++ posTail xs nn nt
/-- named arguments from the start of one of them, then `)` -/
def namedTail : List (Bytes × Inline Bytes) → Bytes
  | [] => [41]
  | (n, v) :: xs => n ++ [58, 32] ++ inlineBytes v ++ (if xs.isEmpty then [] else [44, 32]) ++ namedTail xs
def innerBytes : Expr Bytes → Bytes
  | .inline i => inlineBytes i
  | .select _ _ => []
end

theorem alnum_ge {b : UInt8} (h : isAlpha b = true ∨ isDigit b = true) : 48 ≤ b.toNat := by
  rcases h with h | h
  · have := (isAlpha_iff b).mp h; omega
  · exact ((isDigit_iff b).mp h).1

theorem isIdentByte_cases {b : UInt8} (h : isIdentByte b = true) :
    isAlpha b = true ∨ isDigit b = true ∨ b = 45 ∨ b = 95 := by
  simpa [isIdentByte, or_assoc] using h

theorem isAlpha_ne : ∀ b : UInt8, isAlpha b = true → b ≠ 10 ∧ b ≠ 13 := fun b hb =>
  have := alnum_ge (Or.inl hb)
  ⟨ne_of_toNat_ne (by simp; omega), ne_of_toNat_ne (by simp; omega)⟩

theorem isDigit_ne : ∀ b : UInt8, isDigit b = true → b ≠ 10 ∧ b ≠ 13 := fun b hb =>
  have := alnum_ge (Or.inr hb)
  ⟨ne_of_toNat_ne (by simp; omega), ne_of_toNat_ne (by simp; omega)⟩

theorem isIdentByte_ne : ∀ b : UInt8, isIdentByte b = true → b ≠ 10 ∧ b ≠ 13 := fun b hb => by
  rcases isIdentByte_cases hb with h | h | rfl | rfl
  · exact isAlpha_ne b h
  · exact isDigit_ne b h
  · decide
  · decide

theorem isHexDigit_ne10 : ∀ b : UInt8, isHexDigit b = true → b ≠ 10 := fun b hb => by
  have : 48 ≤ b.toNat := by
    simp only [isHexDigit, Bool.or_eq_true, Bool.and_eq_true, decide_eq_true_eq, UInt8.le_iff_toNat_le] at hb
    rcases hb with (h | h) | h
    · exact ((isDigit_iff b).mp h).1
    · simp at h; omega
    · simp at h; omega
  exact ne_of_toNat_ne (by simp; omega)

theorem validStrBody_no_nl (v : Bytes) (h : validStrBody v = true) : 10 ∉ v := by
  have hex : ∀ {b : UInt8}, isHexDigit b = true → ¬ 10 = b := fun hb e => isHexDigit_ne10 _ hb e.symm
  fun_induction validStrBody v <;> simp_all
  -- left: the head that is none of `\`, `"`, `\n` (the hex digits of `\u`/`\U` are no line feeds by `hex`)
  intro e
  subst e
  contradiction

theorem mem_takeWhile_pred {α : Type} (p : α → Bool) (l : List α) : ∀ b ∈ l.takeWhile p, p b = true := by
  induction l with
  | nil => simp
  | cons x xs ih =>
    intro b hb
    rw [List.takeWhile_cons] at hb
    split at hb
    · simp at hb
      rcases hb with rfl | hb
      · assumption
      · exact ih b hb
    · simp at hb

theorem validNumber_decomp (v : Bytes) (h : validNumber v = true) :
    ∃ sign ip frac : Bytes, v = sign ++ ip ++ frac ∧ (sign = [] ∨ sign = [45]) ∧ ip ≠ [] ∧
      (∀ b ∈ ip, isDigit b = true) ∧
      (frac = [] ∨ ∃ fr, frac = 46 :: fr ∧ fr ≠ [] ∧ ∀ b ∈ fr, isDigit b = true) := by
  unfold validNumber validNumBody at h
  generalize hbody : numBody v = body at h
  simp only [Bool.and_eq_true, Bool.not_eq_true', List.isEmpty_eq_false_iff] at h
  obtain ⟨h1, h2⟩ := h
  have key : ∀ body : Bytes, body.takeWhile isDigit ≠ [] →
      (match body.dropWhile isDigit with
       | [] => true
       | 46 :: fr => !fr.isEmpty && fr.all isDigit
       | _ => false) = true →
      ∃ ip frac : Bytes, body = ip ++ frac ∧ ip ≠ [] ∧ (∀ b ∈ ip, isDigit b = true) ∧
        (frac = [] ∨ ∃ fr, frac = 46 :: fr ∧ fr ≠ [] ∧ ∀ b ∈ fr, isDigit b = true) := by
    intro body hb1 hb2
    refine ⟨body.takeWhile isDigit, body.dropWhile isDigit, (List.takeWhile_append_dropWhile).symm, hb1,
      mem_takeWhile_pred _ _, ?_⟩
    split at hb2
    · left; assumption
    · right
      rename_i fr heq
      simp at hb2
      exact ⟨fr, heq, hb2.1, hb2.2⟩
    · cases hb2
  obtain ⟨ip, frac, e, h3, h4, h5⟩ := key body h1 h2
  unfold numBody at hbody
  split at hbody
  · exact ⟨[45], ip, frac, by simp [← e, hbody], Or.inr rfl, h3, h4, h5⟩
  · exact ⟨[], ip, frac, by simp [← e, hbody], Or.inl rfl, h3, h4, h5⟩

/-- ends with a byte that is neither `\n` nor `\r` (so whatever is written next is simply appended) -/
def tidy (x : Bytes) : Bool :=
  match x.getLast? with
  | none => false
  | some b => b != 10 && b != 13

theorem tidy_joinOK {a : Bytes} (h : tidy a = true) (b : Bytes) : JoinOK a b := by
  unfold tidy at h
  split at h
  · cases h
  · rename_i x hx
    simp at h
    refine ⟨by intro h0; simp [h0] at hx, by simp [hx, h.1], by simp [hx, h.2]⟩

theorem tidy_append (a b : Bytes) (h : tidy b = true) : tidy (a ++ b) = true := by
  unfold tidy at h ⊢
  split at h
  · cases h
  · rename_i x hx; simp [List.getLast?_append, hx, h]

theorem tidy_append_nil (a : Bytes) (h : tidy a = true) : tidy (a ++ []) = true := by simpa using h

theorem tidy_concat (a : Bytes) (c : UInt8) (h1 : c ≠ 10) (h2 : c ≠ 13) : tidy (a ++ [c]) = true := by
  apply tidy_append; simp [tidy, h1, h2]

theorem tidy_of_all (x : Bytes) (hne : x ≠ []) (h : ∀ b ∈ x, b ≠ 10 ∧ b ≠ 13) : tidy x = true := by
  unfold tidy
  cases hx : x.getLast? with
  | none => simp at hx; exact absurd hx hne
  | some b =>
    have := h b (List.mem_of_getLast? hx)
    simp [this]

theorem validIdent_ne_nil {id : Bytes} (h : validIdent id = true) : id ≠ [] := by
  cases id <;> simp_all [validIdent]

theorem validIdent_all {id : Bytes} (h : validIdent id = true) : ∀ b ∈ id, isIdentByte b = true := by
  cases id with
  | nil => simp [validIdent] at h
  | cons x xs =>
    simp [validIdent] at h
    intro b hb
    simp at hb
    rcases hb with rfl | hb
    · simp [isIdentByte, h.1]
    · exact h.2 b hb

theorem validIdent_tidy {id : Bytes} (h : validIdent id = true) : tidy id = true :=
  tidy_of_all id (validIdent_ne_nil h) (fun b hb => isIdentByte_ne b (validIdent_all h b hb))

theorem validNumber_tidy {v : Bytes} (h : validNumber v = true) : tidy v = true := by
  obtain ⟨sign, ip, frac, rfl, _, h3, h4, h5⟩ := validNumber_decomp v h
  rcases h5 with rfl | ⟨fr, rfl, h6, h7⟩
  · simp only [List.append_nil]
    exact tidy_append _ _ (tidy_of_all ip h3 (fun b hb => isDigit_ne b (h4 b hb)))
  · apply tidy_append
    exact tidy_of_all _ (by simp) (fun b hb => by
      simp at hb
      rcases hb with rfl | hb
      · decide
      · exact isDigit_ne b (h7 b hb))

theorem tidy_app3 (acc : Bytes) (b : Bool) (h : tidy acc = true) :
    tidy (acc ++ if b then [44, 32] else []) = true := by
  cases b
  · simpa using h
  · exact tidy_append _ _ (by decide)

theorem validInner_inline {i : Inline Bytes} (h : validInner (.inline i) = true) : validInline i = true := by
  unfold validInner at h
  split at h
  · cases h
  · rename_i j heq; cases heq; exact h
  · rename_i heq; cases heq

theorem namedTail_tidy (named : List (Bytes × Inline Bytes)) : tidy (namedTail named) = true := by
  cases named with
  | nil => decide
  | cons x xs =>
    obtain ⟨n, v⟩ := x
    rw [namedTail]
    exact tidy_append _ _ (namedTail_tidy xs)

theorem posTail_tidy (xs : List (Inline Bytes)) (nn : Bool) (nt : Bytes) (h : tidy nt = true) :
    tidy (posTail xs nn nt) = true := by
  induction xs with
  | nil => simpa [posTail] using h
  | cons x xs ih => rw [posTail]; exact tidy_append _ _ ih

theorem validIdent_head {id : Bytes} (h : validIdent id = true) : ∃ b rest, id = b :: rest ∧ isAlpha b = true ∧
    ∀ c ∈ rest, isIdentByte c = true := by
  cases id with
  | nil => simp [validIdent] at h
  | cons b rest => simp [validIdent] at h; exact ⟨b, rest, rfl, h.1, h.2⟩

def numStop (c : UInt8) : Bool := isDigit c || c == 46

theorem digit_facts : ∀ b : UInt8, isDigit b = true → b ≠ 34 ∧ b ≠ 45 ∧ isAlpha b = false := fun b hb => by
  have h := (isDigit_iff b).mp hb
  have ha : ¬ isAlpha b = true := fun ha => by have := (isAlpha_iff b).mp ha; omega
  exact ⟨ne_of_toNat_ne (by simp; omega), ne_of_toNat_ne (by simp; omega), by simpa using ha⟩

theorem alpha_facts : ∀ b : UInt8, isAlpha b = true → b ≠ 34 ∧ isDigit b = false ∧ b ≠ 45 ∧ b ≠ 36 := fun b hb => by
  have h := (isAlpha_iff b).mp hb
  have hd : ¬ isDigit b = true := fun hd => by have := (isDigit_iff b).mp hd; omega
  exact ⟨ne_of_toNat_ne (by simp; omega), by simpa using hd, ne_of_toNat_ne (by simp; omega),
    ne_of_toNat_ne (by simp; omega)⟩

theorem alpha_not_hash_minus : ∀ b : UInt8, isAlpha b = true → b ≠ 35 ∧ b ≠ 45 := fun b hb => by
  have h := (isAlpha_iff b).mp hb
  exact ⟨ne_of_toNat_ne (by simp; omega), ne_of_toNat_ne (by simp; omega)⟩

theorem validNumber_head {v : Bytes} (hv : validNumber v = true) :
    (∃ d rest, v = d :: rest ∧ isDigit d = true) ∨ (∃ d rest, v = 45 :: d :: rest ∧ isDigit d = true) := by
  obtain ⟨sign, ip, frac, rfl, hsign, hip, hipd, _⟩ := validNumber_decomp v hv
  cases ip with
  | nil => exact absurd rfl hip
  | cons d ds =>
    have hd := hipd d (by simp)
    rcases hsign with rfl | rfl
    · left; exact ⟨d, ds ++ frac, by simp, hd⟩
    · right; exact ⟨d, ds ++ frac, by simp, hd⟩

/-- the source contains `bs` at position `p` -/
def At (s : Src) : Nat → Bytes → Prop
  | _, [] => True
  | p, b :: bs => s[p]? = some b ∧ At s (p + 1) bs

/-- the text `T` stands in `s` from `p` to `q` -/
structure AtTo (s : Src) (p : Nat) (T : Bytes) (q : Nat) : Prop where
  txt : At s p T
  len : p + T.length = q

def NoCallNoAttr (s : Src) (q : Nat) : Prop := s[skipBlank s q]? ≠ some 40 ∧ s[skipBlank s q]? ≠ some 46

/-- what may follow an inline expression: not an identifier byte, not `.`; after optional blanks
neither `(` nor `.` -/
def Follow (s : Src) (q : Nat) : Prop :=
  (∀ c, s[q]? = some c → isIdentByte c = false ∧ c ≠ 46) ∧ NoCallNoAttr s q

theorem identByte_of_digit : ∀ c : UInt8, isDigit c = true → isIdentByte c = true := fun c h => by
  simp [isIdentByte, h]

/-- where `get_inline_expression` stops: references without arguments swallow the blanks that follow -/
def endPos (e : Inline Bytes) (s : Src) (q : Nat) : Nat :=
  match e with
  | .msg _ none => skipBlank s q
  | .term _ _ none => skipBlank s q
  | _ => q

mutual
/-- nesting budget the parser needs for `inlineBytes e` -/
def fuelInline : Inline Bytes → Nat
  | .fn _ pos named => fuelArgs pos + fuelNamed named + 5
  | .term _ _ (some (pos, named)) => fuelArgs pos + fuelNamed named + 5
  | .placeable e => fuelInner e + 3
  | _ => 2
def fuelArgs : List (Inline Bytes) → Nat
  | [] => 0
  | x :: xs => fuelInline x + fuelArgs xs + 1
def fuelNamed : List (Bytes × Inline Bytes) → Nat
  | [] => 0
  | (_, v) :: xs => fuelInline v + fuelNamed xs + 1
def fuelInner : Expr Bytes → Nat
  | .inline i => fuelInline i
  | .select _ _ => 0
end

theorem fuelInline_ge (e : Inline Bytes) : 2 ≤ fuelInline e := by
  cases e with
  | term a b c => cases c with
    | none => simp [fuelInline]
    | some pn => obtain ⟨p, n⟩ := pn; simp [fuelInline]
  | fn a b c => simp [fuelInline]
  | placeable e => simp [fuelInline]
  | _ => simp [fuelInline]

def notBlank (b : UInt8) : Bool := b != 32 && b != 10 && b != 13 && b != 41

theorem notBlank_iff (b : UInt8) : notBlank b = true ↔ b ≠ 32 ∧ b ≠ 10 ∧ b ≠ 13 ∧ b ≠ 41 := by
  simp [notBlank, and_assoc]

theorem alnum_notBlank {b : UInt8} (h : isAlpha b = true ∨ isDigit b = true) : notBlank b = true := by
  have := alnum_ge h
  exact (notBlank_iff b).mpr ⟨ne_of_toNat_ne (by simp; omega), ne_of_toNat_ne (by simp; omega),
    ne_of_toNat_ne (by simp; omega), ne_of_toNat_ne (by simp; omega)⟩

theorem alpha_notBlank : ∀ b : UInt8, isAlpha b = true → notBlank b = true := fun _ h => alnum_notBlank (Or.inl h)
theorem digit_notBlank : ∀ b : UInt8, isDigit b = true → notBlank b = true := fun _ h => alnum_notBlank (Or.inr h)

theorem inlineBytes_head (e : Inline Bytes) (hv : validInline e = true) :
    ∃ b, (inlineBytes e).head? = some b ∧ notBlank b = true := by
  cases e with
  | str v => exact ⟨34, by simp [inlineBytes], by decide⟩
  | num v =>
    simp only [validInline] at hv
    rcases validNumber_head hv with ⟨d, rest, rfl, hd⟩ | ⟨d, rest, rfl, hd⟩
    · exact ⟨d, by simp [inlineBytes], digit_notBlank d hd⟩
    · exact ⟨45, by simp [inlineBytes], by decide⟩
  | var id => exact ⟨36, by simp [inlineBytes], by decide⟩
  | msg id attr =>
    simp only [validInline, Bool.and_eq_true] at hv
    obtain ⟨b, rest, rfl, hb, _⟩ := validIdent_head hv.1
    exact ⟨b, by simp [inlineBytes], alpha_notBlank b hb⟩
  | fn id pos named =>
    simp only [validInline, Bool.and_eq_true] at hv
    obtain ⟨b, rest, rfl, hb, _⟩ := validIdent_head hv.1.1.1.1
    exact ⟨b, by simp [inlineBytes], alpha_notBlank b hb⟩
  | term id attr args =>
    cases args with
    | none => exact ⟨45, by simp [inlineBytes], by decide⟩
    | some pn => obtain ⟨p, n⟩ := pn; exact ⟨45, by simp [inlineBytes], by decide⟩
  | placeable e => exact ⟨123, by simp [inlineBytes], by decide⟩

/-- the names of the named arguments read so far, which the parser checks a new name against -/
def accNames (s : Src) (named0 : List (Span × Inline Span)) : List Bytes := named0.map fun na => spanBytes s na.1

theorem mapNamed_append (f : Span → Bytes) (a b : List (Span × Inline Span)) :
    mapNamed f (a ++ b) = mapNamed f a ++ mapNamed f b := by
  induction a with
  | nil => rfl
  | cons x xs ih => obtain ⟨n, v⟩ := x; simp [mapNamed, ih]

theorem mapInl_append (f : Span → Bytes) (a b : List (Inline Span)) :
    mapInl f (a ++ b) = mapInl f a ++ mapInl f b := by
  induction a with
  | nil => rfl
  | cons x xs ih => simp [mapInl, ih]

/-- what `getCallArgsLoop_named` proves about the named arguments; the hypothesis of `getCallArgsLoop_pos` -/
def NamedLoopOK (s : Src) (named : List (Bytes × Inline Bytes)) : Prop :=
  ∀ (p fuel : Nat) (pos0 : List (Inline Span)) (named0 : List (Span × Inline Span)),
    At s p (namedTail named) → fuelNamed named + 3 ≤ fuel →
    (∀ n ∈ named.map Prod.fst, n ∉ accNames s named0) →
    ∃ named', getCallArgsLoop s fuel pos0 named0 p =
        .ok (pos0, named0 ++ named') (p + (namedTail named).length - 1) ∧
      mapNamed (spanBytes s) named' = named

theorem notTermAttr_map {i : Inline Bytes} (h : ∀ a b c, i ≠ .term a (some b) c) (e' : Inline Span)
    (f : Span → Bytes) (hm : e'.mapS f = i) : ∀ a b c, e' ≠ .term a (some b) c := by
  intro a b c he
  subst he
  cases c with
  | none => simp only [Inline.mapS] at hm; exact h _ _ _ hm.symm
  | some pn => obtain ⟨p, n⟩ := pn; simp only [Inline.mapS] at hm; exact h _ _ _ hm.symm

theorem notTermAttr_of_valid {i : Inline Bytes} (h : validInner (.inline i) = true) (e' : Inline Span)
    (f : Span → Bytes) (hm : e'.mapS f = i) : ∀ a b c, e' ≠ .term a (some b) c :=
  notTermAttr_map (fun a b c hi => by subst hi; simp [validInner] at h) e' f hm

/-- positional arguments from the start of one of them, then the text `nt` of the named ones -/
def posTextG (txt : Inline Bytes → Bytes) : List (Inline Bytes) → (noNamed : Bool) → (namedText : Bytes) → Bytes
  | [], _, nt => nt
  | x :: xs, nn, nt => txt x ++ (if xs.isEmpty && nn then [] else [44, 32]) ++ posTextG txt xs nn nt

/-- named arguments from the start of one of them, then `)` -/
def namedTextG (txt : Inline Bytes → Bytes) : List (Bytes × Inline Bytes) → Bytes
  | [] => [41]
  | (n, v) :: xs => n ++ [58, 32] ++ txt v ++ (if xs.isEmpty then [] else [44, 32]) ++ namedTextG txt xs

def argsFuelG (fa : Inline Bytes → Nat) : List (Inline Bytes) → Nat
  | [] => 0
  | x :: xs => fa x + argsFuelG fa xs + 1

def namedFuelG (fa : Inline Bytes → Nat) : List (Bytes × Inline Bytes) → Nat
  | [] => 0
  | (_, v) :: xs => fa v + namedFuelG fa xs + 1

structure ArgParse (txt : Inline Bytes → Bytes) (fa : Inline Bytes → Nat) (x : Inline Bytes) : Prop where
  head : ∃ b, (txt x).head? = some b ∧ notBlank b = true
  parse : ∀ (s : Src) (p q fuel : Nat), AsciiThenBoundary s → AtTo s p (txt x) q → Follow s q → fa x ≤ fuel →
    ∃ e', getInline s fuel false p = .ok e' (endPos x s q) ∧ e'.mapS (spanBytes s) = x

/-- the value of a named argument is read back with `only_literal` set, and nothing behind it is swallowed -/
structure ArgParseOL (txt : Inline Bytes → Bytes) (fa : Inline Bytes → Nat) (v : Inline Bytes) : Prop where
  head : ∃ b, (txt v).head? = some b ∧ notBlank b = true
  parse : ∀ (s : Src) (p q fuel : Nat), AsciiThenBoundary s → AtTo s p (txt v) q → Follow s q → skipBlank s q = q →
    fa v ≤ fuel → ∃ v', getInline s fuel true p = .ok v' q ∧ v'.mapS (spanBytes s) = v

theorem namedTextG_head (txt : Inline Bytes → Bytes) (named : List (Bytes × Inline Bytes))
    (hv : ∀ nv ∈ named, validIdent nv.1 = true) :
    ∃ b, (namedTextG txt named).head? = some b ∧ b ≠ 32 ∧ b ≠ 10 ∧ b ≠ 13 ∧ (named = [] → b = 41) ∧
      (named ≠ [] → b ≠ 41) := by
  cases named with
  | nil => exact ⟨41, by simp [namedTextG], by decide, by decide, by decide, fun _ => rfl, fun h => absurd rfl h⟩
  | cons x xs =>
    obtain ⟨n, v⟩ := x
    obtain ⟨b, rest, rfl, hb, _⟩ := validIdent_head (hv (n, v) List.mem_cons_self)
    obtain ⟨h1, h2, h3, h4⟩ := (notBlank_iff b).mp (alpha_notBlank b hb)
    exact ⟨b, by simp [namedTextG], h1, h2, h3, fun h => by simp at h, fun _ => h4⟩

theorem posTextG_head (txt : Inline Bytes → Bytes) (xs : List (Inline Bytes))
    (hx : ∀ x ∈ xs, ∃ b, (txt x).head? = some b ∧ notBlank b = true) (named : List (Bytes × Inline Bytes))
    (hvn : ∀ nv ∈ named, validIdent nv.1 = true) :
    ∃ b, (posTextG txt xs named.isEmpty (namedTextG txt named)).head? = some b ∧ b ≠ 32 ∧ b ≠ 10 ∧ b ≠ 13 := by
  cases xs with
  | nil =>
    obtain ⟨b, h1, h2, h3, h4, _⟩ := namedTextG_head txt named hvn
    exact ⟨b, by simpa [posTextG] using h1, h2, h3, h4⟩
  | cons x xs =>
    obtain ⟨b, h1, h2⟩ := hx x List.mem_cons_self
    obtain ⟨n1, n2, n3, _⟩ := (notBlank_iff b).mp h2
    refine ⟨b, ?_, n1, n2, n3⟩
    rw [posTextG]
    cases hx : txt x with
    | nil => simp [hx] at h1
    | cons y ys => simp [hx] at h1 ⊢; exact h1

theorem posTextG_last (txt : Inline Bytes → Bytes) (xs : List (Inline Bytes)) (named : List (Bytes × Inline Bytes)) :
    ∃ pre, posTextG txt xs named.isEmpty (namedTextG txt named) = pre ++ [41] := by
  have hn : ∀ named : List (Bytes × Inline Bytes), ∃ pre, namedTextG txt named = pre ++ [41] := by
    intro named
    induction named with
    | nil => exact ⟨[], rfl⟩
    | cons x xs ih =>
      obtain ⟨n, v⟩ := x
      obtain ⟨pre, hpre⟩ := ih
      exact ⟨_, by rw [namedTextG, hpre, ← List.append_assoc]⟩
  induction xs with
  | nil => simpa [posTextG] using hn named
  | cons x xs ih =>
    obtain ⟨pre, hpre⟩ := ih
    exact ⟨_, by rw [posTextG, hpre, ← List.append_assoc]⟩

theorem posTail_eq (xs : List (Inline Bytes)) (nn : Bool) (nt : Bytes) :
    posTail xs nn nt = posTextG inlineBytes xs nn nt := by
  induction xs with
  | nil => rw [posTail, posTextG]
  | cons x xs ih => rw [posTail, posTextG, ih]

theorem namedTail_eq (named : List (Bytes × Inline Bytes)) : namedTail named = namedTextG inlineBytes named := by
  induction named with
  | nil => rw [namedTail, namedTextG]
  | cons x xs ih => obtain ⟨n, v⟩ := x; rw [namedTail, namedTextG, ih]

theorem fuelArgs_eq (xs : List (Inline Bytes)) : fuelArgs xs = argsFuelG fuelInline xs := by
  induction xs with
  | nil => rw [fuelArgs, argsFuelG]
  | cons x xs ih => rw [fuelArgs, argsFuelG, ih]

theorem fuelNamed_eq (named : List (Bytes × Inline Bytes)) : fuelNamed named = namedFuelG fuelInline named := by
  induction named with
  | nil => rw [fuelNamed, namedFuelG]
  | cons x xs ih => obtain ⟨n, v⟩ := x; rw [fuelNamed, namedFuelG, ih]
end FluentProofs.Ser

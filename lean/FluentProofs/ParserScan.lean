import FluentModel.Parser
/-!
# What the leaf scanners return

Most leaf functions of the parser are loops over positions that stop at the first position with some property
(`skip_blank_inline`: not a space; `get_comment_line`: an end of line; `skip_to_next_entry_start`: a line that looks
like an entry; …).  `First stop p q` says that `q` is that position.  It determines `q` (`First.unique`), so it describes
the scanner's result completely, and what is needed of a scanner (how far it gets, which bytes it passed, that it does the
same on a source on which the stop property is the same at the positions it looked at, or the same at an offset) follows
from `First` and not from the scanner's recursion.  `first_of_loop` proves `First` for any loop that at each position
either stops or moves on by one.  The runtime parser's `skip_comment`, which goes from line to line, is such a scan too.
`nonBlank` and the two scans that run backwards (`trim_end`, the `rposition` of a line feed) have their results described
directly.
-/
namespace FluentModel.Syntax

/-- the byte at `b` looks like the start of an entry at the start of a line, or `b` is the end of input -/
def EndsAtEntryStart (s : Src) (b : Nat) : Prop :=
  s.size ≤ b ∨ (∃ c, s[b]? = some c ∧ (isAlpha c || c == 45 || c == 35) = true ∧ (b = 0 ∨ s[b - 1]? = some 10))

end FluentModel.Syntax

namespace FluentProofs.Parser
open FluentModel.Syntax

/-- `q` is the first position at or after `p` at which `stop` holds -/
structure First (stop : Nat → Prop) (p q : Nat) : Prop where
  le : p ≤ q
  skips : ∀ j, p ≤ j → j < q → ¬ stop j
  stops : stop q

namespace First
variable {stop stop' : Nat → Prop} {p q : Nat}

theorem unique {q' : Nat} (h : First stop p q) (h' : First stop p q') : q = q' := by
  rcases Nat.lt_trichotomy q q' with hlt | heq | hlt
  · exact absurd h.stops (h'.skips q h.le hlt)
  · exact heq
  · exact absurd h'.stops (h.skips q' h'.le hlt)

theorem here (h : stop p) : First stop p p := ⟨Nat.le_refl p, fun _ h1 h2 => absurd h1 (Nat.not_le_of_gt h2), h⟩

theorem eq_self (h : First stop p q) (hp : stop p) : q = p := h.unique (here hp)

theorem le_of_stop {n : Nat} (h : First stop p q) (hn : p ≤ n) (hs : stop n) : q ≤ n :=
  Nat.le_of_not_lt fun hlt => h.skips n hn hlt hs

theorem suffix {p' : Nat} (h : First stop p q) (hp : p ≤ p') (hq : p' ≤ q) : First stop p' q :=
  ⟨hq, fun j h1 h2 => h.skips j (Nat.le_trans hp h1) h2, h.stops⟩

theorem congr (h : First stop p q) (hc : ∀ j, p ≤ j → j ≤ q → (stop j ↔ stop' j)) : First stop' p q :=
  ⟨h.le, fun j h1 h2 hs => h.skips j h1 h2 ((hc j h1 (Nat.le_of_lt h2)).mpr hs), (hc q h.le (Nat.le_refl q)).mp h.stops⟩

theorem shift (d : Nat) (h : First stop p q) (hc : ∀ j, p ≤ j → j ≤ q → (stop j ↔ stop' (j + d))) :
    First stop' (p + d) (q + d) := by
  refine ⟨Nat.add_le_add_right h.le d, fun j h1 h2 hs => ?_, (hc q h.le (Nat.le_refl q)).mp h.stops⟩
  have hs' : stop' (j - d + d) := by rw [show j - d + d = j by omega]; exact hs
  exact h.skips (j - d) (by omega) (by omega) ((hc (j - d) (by omega) (by omega)).mpr hs')

theorem induction {motive : Nat → Prop} (h : First stop p q) (base : motive q)
    (step : ∀ j, p ≤ j → j < q → ¬ stop j → motive (j + 1) → motive j) : motive p := by
  obtain ⟨d, rfl⟩ : ∃ d, q = p + d := ⟨q - p, (Nat.add_sub_cancel' h.le).symm⟩
  induction d generalizing p with
  | zero => exact base
  | succ d ih =>
    have hlt : p < p + (d + 1) := Nat.lt_add_of_pos_right (Nat.succ_pos d)
    have e : p + (d + 1) = p + 1 + d := (Nat.add_right_comm p 1 d).symm
    refine step p (Nat.le_refl p) hlt (h.skips p (Nat.le_refl p) hlt) ?_
    rw [e] at h base step
    exact ih (h.suffix (Nat.le_succ p) (Nat.le_add_right _ d)) base
      fun j h1 h2 => step j (Nat.le_of_succ_le h1) h2

end First

theorem first_of_loop {stop : Nat → Prop} {f : Nat → Nat → Nat} (h0 : ∀ p, f 0 p = p)
    (hs : ∀ n p, (stop p ∧ f (n + 1) p = p) ∨ (¬ stop p ∧ f (n + 1) p = f n (p + 1))) (n p : Nat) :
    First (fun j => stop j ∨ p + n ≤ j) p (f n p) := by
  induction n generalizing p with
  | zero => rw [h0]; exact .here (Or.inr (Nat.le_refl p))
  | succ n ih =>
    rcases hs n p with ⟨hp, e⟩ | ⟨hp, e⟩ <;> rw [e]
    · exact .here (Or.inl hp)
    · have i := ih (p + 1)
      rw [Nat.add_right_comm, Nat.add_assoc] at i
      refine ⟨Nat.le_of_succ_le i.le, fun j h1 h2 => ?_, i.stops⟩
      by_cases hj : j = p
      · subst hj; exact fun h => h.elim hp (by omega)
      · exact i.skips j (by omega) h2

theorem First.of_fuel {stop : Nat → Prop} {p q N : Nat} (h : First (fun j => stop j ∨ N ≤ j) p q) (hp : p ≤ N)
    (hN : stop N) : First stop p q := by
  have hq := h.le_of_stop hp (Or.inr (Nat.le_refl N))
  exact h.congr fun j _ hj => ⟨fun h' => h'.elim id fun hNj => (show N = j by omega) ▸ hN, Or.inl⟩

/-- no byte satisfying `pred` at `j` (the end of input included) -/
def NoPredAt (s : Src) (pred : UInt8 → Bool) (j : Nat) : Prop := ∀ b, s[j]? = some b → pred b = false

theorem noPredAt_of_size {s : Src} {pred : UInt8 → Bool} {j : Nat} (h : s.size ≤ j) : NoPredAt s pred j := by
  intro b hb
  exact absurd (Array.getElem?_eq_some_iff.mp hb).1 (Nat.not_lt.mpr h)

theorem noPredAt_of_byte {s : Src} {pred : UInt8 → Bool} {j : Nat} {c : UInt8} (hc : s[j]? = some c) (hp : pred c = false) :
    NoPredAt s pred j := fun b hb => by rw [hc] at hb; cases hb; exact hp

theorem not_noPredAt {s : Src} {pred : UInt8 → Bool} {j : Nat} (h : ¬ NoPredAt s pred j) : ∃ b, s[j]? = some b ∧ pred b = true := by
  cases hb : s[j]? with
  | none => exact absurd (fun b hb' => by rw [hb] at hb'; cases hb') h
  | some b =>
    cases hp : pred b with
    | true => exact ⟨b, rfl, hp⟩
    | false => exact absurd (noPredAt_of_byte hb hp) h

theorem scanWhileGo_first (s : Src) (pred : UInt8 → Bool) (n p : Nat) :
    First (fun j => NoPredAt s pred j ∨ p + n ≤ j) p (scanWhileGo s pred n p) := by
  refine first_of_loop (fun _ => rfl) (fun n p => ?_) n p
  simp only [scanWhileGo]
  cases hb : s[p]? with
  | none => exact Or.inl ⟨noPredAt_of_size (Array.getElem?_eq_none_iff.mp hb), rfl⟩
  | some b =>
    cases hp : pred b with
    | true => exact Or.inr ⟨fun h => absurd (h b hb) (by rw [hp]; decide), if_pos hp⟩
    | false => exact Or.inl ⟨noPredAt_of_byte hb hp, if_neg (by rw [hp]; decide)⟩

theorem scanWhile_first (s : Src) (pred : UInt8 → Bool) (p : Nat) : First (NoPredAt s pred) p (scanWhile s pred p) :=
  (scanWhileGo_first s pred (s.size - p) p).of_fuel (by omega) (noPredAt_of_size (by omega))

theorem scanWhile_eq_iff {s : Src} {pred : UInt8 → Bool} {p q : Nat} : scanWhile s pred p = q ↔ First (NoPredAt s pred) p q :=
  ⟨fun h => h ▸ scanWhile_first s pred p, (scanWhile_first s pred p).unique⟩

theorem scanWhile_bytes (s : Src) (pred : UInt8 → Bool) (p : Nat) {j : Nat} (h1 : p ≤ j) (h2 : j < scanWhile s pred p) :
    ∃ b, s[j]? = some b ∧ pred b = true := not_noPredAt ((scanWhile_first s pred p).skips j h1 h2)

theorem skipBlankInlineGo_eq (s : Src) (n p : Nat) : skipBlankInlineGo s n p = scanWhileGo s (· == 32) n p := by
  induction n generalizing p with
  | zero => rfl
  | succ n ih =>
    simp only [skipBlankInlineGo, scanWhileGo, ih]
    cases s[p]? with
    | none => rfl
    | some b => by_cases h : b = 32 <;> simp [h]

theorem skipBlankInline_eq (s : Src) (p : Nat) : skipBlankInline s p = scanWhile s (· == 32) p :=
  skipBlankInlineGo_eq s _ p

theorem noPredAt_space {s : Src} {j : Nat} : NoPredAt s (· == 32) j ↔ s[j]? ≠ some 32 :=
  ⟨fun h h32 => by have := h 32 h32; simp at this, fun h b hb => by
    cases hc : b == 32 with
    | false => exact hc
    | true => exact absurd ((beq_iff_eq.mp hc) ▸ hb) h⟩

theorem skipBlankInline_first (s : Src) (p : Nat) : First (fun j => s[j]? ≠ some 32) p (skipBlankInline s p) := by
  rw [skipBlankInline_eq]
  exact (scanWhile_first s _ p).congr fun j _ _ => noPredAt_space

theorem skipBlankInline_of_ne {s : Src} {q : Nat} (h : s[q]? ≠ some 32) : skipBlankInline s q = q :=
  (skipBlankInline_first s q).eq_self h

theorem skipBlankInline_stop (s : Src) (p : Nat) : s[skipBlankInline s p]? ≠ some 32 := (skipBlankInline_first s p).stops

theorem skipHexGo_eq (s : Src) (n p : Nat) : skipHexGo s n p = scanWhileGo s isHexDigit n p := by
  induction n generalizing p with
  | zero => rfl
  | succ n ih => simp only [skipHexGo, scanWhileGo, ih]

theorem isEol_of_size {s : Src} {j : Nat} (h : s.size ≤ j) : isEol s j = true := by
  have : s[j]? = none := Array.getElem?_eq_none_iff.mpr h
  simp only [isEol, this]

theorem not_isEol_ne {s : Src} {p : Nat} (h : ¬ isEol s p = true) : s[p]? ≠ some 10 := by
  intro h10; apply h; simp [isEol, h10]

theorem not_isEol_byte {s : Src} {j : Nat} (h : ¬ isEol s j = true) : ∃ b, s[j]? = some b ∧ b ≠ 10 := by
  cases hb : s[j]? with
  | none => exact absurd (isEol_of_size (Array.getElem?_eq_none_iff.mp hb)) h
  | some b => exact ⟨b, rfl, fun e => not_isEol_ne h (by rw [hb, e])⟩

theorem commentLineEndGo_fuel (s : Src) (n p : Nat) :
    First (fun j => isEol s j = true ∨ p + n ≤ j) p (commentLineEndGo s n p) := by
  refine first_of_loop (fun _ => rfl) (fun n p => ?_) n p
  simp only [commentLineEndGo]
  by_cases h : isEol s p = true
  · exact Or.inl ⟨h, if_pos h⟩
  · exact Or.inr ⟨h, if_neg h⟩

theorem commentLineEnd_first (s : Src) (p : Nat) :
    First (fun j => isEol s j = true) p (commentLineEndGo s (s.size - p) p) :=
  (commentLineEndGo_fuel s _ p).of_fuel (by omega) (isEol_of_size (by omega))

/-- the end of the last line of a run of comment lines: an end of line not followed by a `#` -/
def CommentEnd (s : Src) (e : Nat) : Prop := isEol s e = true ∧ s[e + 1]? ≠ some 35

theorem commentEnd_of_size {s : Src} {e : Nat} (h : s.size ≤ e) : CommentEnd s e :=
  ⟨isEol_of_size h, by rw [Array.getElem?_eq_none_iff.mpr (by omega)]; nofun⟩

theorem skipCommentGo_first (s : Src) : ∀ (n p : Nat), s.size - p + 1 ≤ n →
    ∃ q, skipCommentGo s n p = q + 1 ∧ First (CommentEnd s) p q := by
  intro n
  induction n with
  | zero => intro p h; omega
  | succ n ih =>
    intro p hn
    have hE := commentLineEnd_first s p
    rw [skipCommentGo]
    generalize commentLineEndGo s (s.size - p) p = e at hE
    by_cases h35 : s[e + 1]? = some 35
    · rw [if_pos (by rw [isCurrentByte, h35]; rfl)]
      have hlt := (Array.getElem?_eq_some_iff.mp h35).1
      have hle := hE.le
      obtain ⟨q, hq, hf⟩ := ih (e + 1 + 1) (by omega)
      have hle' := hf.le
      refine ⟨q, hq, by omega, fun j h1 h2 hs => ?_, hf.stops⟩
      -- between `p` and the next line: no end of line before `e`, a `#` behind `e`, and that `#` is no end of line
      by_cases hj : j < e
      · exact hE.skips j h1 hj hs.1
      · by_cases hje : j = e
        · exact hs.2 (hje ▸ h35)
        · by_cases hj1 : j = e + 1
          · have h := hs.1; rw [hj1, isEol, h35] at h; cases h
          · exact hf.skips j (by omega) h2 hs
    · rw [if_neg (by rw [isCurrentByte, beq_iff_eq]; exact h35)]
      exact ⟨e, rfl, hE.le, fun j h1 h2 hs => hE.skips j h1 h2 hs.1, hE.stops, h35⟩

theorem skipComment_first (s : Src) (p : Nat) : ∃ q, skipComment s p = q + 1 ∧ First (CommentEnd s) p q :=
  skipCommentGo_first s _ p (Nat.le_refl _)

/-- a blank as `skip_blank` sees it: a space, a line feed, or a carriage return in front of a line feed -/
def BlankAt (s : Src) (j : Nat) : Prop :=
  s[j]? = some 32 ∨ s[j]? = some 10 ∨ (s[j]? = some 13 ∧ s[j + 1]? = some 10)

theorem skipBlankGo_first (s : Src) (n p : Nat) (hn : s.size ≤ p + n) :
    First (fun j => ¬ BlankAt s j) p (skipBlankGo s n p) := by
  induction n generalizing p with
  | zero =>
    have hnone : s[p]? = none := Array.getElem?_eq_none_iff.mpr (by omega)
    exact .here fun h => by simp [BlankAt, hnone] at h
  | succ n ih =>
    have step : ∀ k, 1 ≤ k → (∀ j, p ≤ j → j < p + k → BlankAt s j) →
        First (fun j => ¬ BlankAt s j) p (skipBlankGo s n (p + k)) := by
      intro k hk hb
      have i := ih (p + k) (by omega)
      refine ⟨by have := i.le; omega, fun j h1 h2 hj => ?_, i.stops⟩
      by_cases hjk : j < p + k
      · exact hj (hb j h1 hjk)
      · exact i.skips j (by omega) h2 hj
    simp only [skipBlankGo]
    split
    · rename_i h
      exact step 1 (Nat.le_refl _) fun j h1 h2 => (show j = p by omega) ▸ Or.inl h
    · rename_i h
      exact step 1 (Nat.le_refl _) fun j h1 h2 => (show j = p by omega) ▸ Or.inr (Or.inl h)
    · rename_i h13
      split
      · rename_i h10
        have h10 : s[p + 1]? = some 10 := by simpa using h10
        refine step 2 (by omega) fun j h1 h2 => ?_
        by_cases hj : j = p
        · exact hj ▸ Or.inr (Or.inr ⟨h13, h10⟩)
        · exact (show j = p + 1 by omega) ▸ Or.inr (Or.inl h10)
      · rename_i h10
        exact .here fun h => by
          rcases h with h | h | h
          · rw [h13] at h; cases h
          · rw [h13] at h; cases h
          · exact h10 (by simp [h.2])
    · rename_i h1 h2 h3
      exact .here fun h => h.elim h1 fun h => h.elim h2 fun h => h3 h.1

theorem skipBlank_first (s : Src) (p : Nat) : First (fun j => ¬ BlankAt s j) p (skipBlank s p) :=
  skipBlankGo_first s _ p (by omega)

theorem skipBlank_of_not_blank {s : Src} {p : Nat} (h : ¬ BlankAt s p) : skipBlank s p = p := (skipBlank_first s p).eq_self h

theorem skipToNextEntryStartGo_fuel (s : Src) (n p : Nat) :
    First (fun j => EndsAtEntryStart s j ∨ p + n ≤ j) p (skipToNextEntryStartGo s n p) := by
  refine first_of_loop (fun _ => rfl) (fun n p => ?_) n p
  simp only [skipToNextEntryStartGo]
  cases hb : s[p]? with
  | none => exact Or.inl ⟨Or.inl (Array.getElem?_eq_none_iff.mp hb), rfl⟩
  | some b =>
    have hlt := (Array.getElem?_eq_some_iff.mp hb).1
    by_cases hc : ((p == 0 || s[p - 1]? == some 10) && (isAlpha b || b == 45 || b == 35)) = true
    · refine Or.inl ⟨Or.inr ⟨b, hb, ?_⟩, if_pos hc⟩
      simpa [and_comm] using hc
    · refine Or.inr ⟨fun h => hc ?_, if_neg hc⟩
      rcases h with h | ⟨c, hc', h1, h2⟩
      · omega
      · rw [hb] at hc'; cases hc'; simpa [and_comm] using And.intro h1 h2

theorem skipToNextEntryStartGo_first (s : Src) (p : Nat) :
    First (EndsAtEntryStart s) p (skipToNextEntryStartGo s (s.size - p) p) :=
  (skipToNextEntryStartGo_fuel s _ p).of_fuel (by omega) (Or.inl (by omega))

theorem nextBoundary_first (s : Src) {i : Nat} (hi : i ≤ s.size) :
    First (fun j => isBoundary s j = true) i (nextBoundary s i) := by
  refine (first_of_loop (stop := fun j => isBoundary s j = true) (fun _ => rfl) (fun n p => ?_) _ i).of_fuel (by omega) ?_
  · simp only [nextBoundaryGo]
    by_cases h : isBoundary s p = true
    · exact Or.inl ⟨h, if_pos h⟩
    · exact Or.inr ⟨h, if_neg h⟩
  · simp only [isBoundary, show i + (s.size - i) = s.size by omega, BEq.rfl, Bool.or_true, Bool.true_or]

/-- a byte that ends a text slice -/
def BreakAt (s : Src) (j : Nat) : Prop := s[j]? = some 10 ∨ s[j]? = some 123 ∨ s[j]? = some 125

theorem memchr3Go_result (s : Src) (n p : Nat) :
    match memchr3Go s n p with
    | some e => First (BreakAt s) p e
    | none => ∀ j, p ≤ j → j < p + n → ¬ BreakAt s j := by
  induction n generalizing p with
  | zero => exact fun j h1 h2 => by omega
  | succ n ih =>
    simp only [memchr3Go]
    cases hb : s[p]? with
    | none =>
      intro j h1 _ hj
      have : s[j]? = none := Array.getElem?_eq_none_iff.mpr (Nat.le_trans (Array.getElem?_eq_none_iff.mp hb) h1)
      simp [BreakAt, this] at hj
    | some b =>
      simp only []
      by_cases hc : (b == 10 || b == 123 || b == 125) = true
      · rw [if_pos hc]
        refine .here ?_
        simp only [Bool.or_eq_true, beq_iff_eq] at hc
        rcases hc with (hc | hc) | hc <;> subst hc
        · exact Or.inl hb
        · exact Or.inr (Or.inl hb)
        · exact Or.inr (Or.inr hb)
      · rw [if_neg hc]
        have hp : ¬ BreakAt s p := by
          simp only [Bool.or_eq_true, beq_iff_eq, not_or] at hc
          intro h
          rcases h with h | h | h <;> rw [hb] at h <;> cases h
          · exact hc.1.1 rfl
          · exact hc.1.2 rfl
          · exact hc.2 rfl
        have i := ih (p + 1)
        cases hm : memchr3Go s n (p + 1) with
        | some e =>
          rw [hm] at i
          refine ⟨Nat.le_of_succ_le i.le, fun j h1 h2 => ?_, i.stops⟩
          by_cases hj : j = p
          · exact hj ▸ hp
          · exact i.skips j (by omega) h2
        | none =>
          rw [hm] at i
          intro j h1 h2
          by_cases hj : j = p
          · exact hj ▸ hp
          · exact i j (by omega) (by omega)

theorem memchr3_eq_some {s : Src} {p e : Nat} : memchr3 s p = some e ↔ First (BreakAt s) p e := by
  have h := memchr3Go_result s (s.size - p) p
  unfold memchr3
  constructor
  · intro he; rw [he] at h; exact h
  · intro hf
    cases hm : memchr3Go s (s.size - p) p with
    | some e' => rw [hm] at h; rw [h.unique hf]
    | none =>
      rw [hm] at h
      have hlt : e < s.size := by
        rcases hf.stops with h' | h' | h' <;> exact (Array.getElem?_eq_some_iff.mp h').1
      exact absurd hf.stops (h e hf.le (by omega))

theorem memchr3_eq_none {s : Src} {p : Nat} : memchr3 s p = none ↔ ∀ j, p ≤ j → ¬ BreakAt s j := by
  have h := memchr3Go_result s (s.size - p) p
  unfold memchr3
  constructor
  · intro he j h1 hj
    rw [he] at h
    have hlt : j < s.size := by
      rcases hj with h' | h' | h' <;> exact (Array.getElem?_eq_some_iff.mp h').1
    exact h j h1 (by omega) hj
  · intro hn
    cases hm : memchr3Go s (s.size - p) p with
    | none => rfl
    | some e => rw [hm] at h; exact absurd h.stops (hn e h.le)

/-- `text.iter().any(|&c| c != b' ')` on `s[a..b]` -/
theorem nonBlankGo_iff (s : Src) (n a b : Nat) (hn : b ≤ a + n) :
    nonBlankGo s n a b = true ↔ ∃ j c, a ≤ j ∧ j < b ∧ s[j]? = some c ∧ c ≠ 32 := by
  induction n generalizing a with
  | zero => simp only [nonBlankGo]; exact ⟨nofun, fun ⟨j, _, h1, h2, _⟩ => by omega⟩
  | succ n ih =>
    simp only [nonBlankGo]
    by_cases hab : a < b
    · rw [if_pos hab]
      cases hc : s[a]? with
      | none =>
        refine ⟨nofun, fun ⟨j, c, h1, _, h3, _⟩ => ?_⟩
        have := (Array.getElem?_eq_some_iff.mp h3).1
        have := Array.getElem?_eq_none_iff.mp hc
        omega
      | some c =>
        simp only []
        by_cases h32 : c = 32
        · subst h32
          rw [if_neg (by decide), ih (a + 1) (by omega)]
          constructor
          · exact fun ⟨j, c, h1, h⟩ => ⟨j, c, by omega, h⟩
          · rintro ⟨j, c, h1, h2, h3, h4⟩
            by_cases hj : j = a
            · subst hj; rw [hc] at h3; cases h3; exact absurd rfl h4
            · exact ⟨j, c, by omega, h2, h3, h4⟩
        · rw [if_pos (by simpa using h32)]
          exact ⟨fun _ => ⟨a, c, Nat.le_refl a, hab, hc, h32⟩, fun _ => rfl⟩
    · rw [if_neg hab]
      exact ⟨nofun, fun ⟨j, _, h1, h2, _⟩ => by omega⟩

theorem nonBlank_iff (s : Src) (a b : Nat) :
    nonBlank s a b = true ↔ ∃ j c, a ≤ j ∧ j < b ∧ s[j]? = some c ∧ c ≠ 32 :=
  nonBlankGo_iff s _ a b (by omega)

theorem nonBlank_self (s : Src) (p : Nat) : nonBlank s p p = false := by
  rw [nonBlank, Nat.sub_self]; rfl

theorem nonBlank_congr {s₁ s₂ : Src} (d : Nat) {a b : Nat} (h : ∀ j, a ≤ j → j < b → s₂[j + d]? = s₁[j]?) :
    nonBlank s₂ (a + d) (b + d) = nonBlank s₁ a b := by
  unfold nonBlank
  rw [show b + d - (a + d) = b - a by omega]
  generalize b - a = n
  induction n generalizing a with
  | zero => rfl
  | succ n ih =>
    simp only [nonBlankGo, Nat.add_lt_add_iff_right]
    split
    · rename_i hab
      rw [h a (Nat.le_refl a) hab, Nat.add_right_comm, ih fun j h1 h2 => h j (by omega) h2]
    · rfl

/-- a byte that `Slice::trim` removes from the end of a text -/
def TrimAt (s : Src) (j : Nat) : Prop := s[j]? = some 32 ∨ s[j]? = some 13 ∨ s[j]? = some 10

/-- the last clause needs fuel for the whole of `[start, e)`, which `trimEnd` passes -/
theorem trimEndGo_result (s : Src) (start n e : Nat) (he : start ≤ e) :
    start ≤ trimEndGo s start n e ∧ trimEndGo s start n e ≤ e ∧
      (∀ j, trimEndGo s start n e ≤ j → j < e → TrimAt s j) ∧
      (e ≤ start + n → start < trimEndGo s start n e → ¬ TrimAt s (trimEndGo s start n e - 1)) := by
  induction n generalizing e with
  | zero =>
    simp only [trimEndGo]
    exact ⟨he, Nat.le_refl e, fun j h1 h2 => by omega, fun h1 h2 => by omega⟩
  | succ n ih =>
    simp only [trimEndGo]
    have keep : ¬ TrimAt s (e - 1) ∨ ¬ start < e → start ≤ e ∧ e ≤ e ∧ (∀ j, e ≤ j → j < e → TrimAt s j) ∧
        (e ≤ start + (n + 1) → start < e → ¬ TrimAt s (e - 1)) :=
      fun h => ⟨he, Nat.le_refl e, fun j h1 h2 => by omega, fun _ hlt => h.elim id fun h' => absurd hlt h'⟩
    by_cases hlt : e > start
    · rw [if_pos hlt]
      cases hb : s[e - 1]? with
      | none => exact keep (Or.inl fun h => by rcases h with h | h | h <;> rw [hb] at h <;> cases h)
      | some b =>
        simp only []
        by_cases hc : (b == 32 || b == 13 || b == 10) = true
        · rw [if_pos hc]
          have ht : TrimAt s (e - 1) := by
            simp only [Bool.or_eq_true, beq_iff_eq] at hc
            rcases hc with (hc | hc) | hc <;> subst hc
            · exact Or.inl hb
            · exact Or.inr (Or.inl hb)
            · exact Or.inr (Or.inr hb)
          obtain ⟨i1, i2, i3, i4⟩ := ih (e - 1) (by omega)
          refine ⟨i1, by omega, fun j h1 h2 => ?_, fun hn => i4 (by omega)⟩
          by_cases hj : j = e - 1
          · exact hj ▸ ht
          · exact i3 j h1 (by omega)
        · rw [if_neg hc]
          refine keep (Or.inl fun h => hc ?_)
          rcases h with h | h | h <;> rw [hb] at h <;> cases h <;> rfl
    · rw [if_neg hlt]; exact keep (Or.inr hlt)

theorem trimEndGo_congr {s₁ s₂ : Src} (d : Nat) (start n : Nat) {e : Nat} (h : ∀ j, start ≤ j → j < e → s₂[j + d]? = s₁[j]?) :
    trimEndGo s₂ (start + d) n (e + d) = trimEndGo s₁ start n e + d := by
  induction n generalizing e with
  | zero => rfl
  | succ n ih =>
    simp only [trimEndGo, gt_iff_lt, Nat.add_lt_add_iff_right]
    split
    · rename_i hlt
      have e1 : e + d - 1 = e - 1 + d := by omega
      rw [e1, h (e - 1) (by omega) (by omega), ih fun j h1 h2 => h j h1 (by omega)]
      cases s₁[e - 1]? with
      | none => rfl
      | some b => simp only []; split <;> rfl
    · rfl

/-- `rposition` finds the last line feed in `[a, b)`; with fuel `n` it looks at `[b - n, b)` -/
theorem rposNewlineGo_result (s : Src) (a n b : Nat) :
    match rposNewlineGo s a n b with
    | some nl => a ≤ nl ∧ nl < b ∧ s[nl]? = some 10 ∧ ∀ j, nl < j → j < b → s[j]? ≠ some 10
    | none => ∀ j, a ≤ j → b ≤ j + n → j < b → s[j]? ≠ some 10 := by
  induction n generalizing b with
  | zero => exact fun j _ h1 h2 => by omega
  | succ n ih =>
    simp only [rposNewlineGo]
    by_cases hba : b > a
    · rw [if_pos hba]
      by_cases h10 : s[b - 1]? = some 10
      · rw [if_pos (by simpa using h10)]
        exact ⟨by omega, by omega, h10, fun j h1 h2 => by omega⟩
      · rw [if_neg (by simpa using h10)]
        have i := ih (b - 1)
        have last : ∀ j, j < b → ¬ j < b - 1 → s[j]? ≠ some 10 := fun j h1 h2 => (show j = b - 1 by omega) ▸ h10
        cases hr : rposNewlineGo s a n (b - 1) with
        | some nl =>
          rw [hr] at i
          exact ⟨i.1, by omega, i.2.2.1, fun j j1 j2 => if hj : j < b - 1 then i.2.2.2 j j1 hj else last j j2 hj⟩
        | none =>
          rw [hr] at i
          exact fun j j1 j2 j3 => if hj : j < b - 1 then i j j1 (by omega) hj else last j j3 hj
    · rw [if_neg hba]; exact fun j h1 _ h2 => by omega

theorem rposNewline_eq_some {s : Src} {a b nl : Nat} :
    rposNewline s a b = some nl ↔ a ≤ nl ∧ nl < b ∧ s[nl]? = some 10 ∧ ∀ j, nl < j → j < b → s[j]? ≠ some 10 := by
  have h := rposNewlineGo_result s a (b - a) b
  unfold rposNewline
  constructor
  · intro he; rw [he] at h; exact h
  · rintro ⟨h1, h2, h3, h4⟩
    cases hr : rposNewlineGo s a (b - a) b with
    | none => rw [hr] at h; exact absurd h3 (h nl h1 (by omega) h2)
    | some nl' =>
      rw [hr] at h
      rcases Nat.lt_trichotomy nl nl' with hlt | heq | hlt
      · exact absurd h.2.2.1 (h4 nl' hlt h.2.1)
      · rw [heq]
      · exact absurd h3 (h.2.2.2 nl hlt h2)

theorem rposNewline_eq_none {s : Src} {a b : Nat} : rposNewline s a b = none ↔ ∀ j, a ≤ j → j < b → s[j]? ≠ some 10 := by
  have h := rposNewlineGo_result s a (b - a) b
  unfold rposNewline
  constructor
  · intro he j h1 h2; rw [he] at h; exact h j h1 (by omega) h2
  · intro hn
    cases hr : rposNewlineGo s a (b - a) b with
    | none => rfl
    | some nl => rw [hr] at h; exact absurd h.2.2.1 (hn nl h.1 h.2.1)

end FluentProofs.Parser

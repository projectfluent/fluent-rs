import FluentProofs.SpecPatInv
/-!
# The pattern loop (C02, pattern layer, part 3): `get_pattern` against `Pattern ::= PatternElement+`

One `PatternElement` of the grammar is one or two iterations of `get_pattern`'s loop.  `Step … els r'` says that the
parser reads what the grammar reads as `els`; one lemma per kind of element (`step_text`, `step_placeable`, `step_blockText`,
`step_blockPlaceable`) proves it, joining what one iteration does to the parser's state (the `patLoop_*`, `patPre_*` and
`st2Of_*` lemmas of the parser files, by the kind of line) with the matching extension of the invariant (`Inv.push_inline`,
`Inv.push_block`).  Line ends and blank lines, which the grammar reads only with the next continuation line, are walked by
`shift_eol` and `s2_skip`.  `loop_step` is the induction, `pattern_step` the whole of `get_pattern`; `allRef` runs them jointly
with the expression layer of `SpecRefine` over the grammar's fuel and gives `exprRef_all` and `patternRef_all`.

The text steps need the side condition `Surv`.  The end of the file shows that it holds when no `\r` stands alone
(`surv_of_noLoneCR`) and that the witness of F30 violates it.
-/
namespace FluentProofs.PatLoop
open FluentModel FluentModel.Syntax FluentModel.SpecGrammar FluentProofs.Parser FluentProofs.SpecLex
open FluentProofs.SpecRefine FluentProofs.PatFlat FluentProofs.SpecBlank

variable {s : Src} {p : Nat}

/-- fuel for the loop at cursor `p`: every iteration moves the cursor and costs one.  The form `4 * (size - p) + c`
is the one `ParserForward.fuel_step` keeps: a step that consumes a byte pays one unit and may raise `c` by up to three. -/
abbrev Fuel (s : Src) (p n : Nat) : Prop := 4 * (s.size - p) + 1 ≤ n

theorem rounds_next {sz p q n : Nat} (h : sz - p + 1 ≤ n + 1) (hpq : p < q) (hq : q ≤ sz) : sz - q + 1 ≤ n :=
  Nat.le_trans (Nat.sub_lt_sub_left (Nat.lt_of_lt_of_le hpq hq) hpq) (Nat.le_of_succ_le_succ h)

theorem getTextSlice_nb {start stop q : Nat} {nb : Bool} {term : Termination}
    (h : getTextSlice s p = .ok (start, stop, nb, term) q) (hp : p ≤ s.size) :
    nb = nonBlank s p (textStop term stop) := by
  obtain ⟨-, e, -, -, -, hS⟩ := FluentProofs.Ser.getTextSlice_slice hp h
  rcases hS with ⟨rfl, -, rfl, -, h⟩ | ⟨rfl, -, rfl, -, h⟩ | ⟨rfl, -, -, rfl, -, h⟩ | ⟨rfl, -, -, -, rfl, -, h⟩ <;> exact h

def TermFacts (s : Src) (p stop q : Nat) : Termination → Prop
  | .lineFeed => s[stop - 1]? = some 10 ∧ q = stop ∧ p < stop
  | .crlf => s[stop]? = some 13 ∧ s[stop + 1]? = some 10 ∧ q = stop + 1
  | .placeableStart => s[stop]? = some 123 ∧ q = stop
  | .eof => stop = s.size ∧ q = s.size

theorem textStop_le (term : Termination) (stop : Nat) : textStop term stop ≤ stop := by
  cases term <;> first | exact Nat.sub_le _ _ | exact Nat.le_refl _

structure SliceFacts (s : Src) (p stop : Nat) (nb : Bool) (term : Termination) (q : Nat) : Prop where
  run : textRun (rest s p) = (seg s p (textStop term stop), rest s (textStop term stop))
  nbeq : nb = nonBlank s p (textStop term stop)
  bstop : Bnd s stop
  bq : Bnd s q
  ple : p ≤ textStop term stop
  termf : TermFacts s p stop q term

theorem SliceFacts.stople {stop q : Nat} {nb : Bool} {term : Termination}
    (h : SliceFacts s p stop nb term q) : stop ≤ s.size := h.bstop.le

theorem SliceFacts.blank {stop q : Nat} {term : Termination} (h : SliceFacts s p stop false term q) :
    ∀ j, p ≤ j → j < textStop term stop → s[j]? = some 32 := by
  intro j h1 h2
  have hlt : j < s.size := Nat.lt_of_lt_of_le h2 (Nat.le_trans (textStop_le term stop) h.stople)
  have hj := Array.getElem?_eq_getElem hlt
  by_cases hc : s[j] = 32
  · rw [hj, hc]
  · exact absurd ((nonBlank_iff s p _).mpr ⟨j, _, h1, h2, hj, hc⟩) (by rw [← h.nbeq]; decide)

theorem SliceFacts.nonblank {stop q : Nat} {term : Termination} (h : SliceFacts s p stop true term q) :
    ∃ j x, p ≤ j ∧ j < textStop term stop ∧ s[j]? = some x ∧ x ≠ 32 :=
  (nonBlank_iff s p _).mp h.nbeq.symm

theorem sliceFacts (hs : AsciiThenBoundary s) (hlt : p < s.size) {start stop q : Nat} {nb : Bool}
    {term : Termination} (h : getTextSlice s p = .ok (start, stop, nb, term) q) :
    start = p ∧ SliceFacts s p stop nb term q := by
  have hT := textRun_eq_getTextSlice s p (Nat.le_of_lt hlt)
  have hG := getTextSlice_good hs p hlt
  rw [h] at hT hG
  obtain ⟨t1, t2, t3⟩ := hT
  obtain ⟨_, _, _, g2, g3, g4, _, _⟩ := (good_ok _ _ _ _ _).mp hG
  have t3' : TermFacts s p stop q term := by cases term <;> exact t3
  refine ⟨t1, t2, getTextSlice_nb h (Nat.le_of_lt hlt), g3, g4, ?_, t3'⟩
  cases term with
  | lineFeed => exact Nat.le_sub_one_of_lt t3'.2.2
  | _ => exact g2

theorem seg_pos {a b : Nat} {x : UInt8} {t : Bytes} (h : seg s a b = x :: t) : a < b :=
  Nat.lt_of_not_le fun hle => nomatch (seg_empty s hle).symm.trans h

/-- `b`, followed by `r`, is not a `text_char`: `\n`, `{`, `}`, or the `\r` of a CRLF -/
def TextStop (b : UInt8) (r : List UInt8) : Prop := b = 10 ∨ b = 123 ∨ b = 125 ∨ (b = 13 ∧ ∃ r2, r = 10 :: r2)

theorem textRun_stop {b : UInt8} {r : List UInt8} (h : TextStop b r) : textRun (b :: r) = ([], b :: r) := by
  rcases h with h | h | h | ⟨rfl, r2, rfl⟩
  · exact textRun_special r (Or.inl h)
  · exact textRun_special r (Or.inr (Or.inl h))
  · exact textRun_special r (Or.inr (Or.inr h))
  · exact textRun_crlf r2

theorem textRun_go {b : UInt8} {r : List UInt8} (h : ¬ TextStop b r) :
    textRun (b :: r) = (b :: (textRun r).1, (textRun r).2) :=
  textRun_char (fun e => h (.inr (.inl e))) (fun e => h (.inr (.inr (.inl e))))
    ⟨fun e => h (.inl e), fun e t hr => h (.inr (.inr (.inr ⟨e, t, hr⟩)))⟩

theorem textRun_cons {i r : List UInt8} {b : UInt8} {t : Bytes} (h : textRun i = (b :: t, r)) :
    ∃ r0, i = b :: r0 ∧ ¬ TextStop b r0 ∧ textRun r0 = (t, r) := by
  cases i with
  | nil => cases h
  | cons x r0 =>
    by_cases hs : TextStop x r0
    · rw [textRun_stop hs] at h; cases h
    · rw [textRun_go hs] at h
      obtain ⟨e1, e2⟩ := Prod.mk.inj h
      obtain ⟨rfl, e3⟩ := List.cons.inj e1
      exact ⟨r0, rfl, hs, Prod.ext e3 e2⟩

theorem textRun_head_ne {i r : List UInt8} {b : UInt8} {t : Bytes} (h : textRun i = (b :: t, r)) :
    ∃ r0, i = b :: r0 ∧ b ≠ 123 ∧ b ≠ 125 ∧ b ≠ 10 := by
  obtain ⟨r0, hi, hs, -⟩ := textRun_cons h
  exact ⟨r0, hi, fun e => hs (Or.inr (Or.inl e)), fun e => hs (Or.inr (Or.inr (Or.inl e))), fun e => hs (Or.inl e)⟩

theorem slice_of_textRun (hs : AsciiThenBoundary s) {b : UInt8} {t : Bytes} {r' : List UInt8}
    (hrun : textRun (rest s p) = (b :: t, r')) (hnc : ∀ t', r' ≠ 125 :: t') :
    ∃ stop nb term q, getTextSlice s p = .ok (p, stop, nb, term) q ∧ SliceFacts s p stop nb term q ∧
      seg s p (textStop term stop) = b :: t ∧ rest s (textStop term stop) = r' ∧ p < textStop term stop := by
  obtain ⟨r0, hr0, -⟩ := textRun_head_ne hrun
  have hlt := rest_lt hr0
  have hT := textRun_eq_getTextSlice s p (Nat.le_of_lt hlt)
  cases hts : getTextSlice s p with
  | ok v q =>
    obtain ⟨start, stop, nb, term⟩ := v
    obtain ⟨rfl, hF⟩ := sliceFacts hs hlt hts
    obtain ⟨e1, e2⟩ := Prod.mk.inj (hF.run.symm.trans hrun)
    exact ⟨stop, nb, term, q, rfl, hF, e1, e2, seg_pos e1⟩
  | err e q =>
    rw [hts] at hT
    obtain ⟨h1, h2⟩ := hT
    exact absurd ((Prod.mk.inj (h2.symm.trans hrun)).2 ▸ rest_cons h1) (hnc _)
  | panic m => rw [hts] at hT; exact hT.elim
  | fuel => rw [hts] at hT; exact hT.elim

/-- **Side condition (excludes the deliberate deviation F30).**  Every text slice `get_text_slice` returns, from any
cursor, that is not blank contains a byte the final trim keeps (one that is not a space, `\r` or `\n`).  A line, or
remainder of a line up to a `{`, that consists only of spaces and at least one lone carriage return violates it.
The known finding F30 is such a line at the end of a pattern: the parser drops it, the reference keeps it
(`f30_witness_not_surv`).  The condition holds for every source without a lone `\r` (`surv_of_noLoneCR`); that
nothing else violates it is proved nowhere. -/
def Surv (s : Src) : Prop :=
  ∀ p start stop nb term q, p < s.size → getTextSlice s p = .ok (start, stop, nb, term) q → nb = true →
    ∃ j b, p ≤ j ∧ j < textStop term stop ∧ s[j]? = some b ∧ isTrailingWs b = false

theorem survivesOf_true {a b j : Nat} {x : UInt8} (ha : Bnd s a) (hb : Bnd s b) (h1 : a ≤ j) (h2 : j < b)
    (hx : s[j]? = some x) (hw : isTrailingWs x = false) : survivesOf s a b true = some true := by
  have hsl : slice s a b = some ⟨a, b⟩ := slice_ok (Nat.le_trans h1 (Nat.le_of_lt h2)) ha hb
  rw [survivesOf, if_pos rfl, hsl]
  have hne : spanBytes s (trimEnd s ⟨a, b⟩) ≠ [] := by
    rw [FluentProofs.SpecDedent.trimEnd_eq_dropTrailingWs s ⟨a, b⟩ hb.le, spanBytes_eq_seg]
    exact dropTrailingWs_ne_nil (seg_mem h1 h2 hx) hw
  have : (trimEnd s ⟨a, b⟩).stop ≠ a := by
    intro heq
    apply hne
    rw [show trimEnd s ⟨a, b⟩ = ⟨a, a⟩ from congrArg (Span.mk a) heq, spanBytes_eq_seg, seg_self]
  simpa using this

theorem slice_survives (hSurv : Surv s) {stop q : Nat} {term : Termination} (hbp : Bnd s p) (hlt : p < s.size)
    (hts : getTextSlice s p = .ok (p, stop, true, term) q) (hF : SliceFacts s p stop true term q) :
    survivesOf s p stop true = some true ∧
      ∃ j x, p ≤ j ∧ j < stop ∧ s[j]? = some x ∧ isTrailingWs x = false := by
  obtain ⟨j, x, j1, j2, j3, j4⟩ := hSurv p p stop true term q hlt hts rfl
  have j2' := Nat.lt_of_lt_of_le j2 (textStop_le term stop)
  exact ⟨survivesOf_true hbp hF.bstop j1 j2' j3 j4, j, x, j1, j2', j3, j4⟩

/-- mid-line (`role ≠ lineStart`) both are at the same place; at a line start the parser has already
consumed the line break(s) — `k` of them are pending on the grammar's side — and what the grammar will
read as a `blank_block` from its position is what remains to be scanned from the parser's -/
structure Sync (s : Src) (role : TextPos) (p : Nat) (i : List UInt8) (k : Nat) : Prop where
  bnd : Bnd s p
  scan : role = .lineStart → blankBlock i = blankBlockScan (rest s p) (rest s p) k
  eol : role = .lineStart → LineBreak i
  mid : role ≠ .lineStart → i = rest s p ∧ k = 0

theorem Sync.line {k : Nat} {i : List UInt8} (hb : Bnd s p)
    (hscan : blankBlock i = blankBlockScan (rest s p) (rest s p) k) (heol : LineBreak i) :
    Sync s .lineStart p i k := ⟨hb, fun _ => hscan, fun _ => heol, fun h => absurd rfl h⟩

theorem sync_mid {role : TextPos} {q : Nat} (hr : role ≠ .lineStart) (hb : Bnd s q) :
    Sync s role q (rest s q) 0 := ⟨hb, fun h => absurd h hr, fun h => absurd h hr, fun _ => ⟨rfl, rfl⟩⟩

theorem sync_lf (hs : AsciiThenBoundary s) {e : Nat} (h10 : s[e]? = some 10) :
    Sync s .lineStart (e + 1) (rest s e) 1 :=
  Sync.line (bnd_succ hs h10 (by decide)) (by rw [rest_cons h10]; exact blankBlock_nl _) ⟨_, .inl (rest_cons h10)⟩

theorem sync_crlf {e : Nat} (h13 : s[e]? = some 13) (h10 : s[e + 1]? = some 10) :
    Sync s .lineStart (e + 1) (rest s e) 0 :=
  Sync.line (bnd_of_ascii h10 (by decide)) (by rw [rest_cons h13, rest_cons h10, blankBlock_crlf, blankBlockScan_nl])
    ⟨_, .inr (by rw [rest_cons h13, rest_cons h10])⟩

theorem after_slice (hs : AsciiThenBoundary s) {stop q : Nat} {nb : Bool} {term : Termination}
    (hF : SliceFacts s p stop nb term q) (hlt : p < textStop term stop) :
    ∃ k', chars (seg s p stop) = chars (seg s p (textStop term stop)) ++ nl k' ∧
      Sync s (patRole term) q (rest s (textStop term stop)) k' ∧ p < q ∧ q ≤ s.size := by
  have htf := hF.termf
  have hq := hF.bq.le
  cases term with
  | lineFeed =>
    obtain ⟨f1, rfl, f3⟩ := htf
    obtain ⟨e, rfl⟩ := fuel_succ f3
    have hts : textStop .lineFeed (e + 1) = e := Nat.add_sub_cancel ..
    rw [Nat.add_sub_cancel] at f1
    rw [hts] at hlt ⊢
    exact ⟨1, by rw [seg_append (Nat.le_of_lt hlt) (Nat.le_succ e), seg_one f1, chars_append]; rfl,
      sync_lf hs f1, f3, hq⟩
  | crlf =>
    obtain ⟨f1, f2, rfl⟩ := htf
    exact ⟨0, (List.append_nil _).symm, sync_crlf f1 f2, Nat.lt_succ_of_lt hlt, hq⟩
  | placeableStart =>
    obtain ⟨-, rfl⟩ := htf
    exact ⟨0, (List.append_nil _).symm, sync_mid (fun h => nomatch h) hF.bq, hlt, hq⟩
  | eof =>
    obtain ⟨rfl, rfl⟩ := htf
    exact ⟨0, (List.append_nil _).symm, sync_mid (fun h => nomatch h) hF.bq, hlt, hq⟩

theorem slice_blank (hs : AsciiThenBoundary s) {stop q : Nat} {term : Termination}
    (hF : SliceFacts s p stop false term q) (hlt : p < textStop term stop) : AllWs (chars (seg s p stop)) := by
  obtain ⟨k', hk, -⟩ := after_slice hs hF hlt
  obtain ⟨d, hd⟩ : ∃ d, textStop term stop = p + d := ⟨_, (Nat.add_sub_of_le hF.ple).symm⟩
  rw [hk, hd, seg_spaces s p d (fun j h1 h2 => hF.blank j h1 (hd ▸ h2)), chars_replicate]
  exact (allWs_sps d).append (allWs_nl k')

theorem getPlaceable_bnd (hs : AsciiThenBoundary s) {n q : Nat} {e : Expr Span}
    (h : getPlaceable s n p = .ok e q) (hp : p ≤ s.size) (hn : 4 * (s.size - p) + 3 ≤ n) : Bnd s q ∧ p ≤ q := by
  have := ((specs_all hs n).placeable p hp hn).of_ok h
  exact ⟨this.2.2.1, this.1⟩

/-- the line at `p` (after its leading spaces) is not a blank line: end of input or a byte that does not
start a line end -/
def NonBlankLine (s : Src) (p : Nat) : Prop :=
  s[skipBlankInline s p]? = none ∨
    ∃ b, s[skipBlankInline s p]? = some b ∧ b ≠ 10 ∧ ¬ (b = 13 ∧ s[skipBlankInline s p + 1]? = some 10)

theorem NonBlankLine.at {d : Nat} {o : Option UInt8} (h : NonBlankLine s p) (hd : LineHead s p d o) :
    s[p + d]? = none ∨ ∃ b, s[p + d]? = some b ∧ b ≠ 10 ∧ ¬ (b = 13 ∧ s[p + d + 1]? = some 10) := by
  unfold NonBlankLine at h
  rwa [hd.sbi] at h

theorem scan_skip_spaces (s : Src) (ls : List UInt8) (c p : Nat) :
    blankBlockScan (rest s p) ls c = blankBlockScan (rest s (skipBlankInline s p)) ls c := by
  rw [blankBlockScan_spaces, spaces_eq_skipBlankInline]

theorem skipEol_none_of_nonblank {p1 : Nat}
    (h : s[p1]? = none ∨ ∃ b, s[p1]? = some b ∧ b ≠ 10 ∧ ¬ (b = 13 ∧ s[p1 + 1]? = some 10)) : skipEol s p1 = none := by
  rcases h with h | ⟨b, hb, h10, hcr⟩
  · exact skipEol_none_of (by rw [h]; nofun) (by rw [h]; nofun)
  · rw [skipEol_eq, if_neg (by rw [hb]; exact fun e => h10 (Option.some.inj e)),
      if_neg fun c => hcr ⟨Option.some.inj (hb.symm.trans c.1), c.2⟩]

theorem nonBlankLine_of_skipEol_none (h : skipEol s (skipBlankInline s p) = none) :
    NonBlankLine s p := by
  unfold NonBlankLine
  rcases eol_cases s (skipBlankInline s p) with ⟨hsz, _⟩ | ⟨_, _, he, _⟩ | ⟨_, _, _, he, _⟩ | ⟨b, hb, _, hnb, _⟩
  · exact .inl (Array.getElem?_eq_none_iff.mpr hsz)
  · cases he.symm.trans h
  · cases he.symm.trans h
  · exact .inr ⟨b, hb, hnb.1, fun ⟨h13, h10⟩ => hnb.2 h13 _ (rest_cons h10)⟩

theorem nonBlankLine_of_canon (h : SpecResource.Canon (rest s p)) : NonBlankLine s p := by
  rcases h with h | h
  · exact .inl (Array.getElem?_eq_none (Nat.le_trans (rest_eq_nil_iff.mp h) (skipBlankInline_after s p).le))
  · rw [spaces_eq_skipBlankInline] at h
    obtain ⟨b, t, hb, -, h2, h3⟩ := h
    obtain ⟨hsb, ht⟩ := rest_cons_iff.mp hb
    exact .inr ⟨b, hsb, h2, fun ⟨h13, h10⟩ => h3 ⟨h13, _, ht.trans (rest_cons h10)⟩⟩

theorem scan_nonblank (s : Src) (p k : Nat) (h : NonBlankLine s p) :
    blankBlockScan (rest s p) (rest s p) k =
      if s.size ≤ skipBlankInline s p then some (k, []) else if k == 0 then none else some (k, rest s p) := by
  rw [scan_skip_spaces, scan_line s (rest s p) k _ (skipBlankInline_stop s p), skipEol_none_of_nonblank h]

theorem rest_length_sub {d : Nat} (h : p + d ≤ s.size) : (rest s p).length - (rest s (p + d)).length = d := by
  rw [rest_length, rest_length, ← Nat.sub_sub, Nat.sub_sub_self (Nat.le_sub_of_add_le' h)]

theorem blankBlock_at_line {k d c : Nat} {o : Option UInt8} {i r1 : List UInt8} (hd : LineHead s p d o)
    (hnb : NonBlankLine s p)
    (hsync : blankBlock i = blankBlockScan (rest s p) (rest s p) k) (hbb : blankBlock i = some (c, r1))
    (hne : spaces r1 ≠ []) :
    c = k ∧ r1 = rest s p ∧ spaces r1 = rest s (p + d) ∧ r1.length - (spaces r1).length = d ∧ p + d < s.size := by
  rw [hsync, scan_nonblank s p k hnb, hd.sbi] at hbb
  by_cases hsz : s.size ≤ p + d
  · rw [if_pos hsz] at hbb
    cases hbb
    exact absurd rfl hne
  · rw [if_neg hsz] at hbb
    by_cases hk : (k == 0) = true
    · rw [if_pos hk] at hbb; cases hbb
    · rw [if_neg hk] at hbb
      cases hbb
      have hsp : spaces (rest s p) = rest s (p + d) := by rw [spaces_eq_skipBlankInline, hd.sbi]
      exact ⟨rfl, rfl, hsp, by rw [hsp]; exact rest_length_sub (Nat.le_of_not_le hsz), Nat.lt_of_not_le hsz⟩

theorem blankInline_eq_some {i r : List UInt8} (h : blankInline i = some r) : (∃ t, i = 32 :: t) ∧ r = spaces i := by
  unfold blankInline at h
  split at h
  · rename_i r0
    cases h
    exact ⟨⟨r0, rfl⟩, by simp [spaces]⟩
  · cases h

theorem startsIndentedChar_facts {i : List UInt8} (h : startsIndentedChar i = true) :
    ∃ b, b ≠ 10 ∧ isBytePatternContinuation b = true ∧ ∃ t r', textRun i = (b :: t, r') := by
  cases i with
  | nil => cases h
  | cons b r =>
    unfold startsIndentedChar at h
    split at h
    · cases h
    · rename_i b' r0 hnc heq
      obtain ⟨rfl, rfl⟩ := List.cons.inj heq
      simp only [Bool.not_eq_true', Bool.or_eq_false_iff, beq_eq_false_iff_ne] at h
      obtain ⟨⟨⟨⟨⟨h1, h2⟩, h3⟩, h4⟩, h5⟩, h6⟩ := h
      have hs : ¬ TextStop b r := by
        rintro (e | e | e | ⟨rfl, r2, rfl⟩)
        · exact h3 e
        · exact h1 e
        · exact h2 e
        · exact hnc r2 rfl rfl
      exact ⟨b, h3, by simp [isBytePatternContinuation, h6, h2, h4, h5], _, _, textRun_go hs⟩
    · rename_i heq; cases heq

theorem blockText_inv {i : List UInt8} {els : List RawEl} {r' : List UInt8} (h : blockText i = some (els, r')) :
    ∃ c r1 b t, blankBlock i = some (c, r1) ∧ (∃ r0, r1 = 32 :: r0) ∧ textRun (spaces r1) = (b :: t, r') ∧
      b ≠ 10 ∧ isBytePatternContinuation b = true ∧
      els = [.text (newlines c), .indent (r1.length - (spaces r1).length), .text (b :: t)] := by
  unfold blockText at h
  cases hbb : blankBlock i with
  | none => rw [hbb] at h; cases h
  | some v =>
    obtain ⟨c, r1⟩ := v
    rw [hbb] at h
    cases hbi : blankInline r1 with
    | none => simp only [hbi] at h; cases h
    | some r2 =>
      obtain ⟨h32, rfl⟩ := blankInline_eq_some hbi
      simp only [hbi] at h
      by_cases hic : startsIndentedChar (spaces r1) = true
      · obtain ⟨b, b10, bc, t, r3, hrun⟩ := startsIndentedChar_facts hic
        rw [if_pos hic, hrun] at h
        cases h
        exact ⟨c, r1, b, t, rfl, h32, hrun, b10, bc, rfl⟩
      · rw [if_neg hic] at h; cases h

theorem ne_nil_of_eq_cons {α : Type} {l t : List α} {a : α} (h : l = a :: t) : l ≠ [] := h ▸ List.cons_ne_nil a t

section
variable {st : PatState} {acc : List RawEl} {n k lead : Nat} {i : List UInt8}

/-- the parser gets from `(n, st, p)` to `(n', st', p')` with fuel to go on; by then the grammar has read
`acc'` and `k'` line breaks are pending -/
structure Reach (s : Src) (lead n : Nat) (st : PatState) (p : Nat) (acc' : List RawEl) (n' : Nat) (st' : PatState)
    (p' k' : Nat) : Prop where
  run : getPatternLoop s n st p = getPatternLoop s n' st' p'
  inv : Inv s st' acc' k' lead
  fuel : Fuel s p' n'

theorem Reach.trans {n1 n2 : Nat} {st st1 st2 : PatState} {p1 p2 k1 k2 : Nat} {acc1 acc2 : List RawEl}
    (h1 : Reach s lead n st p acc1 n1 st1 p1 k1) (h2 : Reach s lead n1 st1 p1 acc2 n2 st2 p2 k2) :
    Reach s lead n st p acc2 n2 st2 p2 k2 :=
  ⟨h1.run.trans h2.run, h2.inv, h2.fuel⟩

/-- the parser reads what the grammar reads as `els`, ending at the grammar's rest `r'` -/
def Step (s : Src) (n : Nat) (st : PatState) (p : Nat) (acc : List RawEl) (lead : Nat) (els : List RawEl)
    (r' : List UInt8) : Prop :=
  ∃ n' st' p' k', Reach s lead n st p (acc ++ els) n' st' p' k' ∧ Sync s st'.role p' r' k' ∧ st'.elements ≠ []

theorem Reach.step {n1 : Nat} {st1 : PatState} {p1 k1 : Nat} {els : List RawEl} {r' : List UInt8}
    (hR : Reach s lead n st p acc n1 st1 p1 k1) (h : Step s n1 st1 p1 acc lead els r') : Step s n st p acc lead els r' := by
  obtain ⟨n2, st2, p2, k2, hR2, g⟩ := h
  exact ⟨n2, st2, p2, k2, hR.trans hR2, g⟩

/-- the parser stands at the start `p` of a line that is not blank; the grammar is still in front of the line
breaks, at `i` -/
structure AtLine (s : Src) (st : PatState) (p : Nat) (i : List UInt8) (k : Nat) : Prop where
  role : st.role = .lineStart
  sync : Sync s .lineStart p i k
  nonblank : NonBlankLine s p

theorem snoc_ne_nil {α : Type} (l : List α) (a : α) : l ++ [a] ≠ [] :=
  List.append_ne_nil_of_right_ne_nil _ (List.cons_ne_nil _ _)

/-- `inline_text` in the middle of a line -/
theorem step_text (hs : AsciiThenBoundary s) (hSurv : Surv s)
    (hI : Inv s st acc 0 lead) (hrole : st.role ≠ .lineStart) (hbp : Bnd s p)
    {b : UInt8} {t : Bytes} {r' : List UInt8}
    (hrun : textRun (rest s p) = (b :: t, r')) (hnc : ∀ t', r' ≠ 125 :: t') (hn : Fuel s p n) :
    Step s n st p acc lead [.text (b :: t)] r' := by
  obtain ⟨r0, hr0, hb1, -, hb3⟩ := textRun_head_ne hrun
  have hbp0 := rest_head hr0
  have hlt := get_lt hbp0
  have h123 : s[p]? ≠ some 123 := fun h => hb1 (Option.some.inj (hbp0.symm.trans h))
  obtain ⟨n0, rfl⟩ := fuel_succ hn
  obtain ⟨stop, nb, term, q, hts, hF, hseg, hrest, hlt'⟩ := slice_of_textRun hs hrun hnc
  obtain ⟨k', hk, hsync, hpq, hq⟩ := after_slice hs hF hlt'
  rw [hrest] at hsync
  have hstop : p < stop := Nat.lt_of_lt_of_le hlt' (textStop_le term stop)
  have hflat : ∀ c, phFlat s c (.text p stop 0 st.role) = chars (b :: t) ++ nl k' := fun c => by
    rw [phFlat_text_zero, hk, hseg]
  have hled : Led (chars (b :: t) ++ nl k') := (led_chars hb3 t).append _
  have hsv : survivesOf s p stop nb = some nb := by
    cases nb with
    | true => exact (slice_survives hSurv hbp hlt hts hF).1
    | false => rfl
  refine ⟨n0, _, q, k', ⟨patLoop_slice hlt h123 (patPre_other p hrole) hts (st2Of_mid hrole hstop hsv), ?_,
    fuel_step hn hpq hq⟩, hsync, snoc_ne_nil _ _⟩
  refine hI.push_inline rfl hflat (fun c => by rw [rawFlat_text]) hled rfl rfl ?_ ?_
  · cases nb with
    | true => rfl
    | false => exact hI.kept
  · -- a slice that is not blank is the last survivor, a blank one is white space
    cases nb with
    | true =>
      obtain ⟨-, j, x, j1, j2, j3, j4⟩ := slice_survives hSurv hbp hlt hts hF
      exact trailOK_survivor rfl rfl ⟨Nat.le_of_lt hstop, hF.stople, j, x, j1, j2, j3, j4⟩
    | false =>
      exact trailOK_push_ws hI.trail [_] rfl rfl fun c => by
        rw [phsFlat_single, phFlat_text_zero]; exact slice_blank hs hF hlt'

theorem placeable_iter (hs : AsciiThenBoundary s) {m : Nat} (hpl : PlaceableRef s m)
    {e : Expr Bytes} {r' : List UInt8} (hip : inlinePlaceable m (rest s p) = .ok e r')
    (hn : Fuel s p (n + 1)) (st : PatState) :
    ∃ e' q, getPatternLoop s (n + 1) st p = getPatternLoop s n (patPlaced st e') q ∧ jE s e' = e ∧
      Sync s .continuation q r' 0 ∧ Fuel s q n := by
  obtain ⟨t0, ht0⟩ := inlinePlaceable_head hip
  have h123 := rest_head ht0
  have hlt := get_lt h123
  have hn1 : 4 * (s.size - (p + 1)) + 3 ≤ n := fuel_step hn (Nat.lt_succ_self p) hlt
  obtain ⟨e', q, g1, g2, g3, g4⟩ := hpl n p e r' hip hn1
  obtain ⟨hbq, hpq⟩ := getPlaceable_bnd hs g1 hlt hn1
  exact ⟨e', q, patLoop_placed h123 g1, g2, g4 ▸ sync_mid (fun h => nomatch h) hbq, fuel_step hn hpq g3⟩

/-- `inline_placeable` in the middle of a line -/
theorem step_placeable (hs : AsciiThenBoundary s) {m : Nat} (hpl : PlaceableRef s m)
    (hI : Inv s st acc 0 lead) (hrole : st.role ≠ .lineStart)
    {e : Expr Bytes} {r' : List UInt8} (hip : inlinePlaceable m (rest s p) = .ok e r')
    (hn : Fuel s p n) :
    Step s n st p acc lead [.placeable e] r' := by
  obtain ⟨n0, rfl⟩ := fuel_succ hn
  obtain ⟨e', q, hrun, g2, hsync, hfuel⟩ := placeable_iter hs hpl hip hn st
  refine ⟨n0, _, q, 0, ⟨hrun, ?_, hfuel⟩, hsync, snoc_ne_nil _ _⟩
  exact hI.push_inline (ph := .placeable e') rfl (fun c => congrArg (fun x => [Sum.inr x]) g2) (fun c => rfl)
    (led_inr e []) rfl (if_neg (mt beq_iff_eq.mp hrole)) rfl (trailOK_survivor rfl rfl trivial)

/-- `block_text`: a continuation line that starts with text -/
theorem step_blockText (hs : AsciiThenBoundary s) (hSurv : Surv s)
    (hI : Inv s st acc k lead) (hA : AtLine s st p i k)
    {els : List RawEl} {r' : List UInt8} (hbt : blockText i = some (els, r'))
    (hnc : ∀ t', r' ≠ 125 :: t') (hn : Fuel s p n) :
    Step s n st p acc lead els r' := by
  obtain ⟨hrole, hL, hnb⟩ := hA
  obtain ⟨d, _, hd⟩ := lineHead s p
  have hbd := hd.bnd hs hL.bnd
  -- the grammar's side: the line breaks, the indent `d > 0`, the text
  obtain ⟨c, r1, b, t, hbb, ⟨r0, hr0⟩, hrun, hb10, hbc, rfl⟩ := blockText_inv hbt
  obtain ⟨r2, hr2, -⟩ := textRun_head_ne hrun
  obtain ⟨rfl, rfl, hsp, hlen, hlt1⟩ := blankBlock_at_line hd hnb (hL.scan rfl) hbb (ne_nil_of_eq_cons hr2)
  rw [hlen]
  rw [hsp] at hrun hr2
  have hsb := rest_head hr2
  have h32 := rest_head hr0
  have hd0 : 0 < d := Nat.pos_of_ne_zero fun h0 => hd.stop (by rw [h0]; exact h32)
  -- the parser's side: one text slice, which is not blank
  obtain ⟨n0, rfl⟩ := fuel_succ hn
  have hpre := patPre_line hrole hd.sbi hsb (fun h0 => absurd h0 (Nat.ne_of_gt hd0)) (fun _ => hbc)
  obtain ⟨stop, nb, term, q, hts, hF, hseg, hrest, hlt'⟩ := slice_of_textRun hs hrun hnc
  obtain rfl : nb = true := by
    cases nb with
    | true => rfl
    | false => exact absurd (hF.blank (p + d) (Nat.le_refl _) hlt') hd.stop
  obtain ⟨hsv, j, x, j1, j2, j3, j4⟩ := slice_survives hSurv hbd hlt1 hts hF
  obtain ⟨k', hk, hsync, hpq, hq⟩ := after_slice hs hF hlt'
  rw [hrest] at hsync
  have hstop : p + d < stop := Nat.lt_of_lt_of_le hlt' (textStop_le term stop)
  have hpq' : p < q := Nat.lt_of_le_of_lt (Nat.le_add_right p d) hpq
  refine ⟨n0, _, q, k', ⟨patLoop_slice (head_lt_size hsb) (by rw [h32]; decide) hpre hts (st2Of_textline hrole hstop hsv), ?_,
    fuel_step hn hpq' hq⟩, hsync, snoc_ne_nil _ _⟩
  refine hI.push_block (Δ := [.text p stop d .lineStart]) rfl (fun c => ?_)
    (fun c => by rw [rawFlat_text]; exact led_chars hb10 t) rfl rfl rfl
    (trailOK_survivor rfl rfl ⟨Nat.le_of_lt hstop, hF.stople, j, x, j1, j2, j3, j4⟩)
  rw [phsFlat_single, phFlat_line c hd.spaces (Nat.le_of_lt hstop), hk, hseg, rawFlat_text, List.append_assoc]

/-- `block_placeable`: a continuation line that starts with a placeable -/
theorem step_blockPlaceable (hs : AsciiThenBoundary s) {m : Nat} (hpl : PlaceableRef s m)
    (hI : Inv s st acc k lead) (hA : AtLine s st p i k)
    {c : Nat} {r1 : List UInt8} (hbb : blankBlock i = some (c, r1))
    {e : Expr Bytes} {r' : List UInt8} (hip : inlinePlaceable m (spaces r1) = .ok e r')
    (hn : Fuel s p n) :
    Step s n st p acc lead [.text (newlines c), .indent (r1.length - (spaces r1).length), .placeable e] r' := by
  obtain ⟨hrole, hL, hnb⟩ := hA
  obtain ⟨d, _, hd⟩ := lineHead s p
  obtain ⟨t0, ht0⟩ := inlinePlaceable_head hip
  obtain ⟨rfl, -, hsp, hlen, hlt1⟩ := blankBlock_at_line hd hnb (hL.scan rfl) hbb (ne_nil_of_eq_cons ht0)
  rw [hlen]
  rw [hsp] at hip ht0
  obtain ⟨n0, rfl⟩ := fuel_succ hn
  cases d with
  | zero =>
    -- the placeable starts in column 0
    obtain ⟨e', q, hrun, g2, hsync, hfuel⟩ := placeable_iter hs hpl hip hn st
    refine ⟨n0, _, q, 0, ⟨hrun, ?_, hfuel⟩, hsync, snoc_ne_nil _ _⟩
    refine hI.push_block (Δ := [.placeable e']) rfl (fun c => ?_) (fun c => led_inr e []) rfl ?_ rfl
      (trailOK_survivor rfl rfl trivial)
    · rw [phsFlat_single, phFlat, g2, Nat.zero_sub]; rfl
    · show (if st.role == .lineStart then some 0 else st.commonIndent) = _
      rw [if_pos (beq_iff_eq.mpr hrole), minOpt_zero]
  | succ d =>
    -- an indented placeable: the indent is a text slice of its own
    have h123 := rest_head ht0
    have hsp0 : s[p]? = some 32 := hd.spaces p (Nat.le_refl _) (Nat.lt_add_of_pos_right (Nat.succ_pos d))
    have hpd : p < p + (d + 1) := Nat.lt_add_of_pos_right (Nat.succ_pos d)
    have hn0 := fuel_step (d := 1) hn hpd (Nat.le_of_lt hlt1)
    obtain ⟨n1, rfl⟩ := fuel_succ hn0
    have hpre := patPre_line (st := st) hrole hd.sbi h123 (fun h0 => absurd h0 (Nat.succ_ne_zero d)) (fun _ => by decide)
    have hrun1 := patLoop_slice (n := n1 + 1) (head_lt_size h123) (by rw [hsp0]; decide) hpre (slice_at_brace h123)
      (st2Of_placeableLed hrole)
    obtain ⟨e', q, hrun2, g2, hsync, hfuel⟩ := placeable_iter hs hpl hip hn0 _
    refine ⟨n1, _, q, 0, ⟨hrun1.trans hrun2, ?_, hfuel⟩, hsync,
      snoc_ne_nil _ _⟩
    refine hI.push_block (Δ := [.text p (p + (d + 1)) (d + 1) .lineStart, .placeable e']) rfl (fun c => ?_)
      (fun c => led_inr e []) (List.append_assoc _ _ _) rfl rfl (trailOK_survivor rfl rfl trivial)
    rw [phsFlat, phsFlat_single, phFlat_line c hd.spaces (Nat.le_refl _), seg_self, phFlat, g2]
    simp only [chars, List.map_nil, List.append_nil, rawFlat_placeable, nl, List.replicate_zero]

theorem shift_eol (hs : AsciiThenBoundary s) {d : Nat}
    (hI : Inv s st acc k lead) (hne : st.elements ≠ [])
    (hpre : patPre s st p = some (d, p + d)) (hmid : st.role ≠ .lineStart → d = 0)
    (hsp : ∀ j, p ≤ j → j < p + d → s[j]? = some 32)
    (heol : EolAt s (p + d))
    (hn : Fuel s p n) :
    ∃ n' st' p' k', Reach s lead n st p acc n' st' p' k' ∧ st'.role = .lineStart ∧ Bnd s p' ∧
      (∀ ls, blankBlockScan (rest s (p + d)) ls k = blankBlockScan (rest s p') (rest s p') k') ∧
      p < p' ∧ st'.elements ≠ [] := by
  obtain ⟨n0, rfl⟩ := fuel_succ hn
  have hpd : p < p + d + 1 := Nat.lt_succ_of_le (Nat.le_add_right p d)
  rcases heol with h10 | ⟨h13, h10⟩
  · refine ⟨n0, _, p + d + 1, k + 1, ⟨patLoop_slice (head_lt_size h10) (line_not_brace hsp h10 (by decide)) hpre
      (slice_at_lf h10) (st2Of_lf fun hr => ⟨hmid hr, by rw [hmid hr, Nat.add_zero]⟩), ?_, fuel_step hn hpd (get_lt h10)⟩,
      rfl, bnd_succ hs h10 (by decide), fun ls => ?_, hpd, snoc_ne_nil _ _⟩
    · exact hI.push_nl hne (fun c => by rw [phFlat_text_zero, seg_one h10]; rfl) rfl rfl rfl rfl
    · rw [rest_cons h10, blankBlockScan_nl]
  · refine ⟨n0, _, p + d + 1, k, ⟨patLoop_slice (head_lt_size h13) (line_not_brace hsp h13 (by decide)) hpre
      (slice_at_crlf h13 h10) (st2Of_empty (Or.inl (by decide))), hI.congr rfl rfl rfl rfl,
      fuel_step hn hpd (Nat.le_of_lt (get_lt h10))⟩, rfl, bnd_of_ascii h10 (by decide),
      fun ls => ?_, hpd, hne⟩
    rw [rest_cons h13, rest_cons h10, blankBlockScan_crlf, blankBlockScan_nl]

theorem s2_skip {s : Src} (hs : AsciiThenBoundary s) : ∀ (dist p : Nat), s.size - p < dist →
    ∀ {n : Nat} {st : PatState} {acc : List RawEl} {k lead : Nat} {i : List UInt8}, Inv s st acc k lead →
      st.role = .lineStart → Sync s .lineStart p i k → (st.elements ≠ [] ∨ NonBlankLine s p) →
      Fuel s p n →
      ∃ n' st' p' k', Reach s lead n st p acc n' st' p' k' ∧ AtLine s st' p' i k' := by
  intro dist
  induction dist with
  | zero => intro p h; exact absurd h (Nat.not_lt_zero _)
  | succ dist ih =>
    intro p hdist n st acc k lead i hI hrole hL hne hn
    obtain ⟨d, _, hd⟩ := lineHead s p
    cases hse : skipEol s (p + d) with
    | some q =>
      have heol : EolAt s (p + d) :=
        (skipEol_cases hse).imp (·.2) fun h => h.2
      have hne' : st.elements ≠ [] :=
        hne.resolve_right fun h => nomatch hse.symm.trans (skipEol_none_of_nonblank (h.at hd))
      obtain ⟨n1, st1, p1, k1, hR, hrole1, hb1, hscan, hlt, hne1⟩ :=
        shift_eol hs hI hne' (patPre_blank hrole hd.sbi heol) (fun h => absurd hrole h) hd.spaces heol hn
      have hL1 : Sync s .lineStart p1 i k1 :=
        Sync.line hb1 (by rw [(hL.scan rfl), scan_skip_spaces, hd.sbi, hscan]) (hL.eol rfl)
      obtain ⟨n2, st2, p2, k2, hR2, hL2⟩ := ih p1 (rounds_next hdist hlt hb1.le) hR.inv hrole1 hL1 (Or.inl hne1) hR.fuel
      exact ⟨n2, st2, p2, k2, hR.trans hR2, hL2⟩
    | none =>
      exact ⟨n, st, p, k, ⟨rfl, hI, hn⟩, hrole, hL, nonBlankLine_of_skipEol_none (by rw [hd.sbi]; exact hse)⟩

/-- what the loop starts from: something has been read already, or the first line is at hand (no blank line is
walked before the first element) -/
structure InitOK (s : Src) (st : PatState) (p : Nat) (i : List UInt8) : Prop where
  lineStart : st.role = .lineStart → st.elements ≠ [] ∨ NonBlankLine s p
  mid : st.role ≠ .lineStart → LineBreak i → st.elements ≠ []

theorem eol_of_rest (hX : LineBreak (rest s p)) :
    EolAt s p := by
  obtain ⟨X, h | h⟩ := hX
  · exact Or.inl (rest_head h)
  · obtain ⟨h13, ht⟩ := rest_cons_iff.mp h
    exact Or.inr ⟨h13, rest_head ht.symm⟩

theorem to_nonblank (hs : AsciiThenBoundary s)
    (hI : Inv s st acc k lead) (hsync : Sync s st.role p i k)
    (hX : LineBreak i) (hinit : InitOK s st p i) (hn : Fuel s p n) :
    ∃ n' st' p' k', Reach s lead n st p acc n' st' p' k' ∧ AtLine s st' p' i k' := by
  by_cases hrole : st.role = .lineStart
  · exact s2_skip hs _ p (Nat.lt_succ_self _) hI hrole (hrole ▸ hsync) (hinit.lineStart hrole) hn
  · obtain ⟨rfl, rfl⟩ := hsync.mid hrole
    have hne := hinit.mid hrole hX
    obtain ⟨n1, st1, p1, k1, hR, hrole1, hb1, hscan, -, hne1⟩ :=
      shift_eol (d := 0) hs hI hne (patPre_other p hrole) (fun _ => rfl) (fun j h1 h2 => absurd h2 (Nat.not_lt.mpr h1))
        (eol_of_rest hX) hn
    have hL1 : Sync s .lineStart p1 (rest s p) k1 := Sync.line hb1 (hscan _) hX
    obtain ⟨n2, st2, p2, k2, hR2, hL2⟩ := s2_skip hs _ p1 (Nat.lt_succ_self _) hR.inv hrole1 hL1 (Or.inl hne1) hR.fuel
    exact ⟨n2, st2, p2, k2, hR.trans hR2, hL2⟩

end

theorem blankOpt_nonblank {p1 : Nat} {b : UInt8} (h : s[p1]? = some b) (h32 : b ≠ 32) (h10 : b ≠ 10)
    (hcr : ¬ (b = 13 ∧ s[p1 + 1]? = some 10)) : blankOpt (rest s p1) = rest s p1 := by
  rw [rest_cons h]
  exact blankOpt_nonbreak h32 (.at_cursor h10 hcr)

theorem end_s2 {n : Nat} {st : PatState} {k : Nat} {i : List UInt8} (hrole : st.role = .lineStart)
    (hp : p ≤ s.size) (hnb : NonBlankLine s p)
    (hsync : blankBlock i = blankBlockScan (rest s p) (rest s p) k) (hX : LineBreak i)
    (hfol : PatFollow i) (hn : 1 ≤ n) :
    ∃ q, getPatternLoop s n st p = .ok st q ∧ rest s q = afterBlank i ∧ q ≤ s.size := by
  obtain ⟨n0, rfl⟩ := fuel_succ hn
  obtain ⟨d, _, hd⟩ := lineHead s p
  have hbsome : (blankBlock i).isSome = true := by
    obtain ⟨X, rfl | rfl⟩ := hX
    · rw [blankBlock_nl]; exact blankBlockScan_isSome_of_pos _ _ 1 Nat.one_pos
    · rw [blankBlock_crlf]; exact blankBlockScan_isSome_of_pos _ _ 1 Nat.one_pos
  have hscan := hsync.trans (scan_nonblank s p k hnb)
  rw [hd.sbi] at hscan
  rcases hnb.at hd with hnone | ⟨b, hb, hb10, hbcr⟩
  · -- only spaces up to the end of input
    have hsz : s.size ≤ p + d := Array.getElem?_eq_none_iff.mp hnone
    rw [if_pos hsz] at hscan
    have haft : afterBlank i = [] := by rw [afterBlank, hscan]
    by_cases hlt : p < s.size
    · have h32 : s[p]? = some 32 := hd.spaces p (Nat.le_refl _) (Nat.lt_of_lt_of_le hlt hsz)
      obtain ⟨h1, h2⟩ := patPre_eof (st := st) hrole hd.sbi hnone
      refine ⟨p + d, ?_, by rw [haft]; exact rest_eq_nil_iff.mpr hsz, hd.le_size hp⟩
      rw [patLoop_text s n0 st p hlt (by rw [h32]; decide), h1, h2]
    · have hsz' := Nat.le_of_not_lt hlt
      exact ⟨p, patLoop_exit s n0 st p hsz', by rw [haft]; exact rest_eq_nil_iff.mpr hsz', hp⟩
  · rw [if_neg (Nat.not_le.mpr (get_lt hb))] at hscan
    have hk0 : ¬ (k == 0) = true := by
      intro hk
      rw [if_pos hk] at hscan
      rw [hscan] at hbsome
      cases hbsome
    rw [if_neg hk0] at hscan
    have haft : afterBlank i = rest s p := by rw [afterBlank, hscan]
    have hb32 : b ≠ 32 := fun h => hd.stop (h ▸ hb)
    -- the first byte after the blank is one with which the pattern cannot go on
    have hbo : blankOpt i = rest s (p + d) := by
      rw [← blankOpt_afterBlank, haft, ← blankOpt_spaces, spaces_eq_skipBlankInline, hd.sbi]
      exact blankOpt_nonblank hb hb32 hb10 hbcr
    obtain ⟨hf1, hf2⟩ := hfol.2 b _ (hbo.trans (rest_cons hb))
    have hstop : 0 < d → isBytePatternContinuation b = false := by
      intro hd0
      rcases hf2 with rfl | rfl | rfl | rfl | h
      · decide
      · decide
      · decide
      · decide
      · have h32 := hd.spaces p (Nat.le_refl _) (Nat.lt_add_of_pos_right hd0)
        exact absurd (Option.some.inj ((rest_head (haft.symm.trans h)).symm.trans h32)) hb32
    obtain ⟨h1, h2⟩ := patPre_stop (st := st) hrole hd.sbi hb (fun _ => isEol_false hb hb10 hbcr) hstop
    refine ⟨p, ?_, haft.symm, hp⟩
    rw [patLoop_text s n0 st p (head_lt_size hb) (line_not_brace hd.spaces hb hf1), h1, h2]

theorem textRun_lineend {i : List UInt8} (h : LineBreak i) : textRun i = ([], i) := by
  obtain ⟨X, rfl | rfl⟩ := h
  · exact textRun_special _ (Or.inl rfl)
  · exact textRun_crlf _

theorem blankBlock_brace_none (b : UInt8) (t : List UInt8) (hb : b = 123 ∨ b = 125) : blankBlock (b :: t) = none := by
  rcases hb with rfl | rfl <;> exact scan_other t _ 0 (by decide) (by decide) (by decide)

theorem eol_of_blankBlock {i i' r1 : List UInt8} {c : Nat} (h : textRun i = ([], i')) (hbb : blankBlock i = some (c, r1))
    (hne : r1 ≠ []) : LineBreak i := by
  cases i with
  | nil => cases hbb; exact absurd rfl hne
  | cons b r =>
    by_cases hs : TextStop b r
    · rcases hs with rfl | rfl | rfl | ⟨rfl, r2, rfl⟩
      · exact ⟨r, .inl rfl⟩
      · rw [blankBlock_brace_none _ _ (.inl rfl)] at hbb; cases hbb
      · rw [blankBlock_brace_none _ _ (.inr rfl)] at hbb; cases hbb
      · exact ⟨r2, .inr rfl⟩
    · rw [textRun_go hs] at h; cases h

theorem patternElement_inv {m : Nat} {i : List UInt8} {els : List RawEl} {r1 : List UInt8}
    (h : patternElement (m + 1) i = .ok els r1) :
    (∃ b t, textRun i = (b :: t, r1) ∧ els = [.text (b :: t)]) ∨
    (∃ i', textRun i = ([], i') ∧ blockText i = some (els, r1)) ∨
    (∃ e, inlinePlaceable m i = .ok e r1 ∧ els = [.placeable e]) ∨
    (∃ i' c r1b e, textRun i = ([], i') ∧ blankBlock i = some (c, r1b) ∧ inlinePlaceable m (spaces r1b) = .ok e r1 ∧
      els = [.text (newlines c), .indent (r1b.length - (spaces r1b).length), .placeable e]) := by
  rw [SpecSteps.patternElement_unfold] at h
  cases htr : textRun i with
  | mk tx i' =>
    rw [htr] at h
    cases tx with
    | cons b t => cases h; exact .inl ⟨b, t, rfl, rfl⟩
    | nil =>
      cases hbt : blockText i with
      | some v => rw [hbt] at h; cases h; exact .inr (.inl ⟨i', rfl, rfl⟩)
      | none =>
        rw [hbt] at h
        rcases PR.seq_eq_ok h with ⟨e, r, hip, h⟩ | ⟨-, h⟩
        · cases h; exact .inr (.inr (.inl ⟨e, hip, rfl⟩))
        · unfold SpecSteps.blockPlaceable at h
          cases hbb : blankBlock i with
          | none => rw [hbb] at h; cases h
          | some v =>
            obtain ⟨c, r1b⟩ := v
            rw [hbb] at h
            obtain ⟨e, r, hip, h⟩ := PR.bind_eq_ok h
            cases h
            exact .inr (.inr (.inr ⟨i', c, r1b, e, rfl, rfl, hip, rfl⟩))

theorem patternElements_close {m : Nat} {t r : List UInt8} {more : List RawEl}
    (h : patternElements m (125 :: t) = .ok more r) : r = 125 :: t := by
  cases m with
  | zero => rw [patternElements] at h; cases h
  | succ m =>
    rw [SpecSteps.patternElements_unfold] at h
    rcases PR.seq_eq_ok h with ⟨els, r1, hpe, -⟩ | ⟨-, h⟩
    · -- no `PatternElement` begins with `}`
      cases m with
      | zero => rw [patternElement] at hpe; cases hpe
      | succ m =>
        have hbb := blankBlock_brace_none 125 t (.inr rfl)
        rcases patternElement_inv hpe with ⟨b, t', hrun, -⟩ | ⟨i', -, hbt⟩ | ⟨e, hip, -⟩ | ⟨i', c, r1b, e, -, hbb', -⟩
        · rw [textRun_special t (.inr (.inr rfl))] at hrun; cases hrun
        · obtain ⟨c, r1b, -, -, hbb', -⟩ := blockText_inv hbt
          cases hbb.symm.trans hbb'
        · obtain ⟨t0, ht0⟩ := inlinePlaceable_head hip
          cases ht0
        · cases hbb.symm.trans hbb'
    · cases h; rfl

def LoopRef (s : Src) (m : Nat) : Prop :=
  ∀ n st p i acc k lead raws r, patternElements m i = .ok raws r → Inv s st acc k lead → Sync s st.role p i k →
    InitOK s st p i → PatFollow r → Fuel s p n →
    ∃ st' q k', getPatternLoop s n st p = .ok st' q ∧ Inv s st' (acc ++ raws) k' lead ∧
      rest s q = afterBlank r ∧ q ≤ s.size

theorem not_eol_nil : ¬ LineBreak [] := fun ⟨_, h⟩ => h.elim nofun nofun

theorem not_eol_brace (t : List UInt8) : ¬ LineBreak (123 :: t) :=
  fun ⟨_, h⟩ => h.elim nofun nofun

theorem sync_not_lineStart_of_head {role : TextPos} {k : Nat} {i : List UInt8} (h : Sync s role p i k)
    (hhead : ¬ LineBreak i) : role ≠ .lineStart ∧ i = rest s p ∧ k = 0 := by
  have hr : role ≠ .lineStart := fun hr => hhead (h.eol hr)
  exact ⟨hr, h.mid hr⟩

/-- **The loop.** `PatternElement*` of the grammar against the `while` loop of `get_pattern`, from any
synchronised state that satisfies the invariant -/
theorem loop_step (hs : AsciiThenBoundary s) (hSurv : Surv s) {m : Nat}
    (hpl : ∀ j, j ≤ m → PlaceableRef s j) (ih : LoopRef s m) : LoopRef s (m + 1) := by
  intro n st p i acc k lead raws r hPE hI hsync hinit hfol hn
  rw [SpecSteps.patternElements_unfold] at hPE
  rcases PR.seq_eq_ok hPE with ⟨els, r1, hpe, hPE⟩ | ⟨-, hPE⟩
  · obtain ⟨more, r2, hmore, hPE⟩ := PR.bind_eq_ok hPE
    cases hPE
    -- the rest does not begin with a closing brace
    have hnc : ∀ t', r1 ≠ 125 :: t' := by
      intro t' ht
      rw [ht] at hmore
      have hl := hfol.1
      rw [patternElements_close hmore] at hl
      cases hl
    have hstep : Step s n st p acc lead els r1 := by
      cases m with
      | zero => rw [patternElement] at hpe; cases hpe
      | succ m' =>
        rcases patternElement_inv hpe with ⟨b, t, hrun, rfl⟩ | ⟨i', hrun, hbt⟩ | ⟨e, hip, rfl⟩ |
          ⟨i', c, r1b, e, hrun, hbb, hip, rfl⟩
        · -- inline_text
          obtain ⟨hr, rfl, rfl⟩ := sync_not_lineStart_of_head hsync fun hX => by
            rw [textRun_lineend hX] at hrun; cases hrun
          exact step_text hs hSurv hI hr hsync.bnd hrun hnc hn
        · -- block_text
          obtain ⟨c, r1b, b, t, hbb, ⟨r0, hr0⟩, -⟩ := blockText_inv hbt
          obtain ⟨n1, st1, p1, k1, hR, hL⟩ :=
            to_nonblank hs hI hsync (eol_of_blankBlock hrun hbb (ne_nil_of_eq_cons hr0)) hinit hn
          exact hR.step (step_blockText hs hSurv hR.inv hL hbt hnc hR.fuel)
        · -- inline_placeable
          obtain ⟨t0, ht0⟩ := inlinePlaceable_head hip
          obtain ⟨hr, rfl, rfl⟩ := sync_not_lineStart_of_head hsync (ht0 ▸ not_eol_brace t0)
          exact step_placeable hs (hpl m' (Nat.le_succ m')) hI hr hip hn
        · -- block_placeable
          obtain ⟨t0, ht0⟩ := inlinePlaceable_head hip
          obtain ⟨n1, st1, p1, k1, hR, hL⟩ :=
            to_nonblank hs hI hsync (eol_of_blankBlock hrun hbb fun h0 => by rw [h0] at ht0; cases ht0) hinit hn
          exact hR.step (step_blockPlaceable hs (hpl m' (Nat.le_succ m')) hR.inv hL hbb hip hR.fuel)
    obtain ⟨n2, st2, p2, k2, hR, g2, g3⟩ := hstep
    obtain ⟨st', q, k', h1, h2, h3, h4⟩ :=
      ih n2 st2 p2 r1 (acc ++ els) k2 lead more _ hmore hR.inv g2 ⟨fun _ => .inl g3, fun _ _ => g3⟩ hfol hR.fuel
    exact ⟨st', q, k', hR.run.trans h1, by rw [← List.append_assoc]; exact h2, h3, h4⟩
  · -- the pattern ends here
    cases hPE
    rw [List.append_nil]
    rcases lineEnd_isSome_cases hfol.1 with h0 | hX
    · obtain ⟨-, hi0, rfl⟩ := sync_not_lineStart_of_head hsync (h0 ▸ not_eol_nil)
      have hsz : s.size ≤ p := rest_eq_nil_iff.mp (hi0.symm.trans h0)
      obtain ⟨n0, rfl⟩ := fuel_succ hn
      exact ⟨st, p, 0, patLoop_exit s n0 st p hsz, hI, by rw [h0]; exact rest_eq_nil_iff.mpr hsz, hsync.bnd.le⟩
    · obtain ⟨n1, st1, p1, k1, hR, f3, f4, f5⟩ := to_nonblank hs hI hsync hX hinit hn
      obtain ⟨q, g1, g2, g3⟩ :=
        end_s2 (n := n1) (st := st1) f3 f4.bnd.le f5 (f4.scan rfl) hX hfol (Nat.le_trans (Nat.le_add_left 1 _) hR.fuel)
      exact ⟨st1, q, k1, hR.run.trans g1, hR.inv, g2, g3⟩

theorem loopRef_zero (s : Src) : LoopRef s 0 := by
  intro n st p i acc k lead raws r h; simp [patternElements] at h

theorem patStart_sync (hs : AsciiThenBoundary s) {p0 : Nat} (hp0 : p0 ≤ s.size) (hb0 : Bnd s p0) :
    ∃ k, Sync s (patStart s p0).1 (patStart s p0).2 (rest s (skipBlankInline s p0)) k ∧
      InitOK s ⟨[], none, none, (patStart s p0).1, none⟩ (patStart s p0).2 (rest s (skipBlankInline s p0)) := by
  have hA1 := skipBlankInline_after s p0
  have hp1s := hA1.le_size hp0
  have hb1 : Bnd s (skipBlankInline s p0) := hA1.bnd hs hb0
  cases hse : skipEol s (skipBlankInline s p0) with
  | none =>
    simp only [patStart_inline hse]
    refine ⟨0, sync_mid (fun h => nomatch h) hb1, nofun, fun _ hX => ?_⟩
    rcases eol_of_rest hX with h10 | ⟨h13, h10⟩
    · rw [skipEol, h10] at hse; cases hse
    · rw [skipEol, h13, h10] at hse; cases hse
  | some q =>
    have hqs : q ≤ s.size := (skipEol_after hse).le_size hp1s
    have hbq : Bnd s q := (skipEol_after hse).bnd hs hb1
    have i1 := skipBlankBlock_scan hqs 1
    have i2 := nonBlankLine_of_canon (skipBlankBlock_canon hqs)
    have i5 : Bnd s (skipBlankBlock s q).1 := (skipBlankBlock_after s q).bnd hs hbq
    simp only [patStart_block hse]
    refine ⟨1 + (skipBlankBlock s q).2, ?_, fun _ => .inr i2, fun h => absurd rfl h⟩
    rcases skipEol_cases hse with ⟨rfl, h10⟩ | ⟨rfl, h13, h10⟩
    · exact Sync.line i5 (by rw [rest_cons h10, blankBlock_nl]; exact i1) ⟨_, .inl (rest_cons h10)⟩
    · exact Sync.line i5 (by rw [rest_cons h13, rest_cons h10, blankBlock_crlf]; exact i1)
        ⟨_, .inr (by rw [rest_cons h13, rest_cons h10])⟩

/-- **Pattern layer.** `Pattern ::= PatternElement+` with the abstract-syntax pass (`finishPattern`) against
`get_pattern`: the same pattern after joining text, and the parser stops at the start of the first line that
is not part of the pattern. -/
theorem pattern_step (hs : AsciiThenBoundary s) {m : Nat} (hloop : LoopRef s m) :
    PatternRef s (m + 1) := by
  intro n p0 pat r hP hfol hp0 hb0 hn
  obtain ⟨n0, rfl⟩ := fuel_succ hn
  rw [SpecSteps.pattern_unfold] at hP
  obtain ⟨els, r', hpe, hP⟩ := PR.bind_eq_ok hP
  by_cases hne : (finishPattern els).isEmpty = true
  · rw [if_pos hne] at hP; cases hP
  · rw [if_neg hne] at hP
    cases hP
    rw [spaces_eq_skipBlankInline] at hpe
    obtain ⟨k, hsync, hiok⟩ := patStart_sync hs hp0 hb0
    obtain ⟨st', q, k', l1, l2, l3, l4⟩ :=
      hloop n0 ⟨[], none, none, (patStart s p0).1, none⟩ (patStart s p0).2 _ [] k k els r hpe (inv_init s _ k) hsync
        hiok hfol (fuel_mono (Nat.le_of_succ_le_succ hn) (After.patStart s p0).le)
    have hgood := (specs_all hs (n0 + 1)).pattern p0 hp0 hb0 hn
    rw [getPattern_unfold, l1] at hgood ⊢
    -- the placeholders can be sliced, and the result is the grammar's pattern
    have hfin : ∀ l, st'.lastNonBlank = some l → ∃ R, finishElements s st'.keptCommonIndent l 0 st'.elements = some R := by
      intro l hl
      cases hfe : finishElements s st'.keptCommonIndent l 0 st'.elements with
      | some P => exact ⟨P, rfl⟩
      | none =>
        rw [R.bind_ok, patClose, hl] at hgood
        simp only [hfe] at hgood
        exact hgood.elim
    obtain ⟨l, P, c1, c2, c3⟩ := pattern_close l2 (by simpa using hne) hfin
    have hcl : (R.ok st' q).bind (patClose s) = .ok (some P) q := by
      rw [R.bind_ok, patClose, c1]
      simp only [c2]
    rw [hcl] at hgood ⊢
    exact ⟨P, q, rfl, c3, l4, ((good_ok _ _ _ _ _).mp hgood).1, l3⟩

theorem patternRef_zero (s : Src) : PatternRef s 0 := by
  intro n p0 pat r h; simp [pattern] at h

/-- **T2 + T3 (expressions and patterns).** Under the side condition `Surv s`, for every spec fuel: wherever a
production of the grammar — inline expression, call arguments, placeable, select expression, variant list,
pattern — accepts, the parser model returns the same tree (spans resolved, adjacent text joined) and stops
at the corresponding position. -/
theorem allRef (hs : AsciiThenBoundary s) (hSurv : Surv s) :
    ∀ m, ∀ j, j ≤ m → ExprRef s j ∧ PatternRef s j ∧ LoopRef s j := by
  intro m
  induction m with
  | zero =>
    intro j hj
    obtain rfl := Nat.le_zero.mp hj
    exact ⟨exprRef_zero s, patternRef_zero s, loopRef_zero s⟩
  | succ m ih =>
    intro j hj
    rcases Nat.le_succ_iff.mp hj with hjm | rfl
    · exact ih j hjm
    · obtain ⟨he, hp, hl⟩ := ih m (Nat.le_refl _)
      exact ⟨exprRef_step hs he hp, pattern_step hs hl, loop_step hs hSurv (fun j hj => (ih j hj).1.placeable) hl⟩

theorem exprRef_all (hs : AsciiThenBoundary s) (hSurv : Surv s) (m : Nat) : ExprRef s m :=
  (allRef hs hSurv m m (Nat.le_refl _)).1

theorem patternRef_all (hs : AsciiThenBoundary s) (hSurv : Surv s) (m : Nat) : PatternRef s m :=
  (allRef hs hSurv m m (Nat.le_refl _)).2.1

/-- every carriage return is part of a CRLF -/
def NoLoneCR (s : Src) : Prop := ∀ p : Nat, s[p]? = some (13 : UInt8) → s[p + 1]? = some (10 : UInt8)

theorem textRun_no_eol : ∀ (d p : Nat), p + d ≤ s.size →
    textRun (rest s p) = (seg s p (p + d), rest s (p + d)) →
    ∀ j, p ≤ j → j < p + d → s[j]? ≠ some 10 ∧ ¬ (s[j]? = some 13 ∧ s[j + 1]? = some 10) := by
  intro d
  induction d with
  | zero => intro p _ _ j h1 h2; exact absurd h2 (Nat.not_lt.mpr h1)
  | succ d ih =>
    intro p hts hrun j h1 h2
    have hpd : p < p + (d + 1) := Nat.lt_add_of_pos_right (Nat.succ_pos d)
    cases hc : s[p]? with
    | none => exact absurd (Nat.lt_of_lt_of_le hpd hts) (Nat.not_lt.mpr (Array.getElem?_eq_none_iff.mp hc))
    | some c =>
      rw [rest_cons hc, seg_cons hc hpd] at hrun
      obtain ⟨_, e1, hs, e4⟩ := textRun_cons hrun
      obtain rfl := (List.cons.inj e1).2
      rcases Nat.eq_or_lt_of_le h1 with rfl | hlt
      · rw [hc]
        exact ⟨fun h => hs (Or.inl (Option.some.inj h)),
          fun h => hs (Or.inr (Or.inr (Or.inr ⟨Option.some.inj h.1, _, rest_cons h.2⟩)))⟩
      · have e : p + (d + 1) = p + 1 + d := (Nat.add_right_comm p 1 d).symm
        rw [e] at hts e4 h2
        exact ih (p + 1) hts e4 j hlt h2

theorem surv_of_noLoneCR (hs : AsciiThenBoundary s) (h : NoLoneCR s) : Surv s := by
  intro p start stop nb term q hlt hts hnb
  obtain ⟨-, hF⟩ := sliceFacts hs hlt hts
  subst hnb
  obtain ⟨j, x, j1, j2, j3, j4⟩ := hF.nonblank
  obtain ⟨d, hd⟩ : ∃ d, textStop term stop = p + d := ⟨_, (Nat.add_sub_of_le hF.ple).symm⟩
  have hrun := hF.run
  rw [hd] at hrun j2 ⊢
  have hno := textRun_no_eol d p (hd ▸ Nat.le_trans (textStop_le term stop) hF.stople) hrun j j1 j2
  refine ⟨j, x, j1, j2, j3, ?_⟩
  have h10 : x ≠ 10 := fun hx => hno.1 (hx ▸ j3)
  have h13 : x ≠ 13 := fun hx => hno.2 ⟨hx ▸ j3, h j (hx ▸ j3)⟩
  simp [isTrailingWs, j4, h10, h13]

/-- the witness of the known finding F30 (`a =\n  x\n \r`) violates the side condition: its last line is
a lone carriage return, a text slice that is not blank and yet is trimmed away entirely -/
theorem f30_witness_not_surv : ¬ Surv (strBytes "a =\n  x\n \r").toArray := by
  intro h
  obtain ⟨j, b, h1, h2, h3, h4⟩ := h 9 9 10 true .eof 10 (by decide) (by rfl) rfl
  obtain rfl : j = 9 := Nat.le_antisymm (Nat.le_of_lt_succ h2) h1
  have h9 : (strBytes "a =\n  x\n \r").toArray[9]? = some 13 := by decide +kernel
  obtain rfl := Option.some.inj (h9.symm.trans h3)
  cases h4

end FluentProofs.PatLoop

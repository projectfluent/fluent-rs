import FluentProofs.Memo
/-!
Lemmas for C14, part 3: `concurrent::IntlLangMemoizer` – small-step semantics with one lock, all schedules.

`CInv` is the simulation invariant: shared memoizer, world and every thread's results are those of the sequential run
of the acquired lookups in acquisition order (`seqAfter`, `seqOuts`), with one lookup possibly in flight under the lock;
`CInv_step` goes through the five cases of a step (`cstep_cases`).  `IInv` says that what a thread acquired followed by
what it has left is its program.  The second half is progress: `deadlock_free` (an unfinished thread means an enabled
one), and the measure `msum` (work left, summed over the threads below `n`, `BInv`) that an enabled step lowers, so that
`msum` rounds of round-robin finish every thread (`rounds_finish`).
-/
namespace FluentModel.Memo
set_option linter.unusedSectionVars false

section Conc
variable {σ L τ α ι ε ρ : Type} [DecidableEq τ] [DecidableEq α]
variable (X : Ext σ L τ α ι ε) (lang : L) (w₀ : σ)

/-- memoizer and world after running the acquired lookups sequentially, oldest first -/
def seqAfter : List (Nat × Op σ τ α ι ρ) → LMemo L τ α ι ε × σ
  | [] => (LMemo.empty, w₀)
  | (_, op) :: older =>
    let p := seqAfter older
    let r := withTryGet X lang p.1 p.2 op
    (r.memo, r.world)

/-- (thread, outcome) of that sequential run, newest first -/
def seqOuts : List (Nat × Op σ τ α ι ρ) → List (Nat × Outcome ε ρ)
  | [] => []
  | (t, op) :: older =>
    let p := seqAfter X lang w₀ older
    (t, (withTryGet X lang p.1 p.2 op).out) :: seqOuts older

/-- the outcomes that belong to thread `t` -/
def outsOf (t : Nat) (l : List (Nat × Outcome ε ρ)) : List (Outcome ε ρ) :=
  (l.filter fun p => decide (p.1 = t)).map (·.2)

theorem outsOf_cons_same (t : Nat) (r : Outcome ε ρ) (l : List (Nat × Outcome ε ρ)) :
    outsOf t ((t, r) :: l) = r :: outsOf t l := by
  simp [outsOf]

theorem outsOf_cons_other (t t' : Nat) (r : Outcome ε ρ) (l : List (Nat × Outcome ε ρ)) (h : t' ≠ t) :
    outsOf t ((t', r) :: l) = outsOf t l := by
  simp [outsOf, h]

theorem upd_same {β : Type} (f : Nat → β) (t : Nat) (v : β) : upd f t v t = v := by simp [upd]

theorem upd_other {β : Type} (f : Nat → β) (t t' : Nat) (v : β) (h : t' ≠ t) : upd f t v t' = f t' := by
  simp [upd, h]

theorem cstep_finished (s : CState σ L τ α ι ε ρ) (t : Nat) (hpc : (s.threads t).pc = .idle)
    (hprog : (s.threads t).prog = []) : cstep X s t = s := by
  unfold cstep; simp only [hpc, hprog]

theorem cstep_blocked (s : CState σ L τ α ι ε ρ) (t h : Nat) (hpc : (s.threads t).pc = .idle)
    (hl : s.lock = some h) : cstep X s t = s := by
  unfold cstep; simp only [hpc, hl]
  cases (s.threads t).prog <;> rfl

theorem cstep_acquire (s : CState σ L τ α ι ε ρ) (t : Nat) (op : Op σ τ α ι ρ) (rest : List (Op σ τ α ι ρ))
    (hpc : (s.threads t).pc = .idle) (hprog : (s.threads t).prog = op :: rest) (hl : s.lock = none) :
    cstep X s t = { s with lock := some t, acq := (t, op) :: s.acq
                           threads := upd s.threads t { s.threads t with prog := rest, pc := .locked op } } := by
  unfold cstep; simp only [hpc, hprog, hl]

theorem cstep_body (s : CState σ L τ α ι ε ρ) (t : Nat) (op : Op σ τ α ι ρ)
    (hpc : (s.threads t).pc = .locked op) :
    cstep X s t = { s with memo := (withTryGet X s.lang s.memo s.world op).memo
                           world := (withTryGet X s.lang s.memo s.world op).world
                           threads := upd s.threads t
                             { s.threads t with pc := .done (withTryGet X s.lang s.memo s.world op).out } } := by
  unfold cstep; simp only [hpc]

theorem cstep_release (s : CState σ L τ α ι ε ρ) (t : Nat) (r : Outcome ε ρ)
    (hpc : (s.threads t).pc = .done r) :
    cstep X s t = { s with lock := none
                           threads := upd s.threads t
                             { s.threads t with pc := .idle, results := r :: (s.threads t).results } } := by
  unfold cstep; simp only [hpc]

theorem cstep_cases (s : CState σ L τ α ι ε ρ) (t : Nat) :
    cstep X s t = s ∨
    (∃ op rest, (s.threads t).pc = .idle ∧ (s.threads t).prog = op :: rest ∧ s.lock = none ∧
      cstep X s t = { s with lock := some t, acq := (t, op) :: s.acq
                             threads := upd s.threads t { s.threads t with prog := rest, pc := .locked op } }) ∨
    (∃ op, (s.threads t).pc = .locked op ∧
      cstep X s t = { s with memo := (withTryGet X s.lang s.memo s.world op).memo
                             world := (withTryGet X s.lang s.memo s.world op).world
                             threads := upd s.threads t
                               { s.threads t with pc := .done (withTryGet X s.lang s.memo s.world op).out } }) ∨
    (∃ r, (s.threads t).pc = .done r ∧
      cstep X s t = { s with lock := none
                             threads := upd s.threads t
                               { s.threads t with pc := .idle, results := r :: (s.threads t).results } }) := by
  cases hpc : (s.threads t).pc with
  | idle =>
    cases hprog : (s.threads t).prog with
    | nil => exact Or.inl (cstep_finished X s t hpc hprog)
    | cons op rest =>
      cases hl : s.lock with
      | some h => exact Or.inl (cstep_blocked X s t h hpc hl)
      | none => exact Or.inr (Or.inl ⟨op, rest, rfl, rfl, rfl, cstep_acquire X s t op rest hpc hprog hl⟩)
  | locked op => exact Or.inr (Or.inr (Or.inl ⟨op, rfl, cstep_body X s t op hpc⟩))
  | done r => exact Or.inr (Or.inr (Or.inr ⟨r, rfl, cstep_release X s t r hpc⟩))

theorem crun_induction {P : CState σ L τ α ι ε ρ → Prop} (hstep : ∀ s t, P s → P (cstep X s t))
    (sched : List Nat) (s : CState σ L τ α ι ε ρ) (h : P s) : P (crun X sched s) := by
  induction sched generalizing s with
  | nil => exact h
  | cons t rest ih => exact ih _ (hstep s t h)

theorem upd_field {β γ : Type} (g : β → γ) (f : Nat → β) (t : Nat) (v : β) (t' : Nat)
    (h : g v = g (f t) := by rfl) :
    g (upd f t v t') = g (f t') := by
  by_cases e : t' = t
  · subst e; rw [upd_same, h]
  · rw [upd_other _ _ _ _ e]

/-- *Quiescent* states (lock free): everybody is outside `with_try_get`, the shared memoizer and world are
exactly those of the sequential run of the acquired lookups in acquisition order, and every thread holds
exactly the outcomes that run produced for its lookups.
*Lock held by `h`*: everybody else is outside; `h`'s lookup is the newest acquisition; the shared state is the
sequential state before (`locked`) or after (`done`) that lookup, and the pending outcome is the sequential one. -/
structure CInv (s : CState σ L τ α ι ε ρ) : Prop where
  lang_eq : s.lang = lang
  quiet : s.lock = none →
    (∀ t, (s.threads t).pc = .idle) ∧ (s.memo, s.world) = seqAfter X lang w₀ s.acq ∧
    ∀ t, (s.threads t).results = outsOf t (seqOuts X lang w₀ s.acq)
  held : ∀ h, s.lock = some h →
    (∀ t, t ≠ h → (s.threads t).pc = .idle) ∧
    ∃ op older, s.acq = (h, op) :: older ∧
      (∀ t, (s.threads t).results = outsOf t (seqOuts X lang w₀ older)) ∧
      (((s.threads h).pc = .locked op ∧ (s.memo, s.world) = seqAfter X lang w₀ older) ∨
       ((s.threads h).pc =
          .done (withTryGet X lang (seqAfter X lang w₀ older).1 (seqAfter X lang w₀ older).2 op).out ∧
        (s.memo, s.world) = seqAfter X lang w₀ s.acq))

theorem CInv_init (progs : List (List (Op σ τ α ι ρ))) :
    CInv X lang w₀ (CState.init lang w₀ progs : CState σ L τ α ι ε ρ) := by
  refine ⟨rfl, ?_, ?_⟩
  · intro _
    refine ⟨?_, rfl, ?_⟩
    · intro t; simp only [CState.init]; split <;> rfl
    · intro t; simp only [CState.init, seqOuts, outsOf]; split <;> rfl
  · intro h hh; simp [CState.init] at hh

theorem CInv.holder_of_not_idle {s : CState σ L τ α ι ε ρ} (hi : CInv X lang w₀ s) (t : Nat)
    (hne : (s.threads t).pc ≠ .idle) : s.lock = some t := by
  cases hl : s.lock with
  | none => exact absurd ((hi.quiet hl).1 t) hne
  | some h =>
    by_cases e : t = h
    · rw [e]
    · exact absurd ((hi.held h hl).1 t e) hne

theorem CInv_step (s : CState σ L τ α ι ε ρ) (t : Nat) (hi : CInv X lang w₀ s) :
    CInv X lang w₀ (cstep X s t) := by
  rcases cstep_cases X s t with h | ⟨op, rest, hpc, hprog, hl, h⟩ | ⟨op', hpc, h⟩ | ⟨r, hpc, h⟩ <;> rw [h]
  · -- no step: `t` is finished or blocked
    exact hi
  · -- acquire: from the quiescent case to "held, before the lookup"; shared state and results are untouched
    obtain ⟨q1, q2, q3⟩ := hi.quiet hl
    refine ⟨hi.lang_eq, ?_, ?_⟩
    · intro h; cases h
    · intro h hh
      cases hh
      refine ⟨?_, op, s.acq, rfl, ?_, Or.inl ⟨?_, q2⟩⟩
      · intro t' hne; simp only; rw [upd_other _ _ _ _ hne]; exact q1 t'
      · intro t'; rw [← q3 t']; exact upd_field Thread.results _ _ _ t'
      · simp only; rw [upd_same]
  · -- the lookup under the lock: from "before" to "after"; the shared state was the sequential one before the
    -- lookup, so it becomes the sequential one after it
    have hl : s.lock = some t := hi.holder_of_not_idle X lang w₀ t (by rw [hpc]; intro h; cases h)
    obtain ⟨h1, op, older, hacq, hres, hd⟩ := hi.held t hl
    rcases hd with ⟨hp, hm⟩ | ⟨hp, _⟩
    · rw [hpc] at hp
      cases hp
      have hm1 : s.memo = (seqAfter X lang w₀ older).1 := congrArg Prod.fst hm
      have hm2 : s.world = (seqAfter X lang w₀ older).2 := congrArg Prod.snd hm
      refine ⟨hi.lang_eq, ?_, ?_⟩
      · intro h; simp only at h; rw [hl] at h; cases h
      · intro h hh
        simp only at hh
        rw [hl] at hh
        cases hh
        refine ⟨?_, op', older, hacq, ?_, Or.inr ⟨?_, ?_⟩⟩
        · intro t' hne; simp only; rw [upd_other _ _ _ _ hne]; exact h1 t' hne
        · intro t'; rw [← hres t']; exact upd_field Thread.results _ _ _ t'
        · simp only; rw [upd_same, hi.lang_eq, hm1, hm2]
        · simp only; rw [hacq, hi.lang_eq, hm1, hm2]; rfl
    · rw [hpc] at hp; cases hp
  · -- release: back to the quiescent case; `t` takes the pending outcome, which is the newest of `seqOuts`
    have hl : s.lock = some t := hi.holder_of_not_idle X lang w₀ t (by rw [hpc]; intro h; cases h)
    obtain ⟨h1, op, older, hacq, hres, hd⟩ := hi.held t hl
    rcases hd with ⟨hp, _⟩ | ⟨hp, hm⟩
    · rw [hpc] at hp; cases hp
    · rw [hpc] at hp
      cases hp
      refine ⟨hi.lang_eq, ?_, ?_⟩
      · intro _
        refine ⟨?_, hm, ?_⟩
        · intro t'
          simp only
          by_cases e : t' = t
          · subst e; rw [upd_same]
          · rw [upd_other _ _ _ _ e]; exact h1 t' e
        · intro t'
          simp only
          rw [hacq]
          simp only [seqOuts]
          by_cases e : t' = t
          · subst e
            rw [upd_same, outsOf_cons_same]
            simp only
            rw [hres t']
          · rw [upd_other _ _ _ _ e, outsOf_cons_other _ _ _ _ (fun x => e x.symm)]
            exact hres t'
      · intro h hh; simp only at hh; cases hh

theorem CInv_run (sched : List Nat) (s : CState σ L τ α ι ε ρ) (hi : CInv X lang w₀ s) :
    CInv X lang w₀ (crun X sched s) :=
  crun_induction X (CInv_step X lang w₀) sched s hi

theorem lang_cstep (s : CState σ L τ α ι ε ρ) (t : Nat) : (cstep X s t).lang = s.lang := by
  rcases cstep_cases X s t with h | ⟨_, _, _, _, _, h⟩ | ⟨_, _, h⟩ | ⟨_, _, h⟩ <;> rw [h]

theorem LInv_cstep (s : CState σ L τ α ι ε ρ) (t : Nat) (hi : LInv s.lang s.memo) :
    LInv (cstep X s t).lang (cstep X s t).memo := by
  rcases cstep_cases X s t with h | ⟨_, _, _, _, _, h⟩ | ⟨op, _, h⟩ | ⟨_, _, h⟩ <;> rw [h]
  · exact hi
  · exact hi
  · exact LInv_step X s.lang s.memo s.world op hi
  · exact hi

theorem LInv_crun (sched : List Nat) (s : CState σ L τ α ι ε ρ) (hi : LInv s.lang s.memo) :
    LInv (crun X sched s).lang (crun X sched s).memo :=
  crun_induction X (P := fun s => LInv s.lang s.memo) (LInv_cstep X) sched s hi

/-- lookups of thread `t` in acquisition order (oldest first) -/
def acqOf (t : Nat) (acq : List (Nat × Op σ τ α ι ρ)) : List (Op σ τ α ι ρ) :=
  ((acq.filter fun p => decide (p.1 = t)).map (·.2)).reverse

/-- what thread `t` acquired so far followed by what it still has to start is its program -/
def IInv (P : Nat → List (Op σ τ α ι ρ)) (s : CState σ L τ α ι ε ρ) : Prop :=
  ∀ t, acqOf t s.acq ++ (s.threads t).prog = P t

theorem IInv_step (P : Nat → List (Op σ τ α ι ρ)) (s : CState σ L τ α ι ε ρ) (t : Nat) (hi : IInv P s) :
    IInv P (cstep X s t) := by
  rcases cstep_cases X s t with h | ⟨op, rest, hpc, hprog, hl, h⟩ | ⟨op, hpc, h⟩ | ⟨r, hpc, h⟩ <;> rw [h]
  · exact hi
  · intro t'
    simp only
    have := hi t'
    by_cases e : t' = t
    · subst e
      rw [upd_same]
      rw [hprog] at this
      simp only [acqOf, List.filter_cons, decide_true, if_true, List.map_cons, List.reverse_cons,
        List.append_assoc, List.singleton_append] at this ⊢
      exact this
    · rw [upd_other _ _ _ _ e]
      have hne : ¬ t = t' := fun x => e x.symm
      simp only [acqOf, List.filter_cons, hne, decide_false] at this ⊢
      exact this
  · intro t'; rw [← hi t']; exact congrArg _ (upd_field Thread.prog _ _ _ t')
  · intro t'; rw [← hi t']; exact congrArg _ (upd_field Thread.prog _ _ _ t')

theorem IInv_run (P : Nat → List (Op σ τ α ι ρ)) (sched : List Nat) (s : CState σ L τ α ι ε ρ)
    (hi : IInv P s) : IInv P (crun X sched s) :=
  crun_induction X (IInv_step X P) sched s hi

/-- from the initial state: the acquisition order is an interleaving of the programs -/
theorem IInv_run_init (progs : List (List (Op σ τ α ι ρ))) (sched : List Nat) (t : Nat) :
    acqOf t (crun X sched (CState.init lang w₀ progs : CState σ L τ α ι ε ρ)).acq ++
      ((crun X sched (CState.init lang w₀ progs : CState σ L τ α ι ε ρ)).threads t).prog =
      ((CState.init lang w₀ progs : CState σ L τ α ι ε ρ).threads t).prog :=
  IInv_run X (fun t => ((CState.init lang w₀ progs : CState σ L τ α ι ε ρ).threads t).prog) sched _
    (by intro t; simp [CState.init, acqOf]) t

theorem runOps_append (a b : List (Op σ τ α ι ρ)) (m : LMemo L τ α ι ε) (w : σ) :
    runOps X lang (a ++ b) m w =
      ((runOps X lang a m w).1 ++ (runOps X lang b (runOps X lang a m w).2.1 (runOps X lang a m w).2.2).1,
       (runOps X lang b (runOps X lang a m w).2.1 (runOps X lang a m w).2.2).2) := by
  induction a generalizing m w with
  | nil => simp [runOps]
  | cons op rest ih => simp only [List.cons_append, runOps]; rw [ih]

theorem seqAfter_eq_runOps (acq : List (Nat × Op σ τ α ι ρ)) :
    seqAfter X lang w₀ acq = (runOps X lang (acq.reverse.map (·.2)) LMemo.empty w₀).2 ∧
    (seqOuts X lang w₀ acq).reverse.map (·.2) = (runOps X lang (acq.reverse.map (·.2)) LMemo.empty w₀).1 ∧
    (seqOuts X lang w₀ acq).reverse.map (·.1) = acq.reverse.map (·.1) := by
  induction acq with
  | nil => simp [seqAfter, seqOuts, runOps]
  | cons p older ih =>
    obtain ⟨t, op⟩ := p
    obtain ⟨ih1, ih2, ih3⟩ := ih
    simp only [List.reverse_cons, List.map_append, List.map_cons, List.map_nil]
    rw [runOps_append]
    simp only [runOps, seqAfter, seqOuts, List.reverse_cons, List.map_append, List.map_cons, List.map_nil]
    rw [ih2, ih3, ← ih1]
    simp

theorem deadlock_free (s : CState σ L τ α ι ε ρ) (hi : CInv X lang w₀ s) (t : Nat) (hu : unfinished s t) :
    ∃ t', enabled s t' := by
  cases hl : s.lock with
  | none =>
    refine ⟨t, ?_⟩
    have hidle := (hi.quiet hl).1 t
    unfold unfinished at hu
    unfold enabled
    rw [hidle] at hu ⊢
    exact ⟨hu, hl⟩
  | some h =>
    refine ⟨h, ?_⟩
    obtain ⟨_, op, older, _, _, hd⟩ := hi.held h hl
    unfold enabled
    rcases hd with ⟨hp, _⟩ | ⟨hp, _⟩ <;> rw [hp] <;> trivial

theorem cstep_not_enabled (s : CState σ L τ α ι ε ρ) (t : Nat) (hne : ¬ enabled s t) : cstep X s t = s := by
  unfold enabled at hne
  rcases cstep_cases X s t with h | ⟨op, rest, hpc, hprog, hl, _⟩ | ⟨op, hpc, _⟩ | ⟨r, hpc, _⟩
  · exact h
  · rw [hpc] at hne; exact absurd ⟨by rw [hprog]; simp, hl⟩ hne
  · rw [hpc] at hne; exact absurd trivial hne
  · rw [hpc] at hne; exact absurd trivial hne

theorem cstep_enabled (s : CState σ L τ α ι ε ρ) (t : Nat) (he : enabled s t) :
    ((cstep X s t).threads t).measure + 1 = (s.threads t).measure ∧
    ∀ t', t' ≠ t → (cstep X s t).threads t' = s.threads t' := by
  unfold enabled at he
  cases hpc : (s.threads t).pc with
  | idle =>
    rw [hpc] at he
    cases hprog : (s.threads t).prog with
    | nil => exact absurd hprog he.1
    | cons op rest =>
      rw [cstep_acquire X s t op rest hpc hprog he.2]
      refine ⟨?_, fun t' h => upd_other _ _ _ _ h⟩
      simp only
      rw [upd_same]
      simp only [Thread.measure, hpc, hprog, List.length_cons]
      omega
  | locked op =>
    rw [cstep_body X s t op hpc]
    refine ⟨?_, fun t' h => upd_other _ _ _ _ h⟩
    simp only
    rw [upd_same]
    simp only [Thread.measure, hpc]
  | done r =>
    rw [cstep_release X s t r hpc]
    refine ⟨?_, fun t' h => upd_other _ _ _ _ h⟩
    simp only
    rw [upd_same]
    simp only [Thread.measure, hpc]

theorem unfinished_iff_measure (s : CState σ L τ α ι ε ρ) (t : Nat) :
    unfinished s t ↔ 0 < (s.threads t).measure := by
  unfold unfinished Thread.measure
  cases (s.threads t).pc with
  | idle =>
    simp only
    cases (s.threads t).prog with
    | nil => simp
    | cons op rest => simp
  | locked op => simp
  | done r => simp

theorem prog_nil_of_finished {s : CState σ L τ α ι ε ρ} {t : Nat} (h : ¬ unfinished s t) : (s.threads t).prog = [] := by
  unfold unfinished at h
  cases hpc : (s.threads t).pc with
  | idle => rw [hpc] at h; exact Classical.byContradiction fun hne => h hne
  | locked op => rw [hpc] at h; exact absurd trivial h
  | done r => rw [hpc] at h; exact absurd trivial h

theorem lock_free_of_finished (s : CState σ L τ α ι ε ρ) (hi : CInv X lang w₀ s)
    (hf : ∀ t, ¬ unfinished s t) : s.lock = none := by
  cases hl : s.lock with
  | none => rfl
  | some h =>
    obtain ⟨_, op, older, _, _, hd⟩ := hi.held h hl
    have := hf h
    unfold unfinished at this
    rcases hd with ⟨hp, _⟩ | ⟨hp, _⟩ <;> rw [hp] at this <;> exact absurd trivial this

/-- total measure of threads `0 … n-1` -/
def msum (f : Nat → Thread σ τ α ι ε ρ) (n : Nat) : Nat :=
  ((List.range n).map fun t => (f t).measure).sum

theorem msum_nil (f : Nat → Thread σ τ α ι ε ρ) : msum f 0 = 0 := rfl

theorem msum_succ (f : Nat → Thread σ τ α ι ε ρ) (n : Nat) :
    msum f (n + 1) = msum f n + (f n).measure := by
  simp [msum, List.range_succ]

theorem msum_congr (f g : Nat → Thread σ τ α ι ε ρ) (n : Nat) (h : ∀ t, t < n → f t = g t) :
    msum f n = msum g n :=
  congrArg List.sum (List.map_congr_left fun t ht => congrArg Thread.measure (h t (List.mem_range.1 ht)))

theorem msum_dec (f g : Nat → Thread σ τ α ι ε ρ) (t n : Nat) (ht : t < n)
    (hsame : ∀ t', t' ≠ t → g t' = f t') (hdec : (g t).measure + 1 = (f t).measure) :
    msum g n + 1 = msum f n := by
  induction n with
  | zero => exact absurd ht (Nat.not_lt_zero _)
  | succ n ih =>
    rw [msum_succ, msum_succ]
    by_cases e : t = n
    · subst e
      rw [msum_congr g f t (fun t' h' => hsame t' (Nat.ne_of_lt h')), ← hdec]
      exact Nat.add_assoc _ _ _
    · rw [hsame n (fun x => e x.symm), ← ih (by omega)]
      exact Nat.add_right_comm _ _ _

theorem msum_shift (g : Nat → Thread σ τ α ι ε ρ) (n : Nat) :
    msum g (n + 1) = (g 0).measure + msum (fun t => g (t + 1)) n := by
  simp [msum, List.range_succ_eq_map, Function.comp_def]

theorem msum_zero (f : Nat → Thread σ τ α ι ε ρ) (n : Nat) (h : msum f n = 0) (t : Nat) (ht : t < n) :
    (f t).measure = 0 :=
  List.sum_eq_zero_iff_forall_eq_nat.1 h _ (List.mem_map.2 ⟨t, List.mem_range.2 ht, rfl⟩)

theorem msum_pos (f : Nat → Thread σ τ α ι ε ρ) (n : Nat) (h : 0 < msum f n) :
    ∃ t, t < n ∧ 0 < (f t).measure := by
  obtain ⟨x, hx, hpos⟩ := List.sum_pos_iff_exists_pos_nat.1 h
  obtain ⟨t, ht, rfl⟩ := List.mem_map.1 hx
  exact ⟨t, List.mem_range.1 ht, hpos⟩

/-- threads `n, n+1, …` do not exist (finished from the start) -/
def BInv (n : Nat) (s : CState σ L τ α ι ε ρ) : Prop :=
  ∀ t, n ≤ t → (s.threads t).pc = .idle ∧ (s.threads t).prog = []

theorem BInv.enabled_lt {n : Nat} {s : CState σ L τ α ι ε ρ} (hb : BInv n s) (t : Nat) (he : enabled s t) :
    t < n := by
  rcases Nat.lt_or_ge t n with h | h
  · exact h
  · obtain ⟨h1, h2⟩ := hb t h
    unfold enabled at he
    rw [h1] at he
    exact absurd h2 he.1

theorem BInv_step (n : Nat) (s : CState σ L τ α ι ε ρ) (t : Nat) (hb : BInv n s) : BInv n (cstep X s t) := by
  by_cases he : enabled s t
  · have hlt := hb.enabled_lt t he
    intro t' ht'
    rw [(cstep_enabled X s t he).2 t' (by omega)]
    exact hb t' ht'
  · rw [cstep_not_enabled X s t he]; exact hb

theorem BInv_run (n : Nat) (sched : List Nat) (s : CState σ L τ α ι ε ρ) (hb : BInv n s) :
    BInv n (crun X sched s) :=
  crun_induction X (BInv_step X n) sched s hb

theorem crun_append (a b : List Nat) (s : CState σ L τ α ι ε ρ) :
    crun X (a ++ b) s = crun X b (crun X a s) := by
  simp [crun, List.foldl_append]

theorem msum_cstep (n : Nat) (s : CState σ L τ α ι ε ρ) (t : Nat) (hb : BInv n s) :
    (enabled s t → msum (cstep X s t).threads n + 1 = msum s.threads n) ∧
    msum (cstep X s t).threads n ≤ msum s.threads n := by
  by_cases he : enabled s t
  · have h := msum_dec s.threads (cstep X s t).threads t n (hb.enabled_lt t he)
      (cstep_enabled X s t he).2 (cstep_enabled X s t he).1
    exact ⟨fun _ => h, by omega⟩
  · rw [cstep_not_enabled X s t he]
    exact ⟨fun h => absurd h he, Nat.le_refl _⟩

theorem msum_crun_le (n : Nat) (l : List Nat) (s : CState σ L τ α ι ε ρ) (hb : BInv n s) :
    msum (crun X l s).threads n ≤ msum s.threads n := by
  induction l generalizing s with
  | nil => exact Nat.le_refl _
  | cons t rest ih =>
    simp only [crun, List.foldl_cons]
    exact Nat.le_trans (ih _ (BInv_step X n s t hb)) (msum_cstep X n s t hb).2

theorem msum_crun_lt (n : Nat) (l : List Nat) (s : CState σ L τ α ι ε ρ) (hb : BInv n s) (t : Nat)
    (hmem : t ∈ l) (he : enabled s t) : msum (crun X l s).threads n < msum s.threads n := by
  induction l generalizing s with
  | nil => cases hmem
  | cons t0 rest ih =>
    simp only [crun, List.foldl_cons]
    by_cases he0 : enabled s t0
    · have h1 := (msum_cstep X n s t0 hb).1 he0
      have h2 := msum_crun_le X n rest (cstep X s t0) (BInv_step X n s t0 hb)
      simp only [crun] at h2
      omega
    · rw [cstep_not_enabled X s t0 he0]
      rcases List.mem_cons.1 hmem with e | hm
      · subst e; exact absurd he he0
      · exact ih s hb hm he

theorem round_progress (n : Nat) (s : CState σ L τ α ι ε ρ) (hi : CInv X lang w₀ s) (hb : BInv n s)
    (hpos : 0 < msum s.threads n) : msum (crun X (List.range n) s).threads n < msum s.threads n := by
  obtain ⟨t, _, hm⟩ := msum_pos s.threads n hpos
  have hu := (unfinished_iff_measure s t).2 hm
  obtain ⟨t', he⟩ := deadlock_free X lang w₀ s hi t hu
  exact msum_crun_lt X n (List.range n) s hb t' (List.mem_range.2 (hb.enabled_lt t' he)) he

theorem roundRobin_succ (n k : Nat) : roundRobin n (k + 1) = List.range n ++ roundRobin n k := by
  simp [roundRobin, List.replicate_succ]

theorem rounds_progress (n k : Nat) (s : CState σ L τ α ι ε ρ) (hi : CInv X lang w₀ s) (hb : BInv n s) :
    msum (crun X (roundRobin n k) s).threads n ≤ msum s.threads n - k := by
  induction k generalizing s with
  | zero => simp [roundRobin, crun]
  | succ k ih =>
    rw [roundRobin_succ, crun_append]
    -- `a`: total before the round, `b`: after it, `c`: after the remaining `k` rounds
    have arith : ∀ a b c : Nat, c ≤ b - k → b ≤ a → (0 < a → b < a) → c ≤ a - (k + 1) := by omega
    exact arith _ _ _ (ih _ (CInv_run X lang w₀ (List.range n) s hi) (BInv_run X n (List.range n) s hb))
      (msum_crun_le X n (List.range n) s hb) (round_progress X lang w₀ n s hi hb)

theorem rounds_finish (n k : Nat) (s : CState σ L τ α ι ε ρ) (hi : CInv X lang w₀ s) (hb : BInv n s)
    (hk : msum s.threads n ≤ k) : ∀ t, ¬ unfinished (crun X (roundRobin n k) s) t := by
  intro t
  have h0 : msum (crun X (roundRobin n k) s).threads n = 0 := by
    have := rounds_progress X lang w₀ n k s hi hb
    omega
  have hb' := BInv_run X n (roundRobin n k) s hb
  rw [unfinished_iff_measure]
  rcases Nat.lt_or_ge t n with h | h
  · rw [msum_zero _ n h0 t h]; exact Nat.lt_irrefl 0
  · obtain ⟨h1, h2⟩ := hb' t h
    simp [Thread.measure, h1, h2]

theorem BInv_init (progs : List (List (Op σ τ α ι ρ))) :
    BInv progs.length (CState.init lang w₀ progs : CState σ L τ α ι ε ρ) := by
  intro t ht
  simp only [CState.init]
  rw [List.getElem?_eq_none ht]
  exact ⟨rfl, rfl⟩

theorem msum_init (progs : List (List (Op σ τ α ι ρ))) :
    msum (CState.init lang w₀ progs : CState σ L τ α ι ε ρ).threads progs.length
      = 3 * (progs.map List.length).sum := by
  simp only [CState.init]
  induction progs with
  | nil => exact msum_nil _
  | cons p ps ih =>
    rw [List.length_cons, msum_shift]
    simp only [List.getElem?_cons_succ, List.getElem?_cons_zero, List.map_cons, List.sum_cons]
    rw [ih, Nat.mul_add]
    -- a thread that has not started counts three steps per lookup
    show 3 * p.length + 0 + _ = _
    rw [Nat.add_zero]

end Conc
end FluentModel.Memo

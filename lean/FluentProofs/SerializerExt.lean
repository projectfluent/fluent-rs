import FluentProofs.SerializerSelect
import FluentProofs.SerializerRoundtrip
import FluentProofs.SerializerWritePattern
/-!
# Serializer round trip: the join of writer half and parser half for nested expressions (C04)

A select expression may sit inside a nested placeable (`{{ $x -> … }}`, `{ { { $x -> … } } }`) or inside a
call argument (`{ F({ $x -> … }) }`).  The serializer then writes the text of an *inline* expression over
several lines, at the writer's current indent level (`inlineText L`).  `InlRT L i` / `ExprRT L e` / `PlRT L x` / `PatRT L p` hold
a writer half and a parser half each (`InlRT.parse_atTo`, `ExprRT.parse_atTo`: the parser halves with the ends of the texts as
variables); this file proves the combination lemmas that do not involve call arguments, each from the corresponding lemma of
`SerializerWritePattern` and of the parser files.
-/
namespace FluentProofs.Ser
open FluentModel FluentModel.Syntax FluentModel.Syntax.Ser FluentProofs.Parser

theorem patRT_of_ml (L : Nat) (p : List (PatElem Bytes)) (hcl : mlPattern p = true)
    (hpl : ∀ x, PatElem.placeable x ∈ p → PlRT (elemLevel L p) x) : PatRT L p :=
  ⟨fun w hw => serPattern_ml L p hcl hpl w hw,
   fun _ q q' n hs hat hf hn => by
     rw [at_append, at_cons] at hat
     exact getPattern_ml hs L p hcl hpl n hat.1.atTo hat.2.1 hf hn⟩

/-- the blanks in front of a closing brace, in `[q, m)` -/
theorem follow_spaces_close {s : Src} {q g m : Nat} (h : AtTo s q (spacesL g) m) (h125 : s[m]? = some 125) :
    Follow s q ∧ skipBlank s q = m := by
  obtain ⟨rfl, hsp⟩ := atTo_spaces h
  have hsb : skipBlank s q = q + g := skipBlank_run s g q 125 hsp h125 (by decide) (by decide) (by decide)
  refine ⟨⟨fun c hc => ?_, ?_, ?_⟩, hsb⟩
  · by_cases hg : g = 0
    · subst hg; rw [Nat.add_zero] at h125; rw [h125] at hc; cases hc; decide
    · have := hsp 0 (by omega)
      rw [Nat.add_zero] at this; rw [this] at hc; cases hc; decide
  · rw [hsb, h125]; decide
  · rw [hsb, h125]; decide

theorem skipBlank_endPos_close (i : Inline Bytes) {s : Src} {q m : Nat} (hsb : skipBlank s q = m)
    (h125 : s[m]? = some 125) : skipBlank s (endPos i s q) = m := by
  have h1 : skipBlank s m = m := skipBlank_at h125 (by decide) (by decide) (by decide)
  unfold endPos; split <;> simp [hsb, h1]

theorem InlRT.parse_atTo {L : Nat} {i : Inline Bytes} (h : InlRT L i) {s : Src} (hs : AsciiThenBoundary s) {p q fuel : Nat}
    (hat : AtTo s p (inlineText L i) q) (hf : Follow s q) (hfu : 4 * (inlineText L i).length + 4 ≤ fuel) :
    ∃ e', getInline s fuel false p = .ok e' (endPos i s q) ∧ e'.mapS (spanBytes s) = i := by
  obtain ⟨hat, rfl⟩ := hat; exact h.parse s p fuel hs hat hf hfu

/-- the parser half of `ExprRT` with the ends as variables: the expression in `[p, m)`, blanks in `[m, m')`, `}` at `m'` -/
theorem ExprRT.parse_atTo {L : Nat} {e : Expr Bytes} (h : ExprRT L e) {s : Src} (hs : AsciiThenBoundary s)
    {p0 p m m' g n : Nat} (hsb : skipBlank s p0 = p) (hI : AtTo s p (innerText L e) m) (hG : AtTo s m (spacesL g) m')
    (h125 : s[m']? = some 125) (hn : 4 * ((innerText L e).length + g) + 6 ≤ n) :
    ∃ ex, getPlaceable s n p0 = .ok ex (m' + 1) ∧ ex.mapS (spanBytes s) = e := by
  have hat : AtTo s p (innerText L e ++ spacesL g ++ [125]) (m' + 1) :=
    atTo_append.mpr ⟨m', atTo_append.mpr ⟨m, hI, hG⟩, atTo_cons.mpr ⟨h125, atTo_nil.mpr rfl⟩⟩
  obtain ⟨ex, hpl, hm⟩ := h.parse s p0 p g n hs hsb hat.txt hn
  refine ⟨ex, ?_, hm⟩
  rw [hpl, ← hat.len]
  simp only [List.length_append, spacesL_length, List.length_cons, List.length_nil, Nat.add_assoc]

theorem inlRT_of_valid (L : Nat) (i : Inline Bytes) (hv : validInline i = true) : InlRT L i := by
  have htxt := inlineText_valid L i hv
  refine ⟨by rw [htxt]; exact inlineBytes_head i hv, fun w hw => ?_, fun s p fuel hs hat hf hfu => ?_⟩
  · obtain ⟨e1, t1⟩ := serInline_eq_bytes i hv w
    obtain ⟨hb, hw1⟩ := ws_writeTidy hw (inlineBytes i) t1
    exact ⟨_, e1, by rw [htxt]; simpa using hb, hw1⟩
  · rw [htxt] at hat hf hfu ⊢
    have := fuelInline_le i hv
    exact getInline_bytes hs i hv fuel hat.atTo hf (by omega)

theorem exprRT_inline (L : Nat) (i : Inline Bytes) (h : InlRT L i) (hnt : ∀ a b c, i ≠ .term a (some b) c) :
    ExprRT L (.inline i) := by
  refine ⟨by simpa [innerText] using h.head, fun w c hw hc => ?_, fun s p0 p g n hs hsb hat hn => ?_⟩
  · obtain ⟨w1, hs1, hb1, hw1⟩ := h.ser w hw
    obtain ⟨hb2, hw2⟩ := ws_writeTidy hw1 c hc
    refine ⟨w1, by simpa [serExpr] using hs1, ?_, hw2⟩
    rw [hb2, hb1]
    apply Array.ext'
    simp [innerText]
  · simp only [innerText] at hat hn ⊢
    obtain ⟨k, rfl⟩ : ∃ k, n = k + 2 := ⟨n - 2, by omega⟩
    -- the expression in `[p, m₁)`, blanks in `[m₁, m₂)`, `}` at `m₂`
    rw [List.append_assoc] at hat
    obtain ⟨m₁, hI, hr⟩ := atTo_append.mp hat.atTo
    obtain ⟨m₂, hG, hr⟩ := atTo_append.mp hr
    obtain ⟨hI, rfl⟩ := hI
    obtain ⟨rfl, _⟩ := atTo_spaces hG
    have h125 := (atTo_cons.mp hr).1
    obtain ⟨hfol, hsbq⟩ := follow_spaces_close hG h125
    obtain ⟨e', he, hm⟩ := h.parse s p k hs hI hfol (by omega)
    refine ⟨.inline e', ?_, by simp [Expr.mapS, hm]⟩
    rw [getPlaceable_inline s k p0 p e' _ _ hsb he (skipBlank_endPos_close i hsbq h125) h125 (notTermAttr_map hnt e' _ hm)]

theorem inlRT_placeable (L : Nat) (e : Expr Bytes) (h : ExprRT L e) : InlRT L (.placeable e) := by
  refine ⟨⟨123, by simp [inlineText], by decide⟩, fun w hw => ?_, fun s p fuel hs hat hf hfu => ?_⟩
  · obtain ⟨hb1, hw1⟩ := ws_writeTidy hw [123] (by decide)
    obtain ⟨w1, hs1, hb2, hw2⟩ := h.ser (w.writeLiteral [123]) [125] hw1 (by decide)
    refine ⟨w1.writeLiteral [125], by simp [serInline, hs1], ?_, hw2⟩
    rw [hb2, hb1]
    apply Array.ext'
    simp [inlineText]
  · simp only [inlineText] at hat hf hfu ⊢
    obtain ⟨k, rfl⟩ : ∃ k, fuel = k + 1 := ⟨fuel - 1, by simp at hfu; omega⟩
    -- `{` at `p`, the expression in `[p + 1, m)`, `}` at `m`
    obtain ⟨h0, hr⟩ := atTo_cons.mp hat.atTo
    obtain ⟨m, hI, hr⟩ := atTo_append.mp hr
    obtain ⟨h125, hr⟩ := atTo_cons.mp hr
    obtain ⟨b, hb, hnb⟩ := h.head
    have hk : 4 * ((innerText L e).length + 0) + 6 ≤ k := by simp at hfu; omega
    obtain ⟨ex, hpl, hm⟩ := h.parse_atTo hs (skipBlank_notBlank (hI.head hb) hnb) hI (atTo_nil.mpr rfl) h125 hk
    refine ⟨.placeable ex, ?_, by simp [Inline.mapS, hm]⟩
    rw [getInline_at_brace h0, inlineNested, hpl, R.bind_ok, atTo_nil.mp hr]
    rfl

theorem exprRT_select (L : Nat) (sel : Inline Bytes) (vs : List (Variant Bytes)) (hsel : InlRT L sel)
    (hshape : selShapeB sel = true)
    (hv : ∀ v ∈ vs, validKey (variantKey' v) = true ∧ PatRT (L + 1) (variantValue v))
    (hdef : (vs.filter isDefault).length = 1) : ExprRT L (.select sel vs) := by
  refine ⟨?_, fun w c hw hc => ?_, fun s p0 p g n hs hsb0 hat hn => ?_⟩
  · obtain ⟨b, hb, hnb⟩ := hsel.head
    refine ⟨b, ?_, hnb⟩
    simp only [innerText, List.append_assoc]
    cases hx : inlineText L sel with
    | nil => simp [hx] at hb
    | cons y ys => simpa [hx] using hb
  · obtain ⟨w1, hs1, hb1, hw1⟩ := hsel.ser w hw
    obtain ⟨hb3, hw3⟩ := ws_writeTidy hw1 [32, 45, 62] (by decide)
    obtain ⟨hb4, hw4⟩ := ws_newline hw3
    have hw5 := ws_indent hw4
    obtain ⟨w6, hs6, hb6, hw6⟩ := serVariants_sel L vs hv _ hw5
    obtain ⟨w7, hs7, hb7, hw7⟩ := ws_dedent hw6
    obtain ⟨hb8, hw8⟩ := ws_writeTidy hw7 c hc
    refine ⟨w7, ?_, ?_, hw8⟩
    · simp only [serExpr, lit_arrow, hs1, hs6, hs7]
    · rw [hb8, hb7, hb6]
      simp only [indent_buffer]
      rw [hb4, hb3, hb1]
      apply Array.ext'
      simp [innerText]
  · obtain ⟨k, rfl⟩ : ∃ k, n = k + 2 := ⟨n - 2, by omega⟩
    have htxt : innerText L (.select sel vs) ++ spacesL g ++ [125] =
        inlineText L sel ++ 32 :: 45 :: 62 :: 10 :: ((variantsText (L + 1) vs ++ spacesL (4 * L + g)) ++ [125]) := by
      simp [innerText, ← spacesL_add]
    have hlen : (innerText L (.select sel vs)).length =
        (inlineText L sel).length + 4 + (variantsText (L + 1) vs).length + 4 * L := by
      simp [innerText, spacesL_length]; omega
    -- the selector in `[p, m₁)`, ` ->` and the line feed, the variants and the blanks in `[m₁ + 4, E)`, `}` at `E`
    have hat := hat.atTo
    rw [htxt] at hat
    obtain ⟨m₁, hS, hr⟩ := atTo_append.mp hat
    obtain ⟨h32, hr⟩ := atTo_cons.mp hr
    obtain ⟨h45, hr⟩ := atTo_cons.mp hr
    obtain ⟨h62, hr⟩ := atTo_cons.mp hr
    obtain ⟨h10, hr⟩ := atTo_cons.mp hr
    obtain ⟨E, hV, hr⟩ := atTo_append.mp hr
    obtain ⟨h125, hr⟩ := atTo_cons.mp hr
    obtain ⟨hsbe, hfol⟩ := skipBlank_endPos_gen sel s m₁ 45 h32 h45 (by decide) (by decide) (by decide) (by decide) (by decide)
    obtain ⟨e', he, hme⟩ := hsel.parse_atTo hs hS hfol (show 4 * (inlineText L sel).length + 4 ≤ k by omega)
    obtain ⟨vs', hvs, hmvs⟩ := getVariants_text hs L vs hv (4 * L + g) (m₁ + 1 + 1 + 1 + 1) E k false [] hV h125
      (by simp [hdef]) (by omega)
    have hpl := getPlaceable_select s k p0 p e' _ _ vs' _ hsb0 he (selShape_of_shapeB sel hshape e' _ hme) hsbe h45 h62 h10
      hvs h125
    refine ⟨.select e' vs', ?_, by simp [Expr.mapS, hme, hmvs]⟩
    rw [hpl]
    congr 1
    have := hS.len
    have := hV.len
    simp only [List.length_append, spacesL_length] at this
    omega

theorem at_snoc_last {s : Src} {p : Nat} {pre : Bytes} {c : UInt8} (h : At s p (pre ++ [c])) :
    s[p + pre.length]? = some c := by
  rw [at_append] at h
  have := h.2
  simp only [at_cons] at this
  exact this.1

theorem plRT_of_exprRT (L : Nat) (x : Expr Bytes) (h : ExprRT L x) (g : Nat) (hg : tidy (spacesL g ++ [125]) = true)
    (htxt : exprText L x = 123 :: 32 :: (innerText L x ++ spacesL g ++ [125]))
    (hser : ∀ w : Writer, serElement w (.placeable x) =
      (serExpr (w.writeLiteral [123, 32]) x).map fun w1 => w1.writeLiteral (spacesL g ++ [125])) : PlRT L x := by
  refine ⟨by rw [htxt]; rfl, getLast?_of_snoc (pre := 123 :: 32 :: (innerText L x ++ spacesL g)) (by rw [htxt]; simp),
    fun w nl hw => ?_, fun s p n hs hat hn => ?_⟩
  · obtain ⟨hb1, hw1⟩ := wsc_writeTidy hw [123, 32] (by decide) (by decide)
    obtain ⟨w1, hs1, hb2, hw2⟩ := h.ser _ (spacesL g ++ [125]) hw1 hg
    refine ⟨w1.writeLiteral (spacesL g ++ [125]), by rw [hser, hs1]; rfl, ?_, hw2⟩
    rw [hb2, hb1, htxt]
    apply Array.ext'
    simp
  · -- `{ ` at `p`, the expression in `[p + 2, m)`, blanks in `[m, m')`, `}` at `m'`
    obtain ⟨E, hE, hat⟩ : ∃ E, p + (exprText L x).length = E ∧ AtTo s p (exprText L x) E := ⟨_, rfl, hat.atTo⟩
    rw [hE]
    rw [htxt] at hat hn
    obtain ⟨h0, hr⟩ := atTo_cons.mp hat
    obtain ⟨h1, hr⟩ := atTo_cons.mp hr
    rw [List.append_assoc] at hr
    obtain ⟨m, hI, hr⟩ := atTo_append.mp hr
    obtain ⟨m', hG, hr⟩ := atTo_append.mp hr
    obtain ⟨h125, hr⟩ := atTo_cons.mp hr
    obtain rfl := atTo_nil.mp hr
    obtain ⟨b, hb, hnb⟩ := h.head
    have hsb : skipBlank s (p + 1) = p + 1 + 1 := by
      rw [skipBlank_space s _ h1]; exact skipBlank_notBlank (hI.head hb) hnb
    exact h.parse_atTo hs hsb hI hG h125 (by simp [spacesL_length] at hn; omega)

theorem plRT_of_inlRT (L : Nat) (i : Inline Bytes) (h : InlRT L i) (hnp : ∀ e, i ≠ .placeable e)
    (hnt : ∀ a b c, i ≠ .term a (some b) c) : PlRT L (.inline i) := by
  refine plRT_of_exprRT L _ (exprRT_inline L i h hnt) 1 (by decide) ?_ fun w => ?_
  · cases i with
    | placeable e => exact absurd rfl (hnp e)
    | _ => simp [exprText, innerText, spacesL]
  · cases i with
    | placeable e => exact absurd rfl (hnp e)
    | _ => simp [serElement, serExpr, spacesL]

theorem plRT_double (L : Nat) (e : Expr Bytes) (h : ExprRT L e) : PlRT L (.inline (.placeable e)) := by
  have htxt : exprText L (.inline (.placeable e)) = 123 :: 123 :: 32 :: (innerText L e ++ [32, 125, 125]) := by
    simp [exprText]
  refine ⟨by rw [htxt]; rfl,
    getLast?_of_snoc (pre := 123 :: 123 :: 32 :: (innerText L e ++ [32, 125])) (by rw [htxt]; simp),
    fun w nl hw => ?_, fun s p n hs hat hn => ?_⟩
  · obtain ⟨hb1, hw1⟩ := wsc_writeTidy hw [123, 123, 32] (by decide) (by decide)
    obtain ⟨w1, hs1, hb2, hw2⟩ := h.ser _ [32, 125, 125] hw1 (by decide)
    refine ⟨w1.writeLiteral [32, 125, 125], by simp [serElement, hs1, lit_dbl_lbrace, lit_dbl_rbrace], ?_, hw2⟩
    rw [hb2, hb1, htxt]
    apply Array.ext'
    simp
  · -- `{{ ` at `p`, the expression in `[p + 3, m)`, ` }}` at `m`
    obtain ⟨E, hE, hat⟩ : ∃ E, p + (exprText L (.inline (.placeable e))).length = E ∧
        AtTo s p (exprText L (.inline (.placeable e))) E := ⟨_, rfl, hat.atTo⟩
    rw [hE]
    rw [htxt] at hat hn
    obtain ⟨h0, hr⟩ := atTo_cons.mp hat
    obtain ⟨h1, hr⟩ := atTo_cons.mp hr
    obtain ⟨h2, hr⟩ := atTo_cons.mp hr
    obtain ⟨m, hI, hr⟩ := atTo_append.mp hr
    obtain ⟨h32, hr⟩ := atTo_cons.mp hr
    obtain ⟨h125, hr⟩ := atTo_cons.mp hr
    obtain ⟨h125', hr⟩ := atTo_cons.mp hr
    obtain rfl := atTo_nil.mp hr
    obtain ⟨b, hb, hnb⟩ := h.head
    have hsb : skipBlank s (p + 1 + 1) = p + 1 + 1 + 1 := by
      rw [skipBlank_space s _ h2]; exact skipBlank_notBlank (hI.head hb) hnb
    obtain ⟨k, rfl⟩ : ∃ k, n = k + 3 := ⟨n - 3, by omega⟩
    obtain ⟨ex, hpl, hm⟩ := h.parse_atTo (g := 1) (n := k) hs hsb hI (atTo_cons.mpr ⟨h32, atTo_nil.mpr rfl⟩) h125
      (by simp at hn; omega)
    have hin : getInline s (k + 1) false (p + 1) = .ok (.placeable ex) (m + 1 + 1) := by
      rw [getInline_at_brace h1, inlineNested, hpl, R.bind_ok]
    have hsb1 : skipBlank s (p + 1) = p + 1 := skipBlank_at h1 (by decide) (by decide) (by decide)
    refine ⟨.inline (.placeable ex), ?_, by simp [Expr.mapS, Inline.mapS, hm]⟩
    rw [getPlaceable_inline s (k + 1) (p + 1) (p + 1) _ _ _ hsb1 hin (skipBlank_at h125' (by decide) (by decide) (by decide))
      h125' (by intro a b c h; cases h)]

theorem plRT_of_select (L : Nat) (sel : Inline Bytes) (vs : List (Variant Bytes)) (h : ExprRT L (.select sel vs)) :
    PlRT L (.select sel vs) :=
  plRT_of_exprRT L _ h 0 (by decide) (by simp [exprText, innerText, spacesL]) fun w => by simp [serElement, spacesL]
end FluentProofs.Ser

import FluentProofs.SpecLex
/-!
# The dedentation core: the parser model's offset arithmetic versus the grammar's abstract syntax (C02, T2)

`Syntax.finishElements` turns a line-start text placeholder `(start, stop, indent)` into the slice
`start + min indent common .. stop` and trims the last element with `trimEnd`; the grammar's
abstract syntax (`SpecGrammar.finishPattern`) removes `common` spaces from every indent
(`dedent`), joins adjacent text and drops trailing white space of the last element.  This file proves
the pure facts that connect the two, for all sources and offsets, and then that what `finishPattern`
returns is in joined normal form (`NoAdjText`, `finishPattern_noAdj`) without an empty text element
(`finishPattern_nonEmpty`).
-/
namespace FluentProofs.SpecDedent
open FluentModel FluentModel.Syntax FluentModel.SpecGrammar FluentProofs.Parser FluentProofs.SpecLex

def indentsOf : List RawEl → List Nat
  | [] => []
  | .indent k :: rest => k :: indentsOf rest
  | _ :: rest => indentsOf rest

theorem commonIndent_eq_min? (els : List RawEl) : commonIndent els = (indentsOf els).min? := by
  induction els with
  | nil => rfl
  | cons e rest ih =>
    cases e with
    | indent k => rw [commonIndent, indentsOf, List.min?_cons, ← ih]; cases commonIndent rest <;> rfl
    | text t => exact ih
    | placeable x => exact ih

/-- T2: `commonIndent` is the minimum over the indents of all `block_text`/`block_placeable` lines:
a lower bound that is attained (so `dedent` never removes more than a line has, and removes
everything from at least one line). -/
theorem commonIndent_is_min (els : List RawEl) (c : Nat) (h : commonIndent els = some c) :
    c ∈ indentsOf els ∧ ∀ k ∈ indentsOf els, c ≤ k :=
  List.min?_eq_some_iff.mp (commonIndent_eq_min? els ▸ h)

def dedentText (c k : Nat) : Bytes :=
  match dedent c (.indent k) with
  | .text t => t
  | .placeable _ => []

theorem dedentText_eq (c k : Nat) : dedentText c k = List.replicate (k - c) 32 := rfl

/-- T2 (dedentation core): for a line whose first `indent` bytes are spaces, the slice
`start + min indent common .. stop` that `finishElements` takes is exactly what the grammar's abstract
syntax produces for that line: the indent with `common` spaces removed, followed by the line's text. -/
theorem dedent_offset (s : Src) (start stop indent common : Nat)
    (hsp : ∀ j, start ≤ j → j < start + indent → s[j]? = some 32) (h : start + indent ≤ stop) :
    spanBytes s ⟨start + min indent common, stop⟩ =
      dedentText common indent ++ spanBytes s ⟨start + indent, stop⟩ := by
  have e : start + min indent common + (indent - common) = start + indent := by
    rw [Nat.add_assoc, Nat.add_comm (min indent common), Nat.sub_add_min_cancel]
  have hs := seg_spaces s (start + min indent common) (indent - common)
    (fun j h1 h2 => hsp j (Nat.le_trans (Nat.le_add_right _ _) h1) (e ▸ h2))
  rw [e] at hs
  rw [spanBytes_eq_seg, spanBytes_eq_seg, dedentText_eq,
    seg_append (Nat.add_le_add_left (Nat.min_le_left indent common) start) h, hs]

/-- the same for `common_indent = None` (no line took part): the whole indent is removed -/
theorem dedent_offset_none (s : Src) (start stop indent : Nat) :
    spanBytes s ⟨start + indent, stop⟩ = dedentText indent indent ++ spanBytes s ⟨start + indent, stop⟩ := by
  simp [dedentText_eq]

theorem dropTrailingWs_snoc (l : Bytes) (b : UInt8) :
    dropTrailingWs (l ++ [b]) = if isTrailingWs b then dropTrailingWs l else l ++ [b] := by
  unfold dropTrailingWs
  rw [List.reverse_append, List.reverse_singleton, List.singleton_append, List.dropWhile_cons]
  split
  · rfl
  · rw [List.reverse_cons, List.reverse_reverse]

/-- what `matches_fluent_ws` accepts is the grammar's trailing white space -/
theorem trimByte_eq (b : UInt8) : (b == 32 || b == 13 || b == 10) = isTrailingWs b := by
  rw [isTrailingWs, Bool.or_assoc, Bool.or_comm (b == 13), ← Bool.or_assoc]

theorem trimEndGo_seg (s : Src) (start n e : Nat) (hn : e - start ≤ n) (he : e ≤ s.size) :
    seg s start (trimEndGo s start n e) = dropTrailingWs (seg s start e) := by
  induction n generalizing e with
  | zero =>
    have hle : e ≤ start := Nat.le_of_sub_eq_zero (Nat.le_zero.mp hn)
    rw [seg_empty s hle]; exact seg_empty s hle
  | succ n ih =>
    unfold trimEndGo
    by_cases hgt : e > start
    · obtain ⟨b, hb⟩ : ∃ b, s[e - 1]? = some b := ⟨_, Array.getElem?_eq_getElem (show e - 1 < s.size by omega)⟩
      rw [if_pos hgt, hb, seg_snoc hgt hb, dropTrailingWs_snoc, ← trimByte_eq]
      dsimp only
      split
      · exact ih (e - 1) (by omega) (by omega)
      · exact seg_snoc hgt hb
    · rw [if_neg hgt, seg_empty s (Nat.le_of_not_lt hgt)]; rfl

/-- T2: `Slice::trim` on the last text element is the grammar's "the last element loses trailing white
space" (space, `\n`, `\r` — the reference implementation's `trailingWSRe`), byte for byte. -/
theorem trimEnd_eq_dropTrailingWs (s : Src) (sp : Span) (h : sp.stop ≤ s.size) :
    spanBytes s (trimEnd s sp) = dropTrailingWs (spanBytes s sp) := by
  rw [spanBytes_eq_seg, spanBytes_eq_seg]
  exact trimEndGo_seg s sp.start _ sp.stop (Nat.le_refl _) h

def NoAdjText : List (PatElem Bytes) → Prop
  | [] => True
  | [_] => True
  | .text _ :: .text _ :: _ => False
  | _ :: e :: rest => NoAdjText (e :: rest)

theorem noAdjText_tail {e : PatElem Bytes} {l : List (PatElem Bytes)} (h : NoAdjText (e :: l)) : NoAdjText l := by
  cases l with
  | nil => trivial
  | cons e2 r =>
    cases e with
    | text a => cases e2 with
      | text b => simp [NoAdjText] at h
      | placeable x => simpa [NoAdjText] using h
    | placeable x => simpa [NoAdjText] using h

theorem noAdjText_cons_placeable {x : Expr Bytes} {l : List (PatElem Bytes)} (h : NoAdjText l) :
    NoAdjText (.placeable x :: l) := by
  cases l with
  | nil => trivial
  | cons e2 r => simpa [NoAdjText] using h

theorem noAdjText_cons_text {a : Bytes} {l : List (PatElem Bytes)} (h : NoAdjText l)
    (hl : ∀ b r, l ≠ .text b :: r) : NoAdjText (.text a :: l) := by
  cases l with
  | nil => trivial
  | cons e2 r =>
    cases e2 with
    | text b => exact absurd rfl (hl b r)
    | placeable y => simpa [NoAdjText] using h

theorem joinAdjacent_noAdj (l : List (PatElem Bytes)) : NoAdjText (joinAdjacent l) := by
  induction l with
  | nil => trivial
  | cons e rest ih =>
    cases e with
    | placeable x => simp only [joinAdjacent]; exact noAdjText_cons_placeable ih
    | text a =>
      simp only [joinAdjacent]
      cases hj : joinAdjacent rest with
      | nil => trivial
      | cons e2 r =>
        rw [hj] at ih
        cases e2 with
        | text b =>
          simp only
          apply noAdjText_cons_text (noAdjText_tail ih)
          intro c r' hr
          subst hr
          simp [NoAdjText] at ih
        | placeable y =>
          simp only
          apply noAdjText_cons_text ih
          intro c r' hr
          cases hr

theorem noAdjText_text_swap {a b : Bytes} {l : List (PatElem Bytes)} (h : NoAdjText (.text a :: l)) :
    NoAdjText (.text b :: l) := by
  cases l with
  | nil => trivial
  | cons e2 r =>
    cases e2 with
    | text c => simp [NoAdjText] at h
    | placeable y => simpa [NoAdjText] using h

theorem trimFirst_noAdj {l : List (PatElem Bytes)} (h : NoAdjText l) : NoAdjText (trimFirst l) := by
  cases l with
  | nil => exact h
  | cons e rest =>
    cases e with
    | text t => exact noAdjText_text_swap h
    | placeable x => exact h

theorem trimLast_noAdj {l : List (PatElem Bytes)} (h : NoAdjText l) : NoAdjText (trimLast l) := by
  induction l with
  | nil => exact h
  | cons e rest ih =>
    cases rest with
    | nil => cases e <;> trivial
    | cons e2 r =>
      have ht := ih (noAdjText_tail h)
      have hun : trimLast (e :: e2 :: r) = e :: trimLast (e2 :: r) := by
        cases e <;> simp [trimLast]
      rw [hun]
      cases e with
      | placeable x => exact noAdjText_cons_placeable ht
      | text a =>
        apply noAdjText_cons_text ht
        intro b r' hr
        cases e2 with
        | text c => simp [NoAdjText] at h
        | placeable y =>
          cases r with
          | nil => simp [trimLast] at hr
          | cons e3 r3 => simp [trimLast] at hr

theorem filter_noAdj {l : List (PatElem Bytes)} (h : NoAdjText l) : NoAdjText (l.filter nonEmptyEl) := by
  induction l with
  | nil => exact h
  | cons e rest ih =>
    have ht := ih (noAdjText_tail h)
    cases e with
    | placeable x =>
      simp only [List.filter_cons, nonEmptyEl, if_true]
      exact noAdjText_cons_placeable ht
    | text a =>
      simp only [List.filter_cons]
      split
      · apply noAdjText_cons_text ht
        intro b r' hr
        cases rest with
        | nil => simp at hr
        | cons e2 r =>
          cases e2 with
          | text c => simp [NoAdjText] at h
          | placeable y => simp [List.filter_cons, nonEmptyEl] at hr
      · exact ht

/-- T2: every pattern the grammar's abstract syntax produces is in joined normal form (no two adjacent
text elements) — the form `joinText` brings the parser's trees into before they are compared. -/
theorem finishPattern_noAdj (els : List RawEl) : NoAdjText (finishPattern els) := by
  unfold finishPattern
  exact filter_noAdj (trimLast_noAdj (trimFirst_noAdj (joinAdjacent_noAdj _)))

theorem finishPattern_nonEmpty (els : List RawEl) : ∀ e ∈ finishPattern els, nonEmptyEl e = true := by
  intro e he
  unfold finishPattern at he
  exact (List.mem_filter.mp he).2

end FluentProofs.SpecDedent

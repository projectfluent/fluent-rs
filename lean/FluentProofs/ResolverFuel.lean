import FluentProofs.ResolverEqns
/-!
# The fuel of the resolver model is an artefact (C06): results do not depend on it

If a function of the mutual block returns anything but `.fuel` at fuel `n`, it returns the same at
every larger fuel (`Mono env n`: this for each of the ten functions from `n` to `n + 1`; `mono_all`).  So "the" result
of a call is well defined (the value at any sufficient fuel), and `Props/C06.format_total` gives an explicit sufficient fuel.
-/
namespace FluentProofs.Resolver
open FluentModel FluentModel.Syntax FluentModel.Resolver
open FluentProofs.ResolverRefine FluentProofs.Bidi

structure Mono (env : Env) (n : Nat) : Prop where
  writeElems : ∀ whole len els w sc, writeElems env n whole len els w sc ≠ .fuel →
    writeElems env (n + 1) whole len els w sc = writeElems env n whole len els w sc
  writePattern : ∀ p w sc, writePattern env n p w sc ≠ .fuel →
    writePattern env (n + 1) p w sc = writePattern env n p w sc
  track : ∀ p e w sc, track env n p e w sc ≠ .fuel → track env (n + 1) p e w sc = track env n p e w sc
  writeExpr : ∀ e w sc, writeExpr env n e w sc ≠ .fuel → writeExpr env (n + 1) e w sc = writeExpr env n e w sc
  writeDefault : ∀ vs w sc, writeDefault env n vs w sc ≠ .fuel →
    writeDefault env (n + 1) vs w sc = writeDefault env n vs w sc
  writeInline : ∀ e w sc, writeInline env n e w sc ≠ .fuel →
    writeInline env (n + 1) e w sc = writeInline env n e w sc
  resolveInline : ∀ e sc, resolveInline env n e sc ≠ .fuel →
    resolveInline env (n + 1) e sc = resolveInline env n e sc
  getArguments : ∀ a sc, getArguments env n a sc ≠ .fuel →
    getArguments env (n + 1) a sc = getArguments env n a sc
  resolveList : ∀ es sc, resolveList env n es sc ≠ .fuel →
    resolveList env (n + 1) es sc = resolveList env n es sc
  resolveNamed : ∀ es sc, resolveNamed env n es sc ≠ .fuel →
    resolveNamed env (n + 1) es sc = resolveNamed env n es sc

theorem mono_zero (env : Env) : Mono env 0 := by
  constructor <;> intros <;> rename_i h <;> exfalso <;> apply h <;>
    simp only [writeElems_zero, writePattern_zero, track_zero, writeExpr_zero, writeDefault_zero, writeInline_zero,
      resolveInline_zero, getArguments_zero, resolveList_zero, resolveNamed_zero]

theorem bind_mono {α β : Type} {r r' : RR α} {k k' : α → RR β} (h : r.bind k ≠ .fuel) (hr : r ≠ .fuel → r' = r)
    (hk : ∀ a, k a ≠ .fuel → k' a = k a) : r'.bind k' = r.bind k := by
  rw [hr (RR.ne_fuel_of_bind h)]
  cases r with
  | ok a => exact hk a h
  | panic m => rfl
  | fuel => rfl

section step
variable {env : Env} {n : Nat} (IH : Mono env n)
include IH

theorem writePattern_mono (p : Pattern Bytes) (w : Bytes) (sc : Scope)
    (h : writePattern env (n + 1) p w sc ≠ .fuel) :
    writePattern env (n + 1 + 1) p w sc = writePattern env (n + 1) p w sc := by
  rw [writePattern_succ] at h
  rw [writePattern_succ, writePattern_succ]
  exact IH.writeElems _ _ _ _ _ h

theorem writeDefault_mono (vs : List (Variant Bytes)) (w : Bytes) (sc : Scope)
    (h : writeDefault env (n + 1) vs w sc ≠ .fuel) :
    writeDefault env (n + 1 + 1) vs w sc = writeDefault env (n + 1) vs w sc := by
  rw [writeDefault_succ] at h
  rw [writeDefault_succ, writeDefault_succ]
  cases hd : defaultVariant vs with
  | none => rfl
  | some v => rw [hd] at h; exact IH.writePattern _ _ _ h

theorem track_mono (p : Pattern Bytes) (e : Inline Bytes) (w : Bytes) (sc : Scope)
    (h : track env (n + 1) p e w sc ≠ .fuel) :
    track env (n + 1 + 1) p e w sc = track env (n + 1) p e w sc := by
  rw [track_succ] at h
  rw [track_succ, track_succ]
  by_cases hc : travelledContains sc.travelled p = true
  · rw [if_pos hc, if_pos hc]
  · rw [if_neg hc] at h
    rw [if_neg hc, if_neg hc]
    exact bind_mono h (IH.writePattern _ _ _) fun _ _ => rfl

theorem selectTail_mono (vs : List (Variant Bytes)) (w : Bytes) (sc : Scope) (s : Value)
    (h : selectTail env n vs w sc s ≠ .fuel) : selectTail env (n + 1) vs w sc s = selectTail env n vs w sc s := by
  rcases chosen_cases env vs s with hc | ⟨_, v, _, _, hc⟩ | ⟨m, _, hc, _⟩
  · rw [selectTail_none hc] at h ⊢; rw [selectTail_none hc]; exact IH.writeDefault _ _ _ h
  · rw [selectTail_some hc] at h ⊢; rw [selectTail_some hc]; exact IH.writePattern _ _ _ h
  · rw [selectTail_panic hc, selectTail_panic hc]

theorem writeExpr_mono (e : Expr Bytes) (w : Bytes) (sc : Scope)
    (h : writeExpr env (n + 1) e w sc ≠ .fuel) :
    writeExpr env (n + 1 + 1) e w sc = writeExpr env (n + 1) e w sc := by
  cases e with
  | inline e =>
    rw [writeExpr_inline] at h
    rw [writeExpr_inline, writeExpr_inline]
    exact IH.writeInline _ _ _ h
  | select sel vs =>
    rw [writeExpr_select] at h
    rw [writeExpr_select, writeExpr_select]
    exact bind_mono h (IH.resolveInline _ _) fun _ hk => selectTail_mono IH _ _ _ _ hk

theorem getArguments_mono (a : Option (List (Inline Bytes) × List (Bytes × Inline Bytes))) (sc : Scope)
    (h : getArguments env (n + 1) a sc ≠ .fuel) :
    getArguments env (n + 1 + 1) a sc = getArguments env (n + 1) a sc := by
  cases a with
  | none => rw [getArguments_none, getArguments_none]
  | some pn =>
    obtain ⟨pos, named⟩ := pn
    rw [getArguments_some] at h
    rw [getArguments_some, getArguments_some]
    exact bind_mono h (IH.resolveList _ _) fun _ hk => bind_mono hk (IH.resolveNamed _ _) fun _ _ => rfl

theorem resolveList_mono (es : List (Inline Bytes)) (sc : Scope)
    (h : resolveList env (n + 1) es sc ≠ .fuel) :
    resolveList env (n + 1 + 1) es sc = resolveList env (n + 1) es sc := by
  cases es with
  | nil => rw [resolveList_nil, resolveList_nil]
  | cons e es =>
    rw [resolveList_cons] at h
    rw [resolveList_cons, resolveList_cons]
    exact bind_mono h (IH.resolveInline _ _) fun _ hk => bind_mono hk (IH.resolveList _ _) fun _ _ => rfl

theorem resolveNamed_mono (es : List (Bytes × Inline Bytes)) (sc : Scope)
    (h : resolveNamed env (n + 1) es sc ≠ .fuel) :
    resolveNamed env (n + 1 + 1) es sc = resolveNamed env (n + 1) es sc := by
  cases es with
  | nil => rw [resolveNamed_nil, resolveNamed_nil]
  | cons ke es =>
    obtain ⟨k, e⟩ := ke
    rw [resolveNamed_cons] at h
    rw [resolveNamed_cons, resolveNamed_cons]
    exact bind_mono h (IH.resolveInline _ _) fun _ hk => bind_mono hk (IH.resolveNamed _ _) fun _ _ => rfl

theorem writeInline_mono (e : Inline Bytes) (w : Bytes) (sc : Scope)
    (h : writeInline env (n + 1) e w sc ≠ .fuel) :
    writeInline env (n + 1 + 1) e w sc = writeInline env (n + 1) e w sc := by
  cases e with
  | str v => rw [writeInline_str, writeInline_str]
  | num v => rw [writeInline_num, writeInline_num]
  | var id => rw [writeInline_var, writeInline_var]
  | placeable e =>
    rw [writeInline_placeable] at h
    rw [writeInline_placeable, writeInline_placeable]
    exact IH.writeExpr _ _ _ h
  | msg id attr =>
    rw [writeInline_msg] at h
    rw [writeInline_msg, writeInline_msg]
    cases ht : msgTarget env id attr with
    | pattern p => rw [ht] at h; exact IH.track _ _ _ _ h
    | noValue => rfl
    | missing => rfl
  | fn id pos named =>
    rw [writeInline_fn] at h
    rw [writeInline_fn, writeInline_fn]
    exact bind_mono h (IH.getArguments _ _) fun _ _ => rfl
  | term id attr args =>
    rw [writeInline_term] at h
    rw [writeInline_term, writeInline_term]
    refine bind_mono h (IH.getArguments _ _) fun x hk => bind_mono hk (fun hr => ?_) fun _ _ => rfl
    cases ht : termTarget env id attr with
    | some p => rw [ht] at hr; exact IH.track _ _ _ _ hr
    | none => rfl

theorem resolveInline_mono (e : Inline Bytes) (sc : Scope)
    (h : resolveInline env (n + 1) e sc ≠ .fuel) :
    resolveInline env (n + 1 + 1) e sc = resolveInline env (n + 1) e sc := by
  have viaWrite : viaWrite env n e sc ≠ .fuel → viaWrite env (n + 1) e sc = viaWrite env n e sc :=
    fun h => bind_mono h (IH.writeInline _ _ _) fun _ _ => rfl
  cases e with
  | str v => rw [resolveInline_str, resolveInline_str]
  | num v => rw [resolveInline_num, resolveInline_num]
  | var id => rw [resolveInline_var, resolveInline_var]
  | fn id pos named =>
    rw [resolveInline_fn] at h
    rw [resolveInline_fn, resolveInline_fn]
    exact bind_mono h (IH.getArguments _ _) fun _ _ => rfl
  | msg id attr => rw [resolveInline_msg] at h; rw [resolveInline_msg, resolveInline_msg]; exact viaWrite h
  | term id attr args => rw [resolveInline_term] at h; rw [resolveInline_term, resolveInline_term]; exact viaWrite h
  | placeable e =>
    rw [resolveInline_placeable] at h; rw [resolveInline_placeable, resolveInline_placeable]; exact viaWrite h

theorem writeElems_mono (whole : Pattern Bytes) (len : Nat) (els : List (PatElem Bytes)) (w : Bytes) (sc : Scope)
    (h : writeElems env (n + 1) whole len els w sc ≠ .fuel) :
    writeElems env (n + 1 + 1) whole len els w sc = writeElems env (n + 1) whole len els w sc := by
  cases els with
  | nil => rw [writeElems_nil, writeElems_nil]
  | cons el rest =>
    cases el with
    | text v =>
      rw [writeElems_text] at h
      rw [writeElems_text, writeElems_text]
      by_cases hd : sc.dirty = true
      · rw [if_pos hd, if_pos hd]
      · rw [if_neg hd] at h
        rw [if_neg hd, if_neg hd]
        exact IH.writeElems _ _ _ _ _ h
    | placeable e =>
      rw [writeElems_placeable] at h
      rw [writeElems_placeable, writeElems_placeable]
      by_cases hd : sc.dirty = true
      · rw [if_pos hd, if_pos hd]
      rw [if_neg hd] at h
      rw [if_neg hd, if_neg hd]
      by_cases h1 : sc.placeables + 1 > 255
      · rw [if_pos h1, if_pos h1]
      rw [if_neg h1] at h
      rw [if_neg h1, if_neg h1]
      by_cases h2 : sc.placeables + 1 > Generated.maxPlaceables
      · rw [if_pos h2, if_pos h2]
      rw [if_neg h2] at h
      rw [if_neg h2, if_neg h2]
      exact bind_mono h (IH.writeExpr _ _ _) fun _ hk => IH.writeElems _ _ _ _ _ hk

end step

theorem mono_all (env : Env) : ∀ n, Mono env n := by
  intro n
  induction n with
  | zero => exact mono_zero env
  | succ n IH =>
    exact ⟨writeElems_mono IH, writePattern_mono IH, track_mono IH, writeExpr_mono IH, writeDefault_mono IH,
      writeInline_mono IH, resolveInline_mono IH, getArguments_mono IH, resolveList_mono IH, resolveNamed_mono IH⟩

theorem writePattern_fuel_irrelevant (env : Env) (n k : Nat) (p : Pattern Bytes) (w : Bytes) (sc : Scope)
    (h : writePattern env n p w sc ≠ .fuel) : writePattern env (n + k) p w sc = writePattern env n p w sc := by
  induction k with
  | zero => rfl
  | succ k ih =>
    have := (mono_all env (n + k)).writePattern p w sc (by rw [ih]; exact h)
    rw [← Nat.add_assoc, this, ih]

theorem resolvePattern_fuel_irrelevant (env : Env) (n k : Nat) (p : Pattern Bytes) (sc : Scope)
    (h : resolvePattern env n p sc ≠ .fuel) : resolvePattern env (n + k) p sc = resolvePattern env n p sc := by
  by_cases hp : ∃ v, p = [.text v]
  · obtain ⟨v, rfl⟩ := hp; rfl
  · have key := fun m => resolvePattern_of_not_text env m (fun v hv => hp ⟨v, hv⟩) sc
    rw [key] at h
    rw [key, key]
    exact writePattern_fuel_irrelevant env n k p [] sc h

theorem formatPattern_fuel_irrelevant (env : Env) (n m : Nat) (hnm : n ≤ m) (p : Pattern Bytes)
    (h : formatPattern env n p ≠ .fuel) : formatPattern env m p = formatPattern env n p := by
  obtain ⟨k, rfl⟩ := Nat.exists_eq_add_of_le hnm
  rw [formatPattern_eq] at h
  rw [formatPattern_eq, formatPattern_eq, resolvePattern_fuel_irrelevant env n k p {} (RR.ne_fuel_of_bind h)]

theorem writePatternTop_fuel_irrelevant (env : Env) (n m : Nat) (hnm : n ≤ m) (p : Pattern Bytes)
    (h : writePatternTop env n p ≠ .fuel) : writePatternTop env m p = writePatternTop env n p := by
  obtain ⟨k, rfl⟩ := Nat.exists_eq_add_of_le hnm
  rw [writePatternTop_eq] at h
  rw [writePatternTop_eq, writePatternTop_eq, writePattern_fuel_irrelevant env n k p [] {} (RR.ne_fuel_of_bind h)]

end FluentProofs.Resolver

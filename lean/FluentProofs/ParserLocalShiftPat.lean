import FluentProofs.ParserLocalShiftExpr
/-!
# Locality of the parser, SHIFT family, part 3: the pattern loop, and the joint induction

`shspecs_all`: `ShSpecs d s₁ s₂ n` for every `n`.  The `get*_shift` lemmas at the end are its eight fields, one per function;
the entry level goes on from `getPattern_shift`.
-/
namespace FluentProofs.Parser
open FluentModel.Syntax

section
variable {d : Nat} {s₁ s₂ : Src}

theorem patPre_shift (h : Shift d s₁ s₂) (st : PatState) (p : Nat) :
    patPre s₂ (shSt d st) (p + d) = (patPre s₁ st p).map (fun ip => (ip.1, ip.2 + d)) :=
  patPre_win (h.winAt p) st (by omega)

theorem patBreak_shift (h : Shift d s₁ s₂) (p : Nat) : patBreak s₂ (p + d) = patBreak s₁ p + d :=
  patBreak_win (h.winAt p) (by omega)

theorem survivesOf_shift (h : Shift d s₁ s₂) (start stop : Nat) (nb : Bool) :
    survivesOf s₂ (start + d) (stop + d) nb = survivesOf s₁ start stop nb :=
  survivesOf_win (h.winAt stop) start nb (by omega)

theorem elOf_shift (d : Nat) (st : PatState) (p indent stop : Nat) (nb pl : Bool) (hstop : pl = false → 0 < stop) :
    elOf (shSt d st) (p + d) indent (stop + d) nb pl = (elOf st p indent stop nb pl).map (shPh d) := by
  simp only [elOf, shSt]
  by_cases hc : (st.role == TextPos.lineStart && !nb && !pl) = true
  · have hpl : pl = false := by
      cases pl with
      | false => rfl
      | true => simp at hc
    have := hstop hpl
    have e1 : usub (stop + d) 1 = some (stop - 1 + d) := by
      simp only [usub]; rw [if_pos (by omega)]; congr 1; omega
    have e2 : usub stop 1 = some (stop - 1) := by
      simp only [usub]; rw [if_pos (by omega)]
    simp only [hc, if_true, e1, e2, Option.map_some, shPh]
  · simp only [hc, Bool.false_eq_true, if_false, Option.map_some, shPh]

theorem patPush_shift (d : Nat) (st : PatState) (ci : Option Nat) (e : Placeholder) (sv : Bool) :
    patPush (shSt d st) ci (shPh d e) sv = shSt d (patPush st ci e sv) := by
  simp only [patPush, shSt, List.length_map, List.map_append, List.map_cons, List.map_nil]

theorem st2Of_shift (h : Shift d s₁ s₂) (st : PatState) (p indent start stop : Nat) (nb : Bool) (term : Termination)
    (hle : start ≤ stop) :
    st2Of s₂ (shSt d st) (p + d) indent (start + d) (stop + d) nb term =
      (st2Of s₁ st p indent start stop nb term).map (shSt d) := by
  have e0 : (start + d != stop + d) = (start != stop) := by
    rw [Bool.eq_iff_iff]; simp only [bne_iff_ne, ne_eq]; omega
  have e0' : (start + d == stop + d) = (start == stop) := by
    rw [Bool.eq_iff_iff]; simp only [beq_iff_eq]; omega
  generalize hpl : (st.role == TextPos.lineStart && term == .placeableStart && start == stop) = pl
  rw [st2Of_eq s₁ st p indent start stop nb term pl hpl.symm,
    st2Of_eq s₂ (shSt d st) (p + d) indent (start + d) (stop + d) nb term pl (by rw [e0']; exact hpl.symm), e0]
  -- role, common indent and `patIndent` of `shSt d st` are those of `st`
  show (if (start != stop || pl) = true then
      if (st.role != .lineStart || nb || term == .lineFeed || pl) = true then
        (elOf (shSt d st) (p + d) indent (stop + d) nb pl).bind fun e =>
          (survivesOf s₂ (start + d) (stop + d) nb).map (patPush (shSt d st) (patIndent st indent nb pl) e)
      else some (shSt d { st with commonIndent := patIndent st indent nb pl })
    else some (shSt d st)) = _
  by_cases h1 : (start != stop || pl) = true
  · rw [if_pos h1, if_pos h1]
    by_cases h2 : (st.role != .lineStart || nb || term == .lineFeed || pl) = true
    · have hstop : pl = false → 0 < stop := by
        intro hf
        rw [hf, Bool.or_false, bne_iff_ne] at h1
        omega
      rw [if_pos h2, if_pos h2, survivesOf_shift h, elOf_shift d st p indent stop nb pl hstop]
      cases elOf st p indent stop nb pl with
      | none => rfl
      | some e =>
        cases survivesOf s₁ start stop nb with
        | none => rfl
        | some sv => exact congrArg some (patPush_shift d st _ e sv)
    · rw [if_neg h2, if_neg h2]; rfl
  · rw [if_neg h1, if_neg h1]; rfl

theorem patPlaced_shift (d : Nat) (st : PatState) (e : Expr Span) :
    patPlaced (shSt d st) (e.mapS (shSpan d)) = shSt d (patPlaced st e) := by
  simp only [patPlaced, shSt, List.length_map, List.map_append, List.map_cons, List.map_nil, shPh]
  rfl

section
variable {n m : Nat}

theorem patternLoop_sh_step (h : Shift d s₁ s₂) (IH : ShSpecs d s₁ s₂ n) (hm : n ≤ m) (st : PatState) (p : Nat) :
    ShR (shSt d) d (getPatternLoop s₁ (n + 1) st p) (getPatternLoop s₂ (m + 1) (shSt d st) (p + d)) := by
  by_cases c0 : p < s₁.size
  · have c0' : p + d < s₂.size := by rw [h.lt]; exact c0
    by_cases h123 : s₁[p]? = some 123
    · rw [patLoop_placeable s₁ n st p c0 h123, patLoop_placeable s₂ m _ _ c0' (by rw [h.get]; exact h123), sh1 d]
      refine (IH.placeableR hm (p + 1)).bind fun e q _ => ?_
      rw [patPlaced_shift]
      exact IH.patternLoopR hm _ _
    · rw [patLoop_text s₁ n st p c0 h123, patLoop_text s₂ m _ _ c0' (by rw [h.get]; exact h123), patPre_shift h]
      cases patPre s₁ st p with
      | none =>
        simp only [Option.map_none]
        rw [patBreak_shift h]
        exact .ok rfl
      | some ip =>
        simp only [Option.map_some]
        refine (ShR.of_eq (getTextSlice_shift h ip.2)).bind fun v q hts => ?_
        obtain ⟨start, stop, nb, term⟩ := v
        simp only [patAfterText, shTS, st2Of_shift h _ _ _ _ _ _ _ (getTextSlice_le hts)]
        cases st2Of s₁ st p ip.1 start stop nb term with
        | none => exact .of_eq rfl
        | some st2 => exact IH.patternLoopR hm _ _
  · rw [patLoop_exit s₁ n st p (Nat.le_of_not_lt c0),
      patLoop_exit s₂ m _ _ (Nat.le_of_not_lt (by rw [h.lt]; exact c0))]
    exact .ok rfl

theorem patStart_shift (h : Shift d s₁ s₂) (p : Nat) :
    patStart s₂ (p + d) = ((patStart s₁ p).1, (patStart s₁ p).2 + d) := by
  unfold patStart
  rw [skipBlankInline_shift h, skipEol_shift h]
  cases skipEol s₁ (skipBlankInline s₁ p) with
  | none => rfl
  | some q => simp only [Option.map_some, skipBlankBlock_shift_fst h]

theorem patClose_shift (h : Shift d s₁ s₂) (st : PatState) (q : Nat) :
    patClose s₂ (shSt d st) (q + d) = shR (Option.map (mapPat (shSpan d))) d (patClose s₁ st q) := by
  simp only [patClose, shSt, finishElements_shift h]
  cases st.lastNonBlank with
  | none => rfl
  | some lnb =>
    simp only []
    cases finishElements s₁ st.keptCommonIndent lnb 0 st.elements <;> rfl

theorem pattern_sh_step (h : Shift d s₁ s₂) (IH : ShSpecs d s₁ s₂ n) (hm : n ≤ m) (p : Nat) :
    ShR (Option.map (mapPat (shSpan d))) d (getPattern s₁ (n + 1) p) (getPattern s₂ (m + 1) (p + d)) := by
  rw [getPattern_unfold, getPattern_unfold, patStart_shift h]
  exact (IH.patternLoopR hm ⟨[], none, none, (patStart s₁ p).1, none⟩ _).bind fun st q _ => .of_eq (patClose_shift h st q)

end

theorem shspecs_all (h : Shift d s₁ s₂) (n : Nat) : ShSpecs d s₁ s₂ n := by
  induction n with
  | zero =>
    refine ⟨?_, ?_, ?_, ?_, ?_, ?_, ?_, ?_⟩ <;> intros <;> subst_vars <;> simp only [fuel_zero, ne_eq, not_true_eq_false] at *
  | succ n ih =>
    have succ_of : ∀ {m : Nat}, n + 1 ≤ m → ∃ m', m = m' + 1 ∧ n ≤ m' := fun {m} hm => ⟨m - 1, by omega, by omega⟩
    exact {
      patternLoop := fun st p r hr hne m hm => by
        obtain ⟨m', rfl, hm'⟩ := succ_of hm
        subst hr; exact patternLoop_sh_step h ih hm' st p hne
      pattern := fun p r hr hne m hm => by
        obtain ⟨m', rfl, hm'⟩ := succ_of hm
        subst hr; exact pattern_sh_step h ih hm' p hne
      placeable := fun p r hr hne m hm => by
        obtain ⟨m', rfl, hm'⟩ := succ_of hm
        subst hr; exact placeable_sh_step h ih hm' p hne
      expression := fun p r hr hne m hm => by
        obtain ⟨m', rfl, hm'⟩ := succ_of hm
        subst hr; exact expression_sh_step h ih hm' p hne
      inline := fun ol p r hr hne m hm => by
        obtain ⟨m', rfl, hm'⟩ := succ_of hm
        subst hr; exact inline_sh_step h ih hm' ol p hne
      callArguments := fun p r hr hne m hm => by
        obtain ⟨m', rfl, hm'⟩ := succ_of hm
        subst hr; exact callArguments_sh_step h ih hm' p hne
      callArgsLoop := fun pos named p r hr hne m hm => by
        obtain ⟨m', rfl, hm'⟩ := succ_of hm
        subst hr; exact callArgsLoop_sh_step h ih hm' pos named p hne
      variants := fun hd acc p r hr hne m hm => by
        obtain ⟨m', rfl, hm'⟩ := succ_of hm
        subst hr; exact variants_sh_step h ih hm' hd acc p hne }

theorem getPatternLoop_shift (h : Shift d s₁ s₂) {F₁ F₂ : Nat} {st : PatState} {p : Nat} {r : R PatState}
    (hr : getPatternLoop s₁ F₁ st p = r) (hne : r ≠ .fuel) (hF : F₁ ≤ F₂) :
    getPatternLoop s₂ F₂ (shSt d st) (p + d) = shR (shSt d) d r := (shspecs_all h F₁).patternLoop st p r hr hne F₂ hF

theorem getPattern_shift (h : Shift d s₁ s₂) {F₁ F₂ : Nat} {p : Nat} {r : R (Option (Pattern Span))}
    (hr : getPattern s₁ F₁ p = r) (hne : r ≠ .fuel) (hF : F₁ ≤ F₂) :
    getPattern s₂ F₂ (p + d) = shR (Option.map (mapPat (shSpan d))) d r := (shspecs_all h F₁).pattern p r hr hne F₂ hF

theorem getPlaceable_shift (h : Shift d s₁ s₂) {F₁ F₂ : Nat} {p : Nat} {r : R (Expr Span)}
    (hr : getPlaceable s₁ F₁ p = r) (hne : r ≠ .fuel) (hF : F₁ ≤ F₂) :
    getPlaceable s₂ F₂ (p + d) = shR (Expr.mapS (shSpan d)) d r := (shspecs_all h F₁).placeable p r hr hne F₂ hF

theorem getExpression_shift (h : Shift d s₁ s₂) {F₁ F₂ : Nat} {p : Nat} {r : R (Expr Span)}
    (hr : getExpression s₁ F₁ p = r) (hne : r ≠ .fuel) (hF : F₁ ≤ F₂) :
    getExpression s₂ F₂ (p + d) = shR (Expr.mapS (shSpan d)) d r := (shspecs_all h F₁).expression p r hr hne F₂ hF

theorem getInline_shift (h : Shift d s₁ s₂) {F₁ F₂ : Nat} {ol : Bool} {p : Nat} {r : R (Inline Span)}
    (hr : getInline s₁ F₁ ol p = r) (hne : r ≠ .fuel) (hF : F₁ ≤ F₂) :
    getInline s₂ F₂ ol (p + d) = shR (Inline.mapS (shSpan d)) d r := (shspecs_all h F₁).inline ol p r hr hne F₂ hF

theorem getCallArguments_shift (h : Shift d s₁ s₂) {F₁ F₂ : Nat} {p : Nat}
    {r : R (Option (List (Inline Span) × List (Span × Inline Span)))}
    (hr : getCallArguments s₁ F₁ p = r) (hne : r ≠ .fuel) (hF : F₁ ≤ F₂) :
    getCallArguments s₂ F₂ (p + d) = shR (Option.map (shArgs d)) d r := (shspecs_all h F₁).callArguments p r hr hne F₂ hF

theorem getCallArgsLoop_shift (h : Shift d s₁ s₂) {F₁ F₂ : Nat} {pos : List (Inline Span)}
    {named : List (Span × Inline Span)} {p : Nat} {r : R (List (Inline Span) × List (Span × Inline Span))}
    (hr : getCallArgsLoop s₁ F₁ pos named p = r) (hne : r ≠ .fuel) (hF : F₁ ≤ F₂) :
    getCallArgsLoop s₂ F₂ (mapInl (shSpan d) pos) (mapNamed (shSpan d) named) (p + d) = shR (shArgs d) d r :=
  (shspecs_all h F₁).callArgsLoop pos named p r hr hne F₂ hF

theorem getVariants_shift (h : Shift d s₁ s₂) {F₁ F₂ : Nat} {hd : Bool} {acc : List (Variant Span)} {p : Nat}
    {r : R (List (Variant Span))}
    (hr : getVariants s₁ F₁ hd acc p = r) (hne : r ≠ .fuel) (hF : F₁ ≤ F₂) :
    getVariants s₂ F₂ hd (mapVariants (shSpan d) acc) (p + d) = shR (mapVariants (shSpan d)) d r :=
  (shspecs_all h F₁).variants hd acc p r hr hne F₂ hF

end
end FluentProofs.Parser

import FluentModel.Generated
import FluentModel.ResMgr
/-!
# Constant tie for the resource-manager model (C19)

`tools/extract_consts.py` regenerates `FluentModel/Generated.lean` from the Rust source on every run.
The one theorem here compares the extracted path placeholders with the two literals of the model.
`Props/C19.lean` imports this file, so a change of the placeholders in the Rust source fails its build
(in addition to whatever the correspondence check observes).
-/
namespace FluentProofs.ConstTie
open FluentModel FluentModel.Generated

/-- C19: the two path placeholders, in the order `get_resource` substitutes them -/
theorem path_placeholders_from_source :
    pathPlaceholders.map strBytes = [ResMgr.localePat, ResMgr.resIdPat] := by decide +kernel

end FluentProofs.ConstTie

import FluentProofs.ParserLocalWin
/-!
# Locality of the parser, SIMULATION family (C04, Junk kept by the serializer): shared definitions

Two sources `s₁`, `s₂` that agree on `[0, N]`, where `N` is a line start that holds, in each of them, a `#` or an entry
head (`Bar`).  Every parser function started at `p ≤ N` with the same arguments and the same
fuel does the same on both — same outcome, cursor `≤ N` — or, on both, ends up behind `N` (inside the entry head,
`Bar` case only).  `SimR N H r₁ r₂` is that relation on outcomes (`H`: a `#` stands at `N`, so
the second alternative is excluded).
-/
namespace FluentProofs.Parser
open FluentModel.Syntax

/-- at `N`: a `#` or an entry head -/
def TailB (s : Src) (N : Nat) : Prop := s[N]? = some 35 ∨ ∃ E, Bar s N E

/-- at `N` stands a `#` (a comment: no parser function started before it gets past it) -/
def Hash (s : Src) (N : Nat) : Prop := s[N]? = some 35

/-- a byte that can stand at `N`: a letter, `-` or `#` -/
def wallByte (b : UInt8) : Bool := isReal b || b == 35

/-- `s₁` and `s₂` agree on `[0, N]`; `N > 0` is the position behind a line feed; at `N` each source has a `#` or an
entry head (the case "end of input in both" needs no simulation: the two sources are then equal) -/
structure Sim (N : Nat) (s₁ s₂ : Src) : Prop where
  get : ∀ i, i ≤ N → s₂[i]? = s₁[i]?
  pos : 0 < N
  nl : s₁[N - 1]? = some 10
  t₁ : TailB s₁ N
  t₂ : TailB s₂ N

/-- Where the cursor of an `ok` / `err` outcome lies: at or before `N` (`CurLe`), behind `N` (`Past`), at or after the start `p`
(`CurGe`).  `SimR` is built from the first two; the third carries `Past` from a sub-call to its caller (`CurGe.past`). -/
def CurLe {α : Type} (N : Nat) : R α → Prop
  | .ok _ q => q ≤ N
  | .err _ q => q ≤ N
  | .panic _ => True
  | .fuel => True

def Past {α : Type} (N : Nat) : R α → Prop
  | .ok _ q => N < q
  | .err _ q => N < q
  | .panic _ => True
  | .fuel => True

def CurGe {α : Type} (p : Nat) : R α → Prop
  | .ok _ q => p ≤ q
  | .err _ q => p ≤ q
  | .panic _ => True
  | .fuel => True

/-- the same outcome with a cursor `≤ N`, or — only when `N` does not hold a `#` (`¬ H`) — both outcomes behind `N` -/
def SimR {α : Type} (N : Nat) (H : Prop) (r₁ r₂ : R α) : Prop := (CurLe N r₁ ∧ r₂ = r₁) ∨ (¬ H ∧ Past N r₁ ∧ Past N r₂)

section
variable {α β : Type} {N : Nat} {H : Prop}

@[simp] theorem curLe_ok (a : α) (q : Nat) : CurLe N (.ok a q : R α) ↔ q ≤ N := Iff.rfl
@[simp] theorem curLe_err (e : PErr) (q : Nat) : CurLe N (.err e q : R α) ↔ q ≤ N := Iff.rfl
@[simp] theorem curLe_panic (m : String) : CurLe N (.panic m : R α) ↔ True := Iff.rfl
@[simp] theorem curLe_fuel : CurLe N (.fuel : R α) ↔ True := Iff.rfl
@[simp] theorem past_ok (a : α) (q : Nat) : Past N (.ok a q : R α) ↔ N < q := Iff.rfl
@[simp] theorem past_err (e : PErr) (q : Nat) : Past N (.err e q : R α) ↔ N < q := Iff.rfl
@[simp] theorem past_panic (m : String) : Past N (.panic m : R α) ↔ True := Iff.rfl
@[simp] theorem past_fuel : Past N (.fuel : R α) ↔ True := Iff.rfl
@[simp] theorem curGe_ok (p : Nat) (a : α) (q : Nat) : CurGe p (.ok a q : R α) ↔ p ≤ q := Iff.rfl
@[simp] theorem curGe_err (p : Nat) (e : PErr) (q : Nat) : CurGe p (.err e q : R α) ↔ p ≤ q := Iff.rfl
@[simp] theorem curGe_panic (p : Nat) (m : String) : CurGe p (.panic m : R α) ↔ True := Iff.rfl
@[simp] theorem curGe_fuel (p : Nat) : CurGe p (.fuel : R α) ↔ True := Iff.rfl

theorem curLe_or_past (r : R α) : CurLe N r ∨ Past N r := by
  cases r with
  | ok a q => by_cases h : q ≤ N
              · exact Or.inl h
              · exact Or.inr (by simp only [past_ok]; omega)
  | err e q => by_cases h : q ≤ N
               · exact Or.inl h
               · exact Or.inr (by simp only [past_err]; omega)
  | panic m => exact Or.inl trivial
  | fuel => exact Or.inl trivial

theorem SimR.of_eq {r₁ r₂ : R α} (h : r₂ = r₁) (hle : CurLe N r₁) : SimR N H r₁ r₂ := Or.inl ⟨hle, h⟩

theorem SimR.of_past {r₁ r₂ : R α} (hH : ¬ H) (h1 : Past N r₁) (h2 : Past N r₂) : SimR N H r₁ r₂ := Or.inr ⟨hH, h1, h2⟩

theorem SimR.refl_of (r : R α) (h : CurLe N r ∨ ¬ H) : SimR N H r r := by
  rcases curLe_or_past (N := N) r with h1 | h1
  · exact Or.inl ⟨h1, rfl⟩
  · rcases h with h | h
    · exact Or.inl ⟨h, rfl⟩
    · exact Or.inr ⟨h, h1, h1⟩

theorem CurGe.past {p : Nat} {r : R α} (h : CurGe p r) (hp : N < p) : Past N r := by
  cases r <;> simp only [curGe_ok, curGe_err, past_ok, past_err, past_panic, past_fuel] at h ⊢ <;> omega

theorem CurGe.weaken {p p' : Nat} {r : R α} (h : CurGe p r) (hp : p' ≤ p) : CurGe p' r := by
  cases r <;> simp only [curGe_ok, curGe_err, curGe_panic, curGe_fuel] at h ⊢ <;> omega

theorem CurGe.cases {p : Nat} {r : R α} (h : CurGe p r) :
    (∃ a q, r = .ok a q ∧ p ≤ q) ∨ (∃ e q, r = .err e q ∧ p ≤ q) ∨ (∃ m, r = .panic m) ∨ r = .fuel := by
  cases r with
  | ok a q => exact Or.inl ⟨a, q, rfl, h⟩
  | err e q => exact Or.inr (Or.inl ⟨e, q, rfl, h⟩)
  | panic m => exact Or.inr (Or.inr (Or.inl ⟨m, rfl⟩))
  | fuel => exact Or.inr (Or.inr (Or.inr rfl))

theorem Past.cases {r : R α} (h : Past N r) :
    (∃ a q, r = .ok a q ∧ N < q) ∨ (∃ e q, r = .err e q ∧ N < q) ∨ (∃ m, r = .panic m) ∨ r = .fuel := by
  cases r with
  | ok a q => exact Or.inl ⟨a, q, rfl, h⟩
  | err e q => exact Or.inr (Or.inl ⟨e, q, rfl, h⟩)
  | panic m => exact Or.inr (Or.inr (Or.inl ⟨m, rfl⟩))
  | fuel => exact Or.inr (Or.inr (Or.inr rfl))

/-- the outcome with its value mapped: a name for `r.bind fun a q => .ok (f a) q` -/
def mapR (f : α → β) : R α → R β
  | .ok a q => .ok (f a) q
  | .err e q => .err e q
  | .panic m => .panic m
  | .fuel => .fuel

theorem mapR_eq_bind (f : α → β) (r : R α) : mapR f r = r.bind fun a q => .ok (f a) q := by cases r <;> rfl

theorem CurGe.mapR {p : Nat} {f : α → β} {r : R α} (h : CurGe p r) : CurGe p (mapR f r) := by cases r <;> exact h

theorem CurGe.bind {p : Nat} {r : R α} {f : α → Nat → R β} (h : CurGe p r) (hf : ∀ a q, p ≤ q → CurGe p (f a q)) :
    CurGe p (r.bind f) := by
  cases r with
  | ok a q => exact hf a q h
  | err e q => exact h
  | panic m => trivial
  | fuel => trivial

theorem CurGe.seq {p : Nat} {r : R α} {f : α → Nat → R β} (h : CurGe p r) (hf : ∀ a q, CurGe q (f a q)) :
    CurGe p (r.bind f) :=
  h.bind fun a q hq => (hf a q).weaken hq

theorem Past.bind {r : R α} {f : α → Nat → R β} (h : Past N r) (hf : ∀ a q, N < q → Past N (f a q)) :
    Past N (r.bind f) := by
  cases r with
  | ok a q => exact hf a q h
  | err e q => exact h
  | panic m => trivial
  | fuel => trivial

theorem CurGe.ite {p : Nat} {c : Prop} [Decidable c] {a b : R α} (ha : CurGe p a) (hb : CurGe p b) :
    CurGe p (if c then a else b) := by
  split <;> assumption

theorem CurLe.ite {c : Prop} [Decidable c] {a b : R α} (ha : CurLe N a) (hb : CurLe N b) :
    CurLe N (if c then a else b) := by
  split <;> assumption

/-- sequencing: below `N` the continuations are related (`hf`); behind `N` it is enough that neither moves back
(`hg₁`, `hg₂`) -/
theorem SimR.bind {r₁ r₂ : R α} {f₁ f₂ : α → Nat → R β} (h : SimR N H r₁ r₂)
    (hf : ∀ a q, r₁ = .ok a q → q ≤ N → SimR N H (f₁ a q) (f₂ a q))
    (hg₁ : ∀ a q, CurGe q (f₁ a q)) (hg₂ : ∀ a q, CurGe q (f₂ a q)) : SimR N H (r₁.bind f₁) (r₂.bind f₂) := by
  rcases h with ⟨hle, rfl⟩ | ⟨hH, h1, h2⟩
  · cases r₂ with
    | ok a q => exact hf a q rfl hle
    | err e q => exact SimR.of_eq rfl hle
    | panic m => exact SimR.of_eq rfl trivial
    | fuel => exact SimR.of_eq rfl trivial
  · exact SimR.of_past hH (h1.bind fun a q hq => (hg₁ a q).past hq) (h2.bind fun a q hq => (hg₂ a q).past hq)

theorem SimR.bind_ok (g : α → β) {r₁ r₂ : R α} (h : SimR N H r₁ r₂) :
    SimR N H (r₁.bind fun a q => .ok (g a) q) (r₂.bind fun a q => .ok (g a) q) :=
  h.bind (fun _ _ _ hq => SimR.of_eq rfl hq) (fun _ q => Nat.le_refl q) (fun _ q => Nat.le_refl q)

theorem SimR.mapR {f : α → β} {r₁ r₂ : R α} (h : SimR N H r₁ r₂) : SimR N H (mapR f r₁) (mapR f r₂) := by
  rw [mapR_eq_bind, mapR_eq_bind]; exact h.bind_ok f

end

theorem TailB.wall {s : Src} {N : Nat} (h : TailB s N) : ∃ b, s[N]? = some b ∧ wallByte b = true := by
  rcases h with h | ⟨E, hb⟩
  · exact ⟨35, h, by decide⟩
  · obtain ⟨b, h1, h2⟩ := hb.real
    exact ⟨b, h1, by simp [wallByte, h2]⟩

theorem TailB.bar {s : Src} {N : Nat} (h : TailB s N) (hH : ¬ Hash s N) : ∃ E, Bar s N E := by
  rcases h with h | h
  · exact absurd h hH
  · exact h

namespace Sim
variable {N : Nat} {s₁ s₂ : Src}

theorem symm (h : Sim N s₁ s₂) : Sim N s₂ s₁ :=
  ⟨fun i hi => (h.get i hi).symm, h.pos, by rw [h.get _ (by have := h.pos; omega)]; exact h.nl, h.t₂, h.t₁⟩

theorem wall₁ (h : Sim N s₁ s₂) : ∃ b, s₁[N]? = some b ∧ wallByte b = true := h.t₁.wall
theorem wall₂ (h : Sim N s₁ s₂) : ∃ b, s₂[N]? = some b ∧ wallByte b = true := h.t₂.wall

theorem lt₁ (h : Sim N s₁ s₂) {p : Nat} (hp : p ≤ N) : p < s₁.size := by
  obtain ⟨b, hb, _⟩ := h.wall₁; have := get_lt hb; omega
theorem lt₂ (h : Sim N s₁ s₂) {p : Nat} (hp : p ≤ N) : p < s₂.size := by
  obtain ⟨b, hb, _⟩ := h.wall₂; have := get_lt hb; omega

theorem hash_iff (h : Sim N s₁ s₂) : Hash s₂ N ↔ Hash s₁ N := by
  unfold Hash; rw [h.get N (Nat.le_refl _)]

theorem ls₁ (h : Sim N s₁ s₂) : LS s₁ N := Or.inr h.nl
theorem ls₂ (h : Sim N s₁ s₂) : LS s₂ N := Or.inr h.symm.nl

theorem succ_lt (h : Sim N s₁ s₂) {p : Nat} {b : UInt8} (hp : p < N) (hb : s₁[p]? = some b) (hne : b ≠ 10) : p + 1 < N :=
  h.ls₁.step hp hb hne

theorem ne_N₁ (h : Sim N s₁ s₂) {c : UInt8} (hc : wallByte c = false) : s₁[N]? ≠ some c := by
  intro hn
  obtain ⟨b, hb, hw⟩ := h.wall₁
  rw [hb] at hn; cases hn; rw [hw] at hc; cases hc

theorem ne_N₂ (h : Sim N s₁ s₂) {c : UInt8} (hc : wallByte c = false) : s₂[N]? ≠ some c := h.symm.ne_N₁ hc

theorem lt_of_byte (h : Sim N s₁ s₂) {p : Nat} {c : UInt8} (hp : p ≤ N) (hb : s₁[p]? = some c) (hc : wallByte c = false) :
    p < N := by
  by_cases he : p = N
  · subst he; exact absurd hb (h.ne_N₁ hc)
  · omega

theorem cur (h : Sim N s₁ s₂) {p : Nat} (hp : p ≤ N) (c : UInt8) : isCurrentByte s₂ p c = isCurrentByte s₁ p c := by
  unfold isCurrentByte; rw [h.get p hp]

end Sim

end FluentProofs.Parser

import FluentProofs.SerializerFinal
/-!
# Serializer lemmas: resources of single-line messages and terms (C04,
`roundtrip_singleline_partial`)

Messages and terms with a valid single-line value, no attributes and no comment are entries of the class
`rtEntry`, their text is one line each (`entryBytes`), and nothing is normalised when they are read back.
-/
namespace FluentProofs.Ser
open FluentModel FluentModel.Syntax FluentModel.Syntax.Ser FluentProofs.Parser

def validSimpleMessage (m : Message Bytes) : Bool :=
  validIdent m.id &&
    (match m.value with
     | some es => validSingleLine es
     | none => false) && m.attributes.isEmpty && m.comment.isNone

def validSimpleTerm (t : Term Bytes) : Bool :=
  validIdent t.id && validSingleLine t.value && t.attributes.isEmpty && t.comment.isNone

def validSimpleEntry : Entry Bytes → Bool
  | .message m => validSimpleMessage m
  | .term t => validSimpleTerm t
  | _ => false

/-- the line written for a simple entry -/
def entryBytes : Entry Bytes → Bytes
  | .message m => m.id ++ [32, 61] ++ 32 :: (patBytes (m.value.getD []) ++ [10])
  | .term t => 45 :: (t.id ++ [32, 61] ++ 32 :: (patBytes t.value ++ [10]))
  | _ => []

theorem rtElems_valid (es : List (PatElem Bytes)) (hv : ∀ e ∈ es, validElem e = true) : rtElems es = true := by
  induction es with
  | nil => rfl
  | cons e es ih =>
    have ih' := ih (fun x hx => hv x (List.mem_cons_of_mem _ hx))
    cases e with
    | text v => simpa [rtElems] using ih'
    | placeable x =>
      have hvx : validInner x = true := by simpa [validElem] using hv _ List.mem_cons_self
      cases x with
      | select a b => simp [validInner] at hvx
      | inline i => simp [rtElems, rtExpr_of_validInner i hvx, ih']

theorem rtPattern_valid (es : List (PatElem Bytes)) (hv : validSingleLine es = true) : rtPattern es = true := by
  simp [rtPattern, mlPattern_valid es hv, rtElems_valid es (validSingleLine_elems hv)]

theorem rtEntry_simple (e : Entry Bytes) (hv : validSimpleEntry e = true) :
    rtEntry e = true ∧ canonEntry e = e ∧ ∀ b, entryText b e = entryBytes e := by
  cases e with
  | message m =>
    obtain ⟨id, value, attrs, comment⟩ := m
    simp only [validSimpleEntry, validSimpleMessage, Bool.and_eq_true, List.isEmpty_iff, Option.isNone_iff_eq_none] at hv
    obtain ⟨⟨⟨hid, hval⟩, rfl⟩, rfl⟩ := hv
    cases value with
    | none => simp at hval
    | some es =>
      simp only at hval
      refine ⟨by simp [rtEntry, hid, rtPattern_valid es hval, rtOptComment], rfl, fun b => ?_⟩
      simp [entryText, entryBytes, optCommentText, optPatText, attrsText, patText_valid es hval]
  | term t =>
    obtain ⟨id, es, attrs, comment⟩ := t
    simp only [validSimpleEntry, validSimpleTerm, Bool.and_eq_true, List.isEmpty_iff, Option.isNone_iff_eq_none] at hv
    obtain ⟨⟨⟨hid, hval⟩, rfl⟩, rfl⟩ := hv
    refine ⟨by simp [rtEntry, hid, rtPattern_valid es hval, rtOptComment], rfl, fun b => ?_⟩
    simp [entryText, entryBytes, optCommentText, attrsText, patText_valid es hval]
  | _ => simp [validSimpleEntry] at hv

/-- **`roundtrip_singleline_partial`.**  For every resource that consists of messages and terms
whose value is a valid single-line pattern (`validSimpleEntry`: identifier well-shaped; the value is
non-empty, its texts are non-empty and contain no `\n`, `\r`, `{`, `}`, its placeables hold valid
inline expressions — no select, no term attribute —, no two texts are adjacent, it does not start or
end with a space; no attributes, no comment) and both options: the serializer produces `out`
(one line per entry), and — provided `out` satisfies the `&str` invariant, which it does whenever the
strings of the tree are UTF-8 — the parser reads `out` back, without errors, as a tree that resolves
to *exactly* the resource (so in particular equal under `norm`), and serialising that tree again gives
`out` (fixed point).  This is the full C04 statement restricted to such resources. -/
theorem roundtrip_singleline (withJunk : Bool) (r : Resource Bytes) (hv : ∀ e ∈ r, validSimpleEntry e = true) :
    ∃ out, serialize withJunk r = some out ∧
      (AsciiThenBoundary out.toArray →
        ∃ t', parse out.toArray = .done (t', []) ∧ resolve out.toArray t' = r ∧
          serialize withJunk (resolve out.toArray t') = some out) := by
  obtain ⟨out, hser, hparse⟩ := roundtrip_rt_tree withJunk r (fun e he => (rtEntry_simple e (hv e he)).1)
  refine ⟨out, hser, fun hs => ?_⟩
  obtain ⟨t', hp, hres, _⟩ := hparse hs
  have hcan : r.map canonEntry = r := by
    conv => rhs; rw [← List.map_id r]
    exact List.map_congr_left fun e he => (rtEntry_simple e (hv e he)).2.1
  rw [hcan] at hres
  exact ⟨t', hp, hres, by rw [hres]; exact hser⟩

/-- **`roundtrip_singleline_partial`, lifted to sources.**  For every `String` whose parse tree consists
of simple entries (`validSimpleEntry`, decidable): both full C04 statements hold for it — no side
condition. -/
theorem roundtrip_singleline_source (str : String) (withJunk : Bool) (t : Resource Span) (errs : List PErr)
    (hp : parse str.toUTF8.data = .done (t, errs))
    (hv : ∀ e ∈ resolve str.toUTF8.data t, validSimpleEntry e = true) :
    ∃ out, serialize withJunk (resolve str.toUTF8.data t) = some out ∧
      ∃ t', parse out.toArray = .done (t', []) ∧ resolve out.toArray t' = resolve str.toUTF8.data t ∧
        serialize withJunk (resolve out.toArray t') = some out := by
  obtain ⟨out, h1, h2⟩ := roundtrip_singleline withJunk _ hv
  exact ⟨out, h1, h2 (serialize_atb_of_parse str t errs hp withJunk out h1)⟩

end FluentProofs.Ser

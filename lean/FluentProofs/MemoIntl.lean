import FluentProofs.Memo
/-!
Lemmas for C14, part 2: `IntlMemoizer::get_for_lang` with explicit `Rc`/`Weak` (strong counts, live handles).

Every operation changes at most one allocation.  `MInv.update` says once what such a change must satisfy to keep
the invariant; `Frame` collects what every operation guarantees about the rest of the state (ids only grow, handles
are only appended or cleared, an allocation never changes language and never comes back once freed, a registration
survives as long as a handle to it does).  `Frame` is reflexive and transitive, so it holds of the composite
re-entrant lookup and of whole histories, and the statements about histories are read off `Frame_mrun`.
-/
namespace FluentModel.Memo
set_option linter.unusedSectionVars false

theorem getElem?_set_none_back (hs : List (Option Nat)) (h' h oid : Nat)
    (g : (hs.set h' none)[h]? = some (some oid)) : hs[h]? = some (some oid) := by
  rw [List.getElem?_set] at g
  split at g
  · split at g <;> cases g
  · exact g

/-- number of live handles that point to allocation `oid` -/
def liveCount (hs : List (Option Nat)) (oid : Nat) : Nat := hs.count (some oid)

theorem liveCount_append (hs : List (Option Nat)) (x : Option Nat) (oid : Nat) :
    liveCount (hs ++ [x]) oid = liveCount hs oid + (if x = some oid then 1 else 0) := by
  simp [liveCount, List.count_append, List.count_singleton]

theorem liveCount_set_none (hs : List (Option Nat)) (h : Nat) (oid oid' : Nat)
    (hh : hs[h]? = some (some oid)) :
    liveCount (hs.set h none) oid' = liveCount hs oid' - (if oid = oid' then 1 else 0) := by
  obtain ⟨hlt, hget⟩ := List.getElem?_eq_some_iff.1 hh
  unfold liveCount
  rw [List.count_set hlt, hget]
  by_cases e : oid = oid' <;> simp [e]

theorem liveCount_pos_iff (hs : List (Option Nat)) (oid : Nat) :
    0 < liveCount hs oid ↔ ∃ h : Nat, hs[h]? = some (some oid) := by
  unfold liveCount
  rw [List.count_pos_iff, List.mem_iff_getElem?]

section Intl
variable {σ L τ α ι ε ρ : Type} [DecidableEq L] [DecidableEq τ] [DecidableEq α]

/-- invariant of the `IntlMemoizer` + heap + handles state -/
structure MInv (s : MState σ L τ α ι ε) : Prop where
  /-- a live allocation was handed out before, its strong count is positive and equals the number of live
  handles to it, and its memoizer satisfies the per-memoizer invariant for *its* language -/
  heap_ok : ∀ oid o, aget s.heap oid = some o →
    oid < s.next ∧ 0 < o.strong ∧ o.strong = liveCount s.handles oid ∧ LInv o.lang o.memo
  /-- no dangling handle -/
  handle_ok : ∀ (h oid : Nat), s.handles[h]? = some (some oid) → ∃ o, aget s.heap oid = some o
  /-- a weak table entry for `l` points to an allocation made for `l` (if it is still alive) -/
  table_ok : ∀ l oid, aget s.table l = some oid →
    oid < s.next ∧ ∀ o, aget s.heap oid = some o → o.lang = l

theorem MInv_init (w : σ) : MInv (MState.init w : MState σ L τ α ι ε) := by
  refine ⟨?_, ?_, ?_⟩
  · intro oid o h; simp [MState.init, aget] at h
  · intro h oid hh; simp [MState.init] at hh
  · intro l oid h; simp [MState.init, aget] at h

theorem MInv.liveCount_next {s : MState σ L τ α ι ε} (hi : MInv s) : liveCount s.handles s.next = 0 := by
  rcases Nat.eq_zero_or_pos (liveCount s.handles s.next) with h | h
  · exact h
  · obtain ⟨i, hi'⟩ := (liveCount_pos_iff _ _).1 h
    obtain ⟨o, ho⟩ := hi.handle_ok i _ hi'
    exact absurd (hi.heap_ok _ o ho).1 (Nat.lt_irrefl _)

/-- a change confined to the allocation `oid`, which becomes `v` (`none`: freed) -/
theorem MInv.update {s s' : MState σ L τ α ι ε} (hi : MInv s) (oid : Nat) (v : Option (Obj L τ α ι ε))
    (hheap : ∀ oid', aget s'.heap oid' = if oid' = oid then v else aget s.heap oid')
    (hnext : s.next ≤ s'.next) (hlt : oid < s'.next)
    (hcount : ∀ oid', oid' ≠ oid → liveCount s'.handles oid' = liveCount s.handles oid')
    (htable : ∀ l oid', aget s'.table l = some oid' → oid' = oid ∨ aget s.table l = some oid')
    (hv : match v with
      | some o' => 0 < o'.strong ∧ o'.strong = liveCount s'.handles oid ∧ LInv o'.lang o'.memo ∧
          ∀ l, aget s'.table l = some oid → o'.lang = l
      | none => liveCount s'.handles oid = 0) : MInv s' := by
  have hother : ∀ oid', oid' ≠ oid → aget s'.heap oid' = aget s.heap oid' := fun oid' e => by
    rw [hheap, if_neg e]
  have hself : aget s'.heap oid = v := by rw [hheap, if_pos rfl]
  refine ⟨?_, ?_, ?_⟩
  · intro oid' o' g
    by_cases e : oid' = oid
    · subst e
      rw [hself] at g; subst g
      exact ⟨hlt, hv.1, hv.2.1, hv.2.2.1⟩
    · rw [hother _ e] at g
      obtain ⟨g1, g2, g3, g4⟩ := hi.heap_ok oid' o' g
      exact ⟨Nat.lt_of_lt_of_le g1 hnext, g2, by rw [hcount _ e]; exact g3, g4⟩
  · intro h oid' g
    have hpos := (liveCount_pos_iff _ _).2 ⟨h, g⟩
    by_cases e : oid' = oid
    · subst e
      rw [hself]
      cases v with
      | some o' => exact ⟨o', rfl⟩
      | none => exact absurd hpos (by rw [hv]; exact Nat.lt_irrefl 0)
    · rw [hcount _ e] at hpos
      obtain ⟨h0, g0⟩ := (liveCount_pos_iff _ _).1 hpos
      rw [hother _ e]; exact hi.handle_ok h0 oid' g0
  · intro l oid' g
    by_cases e : oid' = oid
    · subst e
      refine ⟨hlt, fun o' ho' => ?_⟩
      rw [hself] at ho'; subst ho'
      exact hv.2.2.2 l g
    · have g0 := (htable l oid' g).resolve_left e
      rw [hother _ e]
      exact ⟨Nat.lt_of_lt_of_le (hi.table_ok l oid' g0).1 hnext, (hi.table_ok l oid' g0).2⟩

/-- `s'` is a later state than `s`: what operations guarantee about the parts of the state they do not own -/
structure Frame (s s' : MState σ L τ α ι ε) : Prop where
  inv : MInv s → MInv s'
  /-- allocation ids are handed out in increasing order -/
  next_le : s.next ≤ s'.next
  length_le : s.handles.length ≤ s'.handles.length
  /-- handles are append-only / set-to-`none`: a handle that is alive afterwards was alive before, pointing to the
  same allocation -/
  handle_back : ∀ h oid, h < s.handles.length → s'.handles[h]? = some (some oid) → s.handles[h]? = some (some oid)
  /-- an allocation id is never reused and an allocation never changes its language -/
  heap_back : ∀ oid o', oid < s.next → aget s'.heap oid = some o' → ∃ o, aget s.heap oid = some o ∧ o'.lang = o.lang
  /-- while a handle to `oid` is alive, a registration of `oid` for `l` cannot be replaced -/
  reg : MInv s → ∀ h oid l, h < s.handles.length → s'.handles[h]? = some (some oid) →
    aget s.table l = some oid → aget s'.table l = some oid

theorem Frame.refl (s : MState σ L τ α ι ε) : Frame s s :=
  ⟨id, Nat.le_refl _, Nat.le_refl _, fun _ _ _ g => g, fun _ o' _ g => ⟨o', g, rfl⟩, fun _ _ _ _ _ _ g => g⟩

theorem Frame.trans {s s' s'' : MState σ L τ α ι ε} (f : Frame s s') (g : Frame s' s'') : Frame s s'' where
  inv hi := g.inv (f.inv hi)
  next_le := Nat.le_trans f.next_le g.next_le
  length_le := Nat.le_trans f.length_le g.length_le
  handle_back h oid hlt k := f.handle_back h oid hlt (g.handle_back h oid (Nat.lt_of_lt_of_le hlt f.length_le) k)
  heap_back oid o'' hlt k := by
    obtain ⟨o', k', e'⟩ := g.heap_back oid o'' (Nat.lt_of_lt_of_le hlt f.next_le) k
    obtain ⟨o, k0, e⟩ := f.heap_back oid o' hlt k'
    exact ⟨o, k0, e'.trans e⟩
  reg hi h oid l hlt k ht :=
    have hlt' := Nat.lt_of_lt_of_le hlt f.length_le
    g.reg (f.inv hi) h oid l hlt' k (f.reg hi h oid l hlt (g.handle_back h oid hlt' k) ht)

/-- the handle list after a step: unchanged, one handle appended, or one slot cleared -/
def HandlesStep (hs hs' : List (Option Nat)) : Prop :=
  hs' = hs ∨ (∃ x, hs' = hs ++ [x]) ∨ ∃ h, hs' = hs.set h none

theorem HandlesStep.back {hs hs' : List (Option Nat)} (k : HandlesStep hs hs') :
    hs.length ≤ hs'.length ∧
    ∀ h oid, h < hs.length → hs'[h]? = some (some oid) → hs[h]? = some (some oid) := by
  rcases k with rfl | ⟨x, rfl⟩ | ⟨h', rfl⟩
  · exact ⟨Nat.le_refl _, fun _ _ _ g => g⟩
  · exact ⟨by simp, fun h oid hlt g => by rwa [List.getElem?_append_left hlt] at g⟩
  · exact ⟨by simp, fun h oid _ g => getElem?_set_none_back hs h' h oid g⟩

theorem Frame.local {s s' : MState σ L τ α ι ε} (hinv : MInv s → MInv s') (htable : s'.table = s.table)
    (hnext : s'.next = s.next) (hhandles : HandlesStep s.handles s'.handles)
    (hheap : ∀ oid o', aget s'.heap oid = some o' → ∃ o, aget s.heap oid = some o ∧ o'.lang = o.lang) :
    Frame s s' :=
  ⟨hinv, Nat.le_of_eq hnext.symm, hhandles.back.1, hhandles.back.2, fun oid o' _ g => hheap oid o' g,
   fun _ _ _ l _ _ ht => by rw [htable]; exact ht⟩

theorem heap_back_aset (heap : List (Nat × Obj L τ α ι ε)) (oid : Nat) (o o1 : Obj L τ α ι ε)
    (ho : aget heap oid = some o) (hl : o1.lang = o.lang) (oid' : Nat) (o' : Obj L τ α ι ε)
    (g : aget (aset heap oid o1) oid' = some o') : ∃ o, aget heap oid' = some o ∧ o'.lang = o.lang := by
  rw [aget_aset] at g
  split at g
  · subst oid'; cases g; exact ⟨o, ho, hl⟩
  · exact ⟨o', g, rfl⟩

theorem heap_back_aerase (heap : List (Nat × Obj L τ α ι ε)) (oid oid' : Nat) (o' : Obj L τ α ι ε)
    (g : aget (aerase heap oid) oid' = some o') : ∃ o, aget heap oid' = some o ∧ o'.lang = o.lang := by
  rw [aget_aerase] at g
  split at g
  · cases g
  · exact ⟨o', g, rfl⟩

variable (X : Ext σ L τ α ι ε) (s : MState σ L τ α ι ε)

/-- nothing alive is registered for `l` -/
def Unregistered (s : MState σ L τ α ι ε) (l : L) : Prop :=
  aget s.table l = none ∨ ∃ oid, aget s.table l = some oid ∧ aget s.heap oid = none

theorem getStep_alive (l : L) (oid : Nat) (o : Obj L τ α ι ε)
    (ht : aget s.table l = some oid) (hh : aget s.heap oid = some o) :
    getStep (ρ := ρ) s l =
      ({ s with heap := aset s.heap oid { o with strong := o.strong + 1 }
                handles := s.handles ++ [some oid] }, .handle s.handles.length oid) := by
  simp only [getStep, ht, hh]

theorem getStep_fresh (l : L) (hdead : Unregistered s l) :
    getStep (ρ := ρ) s l = allocFresh s l true := by
  rcases hdead with ht | ⟨oid, ht, hh⟩
  · simp only [getStep, ht]
  · simp only [getStep, ht, hh]

theorem registered_or_not (l : L) :
    (∃ oid o, aget s.table l = some oid ∧ aget s.heap oid = some o) ∨ Unregistered s l := by
  cases ht : aget s.table l with
  | none => exact Or.inr (Or.inl ht)
  | some oid =>
    cases hh : aget s.heap oid with
    | none => exact Or.inr (Or.inr ⟨oid, ht, hh⟩)
    | some o => exact Or.inl ⟨oid, o, rfl, hh⟩

theorem handle_cases (h : Nat) :
    (∀ oid, s.handles[h]? ≠ some (some oid)) ∨
    ∃ oid, s.handles[h]? = some (some oid) ∧ (aget s.heap oid = none ∨ ∃ o, aget s.heap oid = some o) := by
  rcases hh : s.handles[h]? with _ | _ | oid
  · exact Or.inl fun _ g => by cases g
  · exact Or.inl fun _ g => by cases g
  · refine Or.inr ⟨oid, rfl, ?_⟩
    cases aget s.heap oid with
    | none => exact Or.inl rfl
    | some o => exact Or.inr ⟨o, rfl⟩

theorem dropStep_dead (h : Nat) (hh : ∀ oid, s.handles[h]? ≠ some (some oid)) :
    dropStep (ρ := ρ) s h = (s, .dead) := by
  unfold dropStep
  split
  · rename_i oid g; exact absurd g (hh oid)
  · rfl

theorem dropStep_dangling (h oid : Nat) (hh : s.handles[h]? = some (some oid))
    (ho : aget s.heap oid = none) :
    dropStep (ρ := ρ) s h = ({ s with handles := s.handles.set h none }, .dangling) := by
  simp only [dropStep, hh, ho]

theorem dropStep_last (h oid : Nat) (o : Obj L τ α ι ε)
    (hh : s.handles[h]? = some (some oid)) (ho : aget s.heap oid = some o) (h1 : o.strong ≤ 1) :
    dropStep (ρ := ρ) s h =
      ({ s with heap := aerase s.heap oid, handles := s.handles.set h none }, .dropped) := by
  simp only [dropStep, hh, ho, h1, if_true]

theorem dropStep_shared (h oid : Nat) (o : Obj L τ α ι ε)
    (hh : s.handles[h]? = some (some oid)) (ho : aget s.heap oid = some o) (h1 : ¬ o.strong ≤ 1) :
    dropStep (ρ := ρ) s h =
      ({ s with heap := aset s.heap oid { o with strong := o.strong - 1 }
                handles := s.handles.set h none }, .dropped) := by
  simp only [dropStep, hh, ho, h1, if_false]

theorem lookupStep_dead (h : Nat) (op : Op σ τ α ι ρ)
    (hh : ∀ oid, s.handles[h]? ≠ some (some oid)) : lookupStep X s h op = (s, .dead) := by
  unfold lookupStep
  split
  · rename_i oid g; exact absurd g (hh oid)
  · rfl

theorem lookupStep_dangling (h : Nat) (op : Op σ τ α ι ρ)
    (oid : Nat) (hh : s.handles[h]? = some (some oid)) (ho : aget s.heap oid = none) :
    lookupStep X s h op = (s, .dangling) := by
  simp only [lookupStep, hh, ho]

theorem lookupStep_live (h : Nat) (op : Op σ τ α ι ρ)
    (oid : Nat) (o : Obj L τ α ι ε) (hh : s.handles[h]? = some (some oid)) (ho : aget s.heap oid = some o) :
    lookupStep X s h op =
      ({ s with heap := aset s.heap oid { o with memo := (withTryGet X o.lang o.memo s.world op).memo }
                world := (withTryGet X o.lang o.memo s.world op).world },
       .res (withTryGet X o.lang o.memo s.world op).out (withTryGet X o.lang o.memo s.world op).ev) := by
  simp only [lookupStep, hh, ho]

theorem lookupReenter_cases (h : Nat) (op : Op σ τ α ι ρ) :
    mstep X s (.lookupReenter h op) = mstep X s (.lookup h op) ∨
    ∃ out ev same, (mstep X s (.lookup h op)).2 = .res out ev ∧
      (mstep X s (.lookupReenter h op)).2 = .resReenter out ev same ∧
      ((mstep X s (.lookupReenter h op)).1 = (mstep X s (.lookup h op)).1 ∨
       ∃ l oid, (mstep X s (.lookupReenter h op)).1 = (reenterStep ρ (mstep X s (.lookup h op)).1 l oid).1) := by
  rcases handle_cases s h with hh | ⟨oid, hh, ho | ⟨o, ho⟩⟩
  · left
    rw [show mstep X s (.lookup h op) = lookupStep X s h op from rfl, lookupStep_dead X s h op hh]
    simp only [mstep]
  · left
    simp only [mstep, lookupStep, hh, ho]
  · right
    simp only [mstep, lookupStep, hh, ho]
    cases (withTryGet X o.lang o.memo s.world op).out with
    | err e => exact ⟨_, _, _, rfl, rfl, Or.inl rfl⟩
    | ok r => exact ⟨_, _, _, rfl, rfl, Or.inr ⟨o.lang, oid, rfl⟩⟩

theorem Frame_allocFresh (l : L) (reg : Bool) (hd : reg = true → Unregistered s l) :
    Frame s (allocFresh (ρ := ρ) s l reg).1 := by
  have htable : ∀ l' oid', aget (allocFresh (ρ := ρ) s l reg).1.table l' = some oid' →
      (l' = l ∧ oid' = s.next) ∨ aget s.table l' = some oid' := by
    intro l' oid' g
    cases reg with
    | false => exact Or.inr g
    | true =>
      simp only [allocFresh, if_true, aget_aset] at g
      split at g
      · exact Or.inl ⟨‹_›, (Option.some.inj g).symm⟩
      · exact Or.inr g
  have hb : HandlesStep s.handles (allocFresh (ρ := ρ) s l reg).1.handles := Or.inr (Or.inl ⟨some s.next, rfl⟩)
  refine ⟨fun hi => ?_, Nat.le_succ _, hb.back.1, hb.back.2, ?_, ?_⟩
  · refine hi.update s.next _ (fun oid' => aget_aset _ _ _ _) (Nat.le_succ _) (Nat.lt_succ_self _) ?_ ?_ ?_
    · intro oid' e
      have : ¬ some s.next = some oid' := fun k => e (Option.some.inj k).symm
      simp [allocFresh, liveCount_append, this]
    · exact fun l' oid' g => (htable l' oid' g).imp (·.2) id
    · refine ⟨Nat.one_pos, ?_, LInv_empty l, fun l' g => ?_⟩
      · simp [allocFresh, liveCount_append, hi.liveCount_next]
      · rcases htable l' _ g with ⟨e, _⟩ | g
        · exact e.symm
        · exact absurd (hi.table_ok l' _ g).1 (Nat.lt_irrefl _)
  · intro oid o' hlt g
    rw [show (allocFresh (ρ := ρ) s l reg).1.heap = aset s.heap s.next _ from rfl, aget_aset,
      if_neg (Nat.ne_of_lt hlt)] at g
    exact ⟨o', g, rfl⟩
  · intro hi h oid l' hlt g ht
    have g0 := hb.back.2 h oid hlt g
    obtain ⟨o, ho⟩ := hi.handle_ok h oid g0
    cases reg with
    | false => exact ht
    | true =>
      simp only [allocFresh, if_true, aget_aset]
      split
      · -- `l' = l`: then `oid`, alive, would be registered for `l`
        subst l'
        rcases hd rfl with k | ⟨oid1, k, k1⟩
        · rw [ht] at k; cases k
        · rw [ht] at k; cases k; rw [ho] at k1; cases k1
      · exact ht

theorem Frame_getStep (l : L) : Frame s (getStep (ρ := ρ) s l).1 := by
  rcases registered_or_not s l with ⟨oid, o, ht, ho⟩ | hd
  · rw [getStep_alive s l oid o ht ho]
    refine Frame.local (fun hi => ?_) rfl rfl (Or.inr (Or.inl ⟨_, rfl⟩)) (heap_back_aset _ oid o _ ho rfl)
    obtain ⟨h1, _, h3, h4⟩ := hi.heap_ok oid o ho
    refine hi.update oid _ (fun oid' => aget_aset _ _ _ _) (Nat.le_refl _) h1 ?_ (fun _ _ g => Or.inr g)
      ⟨Nat.succ_pos _, ?_, h4, fun l' g => (hi.table_ok l' oid g).2 o ho⟩
    · intro oid' e
      have : ¬ some oid = some oid' := fun k => e (Option.some.inj k).symm
      simp [liveCount_append, this]
    · simp [liveCount_append, h3]
  · rw [getStep_fresh s l hd]
    exact Frame_allocFresh s l true fun _ => hd

theorem Frame_dropStep (h : Nat) : Frame s (dropStep (ρ := ρ) s h).1 := by
  rcases handle_cases s h with hh | ⟨oid, hh, ho | ⟨o, ho⟩⟩
  · rw [dropStep_dead s h hh]; exact Frame.refl s
  · rw [dropStep_dangling s h oid hh ho]
    refine Frame.local (fun hi => ?_) rfl rfl (Or.inr (Or.inr ⟨h, rfl⟩)) (fun _ o' g => ⟨o', g, rfl⟩)
    obtain ⟨o, k⟩ := hi.handle_ok h oid hh
    rw [ho] at k; cases k
  · have hcount : ∀ oid', oid' ≠ oid → liveCount (s.handles.set h none) oid' = liveCount s.handles oid' := by
      intro oid' e
      rw [liveCount_set_none _ _ _ _ hh, if_neg (Ne.symm e)]; rfl
    by_cases h1 : o.strong ≤ 1
    · rw [dropStep_last s h oid o hh ho h1]
      refine Frame.local (fun hi => ?_) rfl rfl (Or.inr (Or.inr ⟨h, rfl⟩)) (heap_back_aerase _ oid)
      obtain ⟨g1, _, g3, _⟩ := hi.heap_ok oid o ho
      refine hi.update oid none (fun oid' => aget_aerase _ _ _) (Nat.le_refl _) g1 hcount
        (fun _ _ g => Or.inr g) ?_
      -- the last handle is gone
      show liveCount (s.handles.set h none) oid = 0
      rw [liveCount_set_none _ _ _ _ hh, if_pos rfl, ← g3]; omega
    · rw [dropStep_shared s h oid o hh ho h1]
      refine Frame.local (fun hi => ?_) rfl rfl (Or.inr (Or.inr ⟨h, rfl⟩)) (heap_back_aset _ oid o _ ho rfl)
      obtain ⟨g1, _, g3, g4⟩ := hi.heap_ok oid o ho
      refine hi.update oid _ (fun oid' => aget_aset _ _ _ _) (Nat.le_refl _) g1 hcount (fun _ _ g => Or.inr g)
        ⟨by show 0 < o.strong - 1; omega, ?_, g4, fun l' g => (hi.table_ok l' oid g).2 o ho⟩
      show o.strong - 1 = liveCount (s.handles.set h none) oid
      rw [liveCount_set_none _ _ _ _ hh, if_pos rfl, g3]

theorem Frame_lookupStep (h : Nat) (op : Op σ τ α ι ρ) :
    Frame s (lookupStep X s h op).1 := by
  rcases handle_cases s h with hh | ⟨oid, hh, ho | ⟨o, ho⟩⟩
  · rw [lookupStep_dead X s h op hh]; exact Frame.refl s
  · rw [lookupStep_dangling X s h op oid hh ho]; exact Frame.refl s
  · rw [lookupStep_live X s h op oid o hh ho]
    refine Frame.local (fun hi => ?_) rfl rfl (Or.inl rfl) (heap_back_aset _ oid o _ ho rfl)
    obtain ⟨g1, g2, g3, g4⟩ := hi.heap_ok oid o ho
    exact hi.update oid _ (fun oid' => aget_aset _ _ _ _) (Nat.le_refl _) g1 (fun _ _ => rfl)
      (fun _ _ g => Or.inr g)
      ⟨g2, g3, LInv_step X o.lang o.memo s.world op g4, fun l' g => (hi.table_ok l' oid g).2 o ho⟩

theorem getStep_handles (l : L) :
    ∃ oid, (getStep (ρ := ρ) s l).2 = .handle s.handles.length oid ∧
      (getStep (ρ := ρ) s l).1.handles = s.handles ++ [some oid] := by
  rcases registered_or_not s l with ⟨oid, o, ht, ho⟩ | hd
  · rw [getStep_alive s l oid o ht ho]; exact ⟨oid, rfl, rfl⟩
  · rw [getStep_fresh s l hd]; exact ⟨s.next, rfl, rfl⟩

theorem dropStep_handles (h oid : Nat) (hh : s.handles[h]? = some (some oid)) :
    (dropStep (ρ := ρ) s h).1.handles = s.handles.set h none := by
  cases ho : aget s.heap oid with
  | none => rw [dropStep_dangling s h oid hh ho]
  | some o =>
    by_cases h1 : o.strong ≤ 1
    · rw [dropStep_last s h oid o hh ho h1]
    · rw [dropStep_shared s h oid o hh ho h1]

theorem Frame.restore {s d : MState σ L τ α ι ε} (f : Frame s d) (hh : d.handles = s.handles ++ [none]) :
    Frame s { d with handles := s.handles } := by
  have hget : ∀ h, h < s.handles.length → d.handles[h]? = s.handles[h]? :=
    fun h hlt => by rw [hh, List.getElem?_append_left hlt]
  refine ⟨fun hi => ?_, f.next_le, Nat.le_refl _, fun _ _ _ g => g, f.heap_back, fun hi h oid l hlt g ht =>
    f.reg hi h oid l hlt (by rw [hget h hlt]; exact g) ht⟩
  have hd := f.inv hi
  refine ⟨fun oid o g => ?_, fun h oid g => ?_, hd.table_ok⟩
  · obtain ⟨h1, h2, h3, h4⟩ := hd.heap_ok oid o g
    exact ⟨h1, h2, by rw [h3, hh, liveCount_append]; exact Nat.add_zero _, h4⟩
  · exact hd.handle_ok h oid (by rw [hget h (List.getElem?_eq_some_iff.1 g).1]; exact g)

theorem Frame_reenterStep (ρ : Type) (s : MState σ L τ α ι ε) (l : L) (oid : Nat) :
    Frame s (reenterStep ρ s l oid).1 := by
  obtain ⟨x, _, hG⟩ := getStep_handles (ρ := ρ) s l
  refine ((Frame_getStep (ρ := ρ) s l).trans (Frame_dropStep (ρ := ρ) _ s.handles.length)).restore ?_
  rw [dropStep_handles (ρ := ρ) _ s.handles.length x (by rw [hG, List.getElem?_concat_length]), hG,
    List.set_append_right _ _ (Nat.le_refl _), Nat.sub_self]
  rfl

theorem Frame_mstep (op : MOp σ L τ α ι ρ) :
    Frame s (mstep X s op).1 := by
  cases op with
  | getForLang l => exact Frame_getStep s l
  | newLang l => exact Frame_allocFresh s l false (fun e => by cases e)
  | drop h => exact Frame_dropStep s h
  | lookup h op' => exact Frame_lookupStep X s h op'
  | lookupReenter h op' =>
    have f : Frame s (mstep X s (.lookup h op')).1 := Frame_lookupStep X s h op'
    rcases lookupReenter_cases X s h op' with e | ⟨_, _, _, _, _, e | ⟨l, oid, e⟩⟩
    · rw [e]; exact f
    · rw [e]; exact f
    · rw [e]; exact f.trans (Frame_reenterStep ρ _ l oid)

theorem Frame_mrun (X : Ext σ L τ α ι ε) (ops : List (MOp σ L τ α ι ρ)) (s : MState σ L τ α ι ε) :
    Frame s (mrun X ops s).2 := by
  induction ops generalizing s with
  | nil => exact Frame.refl s
  | cons op rest ih => exact (Frame_mstep X s op).trans (ih _)

theorem MInv_step (op : MOp σ L τ α ι ρ) (hi : MInv s) :
    MInv (mstep X s op).1 :=
  (Frame_mstep X s op).inv hi

theorem MInv_run (X : Ext σ L τ α ι ε) (ops : List (MOp σ L τ α ι ρ)) (s : MState σ L τ α ι ε)
    (hi : MInv s) : MInv (mrun X ops s).2 :=
  (Frame_mrun X ops s).inv hi

theorem mrun_obs (X : Ext σ L τ α ι ε) (ops : List (MOp σ L τ α ι ρ)) (s : MState σ L τ α ι ε)
    (o : MObs L τ α ι ε ρ) (hm : o ∈ (mrun X ops s).1) :
    ∃ s₁ op, Frame s s₁ ∧ o = (mstep X s₁ op).2 ∧ Frame (mstep X s₁ op).1 (mrun X ops s).2 := by
  induction ops generalizing s with
  | nil => cases hm
  | cons op rest ih =>
    rcases List.mem_cons.1 hm with e | hm
    · exact ⟨s, op, Frame.refl s, e, Frame_mrun X rest _⟩
    · obtain ⟨s₁, op₁, f, e, g⟩ := ih _ hm
      exact ⟨s₁, op₁, (Frame_mstep X s op).trans f, e, g⟩

theorem allocFresh_spec (l : L) (reg : Bool) :
    (allocFresh (ρ := ρ) s l reg).2 = .handle s.handles.length s.next ∧
    (allocFresh (ρ := ρ) s l reg).1.handles = s.handles ++ [some s.next] ∧
    aget (allocFresh (ρ := ρ) s l reg).1.heap s.next = some { lang := l, strong := 1, memo := LMemo.empty } ∧
    (allocFresh (ρ := ρ) s l reg).1.next = s.next + 1 ∧
    (reg = true → aget (allocFresh (ρ := ρ) s l reg).1.table l = some s.next) := by
  refine ⟨rfl, rfl, ?_, rfl, ?_⟩
  · simp [allocFresh, aget_aset]
  · intro hr; simp [allocFresh, hr, aget_aset]

theorem getForLang_result (l : L) (hi : MInv s) :
    ∃ oid o, (mstep (ρ := ρ) X s (.getForLang l)).2 = .handle s.handles.length oid ∧
      (mstep (ρ := ρ) X s (.getForLang l)).1.handles = s.handles ++ [some oid] ∧
      aget (mstep (ρ := ρ) X s (.getForLang l)).1.table l = some oid ∧
      aget (mstep (ρ := ρ) X s (.getForLang l)).1.heap oid = some o ∧ o.lang = l := by
  show ∃ oid o, (getStep (ρ := ρ) s l).2 = _ ∧ (getStep (ρ := ρ) s l).1.handles = _ ∧
    aget (getStep (ρ := ρ) s l).1.table l = _ ∧ aget (getStep (ρ := ρ) s l).1.heap oid = _ ∧ _
  rcases registered_or_not s l with ⟨oid, o, ht, ho⟩ | hd
  · rw [getStep_alive s l oid o ht ho]
    exact ⟨oid, { o with strong := o.strong + 1 }, rfl, rfl, ht, by simp only [aget_aset, if_true],
      (hi.table_ok l oid ht).2 o ho⟩
  · rw [getStep_fresh s l hd]
    obtain ⟨h1, h2, h3, _, h5⟩ := allocFresh_spec (ρ := ρ) s l true
    exact ⟨s.next, _, h1, h2, h5 rfl, h3, rfl⟩

theorem mstep_obs (op : MOp σ L τ α ι ρ) (hi : MInv s) :
    (mstep X s op).2 ≠ .dangling ∧ ∀ h oid, (mstep X s op).2 = .handle h oid → oid < (mstep X s op).1.next := by
  have hlookup : ∀ h (op' : Op σ τ α ι ρ), (mstep X s (.lookup h op')).2 = .dead ∨
      ∃ out ev, (mstep X s (.lookup h op')).2 = .res out ev := by
    intro h op'
    rcases handle_cases s h with hh | ⟨oid, hh, ho | ⟨o, ho⟩⟩
    · exact Or.inl (by rw [show mstep X s (.lookup h op') = _ from lookupStep_dead X s h op' hh])
    · obtain ⟨o, k⟩ := hi.handle_ok h oid hh
      rw [ho] at k; cases k
    · exact Or.inr ⟨_, _, by rw [show mstep X s (.lookup h op') = _ from lookupStep_live X s h op' oid o hh ho]⟩
  cases op with
  | getForLang l =>
    obtain ⟨oid, o, e, _, _, ho, _⟩ := getForLang_result (ρ := ρ) X s l hi
    rw [e]
    refine ⟨nofun, fun h oid' k => ?_⟩
    cases k
    exact ((MInv_step X s (.getForLang l : MOp σ L τ α ι ρ) hi).heap_ok oid o ho).1
  | newLang l =>
    refine ⟨nofun, fun h oid' k => ?_⟩
    cases k
    exact Nat.lt_succ_self _
  | drop h =>
    have : (mstep (ρ := ρ) X s (.drop h)).2 = .dead ∨ (mstep (ρ := ρ) X s (.drop h)).2 = .dropped := by
      rcases handle_cases s h with hh | ⟨oid, hh, ho | ⟨o, ho⟩⟩
      · exact Or.inl (by rw [show mstep (ρ := ρ) X s (.drop h) = _ from dropStep_dead s h hh])
      · obtain ⟨o, k⟩ := hi.handle_ok h oid hh
        rw [ho] at k; cases k
      · by_cases h1 : o.strong ≤ 1
        · exact Or.inr (by rw [show mstep (ρ := ρ) X s (.drop h) = _ from dropStep_last s h oid o hh ho h1])
        · exact Or.inr (by rw [show mstep (ρ := ρ) X s (.drop h) = _ from dropStep_shared s h oid o hh ho h1])
    rcases this with e | e <;> rw [e] <;> exact ⟨nofun, nofun⟩
  | lookup h op' =>
    rcases hlookup h op' with e | ⟨_, _, e⟩ <;> rw [e] <;> exact ⟨nofun, nofun⟩
  | lookupReenter h op' =>
    rcases lookupReenter_cases X s h op' with e | ⟨_, _, _, _, e, _⟩
    · rw [e]
      rcases hlookup h op' with e | ⟨_, _, e⟩ <;> rw [e] <;>
        exact ⟨nofun, nofun⟩
    · rw [e]; exact ⟨nofun, nofun⟩

theorem no_dangling_run (X : Ext σ L τ α ι ε) (ops : List (MOp σ L τ α ι ρ)) (s : MState σ L τ α ι ε)
    (hi : MInv s) : MObs.dangling ∉ (mrun X ops s).1 := by
  intro hm
  obtain ⟨s₁, op, f, e, _⟩ := mrun_obs X ops s _ hm
  exact (mstep_obs X s₁ op (f.inv hi)).1 e.symm

theorem handed_out_lt_next (X : Ext σ L τ α ι ε) (ops : List (MOp σ L τ α ι ρ)) (s : MState σ L τ α ι ε)
    (hi : MInv s) (h oid : Nat) (hm : MObs.handle h oid ∈ (mrun X ops s).1) :
    oid < (mrun X ops s).2.next := by
  obtain ⟨s₁, op, f, e, g⟩ := mrun_obs X ops s _ hm
  exact Nat.lt_of_lt_of_le ((mstep_obs X s₁ op (f.inv hi)).2 h oid e.symm) g.next_le

theorem shared_while_alive (X : Ext σ L τ α ι ε) (mid : List (MOp σ L τ α ι ρ)) (s : MState σ L τ α ι ε)
    (hi : MInv s) (h oid : Nat) (l : L) (hlt : h < s.handles.length)
    (hreg : s.handles[h]? = some (some oid) → aget s.table l = some oid)
    (halive : (mrun X mid s).2.handles[h]? = some (some oid)) :
    aget (mrun X mid s).2.table l = some oid ∧ ∃ o, aget (mrun X mid s).2.heap oid = some o :=
  have f := Frame_mrun X mid s
  ⟨f.reg hi h oid l hlt halive (hreg (f.handle_back h oid hlt halive)), (f.inv hi).handle_ok h oid halive⟩

theorem lookup_isolated (h : Nat) (op : Op σ τ α ι ρ) :
    (mstep X s (.lookup h op)).1.table = s.table ∧ (mstep X s (.lookup h op)).1.handles = s.handles ∧
    (mstep X s (.lookup h op)).1.next = s.next ∧
    ∀ oid, s.handles[h]? = some (some oid) → ∀ oid', oid' ≠ oid →
      aget (mstep X s (.lookup h op)).1.heap oid' = aget s.heap oid' := by
  show (lookupStep X s h op).1.table = _ ∧ (lookupStep X s h op).1.handles = _ ∧ (lookupStep X s h op).1.next = _ ∧
    ∀ oid, _ → ∀ oid', _ → aget (lookupStep X s h op).1.heap oid' = _
  rcases handle_cases s h with hh | ⟨oid, hh, ho | ⟨o, ho⟩⟩
  · rw [lookupStep_dead X s h op hh]; exact ⟨rfl, rfl, rfl, fun _ _ _ _ => rfl⟩
  · rw [lookupStep_dangling X s h op oid hh ho]; exact ⟨rfl, rfl, rfl, fun _ _ _ _ => rfl⟩
  · rw [lookupStep_live X s h op oid o hh ho]
    refine ⟨rfl, rfl, rfl, fun oid1 h1 oid' hne => ?_⟩
    rw [hh] at h1; cases h1
    simp [aget_aset, hne]

theorem drop_spec (h : Nat) :
    (mstep (ρ := ρ) X s (.drop h)).1.table = s.table ∧ (mstep (ρ := ρ) X s (.drop h)).1.next = s.next ∧
    (MInv s → ∀ oid, s.handles[h]? = some (some oid) → liveCount s.handles oid = 1 →
      aget (mstep (ρ := ρ) X s (.drop h)).1.heap oid = none) := by
  show (dropStep (ρ := ρ) s h).1.table = _ ∧ (dropStep (ρ := ρ) s h).1.next = _ ∧
    (_ → ∀ oid, _ → _ → aget (dropStep (ρ := ρ) s h).1.heap oid = none)
  rcases handle_cases s h with hh | ⟨oid, hh, ho | ⟨o, ho⟩⟩
  · rw [dropStep_dead s h hh]; exact ⟨rfl, rfl, fun _ oid k => absurd k (hh oid)⟩
  · rw [dropStep_dangling s h oid hh ho]
    exact ⟨rfl, rfl, fun _ oid1 k _ => by rw [hh] at k; cases k; exact ho⟩
  · by_cases h1 : o.strong ≤ 1
    · rw [dropStep_last s h oid o hh ho h1]
      exact ⟨rfl, rfl, fun _ oid1 k _ => by rw [hh] at k; cases k; simp [aget_aerase]⟩
    · rw [dropStep_shared s h oid o hh ho h1]
      refine ⟨rfl, rfl, fun hi oid1 k hone => ?_⟩
      rw [hh] at k; cases k
      have := (hi.heap_ok oid o ho).2.2.1
      omega

end Intl
end FluentModel.Memo

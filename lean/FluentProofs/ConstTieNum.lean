import FluentModel.Generated
import FluentModel.Plural
/-!
# Constant tie for the number and plural models (C12)

`tools/extract_consts.py` regenerates `FluentModel/Generated.lean` from the Rust source on every run.
The theorems here compare the extracted values with what the hand-written models hold as literals: the
keyword table of `Plural.categoryOfKeyword` and the clamp `Num.maxFractionDigits`.
`number_options_from_source` compares the extracted option names and kinds of `FluentNumberOptions::merge`
with two lists written in its statement; no model function occurs in it.  `Props/C12.lean` imports this
file, so a change of one of these constants in the Rust source fails its build (in addition to whatever the
correspondence check observes).
-/
namespace FluentProofs.ConstTie
open FluentModel FluentModel.Generated

/-- C12: the plural keywords and the category each denotes, for `Plural.categoryOfKeyword` (the resolver model has a
`categoryOfKeyword` of its own, tied in `ConstTieResolver`) -/
theorem plural_keywords_from_source_num :
    pluralKeywords.map (fun kc => (Plural.categoryOfKeyword (strBytes kc.1)).map Plural.Category.name)
      = pluralKeywords.map (fun kc => some kc.2) := by decide +kernel

/-- C12: the option names of `FluentNumberOptions::merge` and the kind of value each expects, as extracted, are
the ten that the arms of the model's `Plural.mergeOption` were written for.  The two lists are typed here:
`mergeOption` does not occur, so the theorem fails when the Rust list changes, not when the model's arms do. -/
theorem number_options_from_source :
    numberOptions.map (·.1) = ["type", "style", "currency", "currencyDisplay", "useGrouping", "minimumIntegerDigits",
      "minimumFractionDigits", "maximumFractionDigits", "minimumSignificantDigits", "maximumSignificantDigits"] ∧
    numberOptions.map (·.2) = ["String", "String", "String", "String", "String", "Number", "Number", "Number", "Number",
      "Number"] := by decide +kernel

/-- C12: the clamp of `minimumFractionDigits` -/
theorem max_fraction_digits_from_source : Num.maxFractionDigits = maxFractionDigits := rfl

end FluentProofs.ConstTie

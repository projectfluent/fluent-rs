import FluentProofs.ParserLocalPreExpr
import FluentProofs.ParserLocalSimLeaf
/-!
# Locality of the parser, SIMULATION family, part 3: the eight mutually recursive functions

`SSpecs N s₁ s₂ f`: under `Sim N s₁ s₂`, each of the eight mutually recursive functions, started at `p ≤ N` with the
same arguments and the same fuel `f` on both sources, returns the same outcome with a cursor `≤ N`, or — only if `N`
holds an entry head, not a `#` — both outcomes lie behind `N` (`SimR`).  `getInline` started at `N` itself gets behind `N`
at an entry head (`inline_past_real`) and fails at `N` at a `#` (`inline_hash`).
-/
namespace FluentProofs.Parser
open FluentModel.Syntax

/-- closes `P (match r with | .ok a q => .ok (g a) q | .err e q => .err e q | …)` from `h : P r` -/
macro "tail_close" h:ident : tactic =>
  `(tactic| (split <;> rename_i hx <;> rw [hx] at $h:ident <;> exact $h))

/-- a `-` at `N` is not followed by `>` (it starts an entry head) -/
theorem TailB.no_arrow {s : Src} {N : Nat} (h : TailB s N) (h45 : s[N]? = some 45) : s[N + 1]? ≠ some 62 := by
  rcases h with h | ⟨E, hb⟩
  · rw [h] at h45; exact absurd h45 (by decide)
  · intro h62
    by_cases hE : N + 1 < E
    · obtain ⟨b, hb1, hb2⟩ := hb.head (N + 1) (by omega) hE
      rw [hb1] at h62; cases h62; revert hb2; decide
    · have hE' : E = N + 1 := by have := hb.lt; omega
      have := hb.eq
      rw [hE', h62] at this
      exact absurd this (by decide)

theorem inline_hash {s : Src} {N f : Nat} {ol : Bool} (hb : s[N]? = some 35) :
    getInline s (f + 1) ol N =
      if ol = true then .err (mkErr .expectedLiteral N) N else .err (mkErr .expectedInlineExpression N) N := by
  rw [getInline_unfold, hb]
  simp only []
  rw [if_neg (by decide), if_neg (by decide), if_neg (by decide), if_neg (fun c => absurd c.1 (by decide)),
    if_neg (by decide), if_neg (fun c => absurd c.1 (by decide))]
  cases ol <;> rfl

theorem inline_past_real {s : Src} {N f : Nat} {ol : Bool} {b : UInt8} (hb : s[N]? = some b) (hr : isReal b = true) :
    Past N (getInline s (f + 1) ol N) := by
  obtain ⟨f34, fdig, f36, hcase⟩ := real_byte_facts b hr
  refine CurGe.past (p := N + 1) ?_ (Nat.lt_succ_self N)
  rw [getInline_unfold, hb]
  simp only []
  rw [if_neg f34, if_neg fdig]
  rcases hcase with ⟨ha, h45⟩ | rfl
  · rw [if_neg h45, if_neg (fun c => f36 c.1), if_pos ha]
    exact inlineRef_ge s f N
  · rw [if_pos rfl]
    exact CurGe.ite ((inlineTerm_ge s f N).weaken (Nat.le_succ _)) (inlineNum_minus s hb)

section
variable {N : Nat} {s₁ s₂ : Src}

structure SSpecs (N : Nat) (s₁ s₂ : Src) (f : Nat) : Prop where
  patternLoop : ∀ st p, p ≤ N → (p = N → st.role = .lineStart) → PSn N st →
    SimR N (Hash s₁ N) (getPatternLoop s₁ f st p) (getPatternLoop s₂ f st p) ∧
      ∀ st' q, getPatternLoop s₁ f st p = .ok st' q → q ≤ N → PSn N st'
  pattern : ∀ p, p < N → SimR N (Hash s₁ N) (getPattern s₁ f p) (getPattern s₂ f p)
  placeable : ∀ p, p ≤ N → SimR N (Hash s₁ N) (getPlaceable s₁ f p) (getPlaceable s₂ f p)
  expression : ∀ p, p ≤ N → SimR N (Hash s₁ N) (getExpression s₁ f p) (getExpression s₂ f p)
  inline : ∀ ol p, p ≤ N → SimR N (Hash s₁ N) (getInline s₁ f ol p) (getInline s₂ f ol p)
  callArguments : ∀ p, p ≤ N → SimR N (Hash s₁ N) (getCallArguments s₁ f p) (getCallArguments s₂ f p)
  callArgsLoop : ∀ pos named p, p ≤ N → (∀ na ∈ named, na.1.stop ≤ N) →
    SimR N (Hash s₁ N) (getCallArgsLoop s₁ f pos named p) (getCallArgsLoop s₂ f pos named p)
  variants : ∀ hd acc p, p ≤ N → SimR N (Hash s₁ N) (getVariants s₁ f hd acc p) (getVariants s₂ f hd acc p)

theorem Sim.takeByteIf_le (h : Sim N s₁ s₂) {p : Nat} (hp : p ≤ N) {c : UInt8} (hc : wallByte c = false) :
    (takeByteIf s₁ p c).1 ≤ N := by
  rcases takeByteIf_cases s₁ p c with ⟨ht, hb⟩ | ⟨ht, _⟩ <;> rw [ht] <;> simp only []
  · have := h.lt_of_byte hp hb hc
    omega
  · exact hp

theorem Sim.argSep_le (h : Sim N s₁ s₂) {q : Nat} (hq : q ≤ N) : argSep s₁ q ≤ N :=
  h.skipBlank_le (h.takeByteIf_le (h.skipBlank_le hq) (c := 44) (by decide))

theorem argSep_sim (h : Sim N s₁ s₂) {q : Nat} (hq : q ≤ N) : argSep s₂ q = argSep s₁ q := by
  have h1 := h.skipBlank_le hq
  unfold argSep
  rw [skipBlank_sim h hq, takeByteIf_sim h h1, skipBlank_sim h (h.takeByteIf_le h1 (by decide))]

theorem Sim.arrow (h : Sim N s₁ s₂) {q : Nat} (hq : q ≤ N) :
    ((s₂[q]? = some 45 ∧ s₂[q + 1]? = some 62) ↔ (s₁[q]? = some 45 ∧ s₁[q + 1]? = some 62)) ∧
      (s₁[q]? = some 45 ∧ s₁[q + 1]? = some 62 → q + 2 ≤ N) := by
  by_cases hlt : q < N
  · rw [h.get q hq, h.get (q + 1) hlt]
    exact ⟨Iff.rfl, fun hc => h.lt_of_byte hlt hc.2 (by decide)⟩
  · obtain rfl : q = N := by omega
    have n1 : ¬ (s₁[q]? = some 45 ∧ s₁[q + 1]? = some 62) := fun hc => h.t₁.no_arrow hc.1 hc.2
    have n2 : ¬ (s₂[q]? = some 45 ∧ s₂[q + 1]? = some 62) := fun hc => h.t₂.no_arrow hc.1 hc.2
    exact ⟨⟨fun hc => absurd hc n2, fun hc => absurd hc n1⟩, fun hc => absurd hc n1⟩

theorem placeable_sstep (h : Sim N s₁ s₂) {f : Nat} (IH : SSpecs N s₁ s₂ f) (p : Nat) (hp : p ≤ N) :
    SimR N (Hash s₁ N) (getPlaceable s₁ (f + 1) p) (getPlaceable s₂ (f + 1) p) := by
  rw [getPlaceable_unfold, getPlaceable_unfold, skipBlank_sim h hp]
  refine (IH.expression _ (h.skipBlank_le hp)).bind (fun exp q _ hq => ?_) (fun _ q => ?_) (fun _ q => ?_)
  · rw [skipBlankInline_sim h hq]
    refine (expectByte_simR h (h.skipBlankInline_le hq) (by decide)).bind (fun _ q2 _ hq2 => ?_)
      (fun _ q2 => CurGe.ite (Nat.le_refl q2) (Nat.le_refl q2)) (fun _ q2 => CurGe.ite (Nat.le_refl q2) (Nat.le_refl q2))
    exact SimR.refl_of _ (Or.inl (CurLe.ite hq2 hq2))
  all_goals
    exact ((expectByte_ge _ _ 125).weaken (skipBlankInline_after _ q).le).seq fun _ q2 =>
      CurGe.ite (Nat.le_refl q2) (Nat.le_refl q2)

theorem exprTail_sim (h : Sim N s₁ s₂) {f : Nat} (IH : SSpecs N s₁ s₂ f) (exp : Inline Span) {q : Nat} (hq : q ≤ N) :
    SimR N (Hash s₁ N) (exprTail s₁ f exp q) (exprTail s₂ f exp q) := by
  obtain ⟨hiff, hlt⟩ := h.arrow hq
  unfold exprTail
  by_cases hc : s₁[q]? = some 45 ∧ s₁[q + 1]? = some 62
  · rw [if_pos hc, if_pos (hiff.mpr hc)]
    have h2 := hlt hc
    cases selectorError exp with
    | some k => exact SimR.of_eq rfl hq
    | none =>
      simp only []
      have h4 := h.skipBlankInline_le h2
      rw [skipBlankInline_sim h h2, skipEol_sim h h4]
      cases he : skipEol s₁ (skipBlankInline s₁ (q + 2)) with
      | none => exact SimR.of_eq rfl h4
      | some q3 =>
        simp only []
        have h5 := h.skipEol_le h4 he
        rw [skipBlank_sim h h5]
        exact (IH.variants false [] _ (h.skipBlank_le h5)).bind_ok _
  · rw [if_neg hc, if_neg (fun c => hc (hiff.mp c))]
    exact SimR.refl_of _ (Or.inl (by split <;> exact hq))

theorem expression_sstep (h : Sim N s₁ s₂) {f : Nat} (IH : SSpecs N s₁ s₂ f) (p : Nat) (hp : p ≤ N) :
    SimR N (Hash s₁ N) (getExpression s₁ (f + 1) p) (getExpression s₂ (f + 1) p) := by
  rw [getExpression_unfold, getExpression_unfold]
  refine (IH.inline false p hp).bind (fun exp q _ hq => ?_)
    (fun exp q => (exprTail_ge s₁ f exp _).weaken (skipBlank_after s₁ q).le)
    (fun exp q => (exprTail_ge s₂ f exp _).weaken (skipBlank_after s₂ q).le)
  rw [skipBlank_sim h hq]
  exact exprTail_sim h IH exp (h.skipBlank_le hq)

theorem callArguments_sstep (h : Sim N s₁ s₂) {f : Nat} (IH : SSpecs N s₁ s₂ f) (p : Nat) (hp : p ≤ N) :
    SimR N (Hash s₁ N) (getCallArguments s₁ (f + 1) p) (getCallArguments s₂ (f + 1) p) := by
  have h1 := h.skipBlank_le hp
  rw [getCallArguments_unfold, getCallArguments_unfold, skipBlank_sim h hp, h.get _ h1]
  by_cases hb : s₁[skipBlank s₁ p]? = some 40
  · rw [if_pos hb, if_pos hb]
    have h2 := h.lt_of_byte h1 hb (by decide)
    rw [skipBlank_sim h h2]
    refine (IH.callArgsLoop [] [] _ (h.skipBlank_le h2) (by simp)).bind
      (fun r q _ hq => (expectByte_simR h hq (by decide)).bind_ok _)
      (fun _ q => (expectByte_ge s₁ q 41).seq fun _ q1 => Nat.le_refl q1)
      (fun _ q => (expectByte_ge s₂ q 41).seq fun _ q1 => Nat.le_refl q1)
  · rw [if_neg hb, if_neg hb]
    exact SimR.of_eq rfl h1

theorem argTail_sim (h : Sim N s₁ s₂) {f : Nat} (IH : SSpecs N s₁ s₂ f) (pos : List (Inline Span))
    (named : List (Span × Inline Span)) (hn : ∀ na ∈ named, na.1.stop ≤ N) (expr : Inline Span) {q : Nat} (hq : q ≤ N)
    (hid : ∀ id, expr = .msg id none → id.stop ≤ q) :
    SimR N (Hash s₁ N) (argTail s₁ f pos named expr q) (argTail s₂ f pos named expr q) := by
  have next : ∀ pos' named' {q' : Nat}, q' ≤ N → (∀ na ∈ named', na.1.stop ≤ N) →
      SimR N (Hash s₁ N) (getCallArgsLoop s₁ f pos' named' (argSep s₁ q')) (getCallArgsLoop s₂ f pos' named' (argSep s₂ q')) := by
    intro pos' named' q' hq' hn'
    rw [argSep_sim h hq']
    exact IH.callArgsLoop _ _ _ (h.argSep_le hq') hn'
  have positional : ∀ {q' : Nat}, q' ≤ N →
      SimR N (Hash s₁ N)
        (if (!named.isEmpty) = true then .err (mkErr .positionalArgumentFollowsNamed q') q'
          else getCallArgsLoop s₁ f (pos ++ [expr]) named (argSep s₁ q'))
        (if (!named.isEmpty) = true then .err (mkErr .positionalArgumentFollowsNamed q') q'
          else getCallArgsLoop s₂ f (pos ++ [expr]) named (argSep s₂ q')) := by
    intro q' hq'
    by_cases hc : (!named.isEmpty) = true
    · rw [if_pos hc, if_pos hc]; exact SimR.of_eq rfl hq'
    · rw [if_neg hc, if_neg hc]; exact next _ _ hq' hn
  by_cases hm : ∃ id, expr = .msg id none
  · obtain ⟨id, rfl⟩ := hm
    have hid' : id.stop ≤ N := Nat.le_trans (hid id rfl) hq
    have h1 := h.skipBlank_le hq
    simp only [argTail]
    rw [skipBlank_sim h hq, h.get _ h1]
    by_cases hc : s₁[skipBlank s₁ q]? = some 58
    · rw [if_pos hc, if_pos hc, named_any_sim h named id hn hid']
      have h2 := h.lt_of_byte h1 hc (by decide)
      by_cases hd : named.any (fun na => spanBytes s₁ na.1 == spanBytes s₁ id) = true
      · rw [if_pos hd, if_pos hd]; exact SimR.of_eq rfl h1
      · rw [if_neg hd, if_neg hd, skipBlank_sim h h2]
        refine (IH.inline true _ (h.skipBlank_le h2)).bind (fun val q3 _ hq3 => next _ _ hq3 ?_)
          (fun _ q3 => ((gspecs_all s₁ f).callArgsLoop _ _ _).weaken (argSep_le s₁ q3))
          (fun _ q3 => ((gspecs_all s₂ f).callArgsLoop _ _ _).weaken (argSep_le s₂ q3))
        intro na hna
        rcases List.mem_append.mp hna with hna | hna
        · exact hn na hna
        · rw [List.mem_singleton.mp hna]; exact hid'
    · rw [if_neg hc, if_neg hc]
      exact positional h1
  · have e : ∀ s, argTail s f pos named expr q =
        if (!named.isEmpty) = true then .err (mkErr .positionalArgumentFollowsNamed q) q
        else getCallArgsLoop s f (pos ++ [expr]) named (argSep s q) := by
      intro s
      cases expr with
      | msg id attr =>
        cases attr with
        | none => exact absurd ⟨id, rfl⟩ hm
        | some a => rfl
      | _ => rfl
    rw [e, e]
    exact positional hq

theorem callArgsLoop_sstep (h : Sim N s₁ s₂) {f : Nat} (IH : SSpecs N s₁ s₂ f) (pos : List (Inline Span))
    (named : List (Span × Inline Span)) (p : Nat) (hp : p ≤ N) (hn : ∀ na ∈ named, na.1.stop ≤ N) :
    SimR N (Hash s₁ N) (getCallArgsLoop s₁ (f + 1) pos named p) (getCallArgsLoop s₂ (f + 1) pos named p) := by
  rw [getCallArgsLoop_unfold, getCallArgsLoop_unfold, h.get p hp]
  by_cases hc : s₁[p]? ≠ some 41
  · rw [if_pos ⟨h.lt₁ hp, hc⟩, if_pos ⟨h.lt₂ hp, hc⟩]
    exact (IH.inline false p hp).bind
      (fun expr q hr hq => argTail_sim h IH pos named hn expr hq (fun id e => pre_getInline_msg_stop (e ▸ hr)))
      (argTail_ge s₁ f pos named) (argTail_ge s₂ f pos named)
  · rw [if_neg (fun c => hc c.2), if_neg (fun c => hc c.2)]
    exact SimR.of_eq rfl hp

theorem inline_sstep_lt (h : Sim N s₁ s₂) {f : Nat} (IH : SSpecs N s₁ s₂ f) (ol : Bool) (p : Nat) (hp : p < N) :
    SimR N (Hash s₁ N) (getInline s₁ (f + 1) ol p) (getInline s₂ (f + 1) ol p) := by
  have hle := Nat.le_of_lt hp
  have G₁ := gspecs_all s₁ f
  have G₂ := gspecs_all s₂ f
  have next : ∀ {b : UInt8}, s₁[p]? = some b → b ≠ 10 → p + 1 < N := fun hb hne => h.succ_lt hp hb hne
  refine getInline_cases₂ (motive := SimR N (Hash s₁ N)) s₁ s₂ f f ol p p (h.get p hle)
    (fun h45 => isIdentifierStart_sim h (Nat.le_of_lt (next h45 (by decide)))) (SimR.of_eq rfl hle)
    (fun hb => ?_) (fun b _ _ => ((getNumberLiteral_sim h hp).elim SimR.of_eq).bind_ok _) (fun hb _ hst => ?_)
    (fun hb _ => ?_) (fun b hb ha => ?_) (fun hb _ => (IH.placeable (p + 1) (by omega)).bind_ok _)
  · -- string literal
    refine (SimR.of_loc (scanString_loc h.loc (next hb (by decide)))).bind (fun _ q _ hq => ?_) (fun _ q => ?_) (fun _ q => ?_)
    · rw [h.get q hq, slice_sim h (p + 1) hq]
      by_cases h34 : s₁[q]? = some 34
      · rw [if_pos h34]
        have hq1 : q + 1 ≤ N := h.lt_of_byte hq h34 (by decide)
        refine SimR.refl_of _ (Or.inl ?_)
        split
        · exact hq1
        · trivial
      · rw [if_neg h34]; exact SimR.of_eq rfl hq
    all_goals
      refine CurGe.ite ?_ (Nat.le_refl q)
      split
      · exact Nat.le_succ q
      · trivial
  · -- term reference
    obtain ⟨b1, hb1, hb1a⟩ := (isIdentifierStart_iff s₁ (p + 1)).mp hst
    have hp1 := next hb (by decide)
    have hp2 : p + 2 < N := h.succ_lt hp1 hb1 (by intro e; subst e; exact absurd hb1a (by decide))
    refine (getIdentifierUnchecked_simR h hp2).bind
      (fun id q _ hq => (getAttributeAccessor_simR h hq).bind
        (fun attr q1 _ hq1 => (IH.callArguments q1 hq1).bind_ok _) (fun _ q1 => ?_) (fun _ q1 => ?_))
      (fun _ q => ?_) (fun _ q => ?_)
    iterate 2 exact ((gspecs_all _ f).callArguments q1).seq fun _ q2 => Nat.le_refl q2
    iterate 2
      exact (getAttributeAccessor_ge _ q).seq fun _ q1 => ((gspecs_all _ f).callArguments q1).seq fun _ q2 => Nat.le_refl q2
  · -- variable
    have := getIdentifier_sim h (next hb (by decide))
    exact (SimR.of_eq this.1 this.2.1).bind_ok _
  · -- message reference / function call
    have hp1 := next hb (by intro e; subst e; exact absurd ha (by decide))
    refine (getIdentifierUnchecked_simR h hp1).bind (fun id q hr hq => ?_)
      (fun id q => (G₁.callArguments q).seq (refTail_ge s₁ id)) (fun id q => (G₂.callArguments q).seq (refTail_ge s₂ id))
    have hid : id.stop ≤ N := by
      have := ((getIdentifierUnchecked_sim h hp1).2 id q hr).2; omega
    refine (IH.callArguments q hq).bind (fun args q1 _ hq1 => ?_) (refTail_ge s₁ id) (refTail_ge s₂ id)
    cases args with
    | some pn =>
      simp only []
      rw [isCallee_sim h hid]
      exact SimR.refl_of _ (Or.inl (CurLe.ite hq1 hq1))
    | none => exact (getAttributeAccessor_simR h hq1).bind_ok _

theorem inline_sstep (h : Sim N s₁ s₂) {f : Nat} (IH : SSpecs N s₁ s₂ f) (ol : Bool) (p : Nat) (hp : p ≤ N) :
    SimR N (Hash s₁ N) (getInline s₁ (f + 1) ol p) (getInline s₂ (f + 1) ol p) := by
  by_cases hlt : p < N
  · exact inline_sstep_lt h IH ol p hlt
  · -- at `N`: an entry head (both runs get past `N`) or a `#` (both fail at `N`)
    obtain rfl : p = N := by omega
    obtain ⟨b, hb, hw⟩ := h.wall₁
    have hb2 : s₂[p]? = some b := by rw [h.get p (Nat.le_refl _)]; exact hb
    cases hr : isReal b with
    | true =>
      have hH : ¬ Hash s₁ p := by
        unfold Hash; rw [hb]; intro e; cases e; exact absurd hr (by decide)
      exact SimR.of_past hH (inline_past_real hb hr) (inline_past_real hb2 hr)
    | false =>
      have h35 : b = 35 := by simpa [wallByte, hr] using hw
      subst h35
      rw [inline_hash hb, inline_hash hb2]
      exact SimR.of_eq rfl (CurLe.ite (Nat.le_refl _) (Nat.le_refl _))

theorem variantTail_sim (h : Sim N s₁ s₂) {f : Nat} (IH : SSpecs N s₁ s₂ f) (hd dflt : Bool) (acc : List (Variant Span))
    {p : Nat} (hp : p ≤ N) :
    SimR N (Hash s₁ N) (variantTail s₁ f hd dflt acc p) (variantTail s₂ f hd dflt acc p) := by
  have G₁ := gspecs_all s₁ f
  have G₂ := gspecs_all s₂ f
  have ge3 : ∀ (s : Src) (G : GSpecs s f) (key : VKey Span) (o : Option (Pattern Span)) (q3 : Nat),
      CurGe q3 (match o with
        | some value => getVariants s f hd (acc ++ [.mk key value dflt]) (skipBlank s q3)
        | none => .err (mkErr .missingValue q3) q3) := by
    intro s G key o q3
    cases o with
    | none => exact Nat.le_refl q3
    | some value => exact (G.variants _ _ _).weaken (skipBlank_after s q3).le
  unfold variantTail
  rw [skipBlank_sim h hp]
  refine (variantKey_simR h (h.skipBlank_le hp)).bind (fun key q _ hq => ?_) (fun key q => ?_) (fun key q => ?_)
  · rw [skipBlank_sim h hq]
    refine (expectByte_simR h (h.skipBlank_le hq) (by decide)).bind (fun _ q2 hr hq2 => ?_)
      (fun _ q2 => (G₁.pattern q2).seq (ge3 s₁ G₁ key)) (fun _ q2 => (G₂.pattern q2).seq (ge3 s₂ G₂ key))
    have hq2' : q2 < N := (h.expectByte_ok_lt (h.skipBlank_le hq) (by decide) hr).2.2 (by decide)
    refine (IH.pattern q2 hq2').bind (fun o q3 _ hq3 => ?_) (ge3 s₁ G₁ key) (ge3 s₂ G₂ key)
    cases o with
    | none => exact SimR.of_eq rfl hq3
    | some value =>
      simp only []
      rw [skipBlank_sim h hq3]
      exact IH.variants _ _ _ (h.skipBlank_le hq3)
  · exact ((expectByte_ge s₁ _ 93).weaken (skipBlank_after s₁ q).le).seq fun _ q2 => (G₁.pattern q2).seq (ge3 s₁ G₁ key)
  · exact ((expectByte_ge s₂ _ 93).weaken (skipBlank_after s₂ q).le).seq fun _ q2 => (G₂.pattern q2).seq (ge3 s₂ G₂ key)

theorem variants_sstep (h : Sim N s₁ s₂) {f : Nat} (IH : SSpecs N s₁ s₂ f) (hd : Bool) (acc : List (Variant Span))
    (p : Nat) (hp : p ≤ N) :
    SimR N (Hash s₁ N) (getVariants s₁ (f + 1) hd acc p) (getVariants s₂ (f + 1) hd acc p) := by
  rw [getVariants_unfold, getVariants_unfold, h.get p hp]
  by_cases h42 : s₁[p]? = some 42
  · rw [if_pos h42, if_pos h42]
    have hlt := h.lt_of_byte hp h42 (by decide)
    rw [h.get (p + 1) hlt]
    cases hd with
    | true =>
      -- the `if` is reduced first: `rfl` across it would compare the other branches of the two sources
      rw [if_pos rfl, if_pos rfl]; exact SimR.of_eq rfl hlt
    | false =>
      rw [if_neg Bool.false_ne_true, if_neg Bool.false_ne_true]
      by_cases h91 : s₁[p + 1]? = some 91
      · rw [if_pos h91, if_pos h91]
        have h2 : p + 2 ≤ N := h.lt_of_byte hlt h91 (by decide)
        exact variantTail_sim h IH true true acc h2
      · rw [if_neg h91, if_neg h91]
        exact SimR.of_eq rfl hlt
  · rw [if_neg h42, if_neg h42]
    by_cases h91 : s₁[p]? = some 91
    · rw [if_pos h91, if_pos h91]
      have h1 : p + 1 ≤ N := h.lt_of_byte hp h91 (by decide)
      exact variantTail_sim h IH hd false acc h1
    · rw [if_neg h91, if_neg h91]
      exact SimR.refl_of _ (Or.inl (CurLe.ite hp hp))

end

/-! ## `SimP`: the relation on loop outcomes together with the `PSn` of an `ok` outcome below `N` -/

def SimP (N : Nat) (H : Prop) (r₁ r₂ : R PatState) : Prop :=
  SimR N H r₁ r₂ ∧ ∀ st' q, r₁ = .ok st' q → q ≤ N → PSn N st'

section
variable {N : Nat} {H : Prop}

theorem SimP.ok {st : PatState} {q : Nat} (hq : q ≤ N) (hst : PSn N st) : SimP N H (.ok st q) (.ok st q) :=
  ⟨SimR.of_eq rfl hq, fun st' q' e _ => by cases e; exact hst⟩

theorem SimP.bind {α : Type} {r₁ r₂ : R α} {f₁ f₂ : α → Nat → R PatState} (h : SimR N H r₁ r₂)
    (hf : ∀ a q, r₁ = .ok a q → q ≤ N → SimP N H (f₁ a q) (f₂ a q))
    (hg₁ : ∀ a q, CurGe q (f₁ a q)) (hg₂ : ∀ a q, CurGe q (f₂ a q)) : SimP N H (r₁.bind f₁) (r₂.bind f₂) := by
  refine ⟨h.bind (fun a q hr hq => (hf a q hr hq).1) hg₁ hg₂, fun st' q hr hq => ?_⟩
  obtain ⟨a, q', hr₁, hfa⟩ := R.bind_eq_ok hr
  have hge := hg₁ a q'
  rw [hfa] at hge
  exact (hf a q' hr₁ (Nat.le_trans hge hq)).2 st' q hfa hq

end

section
variable {N : Nat} {s₁ s₂ : Src}

theorem patternLoop_sstep (h : Sim N s₁ s₂) {f : Nat} (IH : SSpecs N s₁ s₂ f) (st : PatState) (p : Nat) (hp : p ≤ N)
    (hrole : p = N → st.role = .lineStart) (hst : PSn N st) :
    SimR N (Hash s₁ N) (getPatternLoop s₁ (f + 1) st p) (getPatternLoop s₂ (f + 1) st p) ∧
      ∀ st' q, getPatternLoop s₁ (f + 1) st p = .ok st' q → q ≤ N → PSn N st' := by
  show SimP N (Hash s₁ N) (getPatternLoop s₁ (f + 1) st p) (getPatternLoop s₂ (f + 1) st p)
  have G₁ := gspecs_all s₁ f
  have G₂ := gspecs_all s₂ f
  have hb2 := h.get p hp
  by_cases hpn : p = N
  · subst hpn
    have hrl := hrole rfl
    have hne : s₁[p]? ≠ some 123 := h.ne_N₁ (by decide)
    obtain ⟨e1, e2⟩ := h.loc.edge₁.patPre_none (h.lt₁ hp) hrl
    obtain ⟨e3, e4⟩ := h.loc.edge₂.patPre_none (h.lt₂ hp) hrl
    rw [patLoop_text _ _ _ _ (h.lt₁ hp) hne, patLoop_text _ _ _ _ (h.lt₂ hp) (hb2 ▸ hne), e1, e3]
    simp only [e2, e4]
    exact SimP.ok (Nat.le_refl _) hst
  · have hlt : p < N := by omega
    by_cases h123 : s₁[p]? = some 123
    · rw [patLoop_placeable _ _ _ _ (h.lt₁ hp) h123, patLoop_placeable _ _ _ _ (h.lt₂ hp) (hb2 ▸ h123)]
      refine SimP.bind (IH.placeable (p + 1) hlt) (fun e q hr hq => ?_) (fun _ q => G₁.patternLoop _ q)
        (fun _ q => G₂.patternLoop _ q)
      -- the placeable ended with a `}` before `N`
      obtain ⟨q', rfl, hcl⟩ := getPlaceable_ok_brace hr
      have hq' : q' < N := h.lt_of_byte (Nat.le_of_succ_le hq) hcl (by decide)
      exact IH.patternLoop _ _ hq (fun e => absurd e (Nat.ne_of_lt (h.succ_lt hq' hcl (by decide)))) (patPlaced_PSn e hst)
    · rw [patLoop_text _ _ _ _ (h.lt₁ hp) h123, patLoop_text _ _ _ _ (h.lt₂ hp) (hb2 ▸ h123), patPre_loc h.loc st hlt,
        patBreak_loc h.loc hlt]
      cases hpre : patPre s₁ st p with
      | none => exact SimP.ok (h.loc.edge₁.patBreak_le hp) hst
      | some ip =>
        have hp1 : ip.2 < N := h.loc.edge₁.patPre_lt hlt hpre
        simp only []
        rw [getTextSlice_sim h hp1]
        refine SimP.bind (SimR.refl_of _ (Or.inl ?_)) (fun v q hr hq => ?_)
          (patAfterText_ge s₁ f st p ip.1) (patAfterText_ge s₂ f st p ip.1)
        · cases hts : getTextSlice s₁ ip.2 with
          | ok v q => exact (h.getTextSlice_ok hp1 hts).2.2.1
          | err e q => exact Nat.le_of_lt (h.getTextSlice_err hp1 hts)
          | panic m => trivial
          | fuel => trivial
        · obtain ⟨_, t2, _, t4⟩ := h.getTextSlice_ok hp1 hr
          unfold patAfterText
          rw [st2Of_sim h st p ip.1 v.1 v.2.2.1 v.2.2.2 t2]
          cases hst2 : st2Of s₁ st p ip.1 v.1 v.2.1 v.2.2.1 v.2.2.2 with
          | none => exact ⟨SimR.of_eq rfl trivial, fun st' q' e _ => by cases e⟩
          | some st2 =>
            have hps : PSn N st2 := st2Of_PSn hst2 hst t2
            exact IH.patternLoop _ q hq (fun e => by rw [t4 e]; rfl) hps

theorem patClose_sim (h : Sim N s₁ s₂) {st : PatState} (hst : PSn N st) (q : Nat) : patClose s₂ st q = patClose s₁ st q := by
  unfold patClose
  have e : ∀ lnb, finishElements s₂ st.keptCommonIndent lnb 0 st.elements
      = finishElements s₁ st.keptCommonIndent lnb 0 st.elements :=
    fun lnb => finishElements_sim h _ lnb 0 _ hst
  simp only [e]

theorem patClose_curLe (s : Src) (st : PatState) {q : Nat} (hq : q ≤ N) : CurLe N (patClose s st q) := by
  unfold patClose
  split
  · split
    · exact hq
    · trivial
  · exact hq

theorem pattern_sstep (h : Sim N s₁ s₂) {f : Nat} (IH : SSpecs N s₁ s₂ f) (p : Nat) (hp : p < N) :
    SimR N (Hash s₁ N) (getPattern s₁ (f + 1) p) (getPattern s₂ (f + 1) p) := by
  have e := patStart_loc h.loc hp
  obtain ⟨hle, hrl⟩ := h.loc.edge₁.patStart_le hp
  rw [getPattern_unfold, getPattern_unfold, e]
  obtain ⟨hs, hps⟩ := IH.patternLoop ⟨[], none, none, (patStart s₁ p).1, none⟩ _ hle hrl (by intro a b i r hmem; cases hmem)
  refine hs.bind (fun st q hr hq => ?_) (patClose_ge s₁) (patClose_ge s₂)
  rw [patClose_sim h (hps st q hr hq)]
  exact SimR.refl_of _ (Or.inl (patClose_curLe s₁ st hq))

theorem sspecs_all (h : Sim N s₁ s₂) (f : Nat) : SSpecs N s₁ s₂ f := by
  induction f with
  | zero =>
    exact {
      patternLoop := fun st p _ _ _ => by
        simp only [getPatternLoop]
        exact ⟨SimR.of_eq rfl trivial, fun st' q e => by cases e⟩
      pattern := fun p _ => by simp only [getPattern]; exact SimR.of_eq rfl trivial
      placeable := fun p _ => by simp only [getPlaceable]; exact SimR.of_eq rfl trivial
      expression := fun p _ => by simp only [getExpression]; exact SimR.of_eq rfl trivial
      inline := fun ol p _ => by simp only [getInline]; exact SimR.of_eq rfl trivial
      callArguments := fun p _ => by simp only [getCallArguments]; exact SimR.of_eq rfl trivial
      callArgsLoop := fun pos named p _ _ => by simp only [getCallArgsLoop]; exact SimR.of_eq rfl trivial
      variants := fun hd acc p _ => by simp only [getVariants]; exact SimR.of_eq rfl trivial }
  | succ f ih =>
    exact {
      patternLoop := fun st p h1 h2 h3 => patternLoop_sstep h ih st p h1 h2 h3
      pattern := fun p h1 => pattern_sstep h ih p h1
      placeable := fun p h1 => placeable_sstep h ih p h1
      expression := fun p h1 => expression_sstep h ih p h1
      inline := fun ol p h1 => inline_sstep h ih ol p h1
      callArguments := fun p h1 => callArguments_sstep h ih p h1
      callArgsLoop := fun pos named p h1 h2 => callArgsLoop_sstep h ih pos named p h1 h2
      variants := fun hd acc p h1 => variants_sstep h ih hd acc p h1 }

end

end FluentProofs.Parser

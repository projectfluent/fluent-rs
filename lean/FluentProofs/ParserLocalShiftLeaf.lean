import FluentProofs.ParserLocalWin
/-!
# Locality of the parser, SHIFT family, part 1: the leaf scanners

Under `h : Shift d s₁ s₂` (`s₂` is `s₁` with `d` bytes in front) every leaf function run on `s₂` at `p + d` does what
it does on `s₁` at `p`, with all positions of the result moved by `d`: the case of `ParserLocalWin` in which the block is
all of `s₁` and its edge lies behind the end (`Shift.winAt`).  Proved here: `finishElements`; `get_comment`, which looks at the
byte before the cursor, by its rounds (`commentStep_win`); `skip_comment` from its specification `skipComment_first`.
-/
namespace FluentProofs.Parser
open FluentModel.Syntax

theorem sh1 (d p : Nat) : p + d + 1 = p + 1 + d := by omega
theorem sh2 (d p : Nat) : p + d + 2 = p + 2 + d := by omega

section
variable {d : Nat} {s₁ s₂ : Src}

theorem Shift.lt (h : Shift d s₁ s₂) (p : Nat) : (p + d < s₂.size) = (p < s₁.size) := by
  have := h.size; apply propext; omega
theorem Shift.fuel1 (h : Shift d s₁ s₂) (p : Nat) : s₂.size - (p + d) + 1 = s₁.size - p + 1 := by
  have := h.size; omega

theorem shErr_mkErr2 (d : Nat) (k : EK) (a b : Nat) : shErr d (mkErr2 k a b) = mkErr2 (shEK d k) (a + d) (b + d) := by
  simp only [shErr, mkErr2, Option.map_none]

theorem skipBlankInline_shift (h : Shift d s₁ s₂) (p : Nat) : skipBlankInline s₂ (p + d) = skipBlankInline s₁ p + d :=
  skipBlankInline_win (h.winAt p) (by omega)

theorem skipEol_shift (h : Shift d s₁ s₂) (p : Nat) : skipEol s₂ (p + d) = (skipEol s₁ p).map (· + d) :=
  skipEol_win (h.winAt p) (by omega)

theorem isEol_shift (h : Shift d s₁ s₂) (p : Nat) : isEol s₂ (p + d) = isEol s₁ p :=
  isEol_win (h.winAt p) (by omega)

theorem skipBlankBlock_shift (h : Shift d s₁ s₂) (p : Nat) :
    skipBlankBlock s₂ (p + d) = ((skipBlankBlock s₁ p).1 + d, (skipBlankBlock s₁ p).2) :=
  skipBlankBlock_win (h.winAt p) (by omega)

theorem skipBlankBlock_shift_fst (h : Shift d s₁ s₂) (p : Nat) :
    (skipBlankBlock s₂ (p + d)).1 = (skipBlankBlock s₁ p).1 + d := by rw [skipBlankBlock_shift h]

theorem skipBlank_shift (h : Shift d s₁ s₂) (p : Nat) : skipBlank s₂ (p + d) = skipBlank s₁ p + d :=
  skipBlank_win (h.winAt p) (by omega)

theorem expectByte_shift (h : Shift d s₁ s₂) (p : Nat) (b : UInt8) :
    expectByte s₂ (p + d) b = shR id d (expectByte s₁ p b) :=
  expectByte_win (h.winAt p) (by omega) b

theorem takeByteIf_shift (h : Shift d s₁ s₂) (p : Nat) (b : UInt8) :
    takeByteIf s₂ (p + d) b = ((takeByteIf s₁ p b).1 + d, (takeByteIf s₁ p b).2) :=
  takeByteIf_win (h.winAt p) (by omega) b

theorem isIdentifierStart_shift (h : Shift d s₁ s₂) (p : Nat) : isIdentifierStart s₂ (p + d) = isIdentifierStart s₁ p :=
  isIdentifierStart_win (h.winAt p) (by omega)

theorem isNumberStart_shift (h : Shift d s₁ s₂) (p : Nat) : isNumberStart s₂ (p + d) = isNumberStart s₁ p :=
  isNumberStart_win (h.winAt p) (by omega)

theorem slice_shift (h : Shift d s₁ s₂) (a b : Nat) : slice s₂ (a + d) (b + d) = (slice s₁ a b).map (shSpan d) :=
  slice_win (h.winAt b) a (by omega)

theorem spanBytes_shift (h : Shift d s₁ s₂) (sp : Span) : spanBytes s₂ (shSpan d sp) = spanBytes s₁ sp :=
  spanBytes_win (h.winAt sp.stop) (by omega)

theorem isCallee_shift (h : Shift d s₁ s₂) (sp : Span) : isCallee s₂ (shSpan d sp) = isCallee s₁ sp :=
  isCallee_win (h.winAt sp.stop) (by omega)

theorem getNumberLiteral_shift (h : Shift d s₁ s₂) (p : Nat) :
    getNumberLiteral s₂ (p + d) = shR (shSpan d) d (getNumberLiteral s₁ p) :=
  getNumberLiteral_win (h.winAt p) (by omega)

/-- all call sites have the cursor one past the first byte -/
theorem getIdentifierUnchecked_shift (h : Shift d s₁ s₂) (p : Nat) :
    getIdentifierUnchecked s₂ (p + 1 + d) = shR (shSpan d) d (getIdentifierUnchecked s₁ (p + 1)) :=
  getIdentifierUnchecked_win (h.winAt (p + 1)) (by omega) (Or.inl (Nat.succ_pos p))

theorem getIdentifier_shift (h : Shift d s₁ s₂) (p : Nat) :
    getIdentifier s₂ (p + d) = shR (shSpan d) d (getIdentifier s₁ p) :=
  getIdentifier_win (h.winAt p) (by omega)

theorem getAttributeAccessor_shift (h : Shift d s₁ s₂) (p : Nat) :
    getAttributeAccessor s₂ (p + d) = shR (Option.map (shSpan d)) d (getAttributeAccessor s₁ p) :=
  getAttributeAccessor_win (h.winAt p) (by omega)

theorem scanString_shift (h : Shift d s₁ s₂) (p : Nat) : scanString s₂ (p + d) = shR id d (scanString s₁ p) :=
  scanString_win (h.winAt p) (by omega)

theorem getTextSlice_shift (h : Shift d s₁ s₂) (p : Nat) :
    getTextSlice s₂ (p + d) = shR (shTS d) d (getTextSlice s₁ p) :=
  getTextSlice_win (h.winAt p) (by omega)

theorem trimEnd_shift (h : Shift d s₁ s₂) (sp : Span) : trimEnd s₂ (shSpan d sp) = shSpan d (trimEnd s₁ sp) :=
  trimEnd_win (h.winAt sp.stop) (by omega)

theorem feStart_shift (d : Nat) (ci : Option Nat) (start indent : Nat) (role : TextPos) :
    feStart ci (start + d) indent role = feStart ci start indent role + d := by
  unfold feStart
  split
  · cases ci <;> simp only [] <;> omega
  · rfl

theorem finishElements_shift (h : Shift d s₁ s₂) (ci : Option Nat) (lnb : Nat) (i : Nat) (els : List Placeholder) :
    finishElements s₂ ci lnb i (els.map (shPh d)) = (finishElements s₁ ci lnb i els).map (mapPat (shSpan d)) := by
  induction els generalizing i with
  | nil => simp only [List.map_nil, finishElements, Option.map_some, mapPat]
  | cons ph rest ih =>
    cases ph with
    | placeable e =>
      simp only [List.map_cons, shPh, finishElements, ih, Option.map_map]
      split
      · simp only [Option.map_some, mapPat]
      · cases finishElements s₁ ci lnb (i + 1) rest <;> simp [mapPat, PatElem.mapS]
    | text start stop indent role =>
      simp only [List.map_cons, shPh, finishElements_text, feStart_shift, ih, slice_shift h]
      generalize feStart ci start indent role = st'
      have e2 : (st' + d == stop + d) = (st' == stop) := by
        rw [Bool.eq_iff_iff]; simp only [beq_iff_eq]; omega
      rw [e2]
      split
      · simp only [Option.map_some, mapPat]
      · split
        · rfl
        · cases slice s₁ st' stop with
          | none => rfl
          | some sp =>
            simp only [Option.map_some, Option.map_map]
            have e3 : (if (lnb == i) = true then trimEnd s₂ (shSpan d sp) else shSpan d sp) =
                shSpan d (if (lnb == i) = true then trimEnd s₁ sp else sp) := by
              split
              · exact trimEnd_shift h sp
              · rfl
            rw [e3]
            cases finishElements s₁ ci lnb (i + 1) rest <;> simp [mapPat, PatElem.mapS]

def shCm (d : Nat) (r : List Span × Nat) : List Span × Nat := (r.1.map (shSpan d), r.2)

theorem commentStep_shift (h : Shift d s₁ s₂) (level : Nat) (first : Bool) (p : Nat) (hp : 0 < p ∨ s₁[p]? = some 35) :
    commentStep s₂ level first (p + d) = (commentStep s₁ level first p).shift d :=
  commentStep_win (h.winAt p) level first (by omega) (Or.inr hp)

theorem getCommentGo_shift (h : Shift d s₁ s₂) (n level : Nat) (content : List Span) (p : Nat)
    (hp : 0 < p ∨ s₁[p]? = some 35) :
    getCommentGo s₂ n level (content.map (shSpan d)) (p + d) = shR (shCm d) d (getCommentGo s₁ n level content p) := by
  induction n generalizing level content p with
  | zero => rfl
  | succ n ih =>
    rw [getCommentGo_unfold, getCommentGo_unfold, List.isEmpty_map, commentStep_shift h _ _ _ hp]
    cases hst : commentStep s₁ level content.isEmpty p with
    | line l sp p' =>
      have := (commentStep_line hst).2.lt_next
      have := ih l (content ++ [sp]) p' (Or.inl (by omega))
      rwa [List.map_append] at this
    | stop lv q => rfl
    | bad q => simp only [CStep.shift, shR_err, shErr_mkErr, shEK]
    | panic m => rfl

theorem getComment_shift (h : Shift d s₁ s₂) (p : Nat) (hp : s₁[p]? = some 35) :
    getComment s₂ (p + d) = shR (shCm d) d (getComment s₁ p) := by
  have := getCommentGo_shift h (s₁.size - p + 1) 0 [] p (Or.inr hp)
  simpa only [getComment, h.fuel1, List.map_nil] using this

theorem skipComment_shift (h : Shift d s₁ s₂) (p : Nat) : skipComment s₂ (p + d) = skipComment s₁ p + d := by
  obtain ⟨q, hq, hf⟩ := skipComment_first s₁ p
  obtain ⟨q', hq', hf'⟩ := skipComment_first s₂ (p + d)
  have e : q' = q + d := hf'.unique (hf.shift d fun j _ _ => by
    unfold CommentEnd; rw [isEol_shift h, sh1, h.get])
  rw [hq, hq', e]; omega

theorem skipToNextEntryStart_shift (h : Shift d s₁ s₂) (es q : Nat) :
    skipToNextEntryStart s₂ (es + d) (q + d) = (skipToNextEntryStart s₁ es q).map (· + d) :=
  skipToNextEntryStart_win (h.winAt q) (Or.inl (by omega)) (Or.inl (by have := h.size; omega)) es (by omega)

theorem clampErr_shift (d : Nat) (e : PErr) (q : Nat) : clampErr (shErr d e) (q + d) = shErr d (clampErr e q) := by
  simp only [clampErr, shErr, Nat.add_lt_add_iff_right]
  split
  · simp only [sh1 d]
  · rfl

end
end FluentProofs.Parser

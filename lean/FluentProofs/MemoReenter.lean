import FluentProofs.MemoIntl
/-!
Lemmas for C14, part 2b: the re-entrant lookup `MOp.lookupReenter` – a `with_try_get` whose callback calls
`IntlMemoizer::get_for_lang` for its own language while the lookup is still active, compares the returned `Rc`
with the one it runs on and drops it.

* `reenter_same` – "shared while in use": through a handle that `get_for_lang` handed out and that is still
  alive, the inner call is handed the very memoizer the lookup runs on;
* `reenter_transparent` – and then the whole re-entrant lookup is observationally a plain lookup: same final state
  (strong counts back to what they were, table untouched, no id consumed), same outcome, same construct event.

`Frame_mstep` of `MemoIntl.lean` (invariant, registration / language / id stability …) covers `lookupReenter` as
well, so every history below may itself contain re-entrant lookups.
-/
namespace FluentModel.Memo
set_option linter.unusedSectionVars false

section AList
variable {κ β : Type} [DecidableEq κ]

theorem aset_self (m : List (κ × β)) (k : κ) (v : β) (h : aget m k = some v) : aset m k v = m := by
  induction m with
  | nil => simp [aget] at h
  | cons p r ih =>
    obtain ⟨k₁, v₁⟩ := p
    by_cases e : k₁ = k
    · subst e
      simp only [aget, if_true] at h
      cases h
      simp [aset]
    · simp only [aget, e, if_false] at h
      simp [aset, e, ih h]

theorem aset_aset (m : List (κ × β)) (k : κ) (v v' : β) : aset (aset m k v) k v' = aset m k v' := by
  induction m with
  | nil => simp [aset]
  | cons p r ih =>
    obtain ⟨k₁, v₁⟩ := p
    by_cases e : k₁ = k
    · subst e; simp [aset]
    · simp [aset, e, ih]

end AList

section Intl
variable {σ L τ α ι ε ρ : Type} [DecidableEq L] [DecidableEq τ] [DecidableEq α]

/-- handle `h` is alive, and the per-language table holds, for the language of the memoizer `h` refers to, a weak
reference to exactly that memoizer.  (`get_for_lang` establishes this for the handle it returns, and it stays true
for as long as the handle is alive: `registered_of_getForLang`.  A handle from `newLang` is not registered.) -/
def Registered (s : MState σ L τ α ι ε) (h : Nat) : Prop :=
  ∃ oid o, s.handles[h]? = some (some oid) ∧ aget s.heap oid = some o ∧ aget s.table o.lang = some oid

/-- the `same` flag of a re-entrant lookup whose inner `get_for_lang` is handed the memoizer the lookup runs on:
`some true` when the callback ran, `none` when the construction failed (no callback, no inner call) -/
def sameOk : Outcome ε ρ → Option Bool
  | .ok _ => some true
  | .err _ => none

/-- the callback's inner `get_for_lang(l)` + `drop`, when the table entry of `l` is the live allocation `oid`:
the weak entry is upgraded (strong + 1), the comparison says "same", the drop undoes the upgrade – the state is
*exactly* what it was -/
theorem reenterStep_registered (ρ : Type) (s : MState σ L τ α ι ε) (l : L) (oid : Nat) (o : Obj L τ α ι ε)
    (ho : aget s.heap oid = some o) (hpos : 0 < o.strong) (ht : aget s.table l = some oid) :
    reenterStep ρ s l oid = (s, true) := by
  have hg := getStep_alive (ρ := ρ) s l oid o ht ho
  have hnot : ¬ (o.strong + 1 ≤ 1) := by omega
  have hback : ({ o with strong := o.strong + 1 - 1 } : Obj L τ α ι ε) = o := by
    cases o; simp
  unfold reenterStep
  simp only [hg, dropStep, List.getElem?_concat_length, aget_aset, if_true, hnot, if_false, aset_aset,
    MObs.allocId, BEq.rfl, hback, aset_self _ _ _ ho]

theorem lookupReenter_registered (X : Ext σ L τ α ι ε) (s : MState σ L τ α ι ε) (hi : MInv s) (h : Nat)
    (op : Op σ τ α ι ρ) (hr : Registered s h) :
    ∃ s' out ev, mstep X s (.lookup h op) = (s', .res out ev) ∧
      mstep X s (.lookupReenter h op) = (s', .resReenter out ev (sameOk out)) := by
  obtain ⟨oid, o, hh, ho, ht⟩ := hr
  obtain ⟨_, hpos, _, _⟩ := hi.heap_ok oid o ho
  simp only [mstep, lookupStep, hh, ho]
  refine ⟨_, _, _, rfl, ?_⟩
  cases hout : (withTryGet X o.lang o.memo s.world op).out with
  | err e => rfl
  | ok r =>
    simp only [sameOk]
    have key := reenterStep_registered ρ
      ({ s with heap := aset s.heap oid { o with memo := (withTryGet X o.lang o.memo s.world op).memo }
                world := (withTryGet X o.lang o.memo s.world op).world } : MState σ L τ α ι ε)
      o.lang oid { o with memo := (withTryGet X o.lang o.memo s.world op).memo }
      (by simp only; rw [aget_aset]; simp) hpos ht
    rw [key]

theorem shared_of_getForLang (X : Ext σ L τ α ι ε) (s₁ : MState σ L τ α ι ε) (hi : MInv s₁) (l : L)
    (mid : List (MOp σ L τ α ι ρ)) (oid : Nat)
    (halive : (mrun X mid (mstep (ρ := ρ) X s₁ (.getForLang l)).1).2.handles[s₁.handles.length]? = some (some oid)) :
    aget (mrun X mid (mstep (ρ := ρ) X s₁ (.getForLang l)).1).2.table l = some oid ∧
      ∃ o, aget (mrun X mid (mstep (ρ := ρ) X s₁ (.getForLang l)).1).2.heap oid = some o := by
  obtain ⟨oid', o', _, h2, h3, _, _⟩ := getForLang_result (ρ := ρ) X s₁ l hi
  have hi' := MInv_step X s₁ (.getForLang l : MOp σ L τ α ι ρ) hi
  have hlt : s₁.handles.length < (mstep (ρ := ρ) X s₁ (.getForLang l)).1.handles.length := by
    rw [h2]; simp
  have hreg : (mstep (ρ := ρ) X s₁ (.getForLang l)).1.handles[s₁.handles.length]? = some (some oid) →
      aget (mstep (ρ := ρ) X s₁ (.getForLang l)).1.table l = some oid := by
    intro g
    rw [h2, List.getElem?_concat_length] at g
    cases g
    exact h3
  exact shared_while_alive X mid _ hi' s₁.handles.length oid l hlt hreg halive

theorem registered_of_getForLang (X : Ext σ L τ α ι ε) (s₁ : MState σ L τ α ι ε) (hi : MInv s₁) (l : L)
    (mid : List (MOp σ L τ α ι ρ)) (oid : Nat)
    (halive : (mrun X mid (mstep (ρ := ρ) X s₁ (.getForLang l)).1).2.handles[s₁.handles.length]? = some (some oid)) :
    Registered (mrun X mid (mstep (ρ := ρ) X s₁ (.getForLang l)).1).2 s₁.handles.length := by
  obtain ⟨ht, o, ho⟩ := shared_of_getForLang X s₁ hi l mid oid halive
  have hl : o.lang = l :=
    ((MInv_run X mid _ (MInv_step X s₁ (.getForLang l : MOp σ L τ α ι ρ) hi)).table_ok l oid ht).2 o ho
  exact ⟨oid, o, halive, ho, by rw [hl]; exact ht⟩

theorem lookupReenter_reachable (X : Ext σ L τ α ι ε) (w : σ) (pre mid : List (MOp σ L τ α ι ρ)) (l : L)
    (op : Op σ τ α ι ρ) :
    let s₁ : MState σ L τ α ι ε := (mrun X pre (MState.init w)).2
    let h := s₁.handles.length
    let s₃ := (mrun X mid (mstep (ρ := ρ) X s₁ (.getForLang l)).1).2
    (∃ oid, s₃.handles[h]? = some (some oid)) →
    ∃ s' out ev, mstep X s₃ (.lookup h op) = (s', .res out ev) ∧
      mstep X s₃ (.lookupReenter h op) = (s', .resReenter out ev (sameOk out)) := by
  intro s₁ h s₃ ⟨oid, halive⟩
  have hi₁ : MInv s₁ := MInv_run X pre _ (MInv_init w)
  exact lookupReenter_registered X s₃ (MInv_run X mid _ (MInv_step X s₁ _ hi₁)) h op
    (registered_of_getForLang X s₁ hi₁ l mid oid halive)

/-- **shared while in use, seen from inside a lookup.**  Take any reachable state (`pre`: any history from
`IntlMemoizer::default()`, re-entrant lookups included), let `get_for_lang(l)` hand out handle `h`, let anything
happen (`mid`), and suppose `h` has not been dropped.  Then a lookup through `h` whose callback calls
`get_for_lang` for its own language is handed the very memoizer it runs on: the flag is `some true` whenever the
callback ran (`none` = construction failed, the callback never ran); it is never `some false`. -/
theorem reenter_same (X : Ext σ L τ α ι ε) (w : σ) (pre mid : List (MOp σ L τ α ι ρ)) (l : L) (op : Op σ τ α ι ρ) :
    let s₁ : MState σ L τ α ι ε := (mrun X pre (MState.init w)).2
    let h := s₁.handles.length
    let s₃ := (mrun X mid (mstep (ρ := ρ) X s₁ (.getForLang l)).1).2
    (∃ oid, s₃.handles[h]? = some (some oid)) →
    ∃ out ev, (mstep X s₃ (.lookupReenter h op)).2 = .resReenter out ev (sameOk out) := by
  intro s₁ h s₃ halive
  obtain ⟨s', out, ev, _, e2⟩ := lookupReenter_reachable X w pre mid l op halive
  exact ⟨out, ev, by rw [e2]⟩

/-- **the re-entrant call is transparent**: under the same hypotheses the re-entrant lookup ends in exactly the
state of the plain lookup (every strong count, the table, the id counter, the handles, the caches, the world) and
its outcome and construct event are those of the plain lookup. -/
theorem reenter_transparent (X : Ext σ L τ α ι ε) (w : σ) (pre mid : List (MOp σ L τ α ι ρ)) (l : L)
    (op : Op σ τ α ι ρ) :
    let s₁ : MState σ L τ α ι ε := (mrun X pre (MState.init w)).2
    let h := s₁.handles.length
    let s₃ := (mrun X mid (mstep (ρ := ρ) X s₁ (.getForLang l)).1).2
    (∃ oid, s₃.handles[h]? = some (some oid)) →
    (mstep X s₃ (.lookupReenter h op)).1 = (mstep X s₃ (.lookup h op)).1 ∧
    ∃ out ev same, (mstep X s₃ (.lookupReenter h op)).2 = .resReenter out ev same ∧
      (mstep X s₃ (.lookup h op)).2 = .res out ev := by
  intro s₁ h s₃ halive
  obtain ⟨s', out, ev, e1, e2⟩ := lookupReenter_reachable X w pre mid l op halive
  exact ⟨by rw [e1, e2], out, ev, sameOk out, by rw [e2], by rw [e1]⟩

end Intl
end FluentModel.Memo

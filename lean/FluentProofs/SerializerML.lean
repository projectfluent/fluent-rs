import FluentProofs.SerializerPattern
/-!
# Serializer round trip: the loop of `get_pattern` at a line start, and `finishElements` (C04, parser half, loop chain)

Iterations at a line start on the text of a class pattern (text with excess indentation, blank line, indentation in front of a
placeable), the end of the loop over `Stopper`/`PatFollow`, what `get_text_slice` returns on a class text, and the relation `MPh`
between the collected placeholders and the elements with the final `finishElements` pass.  The loop itself is `mlLoop` in
`SerializerCrLoneLoop`.
-/
namespace FluentProofs.Ser
open FluentModel FluentModel.Syntax FluentModel.Syntax.Ser FluentProofs.Parser

theorem skipEol_lone (s : Src) (p : Nat) (b : UInt8) (hb : s[p]? = some b) (h2 : b ≠ 10)
    (h3 : b = 13 → s[p + 1]? ≠ some 10) : skipEol s p = none := by
  rw [skipEol_eq, if_neg (by rw [hb]; exact fun e => h2 (Option.some.inj e)),
    if_neg fun c => h3 (Option.some.inj (hb.symm.trans c.1)) c.2]

theorem skipBlankBlockGo_line {s : Src} {q k : Nat} {b : UInt8} (hsp : ∀ j, j < k → s[q + j]? = some 32)
    (hb : s[q + k]? = some b) (h1 : b ≠ 32) (h2 : b ≠ 10) (h3 : b = 13 → s[q + k + 1]? ≠ some 10) (n c : Nat) :
    skipBlankBlockGo s (n + 1) q c = (q, c) := by
  have hsbi : skipBlankInline s q = q + k := skipBlankInline_run s k q hsp (by rw [hb]; simpa using h1)
  rw [skipBlankBlockGo, hsbi, skipEol_lone s (q + k) b hb h2 h3]
  simp [get_lt hb]

theorem patPre_ls (s : Src) (st : PatState) (p ind : Nat) (b : UInt8) (hrole : st.role = .lineStart) (hind : 0 < ind)
    (hsp : ∀ j, j < ind → s[p + j]? = some 32) (hb : s[p + ind]? = some b) (hb32 : b ≠ 32)
    (hcont : isBytePatternContinuation b = true) : patPre s st p = some (ind, p + ind) :=
  patPre_line hrole (skipBlankInline_run s ind p hsp (by rw [hb]; simpa using hb32)) hb
    (fun h => absurd h (Nat.ne_of_gt hind)) fun _ => hcont

/-- the placeholder `.text a b ind role` stands for the text element `v`: dedented by `c` it begins where `v` stands, in `[·, m)`, and
ends at `m` — or, for the last element, behind the line feed at `m`, which `trim_end` takes off again -/
def TextRel (s : Src) (c : Option Nat) (a b ind : Nat) (role : TextPos) (v : Bytes) (last : Bool) : Prop :=
  ∃ m, Bnd s (feStart c a ind role) ∧ Bnd s b ∧ AtTo s (feStart c a ind role) v m ∧ v ≠ [] ∧
    (if last then b = m + 1 ∧ s[m]? = some 10 ∧ (∃ x, v.getLast? = some x ∧ x ≠ 32 ∧ x ≠ 10 ∧ x ≠ 13)
     else b = m)

/-- the placeholders `phs` stand for the elements `es`; a placeable that starts a line is preceded by a
"ghost" text placeholder that `finishElements` drops -/
def MPh (s : Src) (c : Option Nat) : List Placeholder → List (PatElem Bytes) → Prop
  | phs, [] => phs = []
  | phs, .text v :: es => ∃ a b ind role phs', phs = .text a b ind role :: phs' ∧
      TextRel s c a b ind role v es.isEmpty ∧ MPh s c phs' es
  | phs, .placeable x :: es =>
    (∃ ex phs', phs = .placeable ex :: phs' ∧ ex.mapS (spanBytes s) = x ∧ MPh s c phs' es) ∨
    (∃ a b ind ex phs', phs = .text a b ind .lineStart :: .placeable ex :: phs' ∧
      feStart c a ind .lineStart = b ∧ ex.mapS (spanBytes s) = x ∧ MPh s c phs' es)

theorem MPh_ne {s : Src} {c : Option Nat} {phs : List Placeholder} {es : List (PatElem Bytes)} (h : MPh s c phs es)
    (hne : es ≠ []) : phs ≠ [] := by
  cases es with
  | nil => exact absurd rfl hne
  | cons e es =>
    cases e with
    | text v => simp only [MPh] at h; obtain ⟨a, b, ind, role, phs', rfl, _⟩ := h; simp
    | placeable x =>
      simp only [MPh] at h
      rcases h with ⟨ex, phs', rfl, _⟩ | ⟨a, b, ind, ex, phs', rfl, _⟩ <;> simp

theorem finishElements_mph (s : Src) (c : Option Nat) (es : List (PatElem Bytes)) (hne : es ≠ []) :
    ∀ (phs tr : List Placeholder) (i : Nat), MPh s c phs es →
      ∃ els, finishElements s c (i + phs.length - 1) i (phs ++ tr) = some els ∧ mapPat (spanBytes s) els = es := by
  induction es with
  | nil => exact absurd rfl hne
  | cons e es ih =>
    intro phs tr i hrel
    have tailR : ∀ (phs' : List Placeholder) (L j : Nat), MPh s c phs' es → L = j + phs'.length - 1 → (es = [] → L < j) →
        ∃ els, finishElements s c L j (phs' ++ tr) = some els ∧ mapPat (spanBytes s) els = es := by
      intro phs' L j hr hL hlt
      cases es with
      | nil =>
        simp only [MPh] at hr; subst hr
        exact ⟨[], finishElements_past s c _ _ _ (hlt rfl), rfl⟩
      | cons e2 rest =>
        have := ih (by simp) phs' tr j hr
        rw [← hL] at this
        exact this
    cases e with
    | placeable x =>
      simp only [MPh] at hrel
      rcases hrel with ⟨ex, phs', rfl, hm, hr⟩ | ⟨a, b, ind, ex, phs', rfl, hg, hm, hr⟩
      · obtain ⟨els, hels, hmap⟩ := tailR phs' (i + (Placeholder.placeable ex :: phs').length - 1) (i + 1) hr
          (by simp only [List.length_cons]; omega) (by intro h0; subst h0; simp only [MPh] at hr; subst hr; simp)
        refine ⟨.placeable ex :: els, ?_, by simp [mapPat, PatElem.mapS, hm, hmap]⟩
        rw [List.cons_append]
        simp only [finishElements, show ¬ i > i + (Placeholder.placeable ex :: phs').length - 1 by simp, if_false, hels,
          Option.map_some]
      · obtain ⟨els, hels, hmap⟩ := tailR phs'
          (i + (Placeholder.text a b ind .lineStart :: Placeholder.placeable ex :: phs').length - 1) (i + 1 + 1) hr
          (by simp only [List.length_cons]; omega) (by intro h0; subst h0; simp only [MPh] at hr; subst hr; simp)
        refine ⟨.placeable ex :: els, ?_, by simp [mapPat, PatElem.mapS, hm, hmap]⟩
        rw [List.cons_append, List.cons_append]
        have hg' : (feStart c a ind .lineStart == b) = true := by simp [hg]
        simp only [feStart, beq_self_eq_true, if_true] at hg'
        simp only [finishElements, show ¬ i > i + (Placeholder.text a b ind .lineStart :: Placeholder.placeable ex ::
          phs').length - 1 by simp, if_false, beq_self_eq_true, if_true,
          show ¬ i + 1 > i + (Placeholder.text a b ind .lineStart :: Placeholder.placeable ex :: phs').length - 1 by
            simp, hels, Option.map_some]
        rw [if_pos]
        exact hg'
    | text v =>
      simp only [MPh] at hrel
      obtain ⟨a, b, ind, role, phs', rfl, ⟨m, hba, hbb, hat, hvne, hlast⟩, hr⟩ := hrel
      have hlen : 0 < v.length := List.length_pos_iff.mpr hvne
      obtain ⟨els, hels, hmap⟩ := tailR phs' (i + (Placeholder.text a b ind role :: phs').length - 1) (i + 1) hr
        (by simp only [List.length_cons]; omega) (by intro h0; subst h0; simp only [MPh] at hr; subst hr; simp)
      rw [List.cons_append]
      have hLi : ¬ i > i + (Placeholder.text a b ind role :: phs').length - 1 := by simp
      have hLe : (i + (Placeholder.text a b ind role :: phs').length - 1 == i) = es.isEmpty := by
        cases es with
        | nil => simp only [MPh] at hr; subst hr; simp
        | cons e2 rest =>
          have := MPh_ne hr (by simp)
          cases phs' with
          | nil => exact absurd rfl this
          | cons _ _ => simp
      have key : ∀ a' : Nat, Bnd s a' → AtTo s a' v m →
          (if es.isEmpty = true then b = m + 1 ∧ s[m]? = some 10 ∧ (∃ x, v.getLast? = some x ∧ x ≠ 32 ∧ x ≠ 10 ∧ x ≠ 13)
           else b = m) →
          ∃ els', (if (a' == b) = true then finishElements s c (i + (Placeholder.text a b ind role :: phs').length - 1)
                (i + 1) (phs' ++ tr)
              else match slice s a' b with
                | none => none
                | some sp => Option.map (fun x => PatElem.text (if es.isEmpty = true then trimEnd s sp else sp) :: x)
                    (finishElements s c (i + (Placeholder.text a b ind role :: phs').length - 1) (i + 1) (phs' ++ tr))) =
              some els' ∧ mapPat (spanBytes s) els' = PatElem.text v :: es := by
        intro a' hba hat hlast
        have ham : a' < m := by have := hat.len; omega
        by_cases hl : es.isEmpty = true
        · simp only [hl, if_true] at hlast ⊢
          obtain ⟨rfl, h10, x, hx, x1, x2, x3⟩ := hlast
          have htrim := trimEnd_lf s a' m x ham h10 (hat.last hx) x1 x3 x2
          have h1 : (a' == m + 1) = false := by simp; omega
          simp only [h1, Bool.false_eq_true, if_false, slice_ok (show a' ≤ m + 1 by omega) hba hbb,
            hels, Option.map_some]
          refine ⟨_, rfl, ?_⟩
          have hes : es = [] := by simpa using hl
          simp [mapPat, PatElem.mapS, htrim, hat.span, hmap, hes]
        · simp only [hl, Bool.false_eq_true, if_false] at hlast ⊢
          subst hlast
          have h1 : (a' == b) = false := by simp; omega
          simp only [h1, Bool.false_eq_true, if_false, slice_ok (Nat.le_of_lt ham) hba hbb, hels, Option.map_some]
          refine ⟨_, rfl, ?_⟩
          simp [mapPat, PatElem.mapS, hat.span, hmap]
      simp only [finishElements, hLi, if_false, hLe]
      exact key (feStart c a ind role) hba hat hlast

theorem LineEndOK.stopper {s : Src} {q : Nat} (h : LineEndOK s q) : Stopper s q := by
  rcases h with h | ⟨b, hb, b1, b2, b3, b4⟩
  · exact Or.inl h
  · exact Or.inr (Or.inl ⟨b, hb, b2, b3, b4, b1⟩)

theorem PatFollow.le {s : Src} {q q' : Nat} (h : PatFollow s q q') (hq : q ≤ s.size) : q' ≤ s.size := by
  obtain ⟨h1, h2, _⟩ := h
  rcases Nat.eq_or_lt_of_le h1 with rfl | hlt
  · exact hq
  · have := get_lt (h2 (q' - 1) (by omega) (by omega)); omega

theorem patternLoop_stop (s : Src) (n : Nat) (st : PatState) (q : Nat) (hrole : st.role = .lineStart)
    (h : Stopper s q) : getPatternLoop s (n + 1) st q = .ok st q := by
  rcases h with h | ⟨b, hb, b1, b2, b3, b4⟩ | ⟨k, b, hk, hsp, hb, hbb⟩
  · exact patternLoop_end s n st q hrole (Or.inl h)
  · exact patternLoop_end s n st q hrole (Or.inr ⟨b, hb, b4, b1, b2, b3⟩)
  · have hp0 : s[q]? = some 32 := by have := hsp 0 hk; simpa using this
    have hb32 : b ≠ 32 := by rcases hbb with rfl | rfl | rfl | rfl <;> decide
    have hpre := patPre_stop (st := st) hrole (skipBlankInline_run s k q hsp (by rw [hb]; simpa using hb32)) hb
      (fun h => absurd h (Nat.ne_of_gt hk)) (fun _ => by rcases hbb with rfl | rfl | rfl | rfl <;> decide)
    rw [patLoop_text s n st q (get_lt hp0) (by rw [hp0]; decide), hpre.1, hpre.2]

theorem patternLoop_blank (s : Src) (n : Nat) (st : PatState) (q : Nat) (hrole : st.role = .lineStart)
    (h10 : s[q]? = some 10) :
    getPatternLoop s (n + 1) st q =
      getPatternLoop s n { st with elements := st.elements ++ [.text q (q + 1) 0 .lineStart] } (q + 1) := by
  rw [patLoop_slice (get_lt h10) (by rw [h10]; decide)
    (patPre_blank (d := 0) hrole (skipBlankInline_of_ne (by rw [h10]; decide)) (Or.inl h10)) (slice_at_lf h10)
    (st2Of_lf fun h => absurd hrole h), hrole]
  rfl

theorem patternLoop_finish (s : Src) (q' : Nat) : ∀ (d n q : Nat) (st : PatState), st.role = .lineStart →
    q + d = q' → (∀ j, q ≤ j → j < q' → s[j]? = some 10) → Stopper s q' → d + 1 ≤ n →
    ∃ tr, getPatternLoop s n st q =
      .ok ⟨st.elements ++ tr, st.lastNonBlank, st.commonIndent, .lineStart, st.keptCommonIndent⟩ q' := by
  intro d
  induction d with
  | zero =>
    intro n q st hrole hq _ hstop hn
    obtain ⟨m, rfl⟩ : ∃ m, n = m + 1 := ⟨n - 1, by omega⟩
    have : q = q' := by omega
    subst this
    refine ⟨[], ?_⟩
    rw [patternLoop_stop s m st q hrole hstop]
    cases st; simp_all
  | succ d ih =>
    intro n q st hrole hq h10 hstop hn
    obtain ⟨m, rfl⟩ : ∃ m, n = m + 1 := ⟨n - 1, by omega⟩
    rw [patternLoop_blank s m st q hrole (h10 q (Nat.le_refl _) (by omega))]
    obtain ⟨tr, htr⟩ := ih m (q + 1) { st with elements := st.elements ++ [.text q (q + 1) 0 .lineStart] } hrole
      (by omega) (fun j h1 h2 => h10 j (by omega) h2) hstop (by omega)
    exact ⟨.text q (q + 1) 0 .lineStart :: tr, by rw [htr]; simp⟩

/-! `get_text_slice` on a class text `v` in `[pc, q)`, by what follows it -/

theorem mlSlice_brace {s : Src} {v : Bytes} (hv : mlTextOK v = true) (hn : endsNl v = false) {pc q : Nat}
    (h : AtTo s pc v q) (hc : s[q]? = some 123) :
    getTextSlice s pc = .ok (pc, q, v.any (fun b => b != 32), .placeableStart) q :=
  getTextSlice_brace (mlTextOK_clean hv hn) h hc

theorem mlSlice_last {s : Src} {v : Bytes} (hv : mlTextOK v = true) (hn : endsNl v = false) (h13 : endsCr v = false)
    {pc q : Nat} (h : AtTo s pc v q) (hc : s[q]? = some 10) :
    getTextSlice s pc = .ok (pc, q + 1, v.any (fun b => b != 32), .lineFeed) (q + 1) :=
  getTextSlice_lf (mlTextOK_clean hv hn) (mlTextOK_ne hv) (by simpa [endsCr] using h13) h hc

theorem mlSlice_crlf {s : Src} {v : Bytes} (hv : mlTextOK v = true) (hn : endsNl v = false) {pc q : Nat}
    (h : AtTo s pc v q) (h13 : s[q]? = some 13) (h10 : s[q + 1]? = some 10) :
    getTextSlice s pc = .ok (pc, q, v.any (fun b => b != 32), .crlf) (q + 1) :=
  getTextSlice_crlf (mlTextOK_clean hv hn) h h13 h10

theorem mlSlice_nl {s : Src} {v : Bytes} (hv : mlTextOK v = true) (hn : endsNl v = true) {pc q : Nat} (h : AtTo s pc v q) :
    getTextSlice s pc = .ok (pc, q, v.dropLast.any (fun b => b != 32), .lineFeed) q := by
  have hl : v.getLast? = some 10 := by simpa [endsNl] using hn
  have hx := dropLast_snoc v 10 hl
  -- all but the line feed in `[pc, m)`, the line feed at `m`
  obtain ⟨m, h0, h⟩ := atTo_append.mp (hx ▸ h)
  obtain ⟨h10, h⟩ := atTo_cons.mp h
  obtain rfl := atTo_nil.mp h
  by_cases hd : v.dropLast = []
  · obtain rfl := atTo_nil.mp (hd ▸ h0)
    rw [slice_at_lf h10, hd]
    simp
  · have hv0 : ∀ b ∈ v.dropLast, b ≠ 10 ∧ b ≠ 123 ∧ b ≠ 125 := by
      intro b hb
      have h1 := mlTextOK_mem hv b (by rw [hx]; simp [hb])
      exact ⟨mlTextOK_init hv b hb, h1.1, h1.2⟩
    have hl13 : v.dropLast.getLast? ≠ some 13 := by
      have := mlTextOK_nocrlf hv
      simp only [crlfEnd, hl, beq_self_eq_true, Bool.true_and, beq_eq_false_iff_ne, ne_eq] at this
      exact this
    rw [getTextSlice_lf hv0 hd hl13 h0 h10]

theorem trimEndGo_first (s : Src) (a : Nat) (c : UInt8) (hc : s[a]? = some c) (h1 : c ≠ 32) (h2 : c ≠ 13) (h3 : c ≠ 10) :
    ∀ n b, a < b → a < trimEndGo s a n b := by
  intro n b hb
  obtain ⟨hle, _, htrim, _⟩ := trimEndGo_result s a n b (Nat.le_of_lt hb)
  rcases Nat.eq_or_lt_of_le hle with heq | hlt
  · have := htrim a (by omega) hb
    rw [TrimAt, hc] at this
    rcases this with h | h | h <;> cases h <;> contradiction
  · exact hlt

theorem trimEnd_first (s : Src) (a b : Nat) (c : UInt8) (hab : a < b) (hc : s[a]? = some c) (h1 : c ≠ 32)
    (h2 : c ≠ 13) (h3 : c ≠ 10) : ((trimEnd s ⟨a, b⟩).stop != a) = true := by
  have := trimEndGo_first s a c hc h1 h2 h3 (b - a) b hab
  simp only [trimEnd, bne_iff_ne, ne_eq]
  omega

theorem atTo_spaces {s : Src} {p q n : Nat} (h : AtTo s p (spacesL n) q) : q = p + n ∧ ∀ j, j < n → s[p + j]? = some 32 :=
  ⟨by rw [← h.len, spacesL_length], fun j hj => by
    have := at_get h.txt j (by simpa [spacesL] using hj)
    simpa [spacesL] using this⟩

theorem mlLoop_nil {s : Src} (hs : AsciiThenBoundary s) (n p q' : Nat) (st : PatState)
    (hrole : (st.role == .lineStart) = false) (hb : Bnd s p) (h10 : s[p]? = some 10)
    (hf : PatFollow s (p + 1) q') (hn : (q' - p) + 1 ≤ n) :
    ∃ tr, getPatternLoop s n st p =
      .ok ⟨st.elements ++ tr, st.lastNonBlank, st.commonIndent, .lineStart, st.keptCommonIndent⟩ q' := by
  obtain ⟨m, rfl⟩ : ∃ m, n = m + 1 := ⟨n - 1, by omega⟩
  have hts := slice_at_lf h10
  have hsl : slice s p (p + 1) = some ⟨p, p + 1⟩ := slice_ok (by omega) hb (bnd_succ hs h10 (by decide))
  rw [patternLoop_text_step s m st p (p + 1) (p + 1) false .lineFeed (get_lt h10) (by rw [h10]; decide)
    hrole hts (by omega) hsl]
  obtain ⟨hle, h10s, hstop⟩ := hf
  obtain ⟨tr, htr⟩ := patternLoop_finish s q' (q' - (p + 1)) m (p + 1)
    ⟨st.elements ++ [.text p (p + 1) 0 st.role], st.lastNonBlank, st.commonIndent, patRole .lineFeed, st.keptCommonIndent⟩
    rfl (by omega) h10s hstop (by omega)
  refine ⟨.text p (p + 1) 0 st.role :: tr, ?_⟩
  simp only [Bool.false_and, Bool.false_eq_true, if_false]
  rw [htr]
  simp

theorem ciStep_eq (I : Nat) (c : Option Nat) (k : Nat) : ciStep I c k = minOpt c (I + k) := minOpt_eq c (I + k)

theorem step_ls_content (s : Src) (n : Nat) (st : PatState) (p I k : Nat) (c : UInt8) (stop q : Nat)
    (term : Termination) (hrole : st.role = .lineStart) (hI : 0 < I)
    (hsp : ∀ j, j < I + k → s[p + j]? = some 32) (hc : s[p + (I + k)]? = some c) (hc32 : c ≠ 32)
    (hcont : isBytePatternContinuation c = true)
    (hts : getTextSlice s (p + (I + k)) = .ok (p + (I + k), stop, true, term) q) (hne : p + (I + k) < stop)
    (hsl : slice s (p + (I + k)) stop = some ⟨p + (I + k), stop⟩) :
    getPatternLoop s (n + 1) st p =
      getPatternLoop s n ⟨st.elements ++ [.text p stop (I + k) .lineStart],
        (if (trimEnd s ⟨p + (I + k), stop⟩).stop != p + (I + k) then some st.elements.length else st.lastNonBlank),
        ciStep I st.commonIndent k, patRole term,
        (if (trimEnd s ⟨p + (I + k), stop⟩).stop != p + (I + k) then ciStep I st.commonIndent k
          else st.keptCommonIndent)⟩ q := by
  have hp0 : s[p]? = some 32 := by have := hsp 0 (by omega); simpa using this
  rw [patLoop_slice (get_lt hp0) (by rw [hp0]; decide) (patPre_ls s st p (I + k) c hrole (by omega) hsp hc hc32 hcont) hts
    (st2Of_textline hrole hne (by rw [survivesOf, if_pos rfl, hsl]; rfl)), ciStep_eq]
  rfl

theorem step_ls_blank (s : Src) (n : Nat) (st : PatState) (p I : Nat) (hrole : st.role = .lineStart) (hI : 0 < I)
    (hsp : ∀ j, j < I → s[p + j]? = some 32) (h10 : s[p + I]? = some 10) :
    getPatternLoop s (n + 1) st p =
      getPatternLoop s n ⟨st.elements ++ [.text (p + I) (p + I + 1) 0 .lineStart], st.lastNonBlank, st.commonIndent,
        .lineStart, st.keptCommonIndent⟩ (p + I + 1) := by
  have hp0 : s[p]? = some 32 := by have := hsp 0 hI; simpa using this
  rw [patLoop_slice (get_lt hp0) (by rw [hp0]; decide) (patPre_ls s st p I 10 hrole hI hsp h10 (by decide) (by decide))
    (slice_at_lf h10) (st2Of_lf fun h => absurd hrole h), hrole]
  rfl

theorem step_ls_led (s : Src) (n : Nat) (st : PatState) (p I k : Nat) (hrole : st.role = .lineStart) (hI : 0 < I)
    (hsp : ∀ j, j < I + k → s[p + j]? = some 32) (hc : s[p + (I + k)]? = some 123) :
    getPatternLoop s (n + 1) st p =
      getPatternLoop s n ⟨st.elements ++ [.text p (p + (I + k)) (I + k) .lineStart], st.lastNonBlank,
        ciStep I st.commonIndent k, .continuation, st.keptCommonIndent⟩ (p + (I + k)) := by
  have hp0 : s[p]? = some 32 := by have := hsp 0 (by omega); simpa using this
  rw [patLoop_slice (get_lt hp0) (by rw [hp0]; decide)
    (patPre_ls s st p (I + k) 123 hrole (by omega) hsp hc (by decide) (by decide)) (slice_at_brace hc)
    (st2Of_placeableLed hrole), ciStep_eq]
  rfl

end FluentProofs.Ser

import FluentProofs.SerializerResLeaf
import FluentProofs.ParserLineHead
import FluentProofs.ParserLocalShiftEntry
/-!
# Serializer lemmas: where a message or a term ends in the source (C04, Junk)

For every source (lone `\r` included): the cursor at which `get_message` / `get_term` succeed is an `EntryStop`: a
position on which `get_pattern` stops (`Stopper`: the end of input, a byte other than space / line end / `{` in column 0,
or an indented `.` `[` `*` `}`) and at which `get_attributes` finds no further attribute; `skip_blank_block` does not move
from it.
-/
namespace FluentProofs.Ser
open FluentModel FluentModel.Syntax FluentModel.Syntax.Ser FluentProofs.Parser

theorem stopper_of_break {s : Src} {st : PatState} {p : Nat} (h123 : s[p]? ≠ some 123)
    (hpre : patPre s st p = none) : Stopper s (patBreak s p) := by
  by_cases hr : st.role = .lineStart
  · obtain ⟨k, o, H⟩ := lineHead s p
    rw [patPre_lineStart hr H] at hpre
    rw [patBreak_eq H]
    cases o with
    | none => left; simpa using H.byte
    | some b =>
      have h32 : b ≠ 32 := fun h0 => H.ne32 (by rw [h0])
      simp only [] at hpre ⊢
      by_cases hk0 : k = 0
      · -- column 0: a byte that is no space, no line end and no `{`
        rw [if_pos hk0] at hpre ⊢
        subst hk0
        have hb := H.byte
        rw [Nat.add_zero] at hb
        have he : isEol s p = false := by
          cases he : isEol s p with
          | false => rfl
          | true => rw [he] at hpre; cases hpre
        refine Or.inr (Or.inl ⟨b, hb, h32, fun h0 => ?_, fun h0 h10 => ?_, fun h0 => h123 (by rw [hb, h0])⟩)
        · subst h0; simp [isEol, hb] at he
        · subst h0; simp [isEol, hb, h10] at he
      · -- indented: `.` `[` `*` `}`
        rw [if_neg hk0] at hpre ⊢
        cases hc : isBytePatternContinuation b with
        | true => rw [hc] at hpre; cases hpre
        | false =>
          simp only [Bool.false_eq_true, if_false]
          refine Or.inr (Or.inr ⟨k, b, by omega, fun _ => H.space, H.byte, ?_⟩)
          simp only [isBytePatternContinuation, Bool.not_eq_false', Bool.or_eq_true, beq_iff_eq] at hc
          rcases hc with ((h | h) | h) | h
          · exact Or.inl h
          · exact Or.inr (Or.inr (Or.inr h))
          · exact Or.inr (Or.inl h)
          · exact Or.inr (Or.inr (Or.inl h))
  · rw [patPre_other p hr] at hpre; cases hpre

theorem getPatternLoop_stopper {s : Src} (n : Nat) (st : PatState) (p : Nat) (st' : PatState) (q : Nat)
    (h : getPatternLoop s n st p = .ok st' q) : Stopper s q :=
  patLoop_inv (fun _ _ => True) (fun _ q => Stopper s q) (fun _ _ _ hsz => Or.inl hsz)
    (fun _ _ _ _ h123 hpre => stopper_of_break h123 hpre) (fun _ _ _ _ _ _ _ _ _ => trivial)
    (fun _ _ _ _ _ _ _ _ _ _ _ _ _ _ _ _ => trivial) n st p st' q trivial h

theorem getPattern_stopper {s : Src} {f p : Nat} {v : Option (Pattern Span)} {q : Nat}
    (h : getPattern s f p = .ok v q) : Stopper s q := by
  cases f with
  | zero => simp [getPattern] at h
  | succ n =>
    rw [getPattern_unfold] at h
    obtain ⟨st, q', hl, h⟩ := R.bind_eq_ok h
    rw [patClose_ok h]
    exact getPatternLoop_stopper n _ _ st q' hl

theorem getAttribute_stopper {s : Src} {f p : Nat} {a : Attribute Span} {q : Nat}
    (h : getAttribute s f p = .ok a q) : Stopper s q := by
  rw [getAttribute_eq] at h
  obtain ⟨_, _, _, h⟩ := R.bind_eq_ok h
  obtain ⟨_, _, _, h⟩ := R.bind_eq_ok h
  obtain ⟨o, q3, hp, h⟩ := R.bind_eq_ok h
  cases o <;> cases h
  exact getPattern_stopper hp

theorem attrStopAt_of {s : Src} {p : Nat}
    (h : s[skipBlankInline s p]? ≠ some 46 ∨
      ∃ e q, getAttribute s (exprFuel s) (skipBlankInline s p + 1) = .err e q) : AttrStopAt s p := by
  intro fuel hfuel n acc
  rw [getAttributesGo_unfold]
  rcases h with h | ⟨e, q, h⟩
  · rw [if_neg h]
  · obtain ⟨e', he⟩ := getAttribute_err_fuel h (F₂ := fuel) (by simp only [exprFuel]; omega)
    rw [he]
    split <;> rfl

theorem attrStop_inv {s : Src} {p : Nat} (h : AttrStopAt s p) :
    s[skipBlankInline s p]? ≠ some 46 ∨
      ∃ e q, getAttribute s (exprFuel s) (skipBlankInline s p + 1) = .err e q := by
  have h0 := h (exprFuel s) (by simp [exprFuel]) 0 []
  rw [getAttributesGo_unfold] at h0
  by_cases hdot : s[skipBlankInline s p]? = some 46
  · right
    rw [if_pos hdot] at h0
    cases ha : getAttribute s (exprFuel s) (skipBlankInline s p + 1) with
    | ok a q => rw [ha] at h0; simp [getAttributesGo] at h0
    | err e q => exact ⟨e, q, rfl⟩
    | panic m => rw [ha] at h0; cases h0
    | fuel => rw [ha] at h0; cases h0
  · exact Or.inl hdot

theorem getAttributesGo_end {s : Src} (k : Nat) (acc : List (Attribute Span)) (p : Nat)
    {attrs : List (Attribute Span)} {q : Nat}
    (h : getAttributesGo s (exprFuel s) k acc p = .ok attrs q) (hp : Stopper s p) : EntryStop s q := by
  induction k generalizing acc p with
  | zero => simp [getAttributesGo] at h
  | succ k ih =>
    rw [getAttributesGo_unfold] at h
    by_cases hdot : s[skipBlankInline s p]? = some 46
    · rw [if_pos hdot] at h
      cases ha : getAttribute s (exprFuel s) (skipBlankInline s p + 1) with
      | ok a q' =>
        rw [ha] at h
        exact ih _ _ h (getAttribute_stopper ha)
      | err e q' =>
        rw [ha] at h
        cases h
        exact ⟨hp, attrStopAt_of (Or.inr ⟨e, q', ha⟩)⟩
      | panic m => rw [ha] at h; cases h
      | fuel => rw [ha] at h; cases h
    · rw [if_neg hdot] at h
      cases h
      exact ⟨hp, attrStopAt_of (Or.inl hdot)⟩

theorem getAttributes_end {s : Src} {q3 : Nat} (hq3 : Stopper s q3)
    {attrs : List (Attribute Span)} {q : Nat}
    (h : getAttributes s (exprFuel s) (skipBlankBlock s q3).1 = .ok attrs q) : EntryStop s q := by
  rw [hq3.blockStop.sbb] at h
  exact getAttributesGo_end _ _ _ h hq3

theorem getMessage_end {s : Src} {es p : Nat} {m : Message Span} {q : Nat}
    (h : getMessage s (exprFuel s) es p = .ok m q) : EntryStop s q := by
  rw [getMessage_eq] at h
  obtain ⟨_, _, _, h⟩ := R.bind_eq_ok h
  obtain ⟨_, _, _, h⟩ := R.bind_eq_ok h
  obtain ⟨_, q3, hpat, h⟩ := R.bind_eq_ok h
  obtain ⟨_, q5, hattr, h⟩ := R.bind_eq_ok h
  split at h <;> cases h
  exact getAttributes_end (getPattern_stopper hpat) hattr

theorem getTerm_end {s : Src} {es p : Nat} {t : Term Span} {q : Nat}
    (h : getTerm s (exprFuel s) es p = .ok t q) : EntryStop s q := by
  rw [getTerm_eq] at h
  obtain ⟨_, _, _, h⟩ := R.bind_eq_ok h
  obtain ⟨_, _, _, h⟩ := R.bind_eq_ok h
  obtain ⟨_, _, _, h⟩ := R.bind_eq_ok h
  obtain ⟨value, q3, hpat, h⟩ := R.bind_eq_ok h
  obtain ⟨_, q5, hattr, h⟩ := R.bind_eq_ok h
  cases value <;> cases h
  exact getAttributes_end (getPattern_stopper hpat) hattr

end FluentProofs.Ser

import FluentModel.JoinText
import FluentProofs.SpecDedent
/-!
# Patterns as flat item sequences (C02, pattern layer, part 1)

A pattern — a list of text elements and placeables — is determined, once adjacent text is joined and empty
text dropped, by its *flattening*: the sequence of its bytes and placeables.  Flattening turns the
abstract-syntax pass of the grammar (`finishPattern`) into plain list operations: drop the leading `\n`s,
drop the trailing white space.
-/
namespace FluentProofs.PatFlat
open FluentModel FluentModel.Syntax FluentModel.SpecGrammar FluentProofs.SpecDedent

abbrev Item := UInt8 ⊕ Expr Bytes

def chars (t : Bytes) : List Item := t.map Sum.inl

def flat : List (PatElem Bytes) → List Item
  | [] => []
  | .text t :: l => chars t ++ flat l
  | .placeable e :: l => Sum.inr e :: flat l

def isNl : Item → Bool
  | .inl b => b == 10
  | .inr _ => false

def isWs : Item → Bool
  | .inl b => isTrailingWs b
  | .inr _ => false

def trimL (l : List Item) : List Item := l.dropWhile isNl
def trimR (l : List Item) : List Item := (l.reverse.dropWhile isWs).reverse

theorem flat_append (a b : List (PatElem Bytes)) : flat (a ++ b) = flat a ++ flat b := by
  induction a with
  | nil => rfl
  | cons e t ih => cases e <;> simp [flat, ih]

theorem chars_append (a b : Bytes) : chars (a ++ b) = chars a ++ chars b := by simp [chars]

theorem flat_joinAdjacent (l : List (PatElem Bytes)) : flat (joinAdjacent l) = flat l := by
  induction l with
  | nil => rfl
  | cons e t ih =>
    cases e with
    | placeable x => simp [joinAdjacent, flat, ih]
    | text a =>
      simp only [joinAdjacent]
      cases hj : joinAdjacent t with
      | nil => rw [hj] at ih; simp [flat, ← ih]
      | cons e2 r =>
        rw [hj] at ih
        cases e2 with
        | text b => simp only [flat] at ih ⊢; rw [chars_append, List.append_assoc, ih]
        | placeable y => simp only [flat] at ih ⊢; rw [ih]

theorem flat_filter (l : List (PatElem Bytes)) : flat (l.filter nonEmptyEl) = flat l := by
  induction l with
  | nil => rfl
  | cons e t ih =>
    cases e with
    | placeable x => simp [List.filter_cons, nonEmptyEl, flat, ih]
    | text a =>
      simp only [List.filter_cons, nonEmptyEl]
      cases a with
      | nil => simp [flat, chars, ih]
      | cons b r => simp [flat, ih]

def NoLeadChar (l : List Item) : Prop := ∀ b t, l ≠ Sum.inl b :: t

theorem noLeadChar_nil : NoLeadChar [] := by intro b t h; cases h
theorem noLeadChar_inr (e : Expr Bytes) (l : List Item) : NoLeadChar (Sum.inr e :: l) := by intro b t h; cases h

theorem flat_tail_noLead {a : Bytes} {l : List (PatElem Bytes)} (h : NoAdjText (.text a :: l)) : NoLeadChar (flat l) := by
  cases l with
  | nil => exact noLeadChar_nil
  | cons e r =>
    cases e with
    | text b => simp [NoAdjText] at h
    | placeable x => exact noLeadChar_inr _ _

theorem dropWhile_chars (t : Bytes) (X : List Item) (hX : NoLeadChar X) :
    (chars t ++ X).dropWhile isNl = chars (t.dropWhile (· == 10)) ++ X := by
  induction t with
  | nil =>
    simp only [chars, List.map_nil, List.nil_append, List.dropWhile_nil]
    cases X with
    | nil => rfl
    | cons x r =>
      cases x with
      | inl b => exact absurd rfl (hX b r)
      | inr e => simp [isNl]
  | cons b r ih =>
    simp only [chars, List.map_cons, List.cons_append, List.dropWhile_cons, isNl]
    by_cases hb : (b == 10) = true
    · simp only [hb, if_true]; exact ih
    · simp [hb]

theorem flat_trimFirst {l : List (PatElem Bytes)} (h : NoAdjText l) : flat (trimFirst l) = trimL (flat l) := by
  cases l with
  | nil => rfl
  | cons e r =>
    cases e with
    | placeable x => simp [trimFirst, flat, trimL, isNl]
    | text t =>
      simp only [trimFirst, flat, trimL]
      rw [dropWhile_chars t _ (flat_tail_noLead h)]

theorem chars_reverse (t : Bytes) : (chars t).reverse = chars t.reverse := by simp [chars]

theorem dropWhile_isWs_chars (t : Bytes) : (chars t).dropWhile isWs = chars (t.dropWhile isTrailingWs) := by
  induction t with
  | nil => rfl
  | cons b r ih =>
    simp only [chars, List.map_cons, List.dropWhile_cons, isWs]
    by_cases hb : isTrailingWs b = true
    · simp only [hb, if_true]; exact ih
    · simp [hb]

theorem trimR_chars (t : Bytes) : trimR (chars t) = chars (dropTrailingWs t) := by
  unfold trimR dropTrailingWs
  rw [chars_reverse, dropWhile_isWs_chars, chars_reverse]

theorem trimR_append_of_ne (A Y : List Item) (h : trimR Y ≠ []) : trimR (A ++ Y) = A ++ trimR Y := by
  unfold trimR at h ⊢
  rw [List.reverse_append]
  have : (Y.reverse ++ A.reverse).dropWhile isWs = Y.reverse.dropWhile isWs ++ A.reverse := by
    generalize Y.reverse = Z at h ⊢
    induction Z with
    | nil => simp at h
    | cons z r ih =>
      simp only [List.cons_append, List.dropWhile_cons]
      by_cases hz : isWs z = true
      · simp only [hz, if_true]
        apply ih
        simpa [List.dropWhile_cons, hz] using h
      · simp [hz]
  rw [this]
  simp

theorem trimR_inr_cons (e : Expr Bytes) (Y : List Item) : trimR (Sum.inr e :: Y) = Sum.inr e :: trimR Y := by
  by_cases h : trimR Y = []
  · rw [h]
    unfold trimR at h ⊢
    have hY : Y.reverse.dropWhile isWs = [] := by simpa using h
    rw [List.reverse_cons, List.dropWhile_append, hY]
    simp [isWs]
  · exact trimR_append_of_ne [Sum.inr e] Y h

theorem trimR_ne_of_inr (e : Expr Bytes) (Y : List Item) : trimR (Sum.inr e :: Y) ≠ [] := by
  rw [trimR_inr_cons]; simp

theorem flat_trimLast {l : List (PatElem Bytes)} (h : NoAdjText l) : flat (trimLast l) = trimR (flat l) := by
  induction l with
  | nil => rfl
  | cons e rest ih =>
    cases rest with
    | nil =>
      cases e with
      | text t => simp only [trimLast, flat, List.append_nil]; rw [trimR_chars]
      | placeable x => simp only [trimLast, flat]; rw [trimR_inr_cons]; rfl
    | cons e2 r =>
      have ht := ih (noAdjText_tail h)
      have hun : trimLast (e :: e2 :: r) = e :: trimLast (e2 :: r) := by
        cases e <;> simp [trimLast]
      rw [hun]
      cases e with
      | placeable x => simp only [flat]; rw [ht, trimR_inr_cons]
      | text a =>
        cases e2 with
        | text b => simp [NoAdjText] at h
        | placeable y =>
          simp only [flat] at ht ⊢
          rw [ht, trimR_append_of_ne _ _ (trimR_ne_of_inr _ _)]

theorem flat_finishPattern (els : List RawEl) :
    flat (finishPattern els) = trimR (trimL (flat (els.map (dedent ((commonIndent els).getD 0))))) := by
  unfold finishPattern
  simp only
  rw [flat_filter, flat_trimLast (trimFirst_noAdj (joinAdjacent_noAdj _)),
    flat_trimFirst (joinAdjacent_noAdj _), flat_joinAdjacent]

theorem chars_prefix_unique (t u : Bytes) (X Y : List Item) (hX : NoLeadChar X) (hY : NoLeadChar Y)
    (h : chars t ++ X = chars u ++ Y) : t = u ∧ X = Y := by
  induction t generalizing u with
  | nil =>
    cases u with
    | nil => exact ⟨rfl, by simpa [chars] using h⟩
    | cons b r =>
      simp only [chars, List.map_nil, List.nil_append, List.map_cons, List.cons_append] at h
      exact absurd h (hX _ _)
  | cons a t ih =>
    cases u with
    | nil =>
      simp only [chars, List.map_nil, List.nil_append, List.map_cons, List.cons_append] at h
      exact absurd h.symm (hY _ _)
    | cons b r =>
      simp only [chars, List.map_cons, List.cons_append] at h
      injection h with h1 h2
      injection h1 with h1
      obtain ⟨e1, e2⟩ := ih r h2
      exact ⟨by rw [h1, e1], e2⟩

theorem flat_injective : ∀ (a b : List (PatElem Bytes)), NoAdjText a → NoAdjText b →
    (∀ e ∈ a, nonEmptyEl e = true) → (∀ e ∈ b, nonEmptyEl e = true) → flat a = flat b → a = b
  | [], b, _, _, _, hb, h => by
    cases b with
    | nil => rfl
    | cons e r =>
      cases e with
      | placeable x => simp [flat] at h
      | text t =>
        have := hb (.text t) (by simp)
        cases t with
        | nil => simp [nonEmptyEl] at this
        | cons c t' => simp [flat, chars] at h
  | .placeable x :: a', b, ha, hb, hna, hnb, h => by
    cases b with
    | nil => simp [flat] at h
    | cons e r =>
      cases e with
      | placeable y =>
        simp only [flat] at h
        injection h with h1 h2
        injection h1 with h1
        subst h1
        rw [flat_injective a' r (noAdjText_tail ha) (noAdjText_tail hb)
          (fun e he => hna e (List.mem_cons_of_mem _ he)) (fun e he => hnb e (List.mem_cons_of_mem _ he)) h2]
      | text t =>
        have := hnb (.text t) (by simp)
        cases t with
        | nil => simp [nonEmptyEl] at this
        | cons c t' => simp [flat, chars] at h
  | .text t :: a', b, ha, hb, hna, hnb, h => by
    cases b with
    | nil =>
      have := hna (.text t) (by simp)
      cases t with
      | nil => simp [nonEmptyEl] at this
      | cons c t' => simp [flat, chars] at h
    | cons e r =>
      cases e with
      | placeable y =>
        have := hna (.text t) (by simp)
        cases t with
        | nil => simp [nonEmptyEl] at this
        | cons c t' => simp [flat, chars] at h
      | text u =>
        simp only [flat] at h
        obtain ⟨e1, e2⟩ := chars_prefix_unique t u _ _ (flat_tail_noLead ha) (flat_tail_noLead hb) h
        subst e1
        rw [flat_injective a' r (noAdjText_tail ha) (noAdjText_tail hb)
          (fun e he => hna e (List.mem_cons_of_mem _ he)) (fun e he => hnb e (List.mem_cons_of_mem _ he)) e2]

def flatJ : List (PatElem Bytes) → List Item
  | [] => []
  | .text t :: l => chars t ++ flatJ l
  | .placeable e :: l => Sum.inr e.joinText :: flatJ l

def joinEl : PatElem Bytes → PatElem Bytes
  | .text t => .text t
  | .placeable e => .placeable e.joinText

theorem joinPat_eq_joinAdjacent (l : List (PatElem Bytes)) : joinPat l = joinAdjacent (l.map joinEl) := by
  induction l with
  | nil => simp only [joinPat, List.map_nil, joinAdjacent]
  | cons e t ih =>
    cases e with
    | placeable x => simp only [joinPat, List.map_cons, joinEl, joinAdjacent, ih]
    | text a =>
      simp only [joinPat, List.map_cons, joinEl, joinAdjacent, ih]
      -- the same `match`, once compiled for `joinPat` and once for `joinAdjacent`
      cases joinAdjacent (t.map joinEl) with
      | nil => rfl
      | cons e r => cases e <;> rfl

theorem flat_map_joinEl (l : List (PatElem Bytes)) : flat (l.map joinEl) = flatJ l := by
  induction l with
  | nil => rfl
  | cons e t ih => cases e <;> simp only [List.map_cons, joinEl, flat, flatJ, ih]

theorem flat_joinPat (l : List (PatElem Bytes)) : flat (joinPat l) = flatJ l := by
  rw [joinPat_eq_joinAdjacent, flat_joinAdjacent, flat_map_joinEl]

theorem joinPat_noAdj (l : List (PatElem Bytes)) : NoAdjText (joinPat l) := by
  rw [joinPat_eq_joinAdjacent]; exact joinAdjacent_noAdj _

theorem nonEmptyEl_text_append {a : Bytes} (b : Bytes) (h : nonEmptyEl (.text a) = true) :
    nonEmptyEl (.text (a ++ b)) = true := by
  cases a with
  | nil => cases h
  | cons x t => rfl

theorem joinAdjacent_nonEmpty (l : List (PatElem Bytes)) (h : ∀ e ∈ l, nonEmptyEl e = true) :
    ∀ e ∈ joinAdjacent l, nonEmptyEl e = true := by
  induction l with
  | nil => exact h
  | cons x rest ih =>
    obtain ⟨hx, hrest⟩ := List.forall_mem_cons.mp h
    have ih := ih hrest
    cases x with
    | placeable y => exact List.forall_mem_cons.mpr ⟨rfl, ih⟩
    | text a =>
      simp only [joinAdjacent]
      split
      · rename_i b r hj
        rw [hj] at ih
        exact List.forall_mem_cons.mpr ⟨nonEmptyEl_text_append b hx, (List.forall_mem_cons.mp ih).2⟩
      · exact List.forall_mem_cons.mpr ⟨hx, ih⟩

theorem joinPat_nonEmpty (l : List (PatElem Bytes)) (h : ∀ e ∈ l, nonEmptyEl e = true) :
    ∀ e ∈ joinPat l, nonEmptyEl e = true := by
  rw [joinPat_eq_joinAdjacent]
  refine joinAdjacent_nonEmpty _ fun e he => ?_
  obtain ⟨x, hx, rfl⟩ := List.mem_map.mp he
  cases x with
  | text t => exact h _ hx
  | placeable y => rfl

theorem joinPat_eq_of_flat (l : List (PatElem Bytes)) (h : ∀ e ∈ l, nonEmptyEl e = true) (els : List RawEl)
    (hf : flatJ l = flat (finishPattern els)) : joinPat l = finishPattern els :=
  flat_injective _ _ (joinPat_noAdj l) (finishPattern_noAdj els) (joinPat_nonEmpty l h) (finishPattern_nonEmpty els)
    (by rw [flat_joinPat, hf])

end FluentProofs.PatFlat

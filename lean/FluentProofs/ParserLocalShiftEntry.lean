import FluentProofs.ParserLocalShiftPat
/-!
# Locality of the parser, SHIFT family, part 4: attributes, messages, terms, entries and the two entry loops

The loops through their steps: `loopStep_shift`, `loopStepRt_shift` into `runLoop_shift`.  At the end the family at distance `0`
(`shift_zero`): more fuel does not change a run of `get_attribute` or `get_entry` that ended in `ok` or `err` (`Fin`).
-/
namespace FluentProofs.Parser
open FluentModel.Syntax

def shMsg (d : Nat) (m : Message Span) : Message Span :=
  ⟨shSpan d m.id, m.value.map (mapPat (shSpan d)), m.attributes.map (Attribute.mapS (shSpan d)),
    m.comment.map (List.map (shSpan d))⟩

def shTerm (d : Nat) (t : Term Span) : Term Span :=
  ⟨shSpan d t.id, mapPat (shSpan d) t.value, t.attributes.map (Attribute.mapS (shSpan d)),
    t.comment.map (List.map (shSpan d))⟩

theorem shEntry_message (d : Nat) (m : Message Span) : shEntry d (.message m) = .message (shMsg d m) := rfl
theorem shEntry_term (d : Nat) (t : Term Span) : shEntry d (.term t) = .term (shTerm d t) := rfl
theorem shEntry_comment (d : Nat) (c : List Span) : shEntry d (.comment c) = .comment (c.map (shSpan d)) := rfl
theorem shEntry_groupComment (d : Nat) (c : List Span) : shEntry d (.groupComment c) = .groupComment (c.map (shSpan d)) := rfl
theorem shEntry_resourceComment (d : Nat) (c : List Span) :
    shEntry d (.resourceComment c) = .resourceComment (c.map (shSpan d)) := rfl
theorem shEntry_junk (d : Nat) (c : Span) : shEntry d (.junk c) = .junk (shSpan d c) := rfl

section
variable {d : Nat} {s₁ s₂ : Src}

section
variable {F₁ F₂ : Nat}

theorem getPattern_shiftR (h : Shift d s₁ s₂) (hF : F₁ ≤ F₂) (p : Nat) :
    ShR (Option.map (mapPat (shSpan d))) d (getPattern s₁ F₁ p) (getPattern s₂ F₂ (p + d)) :=
  fun hne => getPattern_shift h rfl hne hF

theorem getAttribute_shiftR (h : Shift d s₁ s₂) (hF : F₁ ≤ F₂) (p : Nat) :
    ShR (Attribute.mapS (shSpan d)) d (getAttribute s₁ F₁ p) (getAttribute s₂ F₂ (p + d)) := by
  rw [getAttribute_eq, getAttribute_eq]
  refine (ShR.of_eq (getIdentifier_shift h p)).bind fun id q _ => ?_
  rw [skipBlankInline_shift h]
  refine (ShR.of_eq (expectByte_shift h _ 61)).bind fun _ q2 _ => ?_
  refine (getPattern_shiftR h hF q2).bind fun o q3 _ => ?_
  cases o with
  | none => exact .mkErr rfl
  | some pat => exact .ok rfl

theorem getAttribute_shift (h : Shift d s₁ s₂) {p : Nat} {r : R (Attribute Span)}
    (hr : getAttribute s₁ F₁ p = r) (hne : r ≠ .fuel) (hF : F₁ ≤ F₂) :
    getAttribute s₂ F₂ (p + d) = shR (Attribute.mapS (shSpan d)) d r := by
  subst hr; exact getAttribute_shiftR h hF p hne

theorem getAttributesGo_shift (h : Shift d s₁ s₂) (hF : F₁ ≤ F₂) (n : Nat) (acc : List (Attribute Span)) (p : Nat) :
    ShR (List.map (Attribute.mapS (shSpan d))) d (getAttributesGo s₁ F₁ n acc p)
      (getAttributesGo s₂ F₂ n (acc.map (Attribute.mapS (shSpan d))) (p + d)) := by
  induction n generalizing acc p with
  | zero => exact fun hne => absurd rfl hne
  | succ n ih =>
    rw [getAttributesGo_unfold, getAttributesGo_unfold, skipBlankInline_shift h, h.get, sh1 d]
    by_cases h46 : s₁[skipBlankInline s₁ p]? = some 46
    · rw [if_pos h46, if_pos h46]
      intro hne
      have ha := getAttribute_shiftR h hF (skipBlankInline s₁ p + 1)
      cases hr : getAttribute s₁ F₁ (skipBlankInline s₁ p + 1) with
      | fuel => rw [hr] at hne; exact absurd rfl hne
      | panic msg => rw [hr] at ha; rw [ha (by nofun)]; rfl
      | err e q => rw [hr] at ha; rw [ha (by nofun)]; rfl
      | ok a q =>
        rw [hr] at ha hne
        rw [ha (by nofun)]
        have := ih (acc ++ [a]) q hne
        rwa [List.map_append, List.map_cons, List.map_nil] at this
    · rw [if_neg h46, if_neg h46]
      exact .ok rfl

theorem getAttributes_shiftR (h : Shift d s₁ s₂) (hF : F₁ ≤ F₂) (p : Nat) :
    ShR (List.map (Attribute.mapS (shSpan d))) d (getAttributes s₁ F₁ p) (getAttributes s₂ F₂ (p + d)) := by
  unfold getAttributes
  rw [h.fuel1]
  exact getAttributesGo_shift h hF (s₁.size - p + 1) [] p

theorem getMessage_shiftR (h : Shift d s₁ s₂) (hF : F₁ ≤ F₂) (es p : Nat) :
    ShR (shMsg d) d (getMessage s₁ F₁ es p) (getMessage s₂ F₂ (es + d) (p + d)) := by
  rw [getMessage_eq, getMessage_eq]
  refine (ShR.of_eq (getIdentifier_shift h p)).bind fun id q _ => ?_
  rw [skipBlankInline_shift h]
  refine (ShR.of_eq (expectByte_shift h _ 61)).bind fun _ q2 _ => ?_
  refine (getPattern_shiftR h hF q2).bind fun o q3 _ => ?_
  rw [skipBlankBlock_shift_fst h]
  refine (getAttributes_shiftR h hF _).bind fun attrs q5 _ => ?_
  rw [Option.isNone_map, List.isEmpty_map]
  split
  · exact .err (by rw [shErr_mkErr2]; rfl)
  · exact .ok rfl

theorem getTerm_shiftR (h : Shift d s₁ s₂) (hF : F₁ ≤ F₂) (es p : Nat) :
    ShR (shTerm d) d (getTerm s₁ F₁ es p) (getTerm s₂ F₂ (es + d) (p + d)) := by
  rw [getTerm_eq, getTerm_eq]
  refine (ShR.of_eq (expectByte_shift h p 45)).bind fun _ p0 _ => ?_
  refine (ShR.of_eq (getIdentifier_shift h p0)).bind fun id q _ => ?_
  rw [skipBlankInline_shift h]
  refine (ShR.of_eq (expectByte_shift h _ 61)).bind fun _ q2 _ => ?_
  rw [skipBlankInline_shift h]
  refine (getPattern_shiftR h hF _).bind fun o q3 _ => ?_
  rw [skipBlankBlock_shift_fst h]
  refine (getAttributes_shiftR h hF _).bind fun attrs q5 _ => ?_
  cases o with
  | none => exact .err (by rw [shErr_mkErr2]; rfl)
  | some v => exact .ok rfl

end

theorem entryOfComment_shift (d : Nat) (cl : List Span × Nat) (q : Nat) :
    entryOfComment (shCm d cl) (q + d) = shR (shEntry d) d (entryOfComment cl q) := by
  simp only [entryOfComment, shCm, apply_ite (shR (shEntry d) d)]
  rfl

theorem getEntry_shift (h : Shift d s₁ s₂) {F₁ F₂ : Nat} {p : Nat} {r : R (Entry Span)}
    (hr : getEntry s₁ F₁ p = r) (hne : r ≠ .fuel) (hF : F₁ ≤ F₂) :
    getEntry s₂ F₂ (p + d) = shR (shEntry d) d r := by
  subst hr
  revert hne
  show ShR (shEntry d) d (getEntry s₁ F₁ p) (getEntry s₂ F₂ (p + d))
  rw [getEntry_unfold, getEntry_unfold, h.get]
  by_cases h35 : s₁[p]? = some 35
  · rw [if_pos h35, if_pos h35, getComment_shift h p h35]
    exact (ShR.of_eq rfl).bind fun cl q _ => .of_eq (entryOfComment_shift d cl q)
  rw [if_neg h35, if_neg h35]
  by_cases h45 : s₁[p]? = some 45
  · rw [if_pos h45, if_pos h45]
    exact (getTerm_shiftR h hF p p).bind fun t q _ => .ok rfl
  · rw [if_neg h45, if_neg h45]
    exact (getMessage_shiftR h hF p p).bind fun m q _ => .ok rfl

theorem getEntryRuntime_shift (h : Shift d s₁ s₂) {F₁ F₂ : Nat} {p : Nat} {r : R (Option (Entry Span))}
    (hr : getEntryRuntime s₁ F₁ p = r) (hne : r ≠ .fuel) (hF : F₁ ≤ F₂) :
    getEntryRuntime s₂ F₂ (p + d) = shR (Option.map (shEntry d)) d r := by
  subst hr
  revert hne
  show ShR (Option.map (shEntry d)) d (getEntryRuntime s₁ F₁ p) (getEntryRuntime s₂ F₂ (p + d))
  rw [getEntryRuntime_unfold, getEntryRuntime_unfold, h.get]
  by_cases h35 : s₁[p]? = some 35
  · rw [if_pos h35, if_pos h35, skipComment_shift h]
    exact .ok rfl
  rw [if_neg h35, if_neg h35]
  by_cases h45 : s₁[p]? = some 45
  · rw [if_pos h45, if_pos h45]
    exact (getTerm_shiftR h hF p p).bind fun t q _ => .ok rfl
  · rw [if_neg h45, if_neg h45]
    exact (getMessage_shiftR h hF p p).bind fun m q _ => .ok rfl

theorem shErr_junk (d : Nat) (e : PErr) (a q1 : Nat) :
    ({ clampErr (shErr d e) (q1 + d) with slice := some (a + d, q1 + d) } : PErr) =
      shErr d { clampErr e q1 with slice := some (a, q1) } := by
  rw [clampErr_shift]; rfl

def shStep (d : Nat) : StepR → StepR
  | .next ab ae lc cnt p => .next (ab.map (shEntry d)) (ae.map (shErr d)) (lc.map (List.map (shSpan d))) cnt (p + d)
  | .panic m => .panic m
  | .fuel => .fuel

theorem flushC_shift (d : Nat) (lc : Option (List Span)) :
    flushC (lc.map (List.map (shSpan d))) = (flushC lc).map (shEntry d) := by
  cases lc <;> rfl

theorem recorded_shift (d : Nat) (lc : Option (List Span)) (cnt : Nat) (e : Entry Span) :
    recorded (lc.map (List.map (shSpan d))) cnt (shEntry d e) = (recorded lc cnt e).map (shEntry d) := by
  cases lc with
  | none => cases e <;> rfl
  | some c =>
    cases e with
    | message m => simp only [recorded, shEntry_message, Option.map_some]; split <;> rfl
    | term t => simp only [recorded, shEntry_term, Option.map_some]; split <;> rfl
    | _ => rfl

theorem pendingAfter_shift (d : Nat) (e : Entry Span) : pendingAfter (shEntry d e) = (pendingAfter e).map (List.map (shSpan d)) := by
  cases e <;> rfl

theorem junkStep_shift {d : Nat} {s₁ s₂ : Src} (h : Shift d s₁ s₂) (front : List (Entry Span)) {cnt₁ cnt₂ : Nat → Nat}
    (hc : ∀ q1, cnt₂ (q1 + d) = cnt₁ q1) (p : Nat) (e : PErr) (q : Nat) :
    junkStep s₂ (front.map (shEntry d)) cnt₂ (p + d) (shErr d e) (q + d) = shStep d (junkStep s₁ front cnt₁ p e q) := by
  unfold junkStep
  rw [skipToNextEntryStart_shift h]
  cases skipToNextEntryStart s₁ p q with
  | none => rfl
  | some q1 =>
    simp only [Option.map_some, slice_shift h]
    cases slice s₁ p q1 with
    | none => rfl
    | some content =>
      simp only [Option.map_some, skipBlankBlock_shift_fst h, shErr_junk, hc, shStep, List.map_append, List.map_cons,
        List.map_nil, shEntry_junk, Option.map_none]

theorem loopStep_shift {d : Nat} {s₁ s₂ : Src} (h : Shift d s₁ s₂) {F₁ F₂ : Nat} (hF : F₁ ≤ F₂) (lc : Option (List Span))
    (cnt p : Nat) (hne : loopStep s₁ F₁ lc cnt p ≠ .fuel) :
    loopStep s₂ F₂ (lc.map (List.map (shSpan d))) cnt (p + d) = shStep d (loopStep s₁ F₁ lc cnt p) := by
  have hE := getEntry_shift h (F₂ := F₂) (p := p) (r := getEntry s₁ F₁ p) rfl (fun hf => hne (loopStep_fuel hf)) hF
  cases hge : getEntry s₁ F₁ p with
  | ok e q =>
    rw [hge] at hE
    rw [loopStep_ok hge, loopStep_ok hE, recorded_shift, pendingAfter_shift, skipBlankBlock_shift h]
    rfl
  | err e q =>
    rw [hge] at hE
    rw [loopStep_err_eq hge, loopStep_err_eq hE, flushC_shift]
    exact junkStep_shift h _ (fun q1 => by rw [skipBlankBlock_shift h]) p e q
  | panic m =>
    rw [hge] at hE
    unfold loopStep
    rw [hge, hE]
    rfl
  | fuel => exact absurd (loopStep_fuel hge) hne

theorem loopStepRt_shift {d : Nat} {s₁ s₂ : Src} (h : Shift d s₁ s₂) {F₁ F₂ : Nat} (hF : F₁ ≤ F₂) (p : Nat)
    (hne : loopStepRt s₁ F₁ p ≠ .fuel) : loopStepRt s₂ F₂ (p + d) = shStep d (loopStepRt s₁ F₁ p) := by
  cases hge : getEntryRuntime s₁ F₁ p with
  | ok o q =>
    rw [loopStepRt_ok hge, loopStepRt_ok (getEntryRuntime_shift h hge (by nofun) hF), skipBlankBlock_shift_fst h]
    cases o <;> rfl
  | err e q =>
    rw [loopStepRt_err_eq hge, loopStepRt_err_eq (getEntryRuntime_shift h hge (by nofun) hF)]
    exact junkStep_shift h [] (fun _ => rfl) p e q
  | panic m =>
    unfold loopStepRt
    rw [hge, getEntryRuntime_shift h hge (by nofun) hF]
    rfl
  | fuel => exact absurd (by unfold loopStepRt; rw [hge]) hne

theorem runLoop_shift {d size size₂ : Nat} {step step₂ : Option (List Span) → Nat → Nat → StepR} (hsz : size₂ = size + d)
    (hstep : ∀ lc cnt p, step lc cnt p ≠ .fuel → step₂ (lc.map (List.map (shSpan d))) cnt (p + d) = shStep d (step lc cnt p)) :
    ∀ (N₁ N₂ : Nat), N₁ ≤ N₂ → ∀ (body : List (Entry Span)) (errs : List PErr) (lc : Option (List Span)) (cnt p : Nat)
      (r : List (Entry Span) × List PErr),
      runLoop size step N₁ body errs lc cnt p = .done r →
      runLoop size₂ step₂ N₂ (body.map (shEntry d)) (errs.map (shErr d)) (lc.map (List.map (shSpan d))) cnt (p + d)
        = .done (r.1.map (shEntry d), r.2.map (shErr d)) := by
  intro N₁
  induction N₁ with
  | zero => intro N₂ _ body errs lc cnt p r hr; cases hr
  | succ N ih =>
    intro N₂ hN body errs lc cnt p r hr
    obtain ⟨N₂', rfl⟩ : ∃ k, N₂ = k + 1 := ⟨N₂ - 1, by omega⟩
    by_cases hp : p < size
    · obtain ⟨ab, ae, lc', cnt', p', hst, hr'⟩ := runLoop_done_next hp hr
      rw [runLoop_unfold, if_pos (by omega), hstep lc cnt p (by rw [hst]; nofun), hst]
      have := ih N₂' (by omega) _ _ _ _ _ _ hr'
      rwa [List.map_append, List.map_append] at this
    · rw [runLoop_done_end (Nat.le_of_not_lt hp) hr, runLoop_unfold, if_neg (by omega), flushC_shift, List.map_append]

theorem parseRuntimeLoop_shift {d : Nat} {s₁ s₂ : Src} (h : Shift d s₁ s₂) {F₁ F₂ : Nat} (hF : F₁ ≤ F₂)
    (N₁ N₂ : Nat) (hN : N₁ ≤ N₂) (body : List (Entry Span)) (errs : List PErr) (p : Nat) (r : List (Entry Span) × List PErr)
    (hr : parseRuntimeLoop s₁ F₁ N₁ body errs p = .done r) :
    parseRuntimeLoop s₂ F₂ N₂ (body.map (shEntry d)) (errs.map (shErr d)) (p + d)
      = .done (r.1.map (shEntry d), r.2.map (shErr d)) := by
  rw [parseRuntimeLoop_eq_run] at hr ⊢
  exact runLoop_shift h.size (fun _ _ p hne => loopStepRt_shift h hF p hne) N₁ N₂ hN body errs none 0 p r hr

theorem parseLoop_shift {d : Nat} {s₁ s₂ : Src} (h : Shift d s₁ s₂) {F₁ F₂ : Nat} (hF : F₁ ≤ F₂)
    (N₁ N₂ : Nat) (hN : N₁ ≤ N₂) (body : List (Entry Span)) (errs : List PErr) (lc : Option (List Span)) (cnt p : Nat)
    (r : List (Entry Span) × List PErr) (hr : parseLoop s₁ F₁ N₁ body errs lc cnt p = .done r) :
    parseLoop s₂ F₂ N₂ (body.map (shEntry d)) (errs.map (shErr d)) (lc.map (List.map (shSpan d))) cnt (p + d)
      = .done (r.1.map (shEntry d), r.2.map (shErr d)) := by
  rw [parseLoop_eq_run] at hr ⊢
  exact runLoop_shift h.size (loopStep_shift h hF) N₁ N₂ hN body errs lc cnt p r hr

end

/-! ## more fuel does not change a finished run (the shift lemmas at distance `0`) -/

theorem shift_zero (s : Src) : Shift 0 s s :=
  ⟨fun _ => rfl, rfl, bnd_zero s, Or.inl rfl⟩

/-- an outcome is `ok` or `err` -/
def Fin {α : Type} (r : R α) : Prop := (∃ a q, r = .ok a q) ∨ (∃ e q, r = .err e q)

theorem Fin.of_good {α : Type} {s : Src} {lo : Nat} {r : R α} {Q : α → Nat → Prop} (h : Good s lo r Q) : Fin r := by
  rcases h.cases with ⟨a, q, hr, _⟩ | ⟨e, q, hr, _⟩
  · exact Or.inl ⟨a, q, hr⟩
  · exact Or.inr ⟨e, q, hr⟩

theorem Fin.shR {α β : Type} {f : α → β} {d : Nat} {r : R α} (h : Fin r) : Fin (shR f d r) := by
  rcases h with ⟨a, q, rfl⟩ | ⟨e, q, rfl⟩
  · exact Or.inl ⟨_, _, rfl⟩
  · exact Or.inr ⟨_, _, rfl⟩

theorem Fin.ne_fuel {α : Type} {r : R α} (h : Fin r) : r ≠ .fuel := by
  rcases h with ⟨a, q, rfl⟩ | ⟨e, q, rfl⟩ <;> nofun

theorem shR_err_inv {α β : Type} {f : α → β} {d : Nat} {r : R α} {e' : PErr} {q' : Nat} (h : shR f d r = .err e' q') :
    ∃ e q, r = .err e q ∧ q' = q + d := by
  cases r with
  | err e q => cases h; exact ⟨e, q, rfl, rfl⟩
  | ok a q => cases h
  | panic m => cases h
  | fuel => cases h

theorem getAttribute_fuel {s : Src} {F₁ F₂ p : Nat} {r : R (Attribute Span)} (hr : getAttribute s F₁ p = r) (hne : r ≠ .fuel)
    (hF : F₁ ≤ F₂) : getAttribute s F₂ p = shR (Attribute.mapS (shSpan 0)) 0 r :=
  getAttribute_shift (shift_zero s) hr hne hF

theorem getAttribute_err_fuel {s : Src} {F₁ F₂ p : Nat} {e : PErr} {q : Nat} (hr : getAttribute s F₁ p = .err e q)
    (hF : F₁ ≤ F₂) : ∃ e', getAttribute s F₂ p = .err e' q :=
  ⟨_, getAttribute_fuel hr (by nofun) hF⟩

theorem getAttribute_err_of_fuel {s : Src} {F₁ F₂ p : Nat} (hne : getAttribute s F₁ p ≠ .fuel) (hF : F₁ ≤ F₂) {e' : PErr}
    {q : Nat} (h : getAttribute s F₂ p = .err e' q) : ∃ e, getAttribute s F₁ p = .err e q := by
  have := getAttribute_fuel rfl hne hF
  rw [h] at this
  obtain ⟨e, q0, h0, rfl⟩ := shR_err_inv this.symm
  exact ⟨e, h0⟩

theorem getAttribute_fin {s : Src} (hs : AsciiThenBoundary s) {F : Nat} (hF : exprFuel s ≤ F) {p : Nat} (hp : p ≤ s.size) :
    Fin (getAttribute s F p) := by
  have hg := Fin.of_good (getAttribute_good hs p hp)
  rw [getAttribute_fuel rfl hg.ne_fuel hF]
  exact hg.shR

theorem getEntry_fuel {s : Src} {F₁ F₂ p : Nat} {r : R (Entry Span)} (hr : getEntry s F₁ p = r) (hne : r ≠ .fuel)
    (hF : F₁ ≤ F₂) : getEntry s F₂ p = shR (shEntry 0) 0 r :=
  getEntry_shift (shift_zero s) hr hne hF

theorem getEntry_err_fuel {s : Src} {F₁ F₂ p : Nat} {e : PErr} {q : Nat} (hr : getEntry s F₁ p = .err e q) (hF : F₁ ≤ F₂) :
    ∃ e', getEntry s F₂ p = .err e' q :=
  ⟨_, getEntry_fuel hr (by nofun) hF⟩

theorem getEntry_err_of_fuel {s : Src} {F₁ F₂ p : Nat} (hne : getEntry s F₁ p ≠ .fuel) (hF : F₁ ≤ F₂) {e' : PErr} {q : Nat}
    (h : getEntry s F₂ p = .err e' q) : ∃ e, getEntry s F₁ p = .err e q := by
  have := getEntry_fuel rfl hne hF
  rw [h] at this
  obtain ⟨e, q0, h0, rfl⟩ := shR_err_inv this.symm
  exact ⟨e, h0⟩

theorem getEntry_fin {s : Src} (hs : AsciiThenBoundary s) {F : Nat} (hF : exprFuel s ≤ F) {p : Nat} (hp : p < s.size) :
    Fin (getEntry s F p) := by
  have hg : Fin (getEntry s (exprFuel s) p) := by
    rcases getEntry_post hs p hp with ⟨e, he, _⟩ | hg
    · exact Or.inr ⟨e, p, he⟩
    · exact Fin.of_good hg
  rw [getEntry_fuel rfl hg.ne_fuel hF]
  exact hg.shR

end FluentProofs.Parser

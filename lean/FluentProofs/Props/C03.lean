import FluentProofs.ConstTieSyntax
import FluentProofs.ParserLines
import FluentProofs.ParserValid
import FluentProofs.ParserValidEntry
import FluentProofs.ParserLocalTop
/-!
# C03 — syntax errors are contained: Junk accounting and per-entry recovery

Model: `FluentModel.Syntax.parse` / `parseRuntime` (transcription of `Parser::parse`,
`Parser::parse_runtime`, validated against the implementation on every run).
The accounting and admission theorems are for EVERY source `s` (any byte array); the containment theorems state what they
assume of the three parts of the source.

Proved here (accounting part of the property, both parsers):
* `C03_accounting…`: errors and Junk entries correspond one-to-one in source order; each error's
  `slice` is exactly its Junk's span; every Junk span is a valid slice of the source (in range and
  on character boundaries — otherwise the Rust slicing would have panicked); the reported position
  is not beyond the Junk's end; the Junk ends at the end of input or at a line-initial entry-start
  byte (`[a-zA-Z]`, `-`, `#`).
* `C03_ok_iff_no_junk…`: the error list is empty exactly when the tree has no Junk
  (the Rust API returns `Ok` exactly when the error list is empty).

* `C03_full` (= `C03_full_statement`, for EVERY byte source on which `parse` finishes; `C03_full_string` for every
  `String`, where it always finishes) and `C03_full_runtime`: in addition every error's slice `a..b`
  starts at a line start (`a = 0` or the byte before `a` is `\n`) and `a ≤ pos.start` — so together with
  `Acc.ends` the Junk range contains the error position, starts at a line start and ends where the next entry
  begins.  Proof (`FluentProofs/ParserMono.lean`, `ParserLines.lean`): (1) `Mono` — every cursor and every error position
  produced by a parser function started at `p` is `≥ p` (read off `Fwd`, which the eight mutually recursive functions
  satisfy by induction on fuel, `fwdspecs_all`; `get_comment`, `get_message`, `get_term`), and junk recovery / `clampErr`
  never move before the entry start; (2) every iteration of both entry loops starts at a line start: a pattern can only
  end at a line start or EOF (`getPatternLoop_LSE`), `get_attributes` rewinds to one, `get_comment` /
  `skip_comment` end at a line start, at EOF or AT the `\n` of a line end, and `skip_blank_block` turns
  each of those into a line start (`skipBlankBlock_LSE`).

* `C03_admitted_entries_valid…` and `C03_containment…`: the third and the last sentence of the property, each with a
  section of its own below.

Not a Lean theorem (checked by the correspondence harness and the property predicate on the
implementation): the three rules the tree cannot show (positional-after-named order, literal-ness of named
values, commas).
-/
namespace FluentProofs.C03
open FluentModel.Syntax

theorem C03_accounting_parse (s : Src) (body : Resource Span) (errs : List PErr)
    (h : parse s = .done (body, errs)) : Acc s body errs :=
  parseLoop_acc s _ _ [] [] none 0 _ (Acc.nil s) body errs h

theorem C03_accounting_parseRuntime (s : Src) (body : Resource Span) (errs : List PErr)
    (h : parseRuntime s = .done (body, errs)) : Acc s body errs :=
  parseRuntimeLoop_acc s _ _ [] [] _ (Acc.nil s) body errs h

theorem C03_count (s : Src) (body : Resource Span) (errs : List PErr)
    (h : parse s = .done (body, errs)) : errs.length = (junkSpans body).length := by
  have := congrArg List.length (C03_accounting_parse s body errs h).slices
  simpa using this

theorem C03_ok_iff_no_junk_parse (s : Src) (body : Resource Span) (errs : List PErr)
    (h : parse s = .done (body, errs)) : errs = [] ↔ junkSpans body = [] := by
  have := C03_count s body errs h
  constructor
  · intro h'; subst h'; exact List.eq_nil_of_length_eq_zero this.symm
  · intro h'; rw [h'] at this; exact List.eq_nil_of_length_eq_zero this

theorem C03_ok_iff_no_junk_parseRuntime (s : Src) (body : Resource Span) (errs : List PErr)
    (h : parseRuntime s = .done (body, errs)) : errs = [] ↔ junkSpans body = [] := by
  have := congrArg List.length (C03_accounting_parseRuntime s body errs h).slices
  simp only [List.length_map] at this
  constructor
  · intro h'; subst h'; exact List.eq_nil_of_length_eq_zero this.symm
  · intro h'; rw [h'] at this; exact List.eq_nil_of_length_eq_zero this

/-- each Junk holds exactly the source text of its error's slice: the i-th error's slice is the span
of the i-th Junk, and that span is what `content` is cut from (`spanBytes s sp`) -/
theorem C03_junk_is_slice (s : Src) (body : Resource Span) (errs : List PErr)
    (h : parse s = .done (body, errs)) (i : Nat) (hi : i < errs.length) :
    ∃ sp, (junkSpans body)[i]? = some sp ∧ errs[i].slice = some (sp.start, sp.stop) ∧
      slice s sp.start sp.stop = some sp := by
  have acc := C03_accounting_parse s body errs h
  have hlen := C03_count s body errs h
  have hi' : i < (junkSpans body).length := by omega
  refine ⟨(junkSpans body)[i], by simp [hi'], ?_, acc.valid _ (List.getElem_mem hi')⟩
  have := congrArg (fun l => l[i]?) acc.slices
  simp [hi, hi'] at this
  exact this

/-- full accounting statement: `Acc`, and every error's slice starts at a line start at or before the
error position (proved below: `C03_full`) -/
def C03_full_statement : Prop :=
  ∀ (s : Src) (body : Resource Span) (errs : List PErr), parse s = .done (body, errs) →
    Acc s body errs ∧
    (∀ e ∈ errs, ∃ a b, e.slice = some (a, b) ∧ a ≤ e.posStart ∧ (a = 0 ∨ s[a - 1]? = some 10))

/-- the same for the runtime parser -/
def C03_full_statement_runtime : Prop :=
  ∀ (s : Src) (body : Resource Span) (errs : List PErr), parseRuntime s = .done (body, errs) →
    Acc s body errs ∧
    (∀ e ∈ errs, ∃ a b, e.slice = some (a, b) ∧ a ≤ e.posStart ∧ (a = 0 ∨ s[a - 1]? = some 10))

/-- **C03 accounting, complete (full parser)**: for every source, errors and Junk correspond one-to-one in
order, each Junk is exactly its error's slice, a valid slice that starts at a line start, ends at the next
entry start (or EOF) and contains the error position. -/
theorem C03_full : C03_full_statement := fun s body errs h =>
  ⟨C03_accounting_parse s body errs h, FluentProofs.Parser.parse_errPos s body errs h⟩

/-- **C03 accounting, complete (runtime parser)** -/
theorem C03_full_runtime : C03_full_statement_runtime := fun s body errs h =>
  ⟨C03_accounting_parseRuntime s body errs h, FluentProofs.Parser.parseRuntime_errPos s body errs h⟩

/-- the error position lies inside the Junk: `slice.start ≤ pos.start ≤ slice.end` -/
theorem C03_pos_in_junk (s : Src) (body : Resource Span) (errs : List PErr) (h : parse s = .done (body, errs)) :
    ∀ e ∈ errs, ∃ a b, e.slice = some (a, b) ∧ a ≤ e.posStart ∧ e.posStart ≤ b := by
  intro e he
  obtain ⟨a, b, h1, h2, _⟩ := (C03_full s body errs h).2 e he
  obtain ⟨a', b', h1', h2', _⟩ := (C03_full s body errs h).1.ends e he
  rw [h1] at h1'; cases h1'
  exact ⟨a, b, h1, h2, h2'⟩

/-- **C03 for every `String`**: both parsers finish (C01) and the complete accounting statement holds. -/
theorem C03_full_string (str : String) :
    (∃ body errs, parse str.toUTF8.data = .done (body, errs) ∧ Acc str.toUTF8.data body errs ∧
      ∀ e ∈ errs, ∃ a b, e.slice = some (a, b) ∧ a ≤ e.posStart ∧ (a = 0 ∨ str.toUTF8.data[a - 1]? = some 10)) ∧
    (∃ body errs, parseRuntime str.toUTF8.data = .done (body, errs) ∧ Acc str.toUTF8.data body errs ∧
      ∀ e ∈ errs, ∃ a b, e.slice = some (a, b) ∧ a ≤ e.posStart ∧ (a = 0 ∨ str.toUTF8.data[a - 1]? = some 10)) := by
  open FluentProofs.Parser in
  have hs := asciiThenBoundary_of_string str
  constructor
  · obtain ⟨⟨body, errs⟩, hr, _⟩ := parse_done hs
    exact ⟨body, errs, hr, C03_full _ body errs hr⟩
  · obtain ⟨⟨body, errs⟩, hr, _⟩ := parseRuntime_done hs
    exact ⟨body, errs, hr, C03_full_runtime _ body errs hr⟩

/-- non-vacuity (a test, not the unbounded claim): `a = {` newline `b = c` gives one Junk `0..6`,
one error, and the message `b` survives -/
example : (match parse #[97, 32, 61, 32, 123, 10, 98, 32, 61, 32, 99, 10] with
    | .done (body, errs) => errs.length == 1 && junkSpans body == [⟨0, 6⟩] && body.length == 2
    | _ => false) = true := by decide +kernel

/-! ## C03, third sentence: an entry that breaks a documented syntax rule is never admitted

`ValidEntry s e` (`FluentProofs/ParserValid.lean`, decidable) collects the documented rules that are
visible in the tree: exactly one default variant per select; the selector is a literal, variable, function
call or term attribute; no term attribute as a placeable (also nested); a callee is `[A-Z][A-Z0-9_-]*`;
named-argument names are pairwise distinct; string literals contain only the escapes `\\`, `\"`, `\uXXXX`,
`\UXXXXXX`, no raw line feed, no unescaped quote; identifiers are `[a-zA-Z][a-zA-Z0-9_-]*`; numbers are
`-?[0-9]+(\.[0-9]+)?`; text elements contain no brace; every pattern has at least one element; a message has a
value or an attribute.  It is trivially true of comments and Junk, so "every entry of the body is valid"
says exactly "every admitted message or term is valid".  Not covered (the Rust parser is lenient there and
the tree cannot show it): positional-after-named order, literal-ness of named values, commas.

Proof: `FluentProofs/ParserValid{Leaf,Expr,Entry}.lean` — a second pass over every parser function in
partial-correctness style (no hypothesis on the source, the cursor or the fuel), the eight mutually
recursive functions by joint induction on fuel (`VSpecs`). -/

open FluentProofs.Parser in
/-- **C03 (admission), full parser, EVERY byte source**: every message and term in the body satisfies the
AST-visible syntax rules (`ValidEntry` is trivially true for comments and Junk). -/
theorem C03_admitted_entries_valid (s : Src) (body : Resource Span) (errs : List PErr)
    (h : parse s = .done (body, errs)) : ∀ e ∈ body, ValidEntry s e :=
  parse_valid s body errs h

open FluentProofs.Parser in
/-- **C03 (admission), runtime parser, EVERY byte source** -/
theorem C03_admitted_entries_valid_runtime (s : Src) (body : Resource Span) (errs : List PErr)
    (h : parseRuntime s = .done (body, errs)) : ∀ e ∈ body, ValidEntry s e :=
  parseRuntime_valid s body errs h

open FluentProofs.Parser in
/-- the same in the "is a message or a term" form, for either parser -/
theorem C03_admitted_messages_terms_valid (s : Src) (body : Resource Span) (errs : List PErr)
    (h : parse s = .done (body, errs) ∨ parseRuntime s = .done (body, errs)) :
    (∀ m, Entry.message m ∈ body → ValidEntry s (.message m)) ∧ (∀ t, Entry.term t ∈ body → ValidEntry s (.term t)) := by
  rcases h with h | h
  · exact ⟨fun m hm => C03_admitted_entries_valid s body errs h _ hm,
      fun t ht => C03_admitted_entries_valid s body errs h _ ht⟩
  · exact ⟨fun m hm => C03_admitted_entries_valid_runtime s body errs h _ hm,
      fun t ht => C03_admitted_entries_valid_runtime s body errs h _ ht⟩

open FluentProofs.Parser in
/-- **C03 (admission) for every `String`**: both parsers finish (C01) and every admitted entry is valid. -/
theorem C03_admitted_entries_valid_string (str : String) :
    (∃ body errs, parse str.toUTF8.data = .done (body, errs) ∧ ∀ e ∈ body, ValidEntry str.toUTF8.data e) ∧
    (∃ body errs, parseRuntime str.toUTF8.data = .done (body, errs) ∧ ∀ e ∈ body, ValidEntry str.toUTF8.data e) := by
  obtain ⟨⟨b1, e1, h1, _⟩, ⟨b2, e2, h2, _⟩⟩ := C03_full_string str
  exact ⟨⟨b1, e1, h1, C03_admitted_entries_valid _ b1 e1 h1⟩, ⟨b2, e2, h2, C03_admitted_entries_valid_runtime _ b2 e2 h2⟩⟩

open FluentProofs.Parser in
/-- one clause of `ValidEntry` spelled out: a select expression at the top level of an admitted message's
value has exactly one default variant and an admissible selector -/
theorem C03_one_default (s : Src) (body : Resource Span) (errs : List PErr) (h : parse s = .done (body, errs))
    (m : Message Span) (hm : Entry.message m ∈ body) (v : Pattern Span) (hv : m.value = some v)
    (sel : Inline Span) (vs : List (Variant Span)) (hsel : PatElem.placeable (.select sel vs) ∈ v) :
    vs.countP variantDefault = 1 ∧ selectorOk sel = true := by
  have hval : validEntry s (.message m) = true := C03_admitted_entries_valid s body errs h _ hm
  simp only [validEntry, hv, Bool.and_eq_true] at hval
  have hp : vPat s v = true := by
    have := hval.1.1.2
    simp only [patOk, Bool.and_eq_true] at this
    exact this.2
  have : ∀ (l : List (PatElem Span)), vPat s l = true → PatElem.placeable (.select sel vs) ∈ l →
      vExpr s (.select sel vs) = true := by
    intro l
    induction l with
    | nil => intro _ hmem; cases hmem
    | cons x xs ih =>
      intro hl hmem
      simp only [vPat, Bool.and_eq_true] at hl
      rcases List.mem_cons.mp hmem with rfl | hmem
      · simpa [vPatElem] using hl.1
      · exact ih hl.2 hmem
  have hx := this v hp hsel
  simp only [vExpr, Bool.and_eq_true, beq_iff_eq] at hx
  exact ⟨hx.2, hx.1.1.2⟩

/-- test (non-vacuity, not the unbounded claim): a select without a default variant
(`a = { $x ->` / ` [a] b` / ` }`) yields no message — the whole entry is Junk with one error -/
example : (match parse #[97, 32, 61, 32, 123, 32, 36, 120, 32, 45, 62, 10, 32, 91, 97, 93, 32, 98, 10, 32, 125, 10] with
    | .done (body, errs) =>
      errs.length == 1 && body.all (fun e => match e with | .message _ => false | .term _ => false | _ => true)
    | _ => false) = true := by decide +kernel

/-- test: with the default marked (`*[a] b`) the message is admitted, and `validEntry` evaluates to `true` on it -/
example : (let s : Src := #[97, 32, 61, 32, 123, 32, 36, 120, 32, 45, 62, 10, 32, 42, 91, 97, 93, 32, 98, 10, 32, 125, 10]
    match parse s with
    | .done (body, errs) => errs.isEmpty && body.length == 1 && body.all (FluentProofs.Parser.validEntry s)
    | _ => false) = true := by decide +kernel

/-- test: `ValidEntry` is not trivially true — the hand-built message `a = { $x -> [a] b }` without a default,
over the same source, is rejected by the predicate -/
example : (let s : Src := #[97, 32, 61, 32, 123, 32, 36, 120, 32, 45, 62, 10, 32, 91, 97, 93, 32, 98, 10, 32, 125, 10]
    FluentProofs.Parser.validEntry s
      (.message ⟨⟨0, 1⟩, some [.placeable (.select (.var ⟨7, 8⟩) [.mk (.ident ⟨14, 15⟩) [.text ⟨17, 18⟩] false])], [], none⟩))
    = false := by decide +kernel

/-! ## C03, last sentence: containment — damaging one entry leaves every other message and term as before

Setting.  A resource is cut at two line starts into `A ++ X ++ B`:
* `A` — the entries before the damaged one: empty or ending with a line feed (`EndsNl A`), and well-formed
  (`parse A` reports no error);
* `X` — the damaged entry: ANY byte string that ends with a line feed and whose first byte is a `stopByte`, i.e. anything
  but a space, LF, CR, `#`, `.`, `{` or a UTF-8 continuation byte (`Damage X`; a letter or `-` in particular, but also a
  damaged first byte such as a digit or `}`; everything after the first byte is arbitrary — every kind of damage at every
  placement — and `X` may span any number of lines);
* `B` — the text after it: it starts, at column 0, with an entry head (`Head B`: a letter or `-`, then only
  identifier bytes `[a-zA-Z0-9_-]` and spaces up to an `=`; `identifier blank_inline* "="` and
  `"-" identifier blank_inline* "="` are of this form).  NOTHING else is assumed about `B` (it may itself contain errors).

Excluded, and why: an `X` or `B` that starts with `#` (comment blocks merge, a comment attaches to the next message), an
`X` that starts with a space, line break, `.` or `{` (such a line continues the pattern / attribute list of the entry
before it: it is damage to THAT entry), and an `A` whose own parse has errors (its junk recovery may already depend on
what follows).

Claim (`C03_containment`): the body of `parse (A ++ X ++ B)` is `body' ++ mid ++ B'` where `body'` depends on `A` only (it
is `A`'s body; a trailing standalone comment of `A`, still pending when `X` begins, is the `lc'` of
`bodyA = body' ++ flushC lc'`), `mid` is whatever `X` produced, and `B'` is EXACTLY the body of `parse B` with every
position moved by `|A| + |X|` — except that a comment pending at the end of `X` is attached to / put before `B`'s first
entry (`attachO`; `lc = none` when `X` does not end in a comment).  The error list is: errors of the `X` region, then the
errors of `parse B`, moved; the Junk spans and error slices of the `X` region lie inside `[|A|, |A| + |X|]`.  Same for `parseRuntime` without the comment caveats.  So two different damages `X`, `X'` of the
same entry give the same entries from `A`, and the same entries from `B` up to the shift `|X'| - |X|`
(`C03_containment_msgsTerms`).  No hypothesis on fuel: the statement is for every byte source on which the parsers finish;
for `String`s they always do (`C03_containment_string`).

Proof (`FluentProofs/ParserLocal*.lean`, three joint inductions over all parser functions):
* shift (`parseLoop_shift`): on `P ++ s` from cursor `|P| + p` every function does what it does on `s` from `p`, moved by `|P|`;
* barrier (`parseLoop_reach_loc`): with an entry head at line start `n`, no function started before `n` gets past the `=`; a
  successful entry ends `≤ n`, a failing one reports a cursor `≤` the `=`, and junk recovery (which rewinds to the start of
  the line holding the error) stops at `n`: the entry loop arrives at `n` exactly, whatever precedes;
* prefix (`parseLoop_prefix`): an error-free run of the entry loop on `A` is a prefix of its run on `A ++ Z` when `Z` starts
  with a `stopByte` — peeking such a byte at a line start is the same as peeking the end of input. -/

open FluentProofs.Parser in
/-- the containment statement (proved below: `C03_containment`) -/
def C03_containment_statement : Prop :=
  ∀ (A : Src), EndsNl A → ∀ bodyA : Resource Span, parse A = .done (bodyA, []) →
    ∃ body' lc', bodyA = body' ++ flushC lc' ∧
      ∀ X B : Src, Damage X → Head B → ∀ r rB, parse (A ++ X ++ B) = .done r → parse B = .done rB →
        ∃ mid errsMid lc cnt,
          r = (body' ++ mid ++ attachO lc cnt (rB.1.map (shEntry (A.size + X.size))),
               errsMid ++ rB.2.map (shErr (A.size + X.size))) ∧
          (∀ sp ∈ junkSpans mid, A.size ≤ sp.start ∧ sp.stop ≤ A.size + X.size) ∧
          (∀ e ∈ errsMid, ∃ a b, e.slice = some (a, b) ∧ A.size ≤ a ∧ b ≤ A.size + X.size)

open FluentProofs.Parser in
/-- **C03 containment (full parser), every byte source on which `parse` finishes.** -/
theorem C03_containment : C03_containment_statement :=
  fun _ hA _ hpA => parse_containment hA hpA

open FluentProofs.Parser in
/-- **C03 containment (runtime parser)**: the body of `parseRuntime (A ++ X ++ B)` is the body of `parseRuntime A`, then what
`X` produced, then the body of `parseRuntime B` moved by `|A| + |X|`; the errors are those of the `X` region, then those of
`B`, moved. -/
theorem C03_containment_runtime {A X B : Src} (hA : EndsNl A) (hX : Damage X) (hB : Head B)
    {bodyA : Resource Span} {r rB : Resource Span × List PErr}
    (hpA : parseRuntime A = .done (bodyA, [])) (hpB : parseRuntime B = .done rB)
    (h : parseRuntime (A ++ X ++ B) = .done r) :
    ∃ mid errsMid,
      r = (bodyA ++ mid ++ rB.1.map (shEntry (A.size + X.size)), errsMid ++ rB.2.map (shErr (A.size + X.size))) ∧
      (∀ sp ∈ junkSpans mid, A.size ≤ sp.start ∧ sp.stop ≤ A.size + X.size) ∧
      (∀ e ∈ errsMid, ∃ a b, e.slice = some (a, b) ∧ A.size ≤ a ∧ b ≤ A.size + X.size) :=
  parseRuntime_containment hA hpA hX hB h hpB

open FluentProofs.Parser in
/-- **suffix independence (full parser)**: `P` is ANY byte string that is empty or ends with a line feed (no
well-formedness assumed: `P` = the entries before + the damaged entry), `B` starts with an entry head.  The parse of
`P ++ B` is some entries / errors produced inside `P` (Junk spans and error slices end at or before `|P|`), followed by
exactly the parse of `B` moved by `|P|` (a comment pending at the end of `P` attached to `B`'s first entry). -/
theorem C03_suffix_independence {P B : Src} (hP : EndsNl P) (hB : Head B) {r rB : Resource Span × List PErr}
    (h : parse (P ++ B) = .done r) (hpB : parse B = .done rB) :
    ∃ pre preErrs lc cnt,
      r = (pre ++ attachO lc cnt (rB.1.map (shEntry P.size)), preErrs ++ rB.2.map (shErr P.size)) ∧
      (∀ sp ∈ junkSpans pre, sp.stop ≤ P.size) ∧
      (∀ e ∈ preErrs, ∃ a b, e.slice = some (a, b) ∧ b ≤ P.size) :=
  parse_suffix hP hB h hpB

open FluentProofs.Parser in
/-- **suffix independence (runtime parser)** -/
theorem C03_suffix_independence_runtime {P B : Src} (hP : EndsNl P) (hB : Head B) {r rB : Resource Span × List PErr}
    (h : parseRuntime (P ++ B) = .done r) (hpB : parseRuntime B = .done rB) :
    ∃ pre preErrs, r = (pre ++ rB.1.map (shEntry P.size), preErrs ++ rB.2.map (shErr P.size)) ∧
      (∀ sp ∈ junkSpans pre, sp.stop ≤ P.size) ∧
      (∀ e ∈ preErrs, ∃ a b, e.slice = some (a, b) ∧ b ≤ P.size) :=
  parseRuntime_suffix hP hB h hpB

open FluentProofs.Parser in
/-- **prefix independence (full parser)**: a well-formed `A` gives the same entries `body'` in front of EVERY continuation
`Z` that is empty or starts with a `stopByte` (e.g. a letter or `-`); everything else in the parse of `A ++ Z` is produced by the entry loop
started at `|A|` (with `A`'s trailing standalone comment `lc'`, if any, still pending).  With `Z = X` this is the containment
statement for a damaged LAST entry. -/
theorem C03_prefix_independence {A : Src} (hA : EndsNl A) {bodyA : Resource Span} (hpA : parse A = .done (bodyA, [])) :
    ∃ body' lc', bodyA = body' ++ flushC lc' ∧
      ∀ Z : Src, StopOrEmpty Z → ∀ r, parse (A ++ Z) = .done r →
        ∃ N cnt r₀, parseLoop (A ++ Z) (exprFuel (A ++ Z)) N [] [] lc' cnt A.size = .done r₀ ∧
          r = (body' ++ r₀.1, r₀.2) :=
  parse_prefix hA hpA

open FluentProofs.Parser in
/-- **prefix independence (runtime parser)** -/
theorem C03_prefix_independence_runtime {A : Src} (hA : EndsNl A) {bodyA : Resource Span}
    (hpA : parseRuntime A = .done (bodyA, [])) {Z : Src} (hZ : StopOrEmpty Z) {r : Resource Span × List PErr}
    (h : parseRuntime (A ++ Z) = .done r) :
    ∃ N r₀, parseRuntimeLoop (A ++ Z) (exprFuel (A ++ Z)) N [] [] A.size = .done r₀ ∧ r = (bodyA ++ r₀.1, r₀.2) :=
  parseRuntime_prefix hA hpA hZ h

open FluentProofs.Parser in
/-- **two damages of the same entry, messages and terms only** (`msgsTerms` drops comments and Junk and strips attached
comments): both parses have the messages/terms of `A`, then those of the damaged region, then those of `B` — identical up
to the shift `|A| + |X|` vs `|A| + |X'|`. -/
theorem C03_containment_msgsTerms {A X X' B : Src} (hA : EndsNl A) (hX : Damage X) (hX' : Damage X') (hB : Head B)
    {bodyA : Resource Span} {r r' rB : Resource Span × List PErr}
    (hpA : parse A = .done (bodyA, [])) (hpB : parse B = .done rB)
    (h : parse (A ++ X ++ B) = .done r) (h' : parse (A ++ X' ++ B) = .done r') :
    ∃ mid mid' : List (Entry Span),
      msgsTerms r.1 = msgsTerms bodyA ++ mid ++ (msgsTerms rB.1).map (shEntry (A.size + X.size)) ∧
      msgsTerms r'.1 = msgsTerms bodyA ++ mid' ++ (msgsTerms rB.1).map (shEntry (A.size + X'.size)) := by
  obtain ⟨body', lc', heq, H⟩ := parse_containment hA hpA
  obtain ⟨mid, em, lc, cnt, rfl, _⟩ := H X B hX hB r rB h hpB
  obtain ⟨mid', em', lc2, cnt2, rfl, _⟩ := H X' B hX' hB r' rB h' hpB
  refine ⟨msgsTerms mid, msgsTerms mid', ?_, ?_⟩ <;>
    simp only [heq, msgsTerms_append, msgsTerms_flushC, msgsTerms_attachO, msgsTerms_map_sh, List.append_nil]

theorem toUTF8_append3 (A X B : String) :
    (A ++ X ++ B).toUTF8.data = A.toUTF8.data ++ X.toUTF8.data ++ B.toUTF8.data := by
  simp [String.toUTF8, String.toByteArray_append, ByteArray.data_append]

open FluentProofs.Parser in
/-- **C03 containment for `String`s**: all three parses finish (C01); if `A` is well-formed, the parse of `A ++ X ++ B` is
`A`'s entries, the damaged region's entries (its Junk and errors located inside the region), and exactly `B`'s parse moved
by `|A| + |X|` bytes. -/
theorem C03_containment_string (A X B : String) (hA : EndsNl A.toUTF8.data) (hX : Damage X.toUTF8.data)
    (hB : Head B.toUTF8.data) (hok : ∃ bodyA, parse A.toUTF8.data = .done (bodyA, [])) :
    ∃ bodyA rB r mid errsMid lc cnt body' lc',
      parse A.toUTF8.data = .done (bodyA, []) ∧ parse B.toUTF8.data = .done rB ∧
      parse (A ++ X ++ B).toUTF8.data = .done r ∧ bodyA = body' ++ flushC lc' ∧
      r = (body' ++ mid ++ attachO lc cnt (rB.1.map (shEntry (A.toUTF8.data.size + X.toUTF8.data.size))),
           errsMid ++ rB.2.map (shErr (A.toUTF8.data.size + X.toUTF8.data.size))) ∧
      (∀ sp ∈ junkSpans mid, A.toUTF8.data.size ≤ sp.start ∧ sp.stop ≤ A.toUTF8.data.size + X.toUTF8.data.size) ∧
      (∀ e ∈ errsMid, ∃ a b, e.slice = some (a, b) ∧ A.toUTF8.data.size ≤ a ∧
        b ≤ A.toUTF8.data.size + X.toUTF8.data.size) := by
  obtain ⟨bodyA, hpA⟩ := hok
  obtain ⟨⟨bB, eB, hpB, _⟩, _⟩ := C03_full_string B
  obtain ⟨⟨b, e, hp, _⟩, _⟩ := C03_full_string (A ++ X ++ B)
  obtain ⟨body', lc', heq, H⟩ := parse_containment hA hpA
  rw [toUTF8_append3] at hp
  obtain ⟨mid, em, lc, cnt, hr⟩ := H _ _ hX hB (b, e) (bB, eB) hp hpB
  exact ⟨bodyA, (bB, eB), (b, e), mid, em, lc, cnt, body', lc', hpA, hpB, by rw [toUTF8_append3]; exact hp, heq, hr⟩

/-! ### non-vacuity (tests on literals, not the unbounded claim)

`a = 1⏎`, then `b = { $x ->⏎ [one] x⏎ }⏎` (a select without default variant: the damaged entry), then `c = 3⏎`. -/

/-- `a = 1⏎` -/
def exA : Src := #[97,32,61,32,49,10]
/-- `b = { $x ->⏎ [one] x⏎ }⏎` -/
def exX : Src := #[98,32,61,32,123,32,36,120,32,45,62,10, 32,91,111,110,101,93,32,120,10, 32,125,10]
/-- the undamaged `b = 2⏎` -/
def exY : Src := #[98,32,61,32,50,10]
/-- `c = 3⏎` -/
def exB : Src := #[99,32,61,32,51,10]

open FluentProofs.Parser in
theorem exA_endsNl : EndsNl exA := Or.inr (by decide +kernel)
open FluentProofs.Parser in
theorem exX_damage : Damage exX := ⟨⟨98, by decide +kernel, by decide +kernel⟩, by decide +kernel⟩
open FluentProofs.Parser in
theorem exY_damage : Damage exY := ⟨⟨98, by decide +kernel, by decide +kernel⟩, by decide +kernel⟩

/-- `1b = 2⏎`: the FIRST byte of the entry damaged (an identifier cannot start with a digit) -/
def exZ : Src := #[49,98,32,61,32,50,10]
open FluentProofs.Parser in
theorem exZ_damage : Damage exZ := ⟨⟨49, by decide +kernel, by decide +kernel⟩, by decide +kernel⟩
open FluentProofs.Parser in
theorem exB_head : Head exB := by
  refine ⟨2, Or.inl rfl, by decide, ⟨99, by decide +kernel, by decide⟩, ?_, by decide +kernel⟩
  intro i _ h2
  have : i = 0 ∨ i = 1 := by omega
  rcases this with rfl | rfl
  · exact ⟨99, by decide +kernel, Or.inl (by decide)⟩
  · exact ⟨32, by decide +kernel, Or.inr rfl⟩

/-- evaluated once for the tests below -/
theorem exAXB_parsed : (match parse (exA ++ exX ++ exB) with
    | .done ([.message ⟨⟨0, 1⟩, some [.text ⟨4, 5⟩], [], none⟩, .junk ⟨6, 30⟩,
              .message ⟨⟨30, 31⟩, some [.text ⟨34, 35⟩], [], none⟩], [e]) => e.slice == some (6, 30)
    | _ => false) = true := by decide +kernel

theorem exAYB_parsed : (match parse (exA ++ exY ++ exB) with
    | .done ([.message ⟨⟨0, 1⟩, some [.text ⟨4, 5⟩], [], none⟩, .message ⟨⟨6, 7⟩, some [.text ⟨10, 11⟩], [], none⟩,
              .message ⟨⟨12, 13⟩, some [.text ⟨16, 17⟩], [], none⟩], []) => true
    | _ => false) = true := by decide +kernel

/-- test: the damaged resource parses to message `a`, ONE Junk `6..30` (exactly the damaged entry), message `c` at `30..` -/
example : (match parse (exA ++ exX ++ exB) with
    | .done ([.message ⟨⟨0, 1⟩, some [.text ⟨4, 5⟩], [], none⟩, .junk ⟨6, 30⟩,
              .message ⟨⟨30, 31⟩, some [.text ⟨34, 35⟩], [], none⟩], [e]) => e.slice == some (6, 30)
    | _ => false) = true := exAXB_parsed

/-- test: the undamaged resource: `a`, `b`, and `c` at `12..` — the same `c` moved by `|X'| - |X| = -18` -/
example : (match parse (exA ++ exY ++ exB) with
    | .done ([.message ⟨⟨0, 1⟩, some [.text ⟨4, 5⟩], [], none⟩, .message ⟨⟨6, 7⟩, some [.text ⟨10, 11⟩], [], none⟩,
              .message ⟨⟨12, 13⟩, some [.text ⟨16, 17⟩], [], none⟩], []) => true
    | _ => false) = true := exAYB_parsed

/-- test: damage to the first byte (`1b = 2`): `a`, ONE Junk `6..13`, and `c` at `13..` -/
example : (match parse (exA ++ exZ ++ exB) with
    | .done ([.message ⟨⟨0, 1⟩, some [.text ⟨4, 5⟩], [], none⟩, .junk ⟨6, 13⟩,
              .message ⟨⟨13, 14⟩, some [.text ⟨17, 18⟩], [], none⟩], [e]) => e.slice == some (6, 13)
    | _ => false) = true := by decide +kernel

open FluentProofs.Parser in
/-- test: the hypotheses of `C03_containment_msgsTerms` are satisfiable — instantiated on the literals above it yields that
both parses have message `a` first and message `c` last (at `30..` resp. `12..`). -/
example : ∃ (r r' : Resource Span × List PErr) (mid mid' : List (Entry Span)),
    parse (exA ++ exX ++ exB) = .done r ∧ parse (exA ++ exY ++ exB) = .done r' ∧
    msgsTerms r.1 = [.message ⟨⟨0, 1⟩, some [.text ⟨4, 5⟩], [], none⟩] ++ mid ++
      [.message ⟨⟨30, 31⟩, some [.text ⟨34, 35⟩], [], none⟩] ∧
    msgsTerms r'.1 = [.message ⟨⟨0, 1⟩, some [.text ⟨4, 5⟩], [], none⟩] ++ mid' ++
      [.message ⟨⟨12, 13⟩, some [.text ⟨16, 17⟩], [], none⟩] := by
  have hA : parse exA = .done ([.message ⟨⟨0, 1⟩, some [.text ⟨4, 5⟩], [], none⟩], []) := by with_unfolding_all rfl
  have hB : parse exB = .done ([.message ⟨⟨0, 1⟩, some [.text ⟨4, 5⟩], [], none⟩], []) := by with_unfolding_all rfl
  obtain ⟨r, hr⟩ : ∃ r, parse (exA ++ exX ++ exB) = .done r := by
    have h := exAXB_parsed
    cases hp : parse (exA ++ exX ++ exB) with
    | done r => exact ⟨r, rfl⟩
    | panic m => rw [hp] at h; cases h
    | outOfFuel => rw [hp] at h; cases h
  obtain ⟨r', hr'⟩ : ∃ r, parse (exA ++ exY ++ exB) = .done r := by
    have h := exAYB_parsed
    cases hp : parse (exA ++ exY ++ exB) with
    | done r => exact ⟨r, rfl⟩
    | panic m => rw [hp] at h; cases h
    | outOfFuel => rw [hp] at h; cases h
  obtain ⟨mid, mid', h1, h2⟩ := C03_containment_msgsTerms exA_endsNl exX_damage exY_damage exB_head hA hB hr hr'
  exact ⟨r, r', mid, mid', hr, hr', h1, h2⟩

end FluentProofs.C03

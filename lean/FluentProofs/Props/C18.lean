import FluentProofs.Localization
/-!
# C18 — Localization reflects every state change as a fresh instance would

Model: `FluentModel.Localization` (`localization.rs`, `Bundles::new`, `ResourceId` equality) — the code
the model driver `fvm_loc` runs.  A history is any list of `Op`s: add / remove of resource ids (single,
bulk, duplicates, the same id with the other type), mutation of the locale provider (`setLocales`),
`on_change`, `set_async`, prefetch, `bundles()`, requests through the current bundle set, `hold` (keep a
clone of the current `Rc<Bundles>`), requests through a held handle, requests begun on a held handle and
finished later.  `answer built key` — what a bundle set built by the generator call `built` answers —
is an arbitrary function (instantiated in the driver with C16's `format_value` over real content): the
theorems hold for every such function, every initial configuration and every history.
-/
namespace FluentProofs.C18
open FluentModel.Fallback FluentModel.Localization FluentProofs.Localization

variable {V L K R : Type} [DecidableEq V]

/-- **bundles_fresh.**  After any history from any initial `Localization::with_env(ids₀, sync₀, …)`:
* a cached bundle set was built from exactly the current resource ids and mode, and — unless the provider
  was mutated since without a change notification (`dirty`) — the current locales;
* so (not `dirty`) a request is answered as `answer ⟨current mode, current locales, current ids⟩`,
  which is literally what a newly built `Localization::with_env(current ids, current mode, provider)`
  answers to the same request (handle `0` of the fresh instance). -/
theorem C18_bundles_fresh (answer : Built V L → K → R) (ids₀ : List (ResId V)) (sync₀ : Bool)
    (locales₀ : List L) (ops : List (Op V L K)) (s : St V L K)
    (h : exec answer (St.init ids₀ sync₀ locales₀) ops = .done s) :
    (∀ hd, s.bundles = some hd →
        hd.built.ids = s.resIds ∧ hd.built.sync = s.sync ∧ (s.dirty = false → hd.built.locales = s.locales)) ∧
    (s.dirty = false → ∀ key : K,
      ∃ id s' s₀',
        step answer s (.req key) = .done (s', .answer id (answer (current s) key)) ∧
        step answer (St.init (K := K) s.resIds s.sync s.locales) (.req key) =
          .done (s₀', .answer 0 (answer (current s) key))) := by
  have hI : Inv s := inv_exec answer ops _ s (inv_init ids₀ sync₀ locales₀) h
  refine ⟨hI.fresh, fun hd key => ?_⟩
  have hfresh : extendIds [] s.resIds = s.resIds := by
    have := extendIds_of_nodup [] s.resIds (by simpa using hI.nodup)
    simpa using this
  have hA : ∃ id s', step answer s (.req key) = .done (s', .answer id (answer (current s) key)) := by
    rcases getOrInit_cases s with ⟨h0, hb, hg⟩ | ⟨hb, hg⟩
    · obtain ⟨h1, h2, h3⟩ := hI.fresh h0 hb
      have hbuilt : h0.built = current s := by
        have h3' := h3 hd
        cases hb0 : h0.built
        simp_all [current]
      exact ⟨h0.id, s, by simp only [step, hg]; rw [hbuilt]⟩
    · exact ⟨s.nextId, _, by simp only [step, hg]; rfl⟩
  have hB : ∃ s₀', step answer (St.init (K := K) s.resIds s.sync s.locales) (.req key) =
      .done (s₀', .answer 0 (answer (current s) key)) :=
    ⟨_, by simp only [step, St.getOrInit, St.init, hfresh, current]; rfl⟩
  obtain ⟨id, s', hA⟩ := hA
  obtain ⟨s₀', hB⟩ := hB
  exact ⟨id, s', s₀', hA, hB⟩

/-- **one_build_per_epoch (arguments).**  Whatever the state and the operation: either the generator is not
consulted, or no bundle set was cached and it is consulted exactly once, with exactly the current mode,
locales and resource ids — which that operation does not change. -/
theorem C18_generator_args (answer : Built V L → K → R) (s s' : St V L K) (op : Op V L K) (o : Obs V L R)
    (h : step answer s op = .done (s', o)) :
    callsOf s'.log = callsOf s.log ∨
      (s.bundles = none ∧ callsOf s'.log = callsOf s.log ++ [current s] ∧ current s' = current s) := by
  rcases step_calls answer s s' op o h with h1 | ⟨h1, h2, h3, _⟩
  · exact Or.inl h1
  · exact Or.inr ⟨h1, h2, h3⟩

/-- **one_build_per_epoch (count).**  Between two changes — over any sequence of operations none of which
is `add*`/`remove*`/`on_change`/`set_async` (provider mutation without notification, prefetch, `bundles()`,
requests, holds, in-flight requests are all allowed) — the generator is consulted at most once, and not at
all if a bundle set is already cached. -/
theorem C18_one_build_per_epoch (answer : Built V L → K → R) (s s' : St V L K) (ops : List (Op V L K))
    (hops : ∀ op ∈ ops, isChange op = false) (h : exec answer s ops = .done s') :
    (callsOf s'.log).length ≤ (callsOf s.log).length + 1 ∧
    (s.bundles.isSome → callsOf s'.log = callsOf s.log) := by
  obtain ⟨h1, h2⟩ := exec_epoch answer ops s s' hops h
  refine ⟨?_, h1⟩
  rcases h2 with h2 | ⟨b, h2⟩ <;> simp [h2]

/-- the ghost epoch counter of reachable states: one generator call in the current epoch iff a bundle set
is cached, none otherwise; and every `Rc` ever handed out corresponds to one logged generator call -/
theorem C18_epoch_counter (answer : Built V L → K → R) (ids₀ : List (ResId V)) (sync₀ : Bool)
    (locales₀ : List L) (ops : List (Op V L K)) (s : St V L K)
    (h : exec answer (St.init ids₀ sync₀ locales₀) ops = .done s) :
    s.epochBuilds ≤ 1 ∧ (s.epochBuilds = 1 ↔ s.bundles.isSome) ∧ (callsOf s.log).length = s.nextId := by
  have hI : Inv s := inv_exec answer ops _ s (inv_init ids₀ sync₀ locales₀) h
  have he := hI.epoch
  refine ⟨?_, ?_, hI.calls⟩
  · rw [he]; split <;> simp
  · rw [he]; cases s.bundles <;> simp

/-- **old_handle_stable.**  A handle held at some point (`held[n] = h`) is still `held[n]` after any further
history, and a request through it answers `answer h.built key` — a function of the generator call that
built it, not of anything that happened since. -/
theorem C18_old_handle_stable (answer : Built V L → K → R) (s s' : St V L K) (ops : List (Op V L K))
    (h : exec answer s ops = .done s') (n : Nat) (hd : Handle V L) (hn : s.held[n]? = some hd) (key : K) :
    s'.held[n]? = some hd ∧
    step answer s' (.askHeld n key) = .done (s', .answer hd.id (answer hd.built key)) ∧
    step answer s (.askHeld n key) = .done (s, .answer hd.id (answer hd.built key)) := by
  obtain ⟨more, hm⟩ := exec_held answer ops s s' h
  have hn' : s'.held[n]? = some hd := by rw [hm]; exact getElem?_append_of_some _ _ _ _ hn
  exact ⟨hn', by simp [step, hn'], by simp [step, hn]⟩

/-- **requests in flight across changes.**  A request begun on a handle is answered, whenever it is finished
(after any operations other than finishing it), from that handle: `answer h.built key`. -/
theorem C18_inflight_stable (answer : Built V L → K → R) (s s' : St V L K) (ops : List (Op V L K))
    (hops : ∀ op ∈ ops, isFinish op = false) (h : exec answer s ops = .done s')
    (hd : Handle V L) (key : K) (q : List (Handle V L × K)) (hq : s.inflight = (hd, key) :: q) :
    ∃ s'', step answer s' .finish = .done (s'', .answer hd.id (answer hd.built key)) := by
  obtain ⟨more, hm⟩ := exec_inflight answer ops s s' hops h
  rw [hq] at hm
  exact ⟨{ s' with inflight := q ++ more }, by simp [step, hm]⟩

/-- **handle identity.**  In a reachable state `Rc` identity determines the bundle set: two held handles
(or a held one and the cached one) with the same identity were built by the same generator call; and the
identity a new build would get (`nextId`) differs from every handle that exists. -/
theorem C18_handle_identity (answer : Built V L → K → R) (ids₀ : List (ResId V)) (sync₀ : Bool)
    (locales₀ : List L) (ops : List (Op V L K)) (s : St V L K)
    (h : exec answer (St.init ids₀ sync₀ locales₀) ops = .done s) :
    (∀ h₁ ∈ s.held, ∀ h₂ ∈ s.held, h₁.id = h₂.id → h₁ = h₂) ∧
    (∀ h₁ ∈ s.held, ∀ h₂, s.bundles = some h₂ → h₁.id = h₂.id → h₁ = h₂) ∧
    (∀ h₁ ∈ s.held, h₁.id < s.nextId) ∧ (∀ h₂, s.bundles = some h₂ → h₂.id < s.nextId) := by
  have hI : Inv s := inv_exec answer ops _ s (inv_init ids₀ sync₀ locales₀) h
  have hlt : ∀ (i : Nat) (b : Built V L), (callsOf s.log)[i]? = some b → i < s.nextId :=
    fun i b hb => hI.calls ▸ (List.getElem?_eq_some_iff.1 hb).1
  -- two handles logged under the same id were built by the same call
  have same : ∀ h₁ h₂ : Handle V L, (callsOf s.log)[h₁.id]? = some h₁.built →
      (callsOf s.log)[h₂.id]? = some h₂.built → h₁.id = h₂.id → h₁ = h₂ := by
    intro h₁ h₂ e1 e2 hid
    rw [hid, e2] at e1
    cases h₁; cases h₂; simp_all
  refine ⟨?_, ?_, ?_, ?_⟩
  · exact fun h₁ hh₁ h₂ hh₂ => same h₁ h₂ (hI.heldLogged h₁ hh₁) (hI.heldLogged h₂ hh₂)
  · exact fun h₁ hh₁ h₂ hh₂ => same h₁ h₂ (hI.heldLogged h₁ hh₁) (hI.cachedLogged h₂ hh₂)
  · intro h₁ hh₁; exact hlt _ _ (hI.heldLogged h₁ hh₁)
  · intro h₂ hh₂; exact hlt _ _ (hI.cachedLogged h₂ hh₂)

/-- the resource-id set behaves as a set keyed by `value`: after any history no two ids share a value
(so "the same id with the other type" keeps the first type), and re-collecting it (`from_iter`, what a
fresh instance does) changes nothing -/
theorem C18_res_ids_set (answer : Built V L → K → R) (ids₀ : List (ResId V)) (sync₀ : Bool)
    (locales₀ : List L) (ops : List (Op V L K)) (s : St V L K)
    (h : exec answer (St.init ids₀ sync₀ locales₀) ops = .done s) :
    (s.resIds.map (·.value)).Nodup ∧ extendIds [] s.resIds = s.resIds := by
  have hI : Inv s := inv_exec answer ops _ s (inv_init ids₀ sync₀ locales₀) h
  exact ⟨hI.nodup, by simpa using extendIds_of_nodup [] s.resIds (by simpa using hI.nodup)⟩

/-! ## non-vacuity witnesses (`decide` here is a test of a concrete history, not a proof of the property) -/

section witness

/-- answer = `[mode, key] ++ locales ++ [0] ++ ids` (an optional id `v` is written `v + 100`) -/
private def ansW (b : Built Nat Nat) (key : Nat) : List Nat :=
  [if b.sync then 1 else 0, key] ++ b.locales ++ [0] ++ b.ids.map fun r => if r.optional then r.value + 100 else r.value

private def opsW : List (Op Nat Nat Nat) :=
  [.bundles, .hold, .add ⟨7, true⟩, .add ⟨5, true⟩, .setLocales [2, 1], .onChange, .req 9, .bundles,
   .askHeld 0 9, .begin 0 8, .remove ⟨5, false⟩, .setAsync, .finish, .req 9]

/-- a history with a type conflict (`5` stays Required), a provider change with notification, a held
handle asked after changes, a request in flight across changes, and three generator calls -/
example :
    (run ansW (St.init [⟨5, false⟩, ⟨6, false⟩] true [1, 2]) opsW).map (fun t => t.map (·.2)) =
      .done [.handle 0 true, .handle 0 true, .unit, .unit, .unit, .unit,
             .answer 1 [1, 9, 2, 1, 0, 5, 6, 107], .handle 1 true,
             .answer 0 [1, 9, 1, 2, 0, 5, 6], .begun, .len 2, .unit,
             .answer 0 [1, 8, 1, 2, 0, 5, 6],
             .answer 2 [0, 9, 2, 1, 0, 6, 107]] := by decide +kernel

example :
    (exec ansW (St.init [⟨5, false⟩, ⟨6, false⟩] true [1, 2]) opsW).map (fun s => callsOf s.log) =
      .done [⟨true, [1, 2], [⟨5, false⟩, ⟨6, false⟩]⟩, ⟨true, [2, 1], [⟨5, false⟩, ⟨6, false⟩, ⟨7, true⟩]⟩,
             ⟨false, [2, 1], [⟨6, false⟩, ⟨7, true⟩]⟩] := by decide +kernel

/-- prefetch of the wrong kind panics (after building) -/
example : (exec ansW (St.init [] false [1]) [Op.prefetchSync]).map (fun s => s.nextId) =
    .panic "Can't prefetch a sync bundle set asynchronously" := by decide +kernel

end witness

end FluentProofs.C18

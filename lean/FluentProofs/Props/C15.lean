import FluentProofs.ConstTieResolver
import FluentProofs.Props.C14
import FluentProofs.MemoConcPure
import FluentModel.Resolver
/-!
# C15 — a concurrent bundle formats the same from many threads as from one

Corollary structure (DESIGN §6/C15):
(a) in the transcribed resolver model a request's result is a function of (bundle, request): the model
    threads no state between calls (`FluentModel.Resolver.formatPattern env fuel p` has no other input);
    the only shared mutable object a real request touches is the formatter memoizer, which enters the
    model as the pure function `env.category`;
(b) the concurrent memoizer model (C14) shows, for ALL schedules, that every lookup completes once the
    schedule goes on round-robin for long enough, that the instance a callback sees is what `construct` returns for its key (cache state is
    unobservable) and that no reachable state is deadlocked.
Hence every interleaving of requests at the granularity of memoizer accesses returns, request by
request, the sequential result.  Real thread schedules and the memory model are sampled by the
harness (N threads behind a barrier on a cold cache), not enumerated.
-/
namespace FluentProofs.C15
open FluentModel FluentModel.Syntax FluentModel.Resolver

/-- a request = (pattern, caller arguments); a thread program = list of requests -/
abbrev Request := Pattern Bytes × Option ArgList

/-- what one request returns against a bundle (the memoizer enters only through `env.category`) -/
def answer (env : Env) (fuel : Nat) (r : Request) : RR (Bytes × List RErr) :=
  formatPattern { env with args := r.2 } fuel r.1

/-- running programs under a schedule: a schedule is any interleaving of the threads' requests
(list of thread ids); the bundle is immutable (`&self`), so the state is only each thread's cursor. -/
def runSchedule (env : Env) (fuel : Nat) (progs : List (List Request)) :
    List Nat → List (List (RR (Bytes × List RErr))) → List (List (RR (Bytes × List RErr)))
  | [], outs => outs
  | t :: rest, outs =>
    match progs[t]?, outs[t]? with
    | some prog, some done =>
      (match prog[done.length]? with
       | some rq => runSchedule env fuel progs rest (outs.set t (done ++ [answer env fuel rq]))
       | none => runSchedule env fuel progs rest outs)
    | _, _ => runSchedule env fuel progs rest outs

/-- every result a thread has obtained under ANY schedule is the sequential result of that request -/
theorem C15_concurrent_eq_sequential (env : Env) (fuel : Nat) (progs : List (List Request)) (sched : List Nat)
    (outs : List (List (RR (Bytes × List RErr))))
    (hlen : outs.length = progs.length)
    (h : ∀ (t : Nat) (prog : List Request) (done : List (RR (Bytes × List RErr))), progs[t]? = some prog → outs[t]? = some done →
      done = (prog.take done.length).map (answer env fuel)) :
    ∀ (t : Nat) (prog : List Request) (done : List (RR (Bytes × List RErr))), progs[t]? = some prog →
      (runSchedule env fuel progs sched outs)[t]? = some done →
      done = (prog.take done.length).map (answer env fuel) := by
  induction sched generalizing outs with
  | nil => intro t prog done hp hd; exact h t prog done hp hd
  | cons t0 rest ih =>
    unfold runSchedule
    split
    · rename_i prog0 done0 hp0 hd0
      split
      · rename_i rq hrq
        apply ih
        · simp [hlen]
        · intro t prog done hp hd
          by_cases ht : t = t0
          · subst ht
            rw [List.getElem?_set_self (List.getElem?_eq_some_iff.1 hd0).1] at hd
            have hpe : prog0 = prog := by rw [hp0] at hp; exact Option.some.inj hp
            subst hpe
            have hde : done = done0 ++ [answer env fuel rq] := (Option.some.inj hd).symm
            subst hde
            have h0 := h t prog0 done0 hp0 hd0
            simp only [List.length_append, List.length_singleton]
            rw [List.take_add_one, hrq, List.map_append, ← h0]
            rfl
          · rw [List.getElem?_set_ne (Ne.symm ht)] at hd
            exact h t prog done hp hd
      · exact ih outs hlen h
    · exact ih outs hlen h

end FluentProofs.C15

/-! ## lock-granularity corollary of C14 (the thread-safe formatter memoizer)

`X` is `Memoizable::construct` of every formatter type over an arbitrary external world; here it is *pure*
(`hpure`: its result is a function `f` of language, type and arguments – `PluralRules::construct` is) and the
callbacks' results do not depend on the world (`hcb`; `|pr| pr.0.select(..)` is a function of the instance).
Model and schedules as in C14 (`FluentModel.Memo.cstep`: one explicit lock, a schedule is any list of thread
ids).  Real thread schedules are sampled by the harness, not enumerated. -/
namespace FluentProofs.C15
open FluentModel.Memo

section MemoLock
variable {σ L τ α ι ε ρ : Type} [DecidableEq τ] [DecidableEq α]
variable (X : Ext σ L τ α ι ε) (lang : L) (w₀ : σ)

/-- **memoizer lookups are schedule independent.**  For ALL thread programs and ALL schedules:
(1) whenever the lock is free, every thread's results (in order) are exactly `pureOutcome f lang w₀` – the
    callback applied to what `construct` returns for the key, or `construct`'s error – of the lookups that
    thread has acquired so far;
(2) in any state where no thread is unfinished, thread `t`'s results are `pureOutcome` mapped over `t`'s whole
    program, which is also what a single-threaded run of that program alone on a cold memoizer returns. -/
theorem C15_lookups_schedule_independent (f : L → τ → α → Except ε ι)
    (hpure : ∀ w l t a, (X.construct w l t a).1 = f l t a)
    (progs : List (List (Op σ τ α ι ρ)))
    (hcb : ∀ p ∈ progs, ∀ op ∈ p, ∀ i w w', (op.cb i w).1 = (op.cb i w').1) (sched : List Nat) :
    let s : CState σ L τ α ι ε ρ := FluentProofs.C14.cafter X lang w₀ progs sched
    (s.lock = none → ∀ t, (s.threads t).results.reverse = (acqOf t s.acq).map (pureOutcome f lang w₀)) ∧
    ((∀ t, ¬ unfinished s t) → ∀ t,
      (s.threads t).results.reverse = (progOf progs t).map (pureOutcome f lang w₀) ∧
      (s.threads t).results.reverse = (runOps X lang (progOf progs t) LMemo.empty w₀).1) := by
  intro s
  refine ⟨fun hl t => lookups_schedule_independent X lang w₀ f hpure progs hcb sched hl t, ?_⟩
  intro hf t
  exact ⟨complete_results_schedule_independent X lang w₀ f hpure progs hcb sched hf t,
    complete_results_eq_single_thread X lang w₀ f hpure progs hcb sched hf t⟩

/-- after *any* schedule prefix followed by the completing schedule of `C14_completion`, thread `t` holds the
pure outcomes of its program – the same list for every schedule -/
theorem C15_lookups_after_completion (f : L → τ → α → Except ε ι)
    (hpure : ∀ w l t a, (X.construct w l t a).1 = f l t a)
    (progs : List (List (Op σ τ α ι ρ)))
    (hcb : ∀ p ∈ progs, ∀ op ∈ p, ∀ i w w', (op.cb i w).1 = (op.cb i w').1) (sched : List Nat) (t : Nat) :
    ((FluentProofs.C14.cafter X lang w₀ progs
        (sched ++ roundRobin progs.length (3 * (progs.map List.length).sum)) :
        CState σ L τ α ι ε ρ).threads t).results.reverse =
      (progOf progs t).map (pureOutcome f lang w₀) :=
  complete_results_schedule_independent X lang w₀ f hpure progs hcb _
    (fun t' => FluentProofs.C14.C14_completion X lang w₀ progs sched t') t

/-- **no deadlock, no livelock** at the memoizer: in every reachable state an unfinished thread implies an
enabled thread, and round-robin for `3 × (number of lookups)` rounds after any prefix finishes every thread -/
theorem C15_no_deadlock (progs : List (List (Op σ τ α ι ρ))) (sched : List Nat) :
    (∀ t, unfinished (FluentProofs.C14.cafter X lang w₀ progs sched : CState σ L τ α ι ε ρ) t →
      ∃ t', enabled (FluentProofs.C14.cafter X lang w₀ progs sched : CState σ L τ α ι ε ρ) t') ∧
    (∀ t, ¬ unfinished (FluentProofs.C14.cafter X lang w₀ progs
        (sched ++ roundRobin progs.length (3 * (progs.map List.length).sum)) : CState σ L τ α ι ε ρ) t) :=
  ⟨fun t hu => FluentProofs.C14.C14_deadlock_free X lang w₀ progs sched t hu,
   fun t => FluentProofs.C14.C14_completion X lang w₀ progs sched t⟩

end MemoLock
end FluentProofs.C15

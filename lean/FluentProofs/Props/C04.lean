import FluentProofs.ConstTieSyntax
import FluentProofs.SerializerEntries
import FluentProofs.SerializerLineSplit
import FluentProofs.SerializerSources
import FluentProofs.SerializerSingleLine
import FluentProofs.SerializerFinal
import FluentProofs.SerializerOutValid
import FluentProofs.SerializerOutShape5
import FluentProofs.SerializerOutCrValid
import FluentProofs.SerializerJunkTransfer
/-!
# C04 — serializer round trip

Model: `FluentModel/Serializer.lean` (`Serializer` + `TextWriter`, function for function) and
`FluentModel/Parser.lean`.  The two full statements are the `def`s `C04_roundtrip_statement` and
`C04_fixpoint_statement` below.  **Both are proved, for EVERY `String` and both values of `with_junk`, without any
hypothesis on the tree or on the bytes: `C04_roundtrip_full`, `C04_fixpoint_full`** (`C04_roundtrip_all` gives the four
conjuncts at once).  `C04_fixpoint_statement` needs nothing else than `C04_roundtrip_statement` (`fixpoint_of_roundtrip`:
the parser produces line-split trees, and such trees serialise alike when they agree under `norm`).

The proof has two halves.  Every resource of the decidable class `RoundTrippable` round-trips (`roundtrip_class_partial`:
the writer appends a known text, the parser reads that text back; T1–T3 below are its layers), and the `normSafe` form of
every parse tree — which serialises like the tree — is in the class (`parse_pattern_shape_all`,
`Ser.roundTrippable_normSafe_of_parse_all`; for a source without `\r` the tree itself is, `parse_output_in_class`).  The
class includes the shapes the parser produces at its edges: multi-line patterns in which no line takes part in the common
indent (`b=.{$x ->…}z`), named-argument values that are message references or calls (`F(x: foo)`, the parser's
`only_literal` leniency), select expressions at every inline position.

Junk kept by the serializer (`with_junk = true`).  The serializer re-emits a Junk's bytes verbatim; the bytes of a Junk run
from a line start to the next entry start / the end of input, and the failing run of `get_entry` that produced it may have
looked into the first line of the following entry (up to its `=`), whose blanks the serializer normalises.  Hence a two-source
simulation of the parser (`FluentProofs/ParserLocalSim*.lean`: two sources that agree up to a line start `N` holding, in both,
a `#` or an entry head: every parser function started at or before `N` returns the same outcome in both, or ends behind `N`
inside the entry head in both) carries the facts about the Junk spans of a parse tree to every text that holds the same Junk
bytes followed by the serialised following entries.

A lone `\r` (a byte 13 not followed by 10) is for the parser an ordinary byte of a text or a comment line; `trim` strips it
from the end of a pattern, and the `TextWriter` doubles it in front of a `\n` (the fix for defect F24).  The class admits the
byte 13 in text elements and comment lines under the conditions the writer needs: a text does not end with `\r\n`; a text
that ends with `\r` is followed by a placeable or by the text `"\n"` (the shape the parser returns for `…\r\r\n`: the slice
is cut in front of the LAST `\r`, the `\n` is pushed as an element of its own; the serialised text holds the doubled `\r` and
is read back as the same two elements); the last text does not end with `\r`; a comment line may contain and end with `\r`.
-/
namespace FluentProofs.C04
open FluentModel FluentModel.Syntax FluentModel.Syntax.Ser FluentProofs.Parser FluentProofs.Ser

/-- **C04 round trip (full statement; theorem `C04_roundtrip_full`).**
For every source string and both options: if the parser gives the tree `t`, then serialising `t` succeeds with some text `out`, parsing `out`
succeeds with a tree `t'`, and `t'` equals `t` under `norm` (adjacent text elements joined
recursively, whitespace-only comment lines equal to empty ones, Junk dropped when `¬withJunk`).

Proved for every string, both options, no hypothesis on the tree: `C04_roundtrip_full` (from `C04_roundtrip_all`, of
which `C04_roundtrip_all_nojunk` — no Junk is written — and `C04_roundtrip_withJunk_all` — Junk kept by the serializer —
are the two cases). -/
def C04_roundtrip_statement : Prop :=
  ∀ (str : String) (withJunk : Bool) (t : Resource Span) (errs : List PErr),
    parse str.toUTF8.data = .done (t, errs) →
    ∃ out, Ser.serialize withJunk (resolve str.toUTF8.data t) = some out ∧
      ∃ t' errs', parse out.toArray = .done (t', errs') ∧
        norm withJunk (resolve out.toArray t') = norm withJunk (resolve str.toUTF8.data t)

/-- **C04 fixed point (full statement; theorem `C04_fixpoint_full`).**  Serialising the re-parsed tree reproduces the
text byte for byte.

`fixpoint_of_roundtrip` proves that it follows from `C04_roundtrip_statement`; it is also the last conjunct of
`C04_roundtrip_all`. -/
def C04_fixpoint_statement : Prop :=
  ∀ (str : String) (withJunk : Bool) (t : Resource Span) (errs : List PErr),
    parse str.toUTF8.data = .done (t, errs) →
    ∀ out, Ser.serialize withJunk (resolve str.toUTF8.data t) = some out →
      ∀ t' errs', parse out.toArray = .done (t', errs') →
        Ser.serialize withJunk (resolve out.toArray t') = some out

/-- **T1a.**  For every resource — any tree shape, not only parser output — and both options the
serializer returns a text: the `expect` in `TextWriter::dedent` is unreachable.  (Invariant, by
mutual structural induction over `Inline`/`Expr`/`Variant`/`PatElem`: every serializer function
returns `some` writer with the `indentLevel` it was given — `Ser.serInline_keeps` …
`Ser.serResourceGo_keeps`.) -/
theorem serialize_total (withJunk : Bool) (r : Resource Bytes) : Ser.serialize withJunk r ≠ none := by
  obtain ⟨out, h⟩ := serialize_isSome withJunk r
  rw [h]; exact fun h => by cases h

theorem serializer_keeps_indent (w : Writer) :
    (∀ e, ∃ w', serInline w e = some w' ∧ w'.indentLevel = w.indentLevel) ∧
    (∀ e, ∃ w', serExpr w e = some w' ∧ w'.indentLevel = w.indentLevel) ∧
    (∀ v, ∃ w', serVariant w v = some w' ∧ w'.indentLevel = w.indentLevel) ∧
    (∀ p, ∃ w', serPattern w p = some w' ∧ w'.indentLevel = w.indentLevel) :=
  ⟨fun e => serInline_keeps e w, fun e => serExpr_keeps e w, fun v => serVariant_keeps v w,
   fun p => serPattern_keeps p w⟩

/-- **T1b, `write_literal`.**  It only appends.  Right after a line break the line starts with
exactly `4 · indentLevel` spaces followed by the literal; elsewhere the literal is appended, preceded
by one extra `\r` iff the buffer ends with `\r` and the literal starts with `\n`. -/
theorem writeLiteral_discipline (w : Writer) (item : Bytes) :
    (endsWith w 10 = true →
      (w.writeLiteral item).buffer = w.buffer ++ spaces (4 * w.indentLevel) ++ item.toArray) ∧
    (endsWith w 10 = false →
      (w.writeLiteral item).buffer =
        w.buffer ++ (if endsWith w 13 && item.head? == some 10 then #[13] else #[]) ++ item.toArray) ∧
    (w.writeLiteral item).indentLevel = w.indentLevel :=
  ⟨writeLiteral_after_newline w item, writeLiteral_mid_line w item, writeLiteral_indentLevel w item⟩

/-- **T1b, `newline`.**  Appends `\n`, after a second `\r` if the buffer ends with `\r`; afterwards
the buffer ends with `\n`. -/
theorem newline_discipline (w : Writer) :
    w.newline.buffer = w.buffer ++ (if endsWith w 13 then #[13, 10] else #[10]) ∧
    endsWith w.newline 10 = true ∧ w.newline.indentLevel = w.indentLevel :=
  ⟨newline_buffer w, newline_endsWith w, rfl⟩

/-- **T1b, `write_char_into_indent`.**  At the start of a line inside indent level `k + 1` it appends
`4k + 3` spaces and the character (i.e. the last indentation space is replaced, nothing older is
touched); in general, when the buffer ends with a non-continuation byte `x ≠ '\n'`, exactly `x` is
replaced. -/
theorem writeCharIntoIndent_discipline (w : Writer) (ch : UInt8) :
    (∀ k, endsWith w 10 = true → w.indentLevel = k + 1 →
      (w.writeCharIntoIndent ch).buffer = w.buffer ++ spaces (4 * k + 3) ++ #[ch]) ∧
    (∀ (b : Array UInt8) (x : UInt8), w.buffer = b.push x → x ≠ 10 → (x &&& 0xC0) ≠ 0x80 → (w.writeCharIntoIndent ch).buffer = b.push ch) :=
  ⟨fun k h hk => writeCharIntoIndent_after_newline w ch k h hk,
   fun b x h h1 h2 => writeCharIntoIndent_mid_line w ch x b h h1 h2⟩

/-- **T1b, the `*` of a default variant only ever replaces an indentation space.**  Serialising a
select expression calls `write_char_into_indent` only at the start of a line inside indent level
≥ 1: `serialize_expression` equals the variant loop `serVariantsSpec`, in which the `*` is appended
after `4·indentLevel − 1` spaces (`starIndent`) and no byte of the buffer is ever removed. -/
theorem star_only_replaces_indentation (w : Writer) (sel : Inline Bytes) (vs : List (Variant Bytes)) :
    serExpr w (.select sel vs) =
      match serInline w sel with
      | none => none
      | some w1 =>
        match serVariantsSpec (((w1.writeLiteral (lit " ->")).newline).indent) vs with
        | none => none
        | some w3 => w3.dedent :=
  serExpr_select_eq w sel vs

/-- **T1c, two literals.**  For non-empty `a`: writing `a` then `b` gives the same writer as writing
`a ++ b` **iff** no indentation is inserted between them (`a` does not end with `\n`, or the indent
level is 0) and no `\r` is doubled (`a` ends with `\r` and `b` starts with `\n`). -/
theorem writeLiteral_join_iff (w : Writer) (a b : Bytes) (ha : a ≠ []) :
    (w.writeLiteral a).writeLiteral b = w.writeLiteral (a ++ b) ↔
      (a.getLast? = some 10 → w.indentLevel = 0) ∧ ¬(a.getLast? = some 13 ∧ b.head? = some 10) :=
  Ser.writeLiteral_join_iff w a b ha

/-- **T1c `serialize_congr`, the congruence that is true.**  For every resource and both options:
joining every adjacent pair of text elements `a, b` with `JoinOK a b` (`a ≠ []`, `a` does not end
with `\n`, not (`a` ends with `\r` and `b` starts with `\n`)) in every pattern of the tree
(recursively), replacing whitespace-only comment lines by empty ones and dropping Junk when
`¬withJunk` (`normSafe`) leaves the output unchanged; `is_multiline` / `has_leading_text_dot` agree
(`Ser.isMultiline_nPat`, `Ser.hasLeadingTextDot_nPat`).  The unrestricted `norm` does **not** have
this property: `[text "a\n", text "b"]` is written with indentation before `b`,
`[text "a\nb"]` without. -/
theorem serialize_congr (withJunk : Bool) (r : Resource Bytes) :
    Ser.serialize withJunk (normSafe withJunk r) = Ser.serialize withJunk r :=
  serialize_normSafe withJunk r

/-- **T1c for parser-shaped trees.**  Two line-split resources (`LineSplit`: every text element is
non-empty, contains `\n` only as its last byte and no `\r\n`) that are equal under the property's
comparison `norm` serialise to the same bytes. -/
theorem serialize_congr_lineSplit (withJunk : Bool) (r₁ r₂ : Resource Bytes) (h₁ : LineSplit r₁) (h₂ : LineSplit r₂)
    (h : norm withJunk r₁ = norm withJunk r₂) : Ser.serialize withJunk r₁ = Ser.serialize withJunk r₂ :=
  Ser.serialize_congr_lineSplit withJunk r₁ r₂ h₁ h₂ h

/-- **`fixpoint` is a corollary of `roundtrip` for line-split trees** (conditional form of
`C04_fixpoint_statement`): if the tree `t` and the re-parsed tree `t'` are line-split and equal under
`norm`, the second serialisation reproduces `out`. -/
theorem fixpoint_of_roundtrip_lineSplit (withJunk : Bool) (t t' : Resource Bytes) (out : Bytes)
    (hout : Ser.serialize withJunk t = some out) (hls : LineSplit t) (hls' : LineSplit t')
    (hnorm : norm withJunk t' = norm withJunk t) : Ser.serialize withJunk t' = some out := by
  rw [Ser.serialize_congr_lineSplit withJunk t' t hls' hls hnorm, hout]

/-- **The parser produces line-split trees.**  For every byte source, every text element of every
pattern (values, attribute values, variant values, at any depth) in the tree returned by `parse` is
non-empty, contains `\n` only as its last byte and contains no `\r\n` (for one call of `get_pattern`: an
invariant of its loop on the placeholders, including "the element `last_non_blank` points to survives
`trim`", `Ser.getPattern_els`; carried to every depth of the tree by `Ser.parse_deep`). -/
theorem parse_lineSplit (s : Src) (t : Resource Span) (errs : List PErr) (h : parse s = .done (t, errs)) :
    LineSplit (resolve s t) :=
  Ser.parse_lineSplit s t errs h

/-- **`fixpoint` is a corollary of `roundtrip`**: the second full statement follows from the first,
because both the original and the re-parsed tree are parser output, hence line-split
(`parse_lineSplit`), and line-split trees that agree under `norm` serialise identically
(`serialize_congr_lineSplit`). -/
theorem fixpoint_of_roundtrip (h : C04_roundtrip_statement) : C04_fixpoint_statement := by
  intro str withJunk t errs hp out hout t' errs' hp'
  obtain ⟨out2, ho2, t2, errs2, hp2, hnorm⟩ := h str withJunk t errs hp
  rw [hout] at ho2
  cases ho2
  rw [hp'] at hp2
  cases hp2
  rw [Ser.serialize_congr_lineSplit withJunk _ _ (Ser.parse_lineSplit _ _ _ hp') (Ser.parse_lineSplit _ _ _ hp) hnorm,
    hout]

/-- **T2, serializer half.**  For a valid inline expression the serializer writes exactly the text
`inlineBytes e`, as if by a single `write_literal`, whatever the writer's state. -/
theorem inline_serialize (e : Inline Bytes) (hv : validInline e = true) (w : Writer) :
    serInline w e = some (w.writeLiteral (inlineBytes e)) :=
  (serInline_eq_bytes e hv w).1

/-- **T2 `inline_roundtrip`.**  See `Ser.inline_roundtrip`: for every `validInline` expression `e`
(identifiers / number literals well-shaped, string literals with valid escapes only and no raw
newline or quote, callee upper-case, named-argument names unique with values that are literals, message
references or function calls, no select and
no term attribute inside a nested placeable) and every writer `w`, the serializer writes one literal
`out`, and on every source with the `&str` invariant that contains `out` at `p` followed by something
that cannot extend the expression, `get_inline_expression` returns `e'` with `resolve e' = e` and
stops at `endPos e s (p + out.length)`. -/
theorem inline_roundtrip (e : Inline Bytes) (hv : validInline e = true) (w : Writer) :
    ∃ out, serInline w e = some (w.writeLiteral out) ∧
      ∀ (s : Src) (p fuel : Nat), AsciiThenBoundary s → At s p out → Follow s (p + out.length) →
        fuelInline e ≤ fuel →
        ∃ e', getInline s fuel false p = .ok e' (endPos e s (p + out.length)) ∧ e'.mapS (spanBytes s) = e :=
  Ser.inline_roundtrip e hv w

/-- **T2, concrete form**: `pre ++ serialise(e) ++ rest` with `rest` starting with `,` `)` `}` or `:`
is parsed back to `e`, stopping exactly at `rest`. -/
theorem inline_roundtrip_source (e : Inline Bytes) (hv : validInline e = true) (pre rest : Bytes) (c : UInt8)
    (hc : c = 44 ∨ c = 41 ∨ c = 125 ∨ c = 58) (hrest : rest.head? = some c) (fuel : Nat) (hfuel : fuelInline e ≤ fuel) :
    ∃ out, (serInline {} e).map (fun w => w.buffer.toList) = some out ∧
      (AsciiThenBoundary (pre ++ out ++ rest).toArray →
        ∃ e', getInline (pre ++ out ++ rest).toArray fuel false pre.length = .ok e' (pre.length + out.length) ∧
          e'.mapS (spanBytes (pre ++ out ++ rest).toArray) = e) :=
  Ser.inline_roundtrip_source e hv pre rest c hc hrest fuel hfuel

/-- **T2, pattern level.**  For a valid single-line pattern `es` (`validSingleLine`) the serializer
writes ` ` followed by `patBytes es` (`Ser.serPattern_eq`), and on every source with the `&str`
invariant that contains `" " ++ patBytes es ++ "\n"` at `p` and continues with the end of input or a
line that cannot continue the pattern, `get_pattern` returns a pattern that resolves to `es` and
stops behind the line feed. -/
theorem pattern_roundtrip_singleline (es : List (PatElem Bytes)) (hv : validSingleLine es = true) :
    (∀ (w : Writer) (acc : Bytes), tidy acc = true →
      serPattern (w.writeLiteral acc) es = some (w.writeLiteral (acc ++ 32 :: patBytes es))) ∧
    (∀ (s : Src) (p n : Nat), AsciiThenBoundary s → At s p (32 :: (patBytes es ++ [10])) →
      LineEndOK s (p + 1 + (patBytes es).length + 1) → fuelPat es + 1 ≤ n →
      ∃ els, getPattern s n p = .ok (some els) (p + 1 + (patBytes es).length + 1) ∧
        mapPat (spanBytes s) els = es) :=
  ⟨fun w acc ha => (serPattern_eq es (validSingleLine_elems hv) w acc ha).1,
   fun _ p n hs h hend hn => getPattern_singleline hs es hv p n h hend hn⟩

/-- **T2 `roundtrip_singleline_partial`** — both full statements, restricted to trees of messages and
terms with single-line values.  For every resource all of whose entries satisfy `validSimpleEntry`
(message or term; identifier well-shaped; value a `validSingleLine` pattern: non-empty, texts
non-empty without `\n` `\r` `{` `}`, placeables with `validInline` expressions and no select / term
attribute, no adjacent texts, no leading or trailing space; no attributes; no comment) and both
options: `serialize` returns `out`; if `out` has the `&str` invariant (true whenever the tree's
strings are UTF-8) then `parse out` — with the fuel `parse` itself passes — returns, with an empty
error list, a tree that resolves to **exactly** `r` (hence equal under `norm`), and serialising the
re-parsed tree gives `out` again.

`_partial`: multi-line patterns, selects, attributes, comments and Junk are not covered, and the
quantification is over trees of this shape rather than over sources. -/
theorem roundtrip_singleline_partial (withJunk : Bool) (r : Resource Bytes)
    (hv : ∀ e ∈ r, validSimpleEntry e = true) :
    ∃ out, Ser.serialize withJunk r = some out ∧
      (AsciiThenBoundary out.toArray →
        ∃ t', parse out.toArray = .done (t', []) ∧ resolve out.toArray t' = r ∧
          norm withJunk (resolve out.toArray t') = norm withJunk r ∧
          Ser.serialize withJunk (resolve out.toArray t') = some out) := by
  obtain ⟨out, h1, h2⟩ := roundtrip_singleline withJunk r hv
  refine ⟨out, h1, fun hs => ?_⟩
  obtain ⟨t', h3, h4, h5⟩ := h2 hs
  exact ⟨t', h3, h4, by rw [h4], h5⟩

/-- **T3, pattern level: every pattern of the class `rtPattern` round-trips at every indent level.**
`rtPattern` (decidable) = `mlPattern` — non-empty; texts non-empty, without `{` `}`, `\n` only as
last byte and not behind a `\r` (a lone `\r` is an ordinary byte); two texts adjacent only across a line break; a text that starts a line is a blank line `"\n"`,
or spaces followed by a byte other than ` ` `\n` `.` `[` `*`, or only spaces in front of a placeable (the
F17 shape); the last text does not end with ` `/`\n`/`\r`; the first text fits the layout the serializer
chooses (`starts_on_new_line`: not a blank line / inline: no leading space); for multi-line patterns
some line has no excess indentation (or no line takes part in the common-indent computation) — with
placeables of the class `rtExpr`: inline expressions `rtInline` (like `validInline`, but a nested placeable
may again contain any `rtExpr`) that are not term attributes, or **select expressions** (selector an
`rtInline` of a shape accepted by the parser, valid keys, exactly one default, values again `rtPattern`),
recursively — so selects may sit inside `{{ … }}`, `{ { { … } } }`, call arguments and selectors.

For such `p` and every level `L`: (serializer) from a writer at level `L` whose buffer ends with
neither `\n` nor `\r`, `serialize_pattern` appends exactly `patText L p` (newline + `4·(L+1)` spaces
per line for multi-line patterns, inline start for patterns starting with `.` `[` `*`, select variants
one level deeper with the `*` in the last indentation column) and returns to level `L`; (parser) on
every source with the `&str` invariant containing `patText L p ++ "\n"` followed by empty lines and a
line on which a pattern stops, `get_pattern` returns a pattern that resolves to exactly `p` — the
common indent it removes is `4·(L+1)`, blank lines, excess indentation, placeable-led lines and the
final `trim` come out as in `p`. -/
theorem pattern_roundtrip (p : List (PatElem Bytes)) (h : rtPattern p = true) (L : Nat) :
    (∀ w : Writer, WS w L false →
      ∃ w', serPattern w p = some w' ∧ w'.buffer = w.buffer ++ (patText L p).toArray ∧ WS w' L false) ∧
    (∀ (s : Src) (q q' n : Nat), AsciiThenBoundary s → At s q (patText L p ++ [10]) →
      PatFollow s (q + (patText L p).length + 1) q' → 4 * (q' - q) + 8 ≤ n →
      ∃ els, getPattern s n q = .ok (some els) q' ∧ mapPat (spanBytes s) els = p) :=
  ⟨(rtPattern_patRT p h L).ser, (rtPattern_patRT p h L).parse⟩

/-- **T3, the level-indexed inline layer.**  For every inline expression of the class `rtInline` (decidable:
like `validInline`, but a nested placeable may contain any `rtExpr`, in particular a select expression —
directly, `{ $x -> … }`, or deeper inside call arguments) and every indent level `L`: (serializer) from a
writer at level `L` whose buffer ends with neither `\n` nor `\r`, `serialize_inline_expression` appends
exactly `inlineText L e` (= `inlineBytes e` when `e` is select-free, `inlineText_valid`; the variants of a
nested select one level deeper, its closing brace after `4·L` spaces) and stays at level `L`; (parser) on
every source with the `&str` invariant containing that text, followed by something that cannot extend the
expression, `get_inline_expression` returns a tree that resolves to `e`. -/
theorem inline_roundtrip_level (e : Inline Bytes) (h : rtInline e = true) (L : Nat) :
    (∀ w : Writer, WS w L false →
      ∃ w', serInline w e = some w' ∧ w'.buffer = w.buffer ++ (inlineText L e).toArray ∧ WS w' L false) ∧
    (∀ (s : Src) (p fuel : Nat), AsciiThenBoundary s → At s p (inlineText L e) →
      Follow s (p + (inlineText L e).length) → 4 * (inlineText L e).length + 4 ≤ fuel →
      ∃ e', getInline s fuel false p = .ok e' (endPos e s (p + (inlineText L e).length)) ∧
        e'.mapS (spanBytes s) = e) :=
  ⟨(rtInline_inlRT e h L).ser, (rtInline_inlRT e h L).parse⟩

/-- **T3, placeables at a level.**  For every expression of the class `rtExpr` and every level `L`, as a
pattern element: `serialize_element` appends (after the indentation, at a line start) exactly `exprText L x`
— `{ i }`, `{{ e }}` or `{ sel ->` … `}` — and `get_placeable`, started behind the opening brace, reads it
back to exactly `x`. -/
theorem placeable_roundtrip_level (x : Expr Bytes) (h : rtExpr x = true) (L : Nat) :
    (∀ (w : Writer) (nl : Bool), WSc w L nl →
      ∃ w', serElement w (.placeable x) = some w' ∧
        w'.buffer = w.buffer ++ ((if nl then spacesL (4 * L) else []) ++ exprText L x).toArray ∧ WS w' L false) ∧
    (∀ (s : Src) (p n : Nat), AsciiThenBoundary s → At s p (exprText L x) → 4 * (exprText L x).length + 11 ≤ n →
      ∃ ex, getPlaceable s n (p + 1) = .ok ex (p + (exprText L x).length) ∧ ex.mapS (spanBytes s) = x) :=
  ⟨(rtExpr_plRT x h L).ser, (rtExpr_plRT x h L).parse⟩

theorem validInline_rtInline (e : Inline Bytes) (h : validInline e = true) : rtInline e = true :=
  rtInline_of_valid e h

/-- **The serializer's output on a parsed tree is again a `&str`-shaped byte string**: for every
`String` and both options, the output of serialising its parse tree satisfies `AsciiThenBoundary` (the
only UTF-8 fact the parser model uses).  Proof: every string of the tree is a slice at char boundaries
(`C01.parse_slices_valid`), such slices never start with a continuation byte and never have one after
an ASCII byte, and the `TextWriter` only interleaves them with ASCII (writer invariant by mutual
structural induction, `Ser.serialize_atb`). -/
theorem serialize_output_str_invariant (str : String) (t : Resource Span) (errs : List PErr)
    (hp : parse str.toUTF8.data = .done (t, errs)) (withJunk : Bool) (out : Bytes)
    (h : Ser.serialize withJunk (resolve str.toUTF8.data t) = some out) : AsciiThenBoundary out.toArray :=
  serialize_atb_of_parse str t errs hp withJunk out h

/-- **T2 `roundtrip_singleline_partial`, for sources.**  `C04_roundtrip_statement` and
`C04_fixpoint_statement` restricted to the strings whose parse tree consists of simple entries
(`validSimpleEntry`, a decidable predicate on the tree) — no further hypothesis: the re-parse has no
errors and resolves to exactly the same tree. -/
theorem roundtrip_singleline_sources (str : String) (withJunk : Bool) (t : Resource Span) (errs : List PErr)
    (hp : parse str.toUTF8.data = .done (t, errs))
    (hv : ∀ e ∈ resolve str.toUTF8.data t, validSimpleEntry e = true) :
    ∃ out, Ser.serialize withJunk (resolve str.toUTF8.data t) = some out ∧
      ∃ t' errs', parse out.toArray = .done (t', errs') ∧
        norm withJunk (resolve out.toArray t') = norm withJunk (resolve str.toUTF8.data t) ∧
        Ser.serialize withJunk (resolve out.toArray t') = some out := by
  obtain ⟨out, h1, t', h2, h3, h4⟩ := roundtrip_singleline_source str withJunk t errs hp hv
  exact ⟨out, h1, t', [], h2, by rw [h3], h4⟩

/-- **T3 `roundtrip_class_partial`, on trees.**  `RoundTrippable withJunk r` (decidable): every entry is
a message (identifier well-shaped; value an `rtPattern` or absent if there are attributes; attributes
with well-shaped identifiers and `rtPattern` values; optional attached comment), a term (same, value
mandatory), or a comment / group comment / resource comment (non-empty, lines without `\n`);
Junk entries are allowed when `withJunk = false`.  For such `r`: `serialize` returns `out` (attached
comments in front of their entry, attributes on indented lines one level deep, free comments separated
by the `wrote_non_junk_entry` blank line and followed by one, Junk skipped); if `out` has the `&str`
invariant then `parse out` returns, **without errors**, a tree equal to `r` under `norm withJunk`, and
serialising that tree again gives `out`. -/
theorem roundtrip_class_partial (withJunk : Bool) (r : Resource Bytes) (h : RoundTrippable withJunk r = true) :
    ∃ out, Ser.serialize withJunk r = some out ∧
      (AsciiThenBoundary out.toArray →
        ∃ t', parse out.toArray = .done (t', []) ∧
          norm withJunk (resolve out.toArray t') = norm withJunk r ∧
          Ser.serialize withJunk (resolve out.toArray t') = some out) :=
  roundtrip_rt withJunk r h

/-- **T3 `roundtrip_class_sources`: `C04_roundtrip_statement` and `C04_fixpoint_statement` restricted
to the sources whose parse tree is `RoundTrippable`** — no other hypothesis. -/
theorem roundtrip_class_sources (str : String) (withJunk : Bool) (t : Resource Span) (errs : List PErr)
    (hp : parse str.toUTF8.data = .done (t, errs))
    (h : RoundTrippable withJunk (resolve str.toUTF8.data t) = true) :
    ∃ out, Ser.serialize withJunk (resolve str.toUTF8.data t) = some out ∧
      ∃ t' errs', parse out.toArray = .done (t', errs') ∧
        norm withJunk (resolve out.toArray t') = norm withJunk (resolve str.toUTF8.data t) ∧
        Ser.serialize withJunk (resolve out.toArray t') = some out := by
  obtain ⟨out, h1, t', h2, h3, h4⟩ := roundtrip_rt_source str withJunk t errs hp h
  exact ⟨out, h1, t', [], h2, h3, h4⟩

/-! ## non-vacuity and sanity tests (`decide +kernel` on literals: these are tests, not proofs of the property) -/

/-- the two full statements evaluated on one source (test helper): serialise, re-parse, compare under
`norm` (via the canonical S-expression), serialise again and compare the bytes -/
def roundtripHolds (src : Src) (withJunk : Bool) : Bool :=
  match parse src with
  | .done (t, _) =>
    match Ser.serialize withJunk (resolve src t) with
    | some out =>
      match parse out.toArray with
      | .done (t', _) =>
        (norm withJunk (resolve out.toArray t')).sexp == (norm withJunk (resolve src t)).sexp &&
          Ser.serialize withJunk (resolve out.toArray t') == some out
      | _ => false
    | none => false
  | _ => false

/-- test: select with a call and a default variant, a comment attached to a term with an attribute:
`a = { $x ->\n    [one] One\n   *[other] { FOO(1, x: "y") } b\n }\n# c\n-t = v\n    .attr = w\n`, both options -/
example : (roundtripHolds #[97, 32, 61, 32, 123, 32, 36, 120, 32, 45, 62, 10, 32, 32, 32, 32, 91, 111, 110, 101, 93, 32,
    79, 110, 101, 10, 32, 32, 32, 42, 91, 111, 116, 104, 101, 114, 93, 32, 123, 32, 70, 79, 79, 40, 49, 44, 32, 120, 58,
    32, 34, 121, 34, 41, 32, 125, 32, 98, 10, 32, 125, 10, 35, 32, 99, 10, 45, 116, 32, 61, 32, 118, 10, 32, 32, 32, 32,
    46, 97, 116, 116, 114, 32, 61, 32, 119, 10] true &&
  roundtripHolds #[97, 32, 61, 32, 123, 32, 36, 120, 32, 45, 62, 10, 32, 32, 32, 32, 91, 111, 110, 101, 93, 32,
    79, 110, 101, 10, 32, 32, 32, 42, 91, 111, 116, 104, 101, 114, 93, 32, 123, 32, 70, 79, 79, 40, 49, 44, 32, 120, 58,
    32, 34, 121, 34, 41, 32, 125, 32, 98, 10, 32, 125, 10, 35, 32, 99, 10, 45, 116, 32, 61, 32, 118, 10, 32, 32, 32, 32,
    46, 97, 116, 116, 114, 32, 61, 32, 119, 10] false) = true := by decide +kernel

/-- test (finding F8 shape, fixed tree): multi-line value whose first text starts with `.`: `a = .x\n    y\n` -/
example : roundtripHolds #[97, 32, 61, 32, 46, 120, 10, 32, 32, 32, 32, 121, 10] true = true := by decide +kernel

/-- test (finding F18 shape, fixed tree): Junk followed by a free comment, serialised without junk:
`a = 1\nerr {\n\n# c\n\nb = 2\n` -/
example : roundtripHolds #[97, 32, 61, 32, 49, 10, 101, 114, 114, 32, 123, 10, 10, 35, 32, 99, 10, 10, 98, 32, 61, 32,
    50, 10] false = true := by decide +kernel

/-- test: CRLF inside a multi-line pattern and a term-attribute selector with a named argument:
`a =\n    line1\r\n    line2 { -t.a(k: 1) ->\n       *[o] v\n    }\n` -/
example : roundtripHolds #[97, 32, 61, 10, 32, 32, 32, 32, 108, 105, 110, 101, 49, 13, 10, 32, 32, 32, 32, 108, 105, 110,
    101, 50, 32, 123, 32, 45, 116, 46, 97, 40, 107, 58, 32, 49, 41, 32, 45, 62, 10, 32, 32, 32, 32, 32, 32, 32, 42, 91,
    111, 93, 32, 118, 10, 32, 32, 32, 32, 125, 10] true = true := by decide +kernel

/-- test: `validInline` is satisfiable by an expression using every form:
`FOO(1, "s\\u00e9", $v, m, m.a, -t, -t.b(x: -1.5), { 2 }, x: 1, y: "z")` -/
example : validInline (.fn [70, 79, 79]
    [.num [49], .str [115, 92, 117, 48, 48, 101, 57], .var [118], .msg [109] none, .msg [109] (some [97]),
     .term [116] none none, .term [116] (some [98]) (some ([], [([120], .num [45, 49, 46, 53])])),
     .placeable (.inline (.num [50]))]
    [([120], .num [49]), ([121], .str [122])]) = true := by decide +kernel

/-- test: the text written for that expression -/
example : inlineBytes (.fn [70, 79, 79] [.num [49], .msg [109] (some [97])] [([120], .num [49])]) =
    "FOO(1, m.a, x: 1)".toUTF8.data.toList := by decide +kernel

/-- test: `validSimpleEntry` is satisfiable — `a = x { FOO(1, k: "v") } y{{ $z }}` and `-t = { -u.a(n: 1) }`… -/
example : (validSimpleEntry (.message ⟨[97], some [.text [120, 32],
      .placeable (.inline (.fn [70, 79, 79] [.num [49]] [([107], .str [118])])), .text [32, 121],
      .placeable (.inline (.placeable (.inline (.var [122]))))], [], none⟩) &&
    validSimpleEntry (.term ⟨[116], [.placeable (.inline (.fn [85] [.term [117] (some [97]) (some ([], [([110], .num [49])]))] []))],
      [], none⟩)) = true := by decide +kernel

/-- test: the line written for the first of them -/
example : entryBytes (.message ⟨[97], some [.text [120, 32],
      .placeable (.inline (.fn [70, 79, 79] [.num [49]] [([107], .str [118])])), .text [32, 121],
      .placeable (.inline (.placeable (.inline (.var [122]))))], [], none⟩) =
    "a = x { FOO(1, k: \"v\") } y{{ $z }}\n".toUTF8.data.toList := by decide +kernel

/-- test: the hypothesis of `roundtrip_singleline_sources` is satisfiable: the parse tree of
`"a = x { FOO(1, k: \"v\") } y\n-t = { $z }\n"` consists of simple entries -/
example : (match parse "a = x { FOO(1, k: \"v\") } y\n-t = { $z }\n".toUTF8.data with
    | .done (t, _) => (resolve "a = x { FOO(1, k: \"v\") } y\n-t = { $z }\n".toUTF8.data t).all validSimpleEntry
    | _ => false) = true := by decide +kernel

/-- test: `rtPattern` is satisfiable by a nested multi-line pattern:
`x\n`, `  { $n ->`, `[one] a`, `*[other] b\n c`, `} y` (texts `"x\n"`, `"  "`, select, `" y"`) -/
example : rtPattern [.text [120, 10], .text [32, 32],
    .placeable (.select (.var [110])
      [.mk (.ident [111, 110, 101]) [.text [97]] false,
       .mk (.ident [111, 116, 104, 101, 114]) [.text [98, 10], .text [99]] true]),
    .text [32, 121]] = true := by decide +kernel

/-- test: the unrestricted `norm` is *not* a congruence — `[text "x\n", text "y"]` and `[text "x\ny"]`
have the same `norm` but serialise differently (continuation indented / not indented) -/
example :
    let r₁ : Resource Bytes := [.message ⟨[97], some [.text [120, 10], .text [121]], [], none⟩]
    let r₂ : Resource Bytes := [.message ⟨[97], some [.text [120, 10, 121]], [], none⟩]
    ((norm true r₁).sexp == (norm true r₂).sexp && Ser.serialize true r₁ != Ser.serialize true r₂) = true := by
  decide +kernel

/-- test: a line-split tree (hypothesis of `serialize_congr_lineSplit`) -/
example : LineSplit [.message ⟨[97], some [.text [120, 10], .text [121]], [], none⟩] := by
  intro e he
  simp at he
  subst he
  simp [lsEntry, lsPat, lsElem, lineText]

/-! ## census: which of the repo's fixture sources fall inside the class (tests, not proofs of the property)

`inClass src withJunk` = the parse tree of `src` is `RoundTrippable withJunk`, i.e. `roundtrip_class_sources`
applies to it.  Evaluated by `#guard` on all 36 files of `fluent-syntax/tests/fixtures/*.ftl` (and by
`decide +kernel` on the small ones).  Result: with `with_junk = false` 35 of 36 fixtures are inside the
class (all but `crlf.ftl`, whose tree has `"x"`, `"\n"` where the class asks for `"x\n"`: its `normSafe` form is inside;
`cr.ftl` — one comment line with lone `\r`s — is inside since the class admits the byte 13); with `with_junk = true`
the 11 fixtures without Junk are inside. -/

/-- test helper: the parse tree of `src` is in the class -/
def inClass (src : Src) (withJunk : Bool) : Bool :=
  match parse src with
  | .done (t, _) => RoundTrippable withJunk (resolve src t)
  | _ => false

/-- test (edge of the class: `excesses` may be empty): `b=.{$x ->\n[a].\n*[b]y\n}z` — value
`[text ".", placeable (select …), text "z"]`, multi-line only through the select, inline start, so no line
takes part in the common-indent computation — is in the class and round-trips -/
example : (inClass #[98, 61, 46, 123, 36, 120, 32, 45, 62, 10, 91, 97, 93, 46, 10, 42, 91, 98, 93, 121, 10, 125, 122] false &&
    inClass #[98, 61, 46, 123, 36, 120, 32, 45, 62, 10, 91, 97, 93, 46, 10, 42, 91, 98, 93, 121, 10, 125, 122] true &&
    roundtripHolds #[98, 61, 46, 123, 36, 120, 32, 45, 62, 10, 91, 97, 93, 46, 10, 42, 91, 98, 93, 121, 10, 125, 122] true) =
    true := by decide +kernel

/-- test (edge of the class: named-argument values need not be literals): `a = { F(x: foo) }\n` and
`a = { F(x: G(y: m.a)) }\n` — the value of a named argument is a message reference / a function call
(`get_inline_expression(only_literal = true)` does not guard its `is_ascii_alphabetic` branch) — are in the
class and round-trip -/
example : (inClass #[97, 32, 61, 32, 123, 32, 70, 40, 120, 58, 32, 102, 111, 111, 41, 32, 125, 10] false &&
    inClass #[97, 32, 61, 32, 123, 32, 70, 40, 120, 58, 32, 71, 40, 121, 58, 32, 109, 46, 97, 41, 41, 32, 125, 10] false &&
    roundtripHolds #[97, 32, 61, 32, 123, 32, 70, 40, 120, 58, 32, 102, 111, 111, 41, 32, 125, 10] true &&
    roundtripHolds #[97, 32, 61, 32, 123, 32, 70, 40, 120, 58, 32, 71, 40, 121, 58, 32, 109, 46, 97, 41, 41, 32, 125, 10] true) =
    true := by decide +kernel

/-- test: `validInline` accepts a call whose named arguments have a message-attribute and a call value, and
rejects a variable / term / placeable value (the parser does, too) -/
example : (validInline (.fn [70] [] [([120], .msg [109] (some [97])), ([121], .fn [71] [.var [118]] [])]) &&
    !validInline (.fn [70] [] [([120], .var [118])]) && !validInline (.fn [70] [] [([120], .term [116] none none)]) &&
    !validInline (.fn [70] [] [([120], .placeable (.inline (.num [49])))])) = true := by decide +kernel

/-- test (edge of the class: selects inside nested placeables): `a={{$x ->\n*[b]w\n}}` (doubled placeable),
`a = { { { $x ->\n*[b] w\n} } }\n` (chain of nested placeables),
`a = { F({ $x ->\n*[a] b\n}, k: G({ $y ->\n*[c] d\n})) }\n` (inside a positional argument and inside the call
that is the value of a named argument) and `a = { F({ $x ->\n*[a] b\n}) ->\n*[c] d\n}\n` (inside the selector)
are in the class and round-trip -/
example : (inClass #[97, 61, 123, 123, 36, 120, 32, 45, 62, 10, 42, 91, 98, 93, 119, 10, 125, 125] false &&
    inClass #[97, 61, 123, 123, 36, 120, 32, 45, 62, 10, 42, 91, 98, 93, 119, 10, 125, 125] true &&
    roundtripHolds #[97, 61, 123, 123, 36, 120, 32, 45, 62, 10, 42, 91, 98, 93, 119, 10, 125, 125] true &&
    inClass #[97, 32, 61, 32, 123, 32, 123, 32, 123, 32, 36, 120, 32, 45, 62, 10, 42, 91, 98, 93, 32, 119, 10, 125, 32,
      125, 32, 125, 10] false &&
    roundtripHolds #[97, 32, 61, 32, 123, 32, 123, 32, 123, 32, 36, 120, 32, 45, 62, 10, 42, 91, 98, 93, 32, 119, 10, 125,
      32, 125, 32, 125, 10] true) = true := by decide +kernel

example : (inClass #[97, 32, 61, 32, 123, 32, 70, 40, 123, 32, 36, 120, 32, 45, 62, 10, 42, 91, 97, 93, 32, 98, 10, 125, 44,
      32, 107, 58, 32, 71, 40, 123, 32, 36, 121, 32, 45, 62, 10, 42, 91, 99, 93, 32, 100, 10, 125, 41, 41, 32, 125, 10] false &&
    roundtripHolds #[97, 32, 61, 32, 123, 32, 70, 40, 123, 32, 36, 120, 32, 45, 62, 10, 42, 91, 97, 93, 32, 98, 10, 125,
      44, 32, 107, 58, 32, 71, 40, 123, 32, 36, 121, 32, 45, 62, 10, 42, 91, 99, 93, 32, 100, 10, 125, 41, 41, 32, 125,
      10] true &&
    inClass #[97, 32, 61, 32, 123, 32, 70, 40, 123, 32, 36, 120, 32, 45, 62, 10, 42, 91, 97, 93, 32, 98, 10, 125, 41, 32, 45,
      62, 10, 42, 91, 99, 93, 32, 100, 10, 125, 10] false &&
    roundtripHolds #[97, 32, 61, 32, 123, 32, 70, 40, 123, 32, 36, 120, 32, 45, 62, 10, 42, 91, 97, 93, 32, 98, 10, 125, 41,
      32, 45, 62, 10, 42, 91, 99, 93, 32, 100, 10, 125, 10] true) = true := by decide +kernel

/-- test: the text of a select inside a doubled placeable at level 1 — `{{ $x ->`, the default variant at level 2
with the `*` in the last indentation column, the closing ` }}` after 4 spaces -/
example : exprText 1 (.inline (.placeable (.select (.var [120]) [.mk (.ident [98]) [.text [119]] true]))) =
    "{{ $x ->\n       *[b] w\n     }}".toUTF8.data.toList := by decide +kernel

/-- census: `any_char.ftl` — with_junk=true: true, with_junk=false: true -/
def fixture_any_char : Src :=
    #[35, 32, 32, 32, 32, 32, 32, 32, 32, 32, 32, 32, 32, 32, 226, 134, 147, 32, 66, 69, 76, 44, 32, 85, 43, 48,
    48, 48, 55, 10, 99, 111, 110, 116, 114, 111, 108, 48, 32, 61, 32, 97, 98, 99, 7, 100, 101, 102, 10, 10, 35,
    32, 32, 32, 32, 32, 32, 32, 32, 32, 32, 32, 226, 134, 147, 32, 68, 69, 76, 44, 32, 85, 43, 48, 48, 55, 70, 10,
    100, 101, 108, 101, 116, 101, 32, 61, 32, 97, 98, 99, 127, 100, 101, 102, 10, 10, 35, 32, 32, 32, 32, 32, 32,
    32, 32, 32, 32, 32, 32, 32, 226, 134, 147, 32, 66, 80, 77, 44, 32, 85, 43, 48, 48, 56, 50, 10, 99, 111, 110,
    116, 114, 111, 108, 49, 32, 61, 32, 97, 98, 99, 194, 130, 100, 101, 102, 10]
#guard inClass fixture_any_char true == true && inClass fixture_any_char false == true
example : (inClass fixture_any_char true == true && inClass fixture_any_char false == true) = true := by decide +kernel

/-- census: `astral.ftl` — with_junk=true: false, with_junk=false: true -/
def fixture_astral : Src :=
    #[102, 97, 99, 101, 45, 119, 105, 116, 104, 45, 116, 101, 97, 114, 115, 45, 111, 102, 45, 106, 111, 121, 32,
    61, 32, 240, 159, 152, 130, 10, 116, 101, 116, 114, 97, 103, 114, 97, 109, 45, 102, 111, 114, 45, 99, 101,
    110, 116, 114, 101, 32, 61, 32, 240, 157, 140, 134, 10, 10, 115, 117, 114, 114, 111, 103, 97, 116, 101, 115,
    45, 105, 110, 45, 116, 101, 120, 116, 32, 61, 32, 92, 117, 68, 56, 51, 68, 92, 117, 68, 69, 48, 50, 10, 115,
    117, 114, 114, 111, 103, 97, 116, 101, 115, 45, 105, 110, 45, 115, 116, 114, 105, 110, 103, 32, 61, 32, 123,
    34, 92, 117, 68, 56, 51, 68, 92, 117, 68, 69, 48, 50, 34, 125, 10, 115, 117, 114, 114, 111, 103, 97, 116, 101,
    115, 45, 105, 110, 45, 97, 100, 106, 97, 99, 101, 110, 116, 45, 115, 116, 114, 105, 110, 103, 115, 32, 61, 32,
    123, 34, 92, 117, 68, 56, 51, 68, 34, 125, 123, 34, 92, 117, 68, 69, 48, 50, 34, 125, 10, 10, 101, 109, 111,
    106, 105, 45, 105, 110, 45, 116, 101, 120, 116, 32, 61, 32, 65, 32, 102, 97, 99, 101, 32, 240, 159, 152, 130,
    32, 119, 105, 116, 104, 32, 116, 101, 97, 114, 115, 32, 111, 102, 32, 106, 111, 121, 46, 10, 101, 109, 111,
    106, 105, 45, 105, 110, 45, 115, 116, 114, 105, 110, 103, 32, 61, 32, 123, 34, 65, 32, 102, 97, 99, 101, 32,
    240, 159, 152, 130, 32, 119, 105, 116, 104, 32, 116, 101, 97, 114, 115, 32, 111, 102, 32, 106, 111, 121, 46,
    34, 125, 10, 10, 35, 32, 69, 82, 82, 79, 82, 32, 73, 110, 118, 97, 108, 105, 100, 32, 105, 100, 101, 110, 116,
    105, 102, 105, 101, 114, 10, 101, 114, 114, 45, 240, 159, 152, 130, 32, 61, 32, 86, 97, 108, 117, 101, 10, 10,
    35, 32, 69, 82, 82, 79, 82, 32, 73, 110, 118, 97, 108, 105, 100, 32, 101, 120, 112, 114, 101, 115, 115, 105,
    111, 110, 10, 101, 114, 114, 45, 105, 110, 118, 97, 108, 105, 100, 45, 101, 120, 112, 114, 101, 115, 115, 105,
    111, 110, 32, 61, 32, 123, 32, 240, 159, 152, 130, 32, 125, 10, 10, 35, 32, 69, 82, 82, 79, 82, 32, 73, 110,
    118, 97, 108, 105, 100, 32, 118, 97, 114, 105, 97, 110, 116, 32, 107, 101, 121, 10, 101, 114, 114, 45, 105,
    110, 118, 97, 108, 105, 100, 45, 118, 97, 114, 105, 97, 110, 116, 45, 107, 101, 121, 32, 61, 32, 123, 32, 36,
    115, 101, 108, 32, 45, 62, 10, 32, 32, 32, 32, 42, 91, 240, 159, 152, 130, 93, 32, 86, 97, 108, 117, 101, 10,
    125, 10]
#guard inClass fixture_astral true == false && inClass fixture_astral false == true

/-- census: `call_expressions.ftl` — with_junk=true: false, with_junk=false: true -/
def fixture_call_expressions : Src :=
    #[35, 35, 32, 70, 117, 110, 99, 116, 105, 111, 110, 32, 110, 97, 109, 101, 115, 10, 10, 118, 97, 108, 105,
    100, 45, 102, 117, 110, 99, 45, 110, 97, 109, 101, 45, 48, 49, 32, 61, 32, 123, 70, 85, 78, 49, 40, 41, 125,
    10, 118, 97, 108, 105, 100, 45, 102, 117, 110, 99, 45, 110, 97, 109, 101, 45, 48, 50, 32, 61, 32, 123, 70, 85,
    78, 95, 70, 85, 78, 40, 41, 125, 10, 118, 97, 108, 105, 100, 45, 102, 117, 110, 99, 45, 110, 97, 109, 101, 45,
    48, 51, 32, 61, 32, 123, 70, 85, 78, 45, 70, 85, 78, 40, 41, 125, 10, 10, 35, 32, 74, 85, 78, 75, 32, 48, 32,
    105, 115, 32, 110, 111, 116, 32, 97, 32, 118, 97, 108, 105, 100, 32, 73, 100, 101, 110, 116, 105, 102, 105,
    101, 114, 32, 115, 116, 97, 114, 116, 10, 105, 110, 118, 97, 108, 105, 100, 45, 102, 117, 110, 99, 45, 110,
    97, 109, 101, 45, 48, 49, 32, 61, 32, 123, 48, 70, 85, 78, 40, 41, 125, 10, 35, 32, 74, 85, 78, 75, 32, 70,
    117, 110, 99, 116, 105, 111, 110, 32, 110, 97, 109, 101, 115, 32, 109, 97, 121, 32, 110, 111, 116, 32, 98,
    101, 32, 108, 111, 119, 101, 114, 99, 97, 115, 101, 10, 105, 110, 118, 97, 108, 105, 100, 45, 102, 117, 110,
    99, 45, 110, 97, 109, 101, 45, 48, 50, 32, 61, 32, 123, 102, 117, 110, 40, 41, 125, 10, 35, 32, 74, 85, 78,
    75, 32, 70, 117, 110, 99, 116, 105, 111, 110, 32, 110, 97, 109, 101, 115, 32, 109, 97, 121, 32, 110, 111, 116,
    32, 99, 111, 110, 116, 97, 105, 110, 32, 108, 111, 119, 101, 114, 99, 97, 115, 101, 32, 99, 104, 97, 114, 97,
    99, 116, 101, 114, 10, 105, 110, 118, 97, 108, 105, 100, 45, 102, 117, 110, 99, 45, 110, 97, 109, 101, 45, 48,
    51, 32, 61, 32, 123, 70, 117, 110, 40, 41, 125, 10, 35, 32, 74, 85, 78, 75, 32, 63, 32, 105, 115, 32, 110,
    111, 116, 32, 97, 32, 118, 97, 108, 105, 100, 32, 73, 100, 101, 110, 116, 105, 102, 105, 101, 114, 32, 99,
    104, 97, 114, 97, 99, 116, 101, 114, 10, 105, 110, 118, 97, 108, 105, 100, 45, 102, 117, 110, 99, 45, 110, 97,
    109, 101, 45, 48, 52, 32, 61, 32, 123, 70, 85, 78, 63, 40, 41, 125, 10, 10, 35, 35, 32, 65, 114, 103, 117,
    109, 101, 110, 116, 115, 10, 10, 112, 111, 115, 105, 116, 105, 111, 110, 97, 108, 45, 97, 114, 103, 115, 32,
    61, 32, 123, 70, 85, 78, 40, 49, 44, 32, 34, 97, 34, 44, 32, 109, 115, 103, 41, 125, 10, 110, 97, 109, 101,
    100, 45, 97, 114, 103, 115, 32, 61, 32, 123, 70, 85, 78, 40, 120, 58, 32, 49, 44, 32, 121, 58, 32, 34, 89, 34,
    41, 125, 10, 100, 101, 110, 115, 101, 45, 110, 97, 109, 101, 100, 45, 97, 114, 103, 115, 32, 61, 32, 123, 70,
    85, 78, 40, 120, 58, 49, 44, 32, 121, 58, 34, 89, 34, 41, 125, 10, 109, 105, 120, 101, 100, 45, 97, 114, 103,
    115, 32, 61, 32, 123, 70, 85, 78, 40, 49, 44, 32, 34, 97, 34, 44, 32, 109, 115, 103, 44, 32, 120, 58, 32, 49,
    44, 32, 121, 58, 32, 34, 89, 34, 41, 125, 10, 10, 35, 32, 69, 82, 82, 79, 82, 32, 80, 111, 115, 105, 116, 105,
    111, 110, 97, 108, 32, 97, 114, 103, 32, 109, 117, 115, 116, 32, 110, 111, 116, 32, 102, 111, 108, 108, 111,
    119, 32, 107, 101, 121, 119, 111, 114, 100, 32, 97, 114, 103, 115, 10, 115, 104, 117, 102, 102, 108, 101, 100,
    45, 97, 114, 103, 115, 32, 61, 32, 123, 70, 85, 78, 40, 49, 44, 32, 120, 58, 32, 49, 44, 32, 34, 97, 34, 44,
    32, 121, 58, 32, 34, 89, 34, 44, 32, 109, 115, 103, 41, 125, 10, 10, 35, 32, 69, 82, 82, 79, 82, 32, 78, 97,
    109, 101, 100, 32, 97, 114, 103, 117, 109, 101, 110, 116, 115, 32, 109, 117, 115, 116, 32, 98, 101, 32, 117,
    110, 105, 113, 117, 101, 10, 100, 117, 112, 108, 105, 99, 97, 116, 101, 45, 110, 97, 109, 101, 100, 45, 97,
    114, 103, 115, 32, 61, 32, 123, 70, 85, 78, 40, 120, 58, 32, 49, 44, 32, 120, 58, 32, 34, 88, 34, 41, 125, 10,
    10, 10, 35, 35, 32, 87, 104, 105, 116, 101, 115, 112, 97, 99, 101, 32, 97, 114, 111, 117, 110, 100, 32, 97,
    114, 103, 117, 109, 101, 110, 116, 115, 10, 10, 115, 112, 97, 114, 115, 101, 45, 105, 110, 108, 105, 110, 101,
    45, 99, 97, 108, 108, 32, 61, 32, 123, 70, 85, 78, 32, 32, 32, 32, 32, 40, 32, 32, 34, 97, 34, 32, 32, 44, 32,
    109, 115, 103, 44, 32, 32, 32, 120, 58, 32, 49, 32, 32, 32, 41, 125, 10, 101, 109, 112, 116, 121, 45, 105,
    110, 108, 105, 110, 101, 45, 99, 97, 108, 108, 32, 61, 32, 123, 70, 85, 78, 40, 32, 32, 41, 125, 10, 109, 117,
    108, 116, 105, 108, 105, 110, 101, 45, 99, 97, 108, 108, 32, 61, 32, 123, 70, 85, 78, 40, 10, 32, 32, 32, 32,
    32, 32, 32, 32, 34, 97, 34, 44, 10, 32, 32, 32, 32, 32, 32, 32, 32, 109, 115, 103, 44, 10, 32, 32, 32, 32, 32,
    32, 32, 32, 120, 58, 32, 49, 10, 32, 32, 32, 32, 41, 125, 10, 115, 112, 97, 114, 115, 101, 45, 109, 117, 108,
    116, 105, 108, 105, 110, 101, 45, 99, 97, 108, 108, 32, 61, 32, 123, 70, 85, 78, 10, 32, 32, 32, 32, 40, 10,
    10, 32, 32, 32, 32, 32, 32, 32, 32, 34, 97, 34, 32, 32, 32, 32, 44, 10, 32, 32, 32, 32, 32, 32, 32, 32, 109,
    115, 103, 10, 32, 32, 32, 32, 32, 32, 32, 32, 44, 32, 120, 58, 32, 49, 10, 32, 32, 32, 32, 41, 125, 10, 101,
    109, 112, 116, 121, 45, 109, 117, 108, 116, 105, 108, 105, 110, 101, 45, 99, 97, 108, 108, 32, 61, 32, 123,
    70, 85, 78, 40, 10, 10, 32, 32, 32, 32, 41, 125, 10, 10, 10, 117, 110, 105, 110, 100, 101, 110, 116, 101, 100,
    45, 97, 114, 103, 45, 110, 117, 109, 98, 101, 114, 32, 61, 32, 123, 70, 85, 78, 40, 10, 49, 41, 125, 10, 10,
    117, 110, 105, 110, 100, 101, 110, 116, 101, 100, 45, 97, 114, 103, 45, 115, 116, 114, 105, 110, 103, 32, 61,
    32, 123, 70, 85, 78, 40, 10, 34, 97, 34, 41, 125, 10, 10, 117, 110, 105, 110, 100, 101, 110, 116, 101, 100,
    45, 97, 114, 103, 45, 109, 115, 103, 45, 114, 101, 102, 32, 61, 32, 123, 70, 85, 78, 40, 10, 109, 115, 103,
    41, 125, 10, 10, 117, 110, 105, 110, 100, 101, 110, 116, 101, 100, 45, 97, 114, 103, 45, 116, 101, 114, 109,
    45, 114, 101, 102, 32, 61, 32, 123, 70, 85, 78, 40, 10, 45, 109, 115, 103, 41, 125, 10, 10, 117, 110, 105,
    110, 100, 101, 110, 116, 101, 100, 45, 97, 114, 103, 45, 118, 97, 114, 45, 114, 101, 102, 32, 61, 32, 123, 70,
    85, 78, 40, 10, 36, 118, 97, 114, 41, 125, 10, 10, 117, 110, 105, 110, 100, 101, 110, 116, 101, 100, 45, 97,
    114, 103, 45, 99, 97, 108, 108, 32, 61, 32, 123, 70, 85, 78, 40, 10, 79, 84, 72, 69, 82, 40, 41, 41, 125, 10,
    10, 117, 110, 105, 110, 100, 101, 110, 116, 101, 100, 45, 110, 97, 109, 101, 100, 45, 97, 114, 103, 32, 61,
    32, 123, 70, 85, 78, 40, 10, 120, 58, 49, 41, 125, 10, 10, 117, 110, 105, 110, 100, 101, 110, 116, 101, 100,
    45, 99, 108, 111, 115, 105, 110, 103, 45, 112, 97, 114, 101, 110, 32, 61, 32, 123, 70, 85, 78, 40, 10, 32, 32,
    32, 32, 120, 10, 41, 125, 10, 10, 10, 10, 35, 35, 32, 79, 112, 116, 105, 111, 110, 97, 108, 32, 116, 114, 97,
    105, 108, 105, 110, 103, 32, 99, 111, 109, 109, 97, 10, 10, 111, 110, 101, 45, 97, 114, 103, 117, 109, 101,
    110, 116, 32, 61, 32, 123, 70, 85, 78, 40, 49, 44, 41, 125, 10, 109, 97, 110, 121, 45, 97, 114, 103, 117, 109,
    101, 110, 116, 115, 32, 61, 32, 123, 70, 85, 78, 40, 49, 44, 32, 50, 44, 32, 51, 44, 41, 125, 10, 105, 110,
    108, 105, 110, 101, 45, 115, 112, 97, 114, 115, 101, 45, 97, 114, 103, 115, 32, 61, 32, 123, 70, 85, 78, 40,
    32, 32, 49, 44, 32, 32, 50, 44, 32, 32, 51, 44, 32, 32, 41, 125, 10, 109, 117, 108, 105, 116, 108, 105, 110,
    101, 45, 97, 114, 103, 115, 32, 61, 32, 123, 70, 85, 78, 40, 10, 32, 32, 32, 32, 32, 32, 32, 32, 49, 44, 10,
    32, 32, 32, 32, 32, 32, 32, 32, 50, 44, 10, 32, 32, 32, 32, 41, 125, 10, 109, 117, 108, 105, 116, 108, 105,
    110, 101, 45, 115, 112, 97, 114, 115, 101, 45, 97, 114, 103, 115, 32, 61, 32, 123, 70, 85, 78, 40, 10, 10, 32,
    32, 32, 32, 32, 32, 32, 32, 49, 10, 32, 32, 32, 32, 32, 32, 32, 32, 44, 10, 32, 32, 32, 32, 32, 32, 32, 32,
    50, 32, 32, 32, 10, 32, 32, 32, 32, 32, 32, 32, 32, 44, 10, 32, 32, 32, 32, 41, 125, 10, 10, 10, 35, 35, 32,
    83, 121, 110, 116, 97, 120, 32, 101, 114, 114, 111, 114, 115, 32, 102, 111, 114, 32, 116, 114, 97, 105, 108,
    105, 110, 103, 32, 99, 111, 109, 109, 97, 10, 10, 111, 110, 101, 45, 97, 114, 103, 117, 109, 101, 110, 116,
    32, 61, 32, 123, 70, 85, 78, 40, 49, 44, 44, 41, 125, 10, 109, 105, 115, 115, 105, 110, 103, 45, 97, 114, 103,
    32, 61, 32, 123, 70, 85, 78, 40, 44, 41, 125, 10, 109, 105, 115, 115, 105, 110, 103, 45, 115, 112, 97, 114,
    115, 101, 45, 97, 114, 103, 32, 61, 32, 123, 70, 85, 78, 40, 32, 32, 32, 44, 32, 32, 32, 41, 125, 10, 10, 10,
    35, 35, 32, 87, 104, 105, 116, 101, 115, 112, 97, 99, 101, 32, 105, 110, 32, 110, 97, 109, 101, 100, 32, 97,
    114, 103, 117, 109, 101, 110, 116, 115, 10, 10, 115, 112, 97, 114, 115, 101, 45, 110, 97, 109, 101, 100, 45,
    97, 114, 103, 32, 61, 32, 123, 70, 85, 78, 40, 10, 32, 32, 32, 32, 32, 32, 32, 32, 120, 32, 32, 32, 58, 32,
    32, 32, 49, 44, 10, 32, 32, 32, 32, 32, 32, 32, 32, 121, 32, 32, 32, 58, 32, 32, 32, 50, 44, 10, 32, 32, 32,
    32, 32, 32, 32, 32, 122, 10, 32, 32, 32, 32, 32, 32, 32, 32, 58, 10, 32, 32, 32, 32, 32, 32, 32, 32, 51, 10,
    32, 32, 32, 32, 41, 125, 10, 10, 10, 117, 110, 105, 110, 100, 101, 110, 116, 101, 100, 45, 99, 111, 108, 111,
    110, 32, 61, 32, 123, 70, 85, 78, 40, 10, 32, 32, 32, 32, 32, 32, 32, 32, 120, 10, 58, 49, 41, 125, 10, 10,
    117, 110, 105, 110, 100, 101, 110, 116, 101, 100, 45, 118, 97, 108, 117, 101, 32, 61, 32, 123, 70, 85, 78, 40,
    10, 32, 32, 32, 32, 32, 32, 32, 32, 120, 58, 10, 49, 41, 125, 10]
#guard inClass fixture_call_expressions true == false && inClass fixture_call_expressions false == true

/-- census: `callee_expressions.ftl` — with_junk=true: false, with_junk=false: true -/
def fixture_callee_expressions : Src :=
    #[35, 35, 32, 67, 97, 108, 108, 101, 101, 115, 32, 105, 110, 32, 112, 108, 97, 99, 101, 97, 98, 108, 101, 115,
    46, 10, 10, 102, 117, 110, 99, 116, 105, 111, 110, 45, 99, 97, 108, 108, 101, 101, 45, 112, 108, 97, 99, 101,
    97, 98, 108, 101, 32, 61, 32, 123, 70, 85, 78, 67, 84, 73, 79, 78, 40, 41, 125, 10, 116, 101, 114, 109, 45,
    99, 97, 108, 108, 101, 101, 45, 112, 108, 97, 99, 101, 97, 98, 108, 101, 32, 61, 32, 123, 45, 116, 101, 114,
    109, 40, 41, 125, 10, 10, 35, 32, 69, 82, 82, 79, 82, 32, 77, 101, 115, 115, 97, 103, 101, 115, 32, 99, 97,
    110, 110, 111, 116, 32, 98, 101, 32, 112, 97, 114, 97, 109, 101, 116, 101, 114, 105, 122, 101, 100, 46, 10,
    109, 101, 115, 115, 97, 103, 101, 45, 99, 97, 108, 108, 101, 101, 45, 112, 108, 97, 99, 101, 97, 98, 108, 101,
    32, 61, 32, 123, 109, 101, 115, 115, 97, 103, 101, 40, 41, 125, 10, 35, 32, 69, 82, 82, 79, 82, 32, 69, 113,
    117, 105, 118, 97, 108, 101, 110, 116, 32, 116, 111, 32, 97, 32, 77, 101, 115, 115, 97, 103, 101, 82, 101,
    102, 101, 114, 101, 110, 99, 101, 32, 99, 97, 108, 108, 101, 101, 46, 10, 109, 105, 120, 101, 100, 45, 99, 97,
    115, 101, 45, 99, 97, 108, 108, 101, 101, 45, 112, 108, 97, 99, 101, 97, 98, 108, 101, 32, 61, 32, 123, 70,
    117, 110, 99, 116, 105, 111, 110, 40, 41, 125, 10, 35, 32, 69, 82, 82, 79, 82, 32, 77, 101, 115, 115, 97, 103,
    101, 32, 97, 116, 116, 114, 105, 98, 117, 116, 101, 115, 32, 99, 97, 110, 110, 111, 116, 32, 98, 101, 32, 112,
    97, 114, 97, 109, 101, 116, 101, 114, 105, 122, 101, 100, 46, 10, 109, 101, 115, 115, 97, 103, 101, 45, 97,
    116, 116, 114, 45, 99, 97, 108, 108, 101, 101, 45, 112, 108, 97, 99, 101, 97, 98, 108, 101, 32, 61, 32, 123,
    109, 101, 115, 115, 97, 103, 101, 46, 97, 116, 116, 114, 40, 41, 125, 10, 35, 32, 69, 82, 82, 79, 82, 32, 84,
    101, 114, 109, 32, 97, 116, 116, 114, 105, 98, 117, 116, 101, 115, 32, 109, 97, 121, 32, 110, 111, 116, 32,
    98, 101, 32, 117, 115, 101, 100, 32, 105, 110, 32, 80, 108, 97, 99, 101, 97, 98, 108, 101, 115, 46, 10, 116,
    101, 114, 109, 45, 97, 116, 116, 114, 45, 99, 97, 108, 108, 101, 101, 45, 112, 108, 97, 99, 101, 97, 98, 108,
    101, 32, 61, 32, 123, 45, 116, 101, 114, 109, 46, 97, 116, 116, 114, 40, 41, 125, 10, 35, 32, 69, 82, 82, 79,
    82, 32, 86, 97, 114, 105, 97, 98, 108, 101, 115, 32, 99, 97, 110, 110, 111, 116, 32, 98, 101, 32, 112, 97,
    114, 97, 109, 101, 116, 101, 114, 105, 122, 101, 100, 46, 10, 118, 97, 114, 105, 97, 98, 108, 101, 45, 99, 97,
    108, 108, 101, 101, 45, 112, 108, 97, 99, 101, 97, 98, 108, 101, 32, 61, 32, 123, 36, 118, 97, 114, 105, 97,
    98, 108, 101, 40, 41, 125, 10, 10, 10, 35, 35, 32, 67, 97, 108, 108, 101, 101, 115, 32, 105, 110, 32, 115,
    101, 108, 101, 99, 116, 111, 114, 115, 46, 10, 10, 102, 117, 110, 99, 116, 105, 111, 110, 45, 99, 97, 108,
    108, 101, 101, 45, 115, 101, 108, 101, 99, 116, 111, 114, 32, 61, 32, 123, 70, 85, 78, 67, 84, 73, 79, 78, 40,
    41, 32, 45, 62, 10, 32, 32, 32, 42, 91, 107, 101, 121, 93, 32, 86, 97, 108, 117, 101, 10, 125, 10, 116, 101,
    114, 109, 45, 97, 116, 116, 114, 45, 99, 97, 108, 108, 101, 101, 45, 115, 101, 108, 101, 99, 116, 111, 114,
    32, 61, 32, 123, 45, 116, 101, 114, 109, 46, 97, 116, 116, 114, 40, 41, 32, 45, 62, 10, 32, 32, 32, 42, 91,
    107, 101, 121, 93, 32, 86, 97, 108, 117, 101, 10, 125, 10, 10, 35, 32, 69, 82, 82, 79, 82, 32, 77, 101, 115,
    115, 97, 103, 101, 115, 32, 99, 97, 110, 110, 111, 116, 32, 98, 101, 32, 112, 97, 114, 97, 109, 101, 116, 101,
    114, 105, 122, 101, 100, 46, 10, 109, 101, 115, 115, 97, 103, 101, 45, 99, 97, 108, 108, 101, 101, 45, 115,
    101, 108, 101, 99, 116, 111, 114, 32, 61, 32, 123, 109, 101, 115, 115, 97, 103, 101, 40, 41, 32, 45, 62, 10,
    32, 32, 32, 42, 91, 107, 101, 121, 93, 32, 86, 97, 108, 117, 101, 10, 125, 10, 35, 32, 69, 82, 82, 79, 82, 32,
    69, 113, 117, 105, 118, 97, 108, 101, 110, 116, 32, 116, 111, 32, 97, 32, 77, 101, 115, 115, 97, 103, 101, 82,
    101, 102, 101, 114, 101, 110, 99, 101, 32, 99, 97, 108, 108, 101, 101, 46, 10, 109, 105, 120, 101, 100, 45,
    99, 97, 115, 101, 45, 99, 97, 108, 108, 101, 101, 45, 115, 101, 108, 101, 99, 116, 111, 114, 32, 61, 32, 123,
    70, 117, 110, 99, 116, 105, 111, 110, 40, 41, 32, 45, 62, 10, 32, 32, 32, 42, 91, 107, 101, 121, 93, 32, 86,
    97, 108, 117, 101, 10, 125, 10, 35, 32, 69, 82, 82, 79, 82, 32, 77, 101, 115, 115, 97, 103, 101, 32, 97, 116,
    116, 114, 105, 98, 117, 116, 101, 115, 32, 99, 97, 110, 110, 111, 116, 32, 98, 101, 32, 112, 97, 114, 97, 109,
    101, 116, 101, 114, 105, 122, 101, 100, 46, 10, 109, 101, 115, 115, 97, 103, 101, 45, 97, 116, 116, 114, 45,
    99, 97, 108, 108, 101, 101, 45, 115, 101, 108, 101, 99, 116, 111, 114, 32, 61, 32, 123, 109, 101, 115, 115,
    97, 103, 101, 46, 97, 116, 116, 114, 40, 41, 32, 45, 62, 10, 32, 32, 32, 42, 91, 107, 101, 121, 93, 32, 86,
    97, 108, 117, 101, 10, 125, 10, 35, 32, 69, 82, 82, 79, 82, 32, 84, 101, 114, 109, 32, 118, 97, 108, 117, 101,
    115, 32, 109, 97, 121, 32, 110, 111, 116, 32, 98, 101, 32, 117, 115, 101, 100, 32, 97, 115, 32, 115, 101, 108,
    101, 99, 116, 111, 114, 115, 46, 10, 116, 101, 114, 109, 45, 99, 97, 108, 108, 101, 101, 45, 115, 101, 108,
    101, 99, 116, 111, 114, 32, 61, 32, 123, 45, 116, 101, 114, 109, 40, 41, 32, 45, 62, 10, 32, 32, 32, 42, 91,
    107, 101, 121, 93, 32, 86, 97, 108, 117, 101, 10, 125, 10, 35, 32, 69, 82, 82, 79, 82, 32, 86, 97, 114, 105,
    97, 98, 108, 101, 115, 32, 99, 97, 110, 110, 111, 116, 32, 98, 101, 32, 112, 97, 114, 97, 109, 101, 116, 101,
    114, 105, 122, 101, 100, 46, 10, 118, 97, 114, 105, 97, 98, 108, 101, 45, 99, 97, 108, 108, 101, 101, 45, 115,
    101, 108, 101, 99, 116, 111, 114, 32, 61, 32, 123, 36, 118, 97, 114, 105, 97, 98, 108, 101, 40, 41, 32, 45,
    62, 10, 32, 32, 32, 42, 91, 107, 101, 121, 93, 32, 86, 97, 108, 117, 101, 10, 125, 10]
#guard inClass fixture_callee_expressions true == false && inClass fixture_callee_expressions false == true

/-- census: `comments.ftl` — with_junk=true: false, with_junk=false: true -/
def fixture_comments : Src :=
    #[35, 32, 83, 116, 97, 110, 100, 97, 108, 111, 110, 101, 32, 67, 111, 109, 109, 101, 110, 116, 10, 10, 35, 32,
    77, 101, 115, 115, 97, 103, 101, 32, 67, 111, 109, 109, 101, 110, 116, 10, 102, 111, 111, 32, 61, 32, 70, 111,
    111, 10, 10, 35, 32, 84, 101, 114, 109, 32, 67, 111, 109, 109, 101, 110, 116, 10, 35, 32, 119, 105, 116, 104,
    32, 97, 32, 98, 108, 97, 110, 107, 32, 108, 97, 115, 116, 32, 108, 105, 110, 101, 46, 10, 35, 10, 45, 116,
    101, 114, 109, 32, 61, 32, 84, 101, 114, 109, 10, 10, 35, 32, 65, 110, 111, 116, 104, 101, 114, 32, 115, 116,
    97, 110, 100, 97, 108, 111, 110, 101, 10, 35, 32, 10, 35, 32, 32, 32, 32, 32, 32, 119, 105, 116, 104, 32, 105,
    110, 100, 101, 110, 116, 10, 35, 35, 32, 71, 114, 111, 117, 112, 32, 67, 111, 109, 109, 101, 110, 116, 10, 35,
    35, 35, 32, 82, 101, 115, 111, 117, 114, 99, 101, 32, 67, 111, 109, 109, 101, 110, 116, 10, 10, 35, 32, 69,
    114, 114, 111, 114, 115, 10, 35, 101, 114, 114, 111, 114, 10, 35, 35, 101, 114, 114, 111, 114, 10, 35, 35, 35,
    101, 114, 114, 111, 114, 10]
#guard inClass fixture_comments true == false && inClass fixture_comments false == true

/-- census: `cr.ftl` — with_junk=true: true, with_junk=false: true (one resource comment whose single line contains
lone `\r`s; in the class since the class admits the byte 13 in comment lines and text elements) -/
def fixture_cr : Src :=
    #[35, 35, 35, 32, 84, 104, 105, 115, 32, 101, 110, 116, 105, 114, 101, 32, 102, 105, 108, 101, 32, 117, 115,
    101, 115, 32, 67, 82, 32, 97, 115, 32, 69, 79, 76, 46, 13, 13, 101, 114, 114, 48, 49, 32, 61, 32, 86, 97, 108,
    117, 101, 32, 48, 49, 13, 101, 114, 114, 48, 50, 32, 61, 32, 86, 97, 108, 117, 101, 32, 48, 50, 13, 13, 101,
    114, 114, 48, 51, 32, 61, 13, 13, 32, 32, 32, 32, 86, 97, 108, 117, 101, 32, 48, 51, 13, 32, 32, 32, 32, 67,
    111, 110, 116, 105, 110, 117, 101, 100, 13, 13, 32, 32, 32, 32, 46, 116, 105, 116, 108, 101, 32, 61, 32, 84,
    105, 116, 108, 101, 13, 13, 101, 114, 114, 48, 52, 32, 61, 32, 123, 32, 34, 115, 116, 114, 13, 13, 101, 114,
    114, 48, 53, 32, 61, 32, 123, 32, 36, 115, 101, 108, 32, 45, 62, 32, 125, 13]
#guard inClass fixture_cr true == true && inClass fixture_cr false == true
example : (inClass fixture_cr true == true && inClass fixture_cr false == true) = true := by decide +kernel

/-- census: `crlf.ftl` — with_junk=true: false, with_junk=false: false -/
def fixture_crlf : Src :=
    #[13, 10, 35, 32, 84, 101, 114, 109, 32, 67, 111, 109, 109, 101, 110, 116, 13, 10, 35, 32, 119, 105, 116, 104,
    32, 97, 32, 98, 108, 97, 110, 107, 32, 108, 97, 115, 116, 32, 108, 105, 110, 101, 46, 13, 10, 35, 13, 10, 107,
    101, 121, 48, 49, 32, 61, 32, 86, 97, 108, 117, 101, 32, 48, 49, 13, 10, 107, 101, 121, 48, 50, 32, 61, 13,
    10, 13, 10, 32, 32, 32, 32, 86, 97, 108, 117, 101, 32, 48, 50, 13, 10, 32, 32, 32, 32, 67, 111, 110, 116, 105,
    110, 117, 101, 100, 13, 10, 13, 10, 32, 32, 32, 32, 46, 116, 105, 116, 108, 101, 32, 61, 32, 84, 105, 116,
    108, 101, 13, 10, 13, 10, 35, 32, 69, 82, 82, 79, 82, 32, 85, 110, 99, 108, 111, 115, 101, 100, 32, 83, 116,
    114, 105, 110, 103, 76, 105, 116, 101, 114, 97, 108, 13, 10, 101, 114, 114, 48, 51, 32, 61, 32, 123, 32, 34,
    115, 116, 114, 13, 10, 13, 10, 35, 32, 69, 82, 82, 79, 82, 32, 77, 105, 115, 115, 105, 110, 103, 32, 110, 101,
    119, 108, 105, 110, 101, 32, 97, 102, 116, 101, 114, 32, 45, 62, 46, 13, 10, 101, 114, 114, 48, 52, 32, 61,
    32, 123, 32, 36, 115, 101, 108, 32, 45, 62, 32, 125, 13, 10]
#guard inClass fixture_crlf true == false && inClass fixture_crlf false == false

/-- census: `eof_comment.ftl` — with_junk=true: true, with_junk=false: true -/
def fixture_eof_comment : Src :=
    #[35, 35, 35, 32, 78, 79, 84, 69, 58, 32, 68, 105, 115, 97, 98, 108, 101, 32, 102, 105, 110, 97, 108, 32, 110,
    101, 119, 108, 105, 110, 101, 32, 105, 110, 115, 101, 114, 116, 105, 111, 110, 32, 119, 104, 101, 110, 32,
    101, 100, 105, 116, 105, 110, 103, 32, 116, 104, 105, 115, 32, 102, 105, 108, 101, 46, 10, 10, 35, 32, 78,
    111, 32, 69, 79, 76]
#guard inClass fixture_eof_comment true == true && inClass fixture_eof_comment false == true
example : (inClass fixture_eof_comment true == true && inClass fixture_eof_comment false == true) = true := by decide +kernel

/-- census: `eof_empty.ftl` — with_junk=true: true, with_junk=false: true -/
def fixture_eof_empty : Src :=
    #[]
#guard inClass fixture_eof_empty true == true && inClass fixture_eof_empty false == true
example : (inClass fixture_eof_empty true == true && inClass fixture_eof_empty false == true) = true := by decide +kernel

/-- census: `eof_id.ftl` — with_junk=true: false, with_junk=false: true -/
def fixture_eof_id : Src :=
    #[35, 35, 35, 32, 78, 79, 84, 69, 58, 32, 68, 105, 115, 97, 98, 108, 101, 32, 102, 105, 110, 97, 108, 32, 110,
    101, 119, 108, 105, 110, 101, 32, 105, 110, 115, 101, 114, 116, 105, 111, 110, 32, 119, 104, 101, 110, 32,
    101, 100, 105, 116, 105, 110, 103, 32, 116, 104, 105, 115, 32, 102, 105, 108, 101, 46, 10, 10, 109, 101, 115,
    115, 97, 103, 101, 45, 105, 100]
#guard inClass fixture_eof_id true == false && inClass fixture_eof_id false == true
example : (inClass fixture_eof_id true == false && inClass fixture_eof_id false == true) = true := by decide +kernel

/-- census: `eof_id_equals.ftl` — with_junk=true: false, with_junk=false: true -/
def fixture_eof_id_equals : Src :=
    #[35, 35, 35, 32, 78, 79, 84, 69, 58, 32, 68, 105, 115, 97, 98, 108, 101, 32, 102, 105, 110, 97, 108, 32, 110,
    101, 119, 108, 105, 110, 101, 32, 105, 110, 115, 101, 114, 116, 105, 111, 110, 32, 119, 104, 101, 110, 32,
    101, 100, 105, 116, 105, 110, 103, 32, 116, 104, 105, 115, 32, 102, 105, 108, 101, 46, 10, 10, 109, 101, 115,
    115, 97, 103, 101, 45, 105, 100, 32, 61]
#guard inClass fixture_eof_id_equals true == false && inClass fixture_eof_id_equals false == true
example : (inClass fixture_eof_id_equals true == false && inClass fixture_eof_id_equals false == true) = true := by decide +kernel

/-- census: `eof_junk.ftl` — with_junk=true: false, with_junk=false: true -/
def fixture_eof_junk : Src :=
    #[35, 35, 35, 32, 78, 79, 84, 69, 58, 32, 68, 105, 115, 97, 98, 108, 101, 32, 102, 105, 110, 97, 108, 32, 110,
    101, 119, 108, 105, 110, 101, 32, 105, 110, 115, 101, 114, 116, 105, 111, 110, 32, 119, 104, 101, 110, 32,
    101, 100, 105, 116, 105, 110, 103, 32, 116, 104, 105, 115, 32, 102, 105, 108, 101, 46, 10, 10, 48, 48, 48]
#guard inClass fixture_eof_junk true == false && inClass fixture_eof_junk false == true
example : (inClass fixture_eof_junk true == false && inClass fixture_eof_junk false == true) = true := by decide +kernel

/-- census: `eof_value.ftl` — with_junk=true: true, with_junk=false: true -/
def fixture_eof_value : Src :=
    #[35, 35, 35, 32, 78, 79, 84, 69, 58, 32, 68, 105, 115, 97, 98, 108, 101, 32, 102, 105, 110, 97, 108, 32, 110,
    101, 119, 108, 105, 110, 101, 32, 105, 110, 115, 101, 114, 116, 105, 111, 110, 32, 119, 104, 101, 110, 32,
    101, 100, 105, 116, 105, 110, 103, 32, 116, 104, 105, 115, 32, 102, 105, 108, 101, 46, 10, 10, 110, 111, 45,
    101, 111, 108, 32, 61, 32, 78, 111, 32, 69, 79, 76]
#guard inClass fixture_eof_value true == true && inClass fixture_eof_value false == true
example : (inClass fixture_eof_value true == true && inClass fixture_eof_value false == true) = true := by decide +kernel

/-- census: `escaped_characters.ftl` — with_junk=true: false, with_junk=false: true -/
def fixture_escaped_characters : Src :=
    #[35, 35, 32, 76, 105, 116, 101, 114, 97, 108, 32, 116, 101, 120, 116, 10, 116, 101, 120, 116, 45, 98, 97, 99,
    107, 115, 108, 97, 115, 104, 45, 111, 110, 101, 32, 61, 32, 86, 97, 108, 117, 101, 32, 119, 105, 116, 104, 32,
    92, 32, 97, 32, 98, 97, 99, 107, 115, 108, 97, 115, 104, 10, 116, 101, 120, 116, 45, 98, 97, 99, 107, 115,
    108, 97, 115, 104, 45, 116, 119, 111, 32, 61, 32, 86, 97, 108, 117, 101, 32, 119, 105, 116, 104, 32, 92, 92,
    32, 116, 119, 111, 32, 98, 97, 99, 107, 115, 108, 97, 115, 104, 101, 115, 10, 116, 101, 120, 116, 45, 98, 97,
    99, 107, 115, 108, 97, 115, 104, 45, 98, 114, 97, 99, 101, 32, 61, 32, 86, 97, 108, 117, 101, 32, 119, 105,
    116, 104, 32, 92, 123, 112, 108, 97, 99, 101, 97, 98, 108, 101, 125, 10, 116, 101, 120, 116, 45, 98, 97, 99,
    107, 115, 108, 97, 115, 104, 45, 117, 32, 61, 32, 92, 117, 48, 48, 52, 49, 10, 116, 101, 120, 116, 45, 98, 97,
    99, 107, 115, 108, 97, 115, 104, 45, 98, 97, 99, 107, 115, 108, 97, 115, 104, 45, 117, 32, 61, 32, 92, 92,
    117, 48, 48, 52, 49, 10, 10, 35, 35, 32, 83, 116, 114, 105, 110, 103, 32, 108, 105, 116, 101, 114, 97, 108,
    115, 10, 113, 117, 111, 116, 101, 45, 105, 110, 45, 115, 116, 114, 105, 110, 103, 32, 61, 32, 123, 34, 92, 34,
    34, 125, 10, 98, 97, 99, 107, 115, 108, 97, 115, 104, 45, 105, 110, 45, 115, 116, 114, 105, 110, 103, 32, 61,
    32, 123, 34, 92, 92, 34, 125, 10, 35, 32, 69, 82, 82, 79, 82, 32, 77, 105, 115, 109, 97, 116, 99, 104, 101,
    100, 32, 113, 117, 111, 116, 101, 10, 109, 105, 115, 109, 97, 116, 99, 104, 101, 100, 45, 113, 117, 111, 116,
    101, 32, 61, 32, 123, 34, 92, 92, 34, 34, 125, 10, 35, 32, 69, 82, 82, 79, 82, 32, 85, 110, 107, 110, 111,
    119, 110, 32, 101, 115, 99, 97, 112, 101, 10, 117, 110, 107, 110, 111, 119, 110, 45, 101, 115, 99, 97, 112,
    101, 32, 61, 32, 123, 34, 92, 120, 34, 125, 10, 35, 32, 69, 82, 82, 79, 82, 32, 77, 117, 108, 116, 105, 108,
    105, 110, 101, 32, 108, 105, 116, 101, 114, 97, 108, 10, 105, 110, 118, 97, 108, 105, 100, 45, 109, 117, 108,
    116, 105, 108, 105, 110, 101, 45, 108, 105, 116, 101, 114, 97, 108, 32, 61, 32, 123, 34, 10, 32, 34, 125, 10,
    10, 35, 35, 32, 85, 110, 105, 99, 111, 100, 101, 32, 101, 115, 99, 97, 112, 101, 115, 10, 115, 116, 114, 105,
    110, 103, 45, 117, 110, 105, 99, 111, 100, 101, 45, 52, 100, 105, 103, 105, 116, 115, 32, 61, 32, 123, 34, 92,
    117, 48, 48, 52, 49, 34, 125, 10, 101, 115, 99, 97, 112, 101, 45, 117, 110, 105, 99, 111, 100, 101, 45, 52,
    100, 105, 103, 105, 116, 115, 32, 61, 32, 123, 34, 92, 92, 117, 48, 48, 52, 49, 34, 125, 10, 115, 116, 114,
    105, 110, 103, 45, 117, 110, 105, 99, 111, 100, 101, 45, 54, 100, 105, 103, 105, 116, 115, 32, 61, 32, 123,
    34, 92, 85, 48, 49, 70, 54, 48, 50, 34, 125, 10, 101, 115, 99, 97, 112, 101, 45, 117, 110, 105, 99, 111, 100,
    101, 45, 54, 100, 105, 103, 105, 116, 115, 32, 61, 32, 123, 34, 92, 92, 85, 48, 49, 70, 54, 48, 50, 34, 125,
    10, 10, 35, 32, 79, 75, 32, 84, 104, 101, 32, 116, 114, 97, 105, 108, 105, 110, 103, 32, 34, 48, 48, 34, 32,
    105, 115, 32, 112, 97, 114, 116, 32, 111, 102, 32, 116, 104, 101, 32, 108, 105, 116, 101, 114, 97, 108, 32,
    118, 97, 108, 117, 101, 46, 10, 115, 116, 114, 105, 110, 103, 45, 116, 111, 111, 45, 109, 97, 110, 121, 45,
    52, 100, 105, 103, 105, 116, 115, 32, 61, 32, 123, 34, 92, 117, 48, 48, 52, 49, 48, 48, 34, 125, 10, 35, 32,
    79, 75, 32, 84, 104, 101, 32, 116, 114, 97, 105, 108, 105, 110, 103, 32, 34, 48, 48, 34, 32, 105, 115, 32,
    112, 97, 114, 116, 32, 111, 102, 32, 116, 104, 101, 32, 108, 105, 116, 101, 114, 97, 108, 32, 118, 97, 108,
    117, 101, 46, 10, 115, 116, 114, 105, 110, 103, 45, 116, 111, 111, 45, 109, 97, 110, 121, 45, 54, 100, 105,
    103, 105, 116, 115, 32, 61, 32, 123, 34, 92, 85, 48, 49, 70, 54, 48, 50, 48, 48, 34, 125, 10, 10, 35, 32, 69,
    82, 82, 79, 82, 32, 84, 111, 111, 32, 102, 101, 119, 32, 104, 101, 120, 32, 100, 105, 103, 105, 116, 115, 32,
    97, 102, 116, 101, 114, 32, 92, 117, 46, 10, 115, 116, 114, 105, 110, 103, 45, 116, 111, 111, 45, 102, 101,
    119, 45, 52, 100, 105, 103, 105, 116, 115, 32, 61, 32, 123, 34, 92, 117, 52, 49, 34, 125, 10, 35, 32, 69, 82,
    82, 79, 82, 32, 84, 111, 111, 32, 102, 101, 119, 32, 104, 101, 120, 32, 100, 105, 103, 105, 116, 115, 32, 97,
    102, 116, 101, 114, 32, 92, 85, 46, 10, 115, 116, 114, 105, 110, 103, 45, 116, 111, 111, 45, 102, 101, 119,
    45, 54, 100, 105, 103, 105, 116, 115, 32, 61, 32, 123, 34, 92, 85, 49, 70, 54, 48, 50, 34, 125, 10, 10, 35,
    35, 32, 76, 105, 116, 101, 114, 97, 108, 32, 98, 114, 97, 99, 101, 115, 10, 98, 114, 97, 99, 101, 45, 111,
    112, 101, 110, 32, 61, 32, 65, 110, 32, 111, 112, 101, 110, 105, 110, 103, 32, 123, 34, 123, 34, 125, 32, 98,
    114, 97, 99, 101, 46, 10, 98, 114, 97, 99, 101, 45, 99, 108, 111, 115, 101, 32, 61, 32, 65, 32, 99, 108, 111,
    115, 105, 110, 103, 32, 123, 34, 125, 34, 125, 32, 98, 114, 97, 99, 101, 46, 10]
#guard inClass fixture_escaped_characters true == false && inClass fixture_escaped_characters false == true

/-- census: `junk.ftl` — with_junk=true: false, with_junk=false: true -/
def fixture_junk : Src :=
    #[35, 35, 32, 84, 119, 111, 32, 97, 100, 106, 97, 99, 101, 110, 116, 32, 74, 117, 110, 107, 115, 46, 10, 101,
    114, 114, 48, 49, 32, 61, 32, 123, 49, 120, 125, 10, 101, 114, 114, 48, 50, 32, 61, 32, 123, 50, 120, 125, 10,
    10, 35, 32, 65, 32, 115, 105, 110, 103, 108, 101, 32, 74, 117, 110, 107, 46, 10, 101, 114, 114, 48, 51, 32,
    61, 32, 123, 49, 120, 10, 50, 10, 10, 35, 32, 65, 32, 115, 105, 110, 103, 108, 101, 32, 74, 117, 110, 107, 46,
    10, 196, 133, 61, 73, 110, 118, 97, 108, 105, 100, 32, 105, 100, 101, 110, 116, 105, 102, 105, 101, 114, 10,
    196, 135, 61, 65, 110, 111, 116, 104, 101, 114, 32, 111, 110, 101, 10, 10, 35, 32, 84, 104, 101, 32, 67, 79,
    77, 77, 69, 78, 84, 32, 101, 110, 100, 115, 32, 116, 104, 105, 115, 32, 106, 117, 110, 107, 46, 10, 101, 114,
    114, 48, 52, 32, 61, 32, 123, 10, 35, 32, 67, 79, 77, 77, 69, 78, 84, 10, 10, 35, 32, 84, 104, 101, 32, 67,
    79, 77, 77, 69, 78, 84, 32, 101, 110, 100, 115, 32, 116, 104, 105, 115, 32, 106, 117, 110, 107, 46, 10, 35,
    32, 84, 104, 101, 32, 99, 108, 111, 115, 105, 110, 103, 32, 98, 114, 97, 99, 101, 32, 105, 115, 32, 97, 32,
    115, 101, 112, 97, 114, 97, 116, 101, 32, 74, 117, 110, 107, 46, 10, 101, 114, 114, 48, 52, 32, 61, 32, 123,
    10, 35, 32, 67, 79, 77, 77, 69, 78, 84, 10, 125, 10]
#guard inClass fixture_junk true == false && inClass fixture_junk false == true

/-- census: `leading_dots.ftl` — with_junk=true: false, with_junk=false: true -/
def fixture_leading_dots : Src :=
    #[107, 101, 121, 48, 49, 32, 61, 32, 46, 86, 97, 108, 117, 101, 10, 107, 101, 121, 48, 50, 32, 61, 32, 226,
    128, 166, 86, 97, 108, 117, 101, 10, 107, 101, 121, 48, 51, 32, 61, 32, 123, 34, 46, 34, 125, 86, 97, 108,
    117, 101, 10, 107, 101, 121, 48, 52, 32, 61, 10, 32, 32, 32, 32, 123, 34, 46, 34, 125, 86, 97, 108, 117, 101,
    10, 10, 107, 101, 121, 48, 53, 32, 61, 32, 86, 97, 108, 117, 101, 10, 32, 32, 32, 32, 123, 34, 46, 34, 125,
    67, 111, 110, 116, 105, 110, 117, 101, 100, 10, 10, 107, 101, 121, 48, 54, 32, 61, 32, 46, 86, 97, 108, 117,
    101, 10, 32, 32, 32, 32, 123, 34, 46, 34, 125, 67, 111, 110, 116, 105, 110, 117, 101, 100, 10, 10, 35, 32, 77,
    69, 83, 83, 65, 71, 69, 32, 40, 118, 97, 108, 117, 101, 32, 61, 32, 34, 86, 97, 108, 117, 101, 34, 44, 32, 97,
    116, 116, 114, 105, 98, 117, 116, 101, 115, 32, 61, 32, 91, 93, 41, 10, 35, 32, 74, 85, 78, 75, 32, 40, 97,
    116, 116, 114, 32, 46, 67, 111, 110, 116, 105, 110, 117, 101, 100, 34, 32, 109, 117, 115, 116, 32, 104, 97,
    118, 101, 32, 97, 32, 118, 97, 108, 117, 101, 41, 10, 107, 101, 121, 48, 55, 32, 61, 32, 86, 97, 108, 117,
    101, 10, 32, 32, 32, 32, 46, 67, 111, 110, 116, 105, 110, 117, 101, 100, 10, 10, 35, 32, 74, 85, 78, 75, 32,
    40, 97, 116, 116, 114, 32, 46, 86, 97, 108, 117, 101, 32, 109, 117, 115, 116, 32, 104, 97, 118, 101, 32, 97,
    32, 118, 97, 108, 117, 101, 41, 10, 107, 101, 121, 48, 56, 32, 61, 10, 32, 32, 32, 32, 46, 86, 97, 108, 117,
    101, 10, 10, 35, 32, 74, 85, 78, 75, 32, 40, 97, 116, 116, 114, 32, 46, 86, 97, 108, 117, 101, 32, 109, 117,
    115, 116, 32, 104, 97, 118, 101, 32, 97, 32, 118, 97, 108, 117, 101, 41, 10, 107, 101, 121, 48, 57, 32, 61,
    10, 32, 32, 32, 32, 46, 86, 97, 108, 117, 101, 10, 32, 32, 32, 32, 67, 111, 110, 116, 105, 110, 117, 101, 100,
    10, 10, 107, 101, 121, 49, 48, 32, 61, 10, 32, 32, 32, 32, 46, 86, 97, 108, 117, 101, 32, 61, 32, 119, 104,
    105, 99, 104, 32, 105, 115, 32, 97, 110, 32, 97, 116, 116, 114, 105, 98, 117, 116, 101, 10, 32, 32, 32, 32,
    67, 111, 110, 116, 105, 110, 117, 101, 100, 10, 10, 107, 101, 121, 49, 49, 32, 61, 10, 32, 32, 32, 32, 123,
    34, 46, 34, 125, 86, 97, 108, 117, 101, 32, 61, 32, 119, 104, 105, 99, 104, 32, 108, 111, 111, 107, 115, 32,
    108, 105, 107, 101, 32, 97, 110, 32, 97, 116, 116, 114, 105, 98, 117, 116, 101, 10, 32, 32, 32, 32, 67, 111,
    110, 116, 105, 110, 117, 101, 100, 10, 10, 107, 101, 121, 49, 50, 32, 61, 10, 32, 32, 32, 32, 46, 97, 99, 99,
    101, 115, 115, 107, 101, 121, 32, 61, 10, 32, 32, 32, 32, 65, 10, 10, 107, 101, 121, 49, 51, 32, 61, 10, 32,
    32, 32, 32, 46, 97, 116, 116, 114, 105, 98, 117, 116, 101, 32, 61, 32, 46, 86, 97, 108, 117, 101, 10, 10, 107,
    101, 121, 49, 52, 32, 61, 10, 32, 32, 32, 32, 46, 97, 116, 116, 114, 105, 98, 117, 116, 101, 32, 61, 10, 32,
    32, 32, 32, 32, 32, 32, 32, 32, 123, 34, 46, 34, 125, 86, 97, 108, 117, 101, 10, 10, 107, 101, 121, 49, 53,
    32, 61, 10, 32, 32, 32, 32, 123, 32, 49, 32, 45, 62, 10, 32, 32, 32, 32, 32, 32, 32, 32, 91, 111, 110, 101,
    93, 32, 46, 86, 97, 108, 117, 101, 10, 32, 32, 32, 32, 32, 32, 32, 42, 91, 111, 116, 104, 101, 114, 93, 10,
    32, 32, 32, 32, 32, 32, 32, 32, 32, 32, 32, 32, 123, 34, 46, 34, 125, 86, 97, 108, 117, 101, 10, 32, 32, 32,
    32, 125, 10, 10, 35, 32, 74, 85, 78, 75, 32, 40, 118, 97, 114, 105, 97, 110, 116, 32, 109, 117, 115, 116, 32,
    104, 97, 118, 101, 32, 97, 32, 118, 97, 108, 117, 101, 41, 10, 107, 101, 121, 49, 54, 32, 61, 10, 32, 32, 32,
    32, 123, 32, 49, 32, 45, 62, 10, 32, 32, 32, 32, 32, 32, 32, 42, 91, 111, 110, 101, 93, 10, 32, 32, 32, 32,
    32, 32, 32, 32, 32, 32, 32, 46, 86, 97, 108, 117, 101, 10, 32, 32, 32, 32, 125, 10, 10, 35, 32, 74, 85, 78,
    75, 32, 40, 117, 110, 99, 108, 111, 115, 101, 100, 32, 112, 108, 97, 99, 101, 97, 98, 108, 101, 41, 10, 107,
    101, 121, 49, 55, 32, 61, 10, 32, 32, 32, 32, 123, 32, 49, 32, 45, 62, 10, 32, 32, 32, 32, 32, 32, 32, 42, 91,
    111, 110, 101, 93, 32, 86, 97, 108, 117, 101, 10, 32, 32, 32, 32, 32, 32, 32, 32, 32, 32, 32, 46, 67, 111,
    110, 116, 105, 110, 117, 101, 100, 10, 32, 32, 32, 32, 125, 10, 10, 35, 32, 74, 85, 78, 75, 32, 40, 97, 116,
    116, 114, 32, 46, 86, 97, 108, 117, 101, 32, 109, 117, 115, 116, 32, 104, 97, 118, 101, 32, 97, 32, 118, 97,
    108, 117, 101, 41, 10, 107, 101, 121, 49, 56, 32, 61, 10, 46, 86, 97, 108, 117, 101, 10, 10, 107, 101, 121,
    49, 57, 32, 61, 10, 46, 97, 116, 116, 114, 105, 98, 117, 116, 101, 32, 61, 32, 86, 97, 108, 117, 101, 10, 32,
    32, 32, 32, 67, 111, 110, 116, 105, 110, 117, 101, 100, 10, 10, 107, 101, 121, 50, 48, 32, 61, 10, 123, 34,
    46, 34, 125, 86, 97, 108, 117, 101, 10]
#guard inClass fixture_leading_dots true == false && inClass fixture_leading_dots false == true

/-- census: `literal_expressions.ftl` — with_junk=true: true, with_junk=false: true -/
def fixture_literal_expressions : Src :=
    #[115, 116, 114, 105, 110, 103, 45, 101, 120, 112, 114, 101, 115, 115, 105, 111, 110, 32, 61, 32, 123, 34, 97,
    98, 99, 34, 125, 10, 110, 117, 109, 98, 101, 114, 45, 101, 120, 112, 114, 101, 115, 115, 105, 111, 110, 32,
    61, 32, 123, 49, 50, 51, 125, 10, 110, 117, 109, 98, 101, 114, 45, 101, 120, 112, 114, 101, 115, 115, 105,
    111, 110, 32, 61, 32, 123, 45, 51, 46, 49, 52, 125, 10]
#guard inClass fixture_literal_expressions true == true && inClass fixture_literal_expressions false == true
example : (inClass fixture_literal_expressions true == true && inClass fixture_literal_expressions false == true) = true := by decide +kernel

/-- census: `member_expressions.ftl` — with_junk=true: false, with_junk=false: true -/
def fixture_member_expressions : Src :=
    #[35, 35, 32, 77, 101, 109, 98, 101, 114, 32, 101, 120, 112, 114, 101, 115, 115, 105, 111, 110, 115, 32, 105,
    110, 32, 112, 108, 97, 99, 101, 97, 98, 108, 101, 115, 46, 10, 10, 35, 32, 79, 75, 32, 77, 101, 115, 115, 97,
    103, 101, 32, 97, 116, 116, 114, 105, 98, 117, 116, 101, 115, 32, 109, 97, 121, 32, 98, 101, 32, 105, 110,
    116, 101, 114, 112, 111, 108, 97, 116, 101, 100, 32, 105, 110, 32, 118, 97, 108, 117, 101, 115, 46, 10, 109,
    101, 115, 115, 97, 103, 101, 45, 97, 116, 116, 114, 105, 98, 117, 116, 101, 45, 101, 120, 112, 114, 101, 115,
    115, 105, 111, 110, 45, 112, 108, 97, 99, 101, 97, 98, 108, 101, 32, 61, 32, 123, 109, 115, 103, 46, 97, 116,
    116, 114, 125, 10, 10, 35, 32, 69, 82, 82, 79, 82, 32, 84, 101, 114, 109, 32, 97, 116, 116, 114, 105, 98, 117,
    116, 101, 115, 32, 109, 97, 121, 32, 110, 111, 116, 32, 98, 101, 32, 117, 115, 101, 100, 32, 102, 111, 114,
    32, 105, 110, 116, 101, 114, 112, 111, 108, 97, 116, 105, 111, 110, 46, 10, 116, 101, 114, 109, 45, 97, 116,
    116, 114, 105, 98, 117, 116, 101, 45, 101, 120, 112, 114, 101, 115, 115, 105, 111, 110, 45, 112, 108, 97, 99,
    101, 97, 98, 108, 101, 32, 61, 32, 123, 45, 116, 101, 114, 109, 46, 97, 116, 116, 114, 125, 10, 10, 10, 35,
    35, 32, 77, 101, 109, 98, 101, 114, 32, 101, 120, 112, 114, 101, 115, 115, 105, 111, 110, 115, 32, 105, 110,
    32, 115, 101, 108, 101, 99, 116, 111, 114, 115, 46, 10, 10, 35, 32, 79, 75, 32, 84, 101, 114, 109, 32, 97,
    116, 116, 114, 105, 98, 117, 116, 101, 115, 32, 109, 97, 121, 32, 98, 101, 32, 117, 115, 101, 100, 32, 97,
    115, 32, 115, 101, 108, 101, 99, 116, 111, 114, 115, 46, 10, 116, 101, 114, 109, 45, 97, 116, 116, 114, 105,
    98, 117, 116, 101, 45, 101, 120, 112, 114, 101, 115, 115, 105, 111, 110, 45, 115, 101, 108, 101, 99, 116, 111,
    114, 32, 61, 32, 123, 45, 116, 101, 114, 109, 46, 97, 116, 116, 114, 32, 45, 62, 10, 32, 32, 32, 42, 91, 107,
    101, 121, 93, 32, 86, 97, 108, 117, 101, 10, 125, 10, 35, 32, 69, 82, 82, 79, 82, 32, 77, 101, 115, 115, 97,
    103, 101, 32, 97, 116, 116, 114, 105, 98, 117, 116, 101, 115, 32, 109, 97, 121, 32, 110, 111, 116, 32, 98,
    101, 32, 117, 115, 101, 100, 32, 97, 115, 32, 115, 101, 108, 101, 99, 116, 111, 114, 115, 46, 10, 109, 101,
    115, 115, 97, 103, 101, 45, 97, 116, 116, 114, 105, 98, 117, 116, 101, 45, 101, 120, 112, 114, 101, 115, 115,
    105, 111, 110, 45, 115, 101, 108, 101, 99, 116, 111, 114, 32, 61, 32, 123, 109, 115, 103, 46, 97, 116, 116,
    114, 32, 45, 62, 10, 32, 32, 32, 42, 91, 107, 101, 121, 93, 32, 86, 97, 108, 117, 101, 10, 125, 10]
#guard inClass fixture_member_expressions true == false && inClass fixture_member_expressions false == true

/-- census: `messages.ftl` — with_junk=true: false, with_junk=false: true -/
def fixture_messages : Src :=
    #[107, 101, 121, 48, 49, 32, 61, 32, 86, 97, 108, 117, 101, 10, 10, 107, 101, 121, 48, 50, 32, 61, 32, 86, 97,
    108, 117, 101, 10, 32, 32, 32, 32, 46, 97, 116, 116, 114, 32, 61, 32, 65, 116, 116, 114, 105, 98, 117, 116,
    101, 10, 10, 107, 101, 121, 48, 50, 32, 61, 32, 86, 97, 108, 117, 101, 10, 32, 32, 32, 32, 46, 97, 116, 116,
    114, 49, 32, 61, 32, 65, 116, 116, 114, 105, 98, 117, 116, 101, 32, 49, 10, 32, 32, 32, 32, 46, 97, 116, 116,
    114, 50, 32, 61, 32, 65, 116, 116, 114, 105, 98, 117, 116, 101, 32, 50, 10, 10, 107, 101, 121, 48, 51, 32, 61,
    10, 32, 32, 32, 32, 46, 97, 116, 116, 114, 32, 61, 32, 65, 116, 116, 114, 105, 98, 117, 116, 101, 10, 10, 107,
    101, 121, 48, 52, 32, 61, 10, 32, 32, 32, 32, 46, 97, 116, 116, 114, 49, 32, 61, 32, 65, 116, 116, 114, 105,
    98, 117, 116, 101, 32, 49, 10, 32, 32, 32, 32, 46, 97, 116, 116, 114, 50, 32, 61, 32, 65, 116, 116, 114, 105,
    98, 117, 116, 101, 32, 50, 10, 10, 35, 32, 32, 32, 32, 32, 32, 60, 32, 32, 119, 104, 105, 116, 101, 115, 112,
    97, 99, 101, 32, 32, 62, 10, 107, 101, 121, 48, 53, 32, 61, 32, 32, 32, 32, 32, 32, 32, 32, 32, 32, 32, 32,
    32, 32, 32, 32, 10, 32, 32, 32, 32, 46, 97, 116, 116, 114, 49, 32, 61, 32, 65, 116, 116, 114, 105, 98, 117,
    116, 101, 32, 49, 10, 10, 110, 111, 45, 119, 104, 105, 116, 101, 115, 112, 97, 99, 101, 61, 86, 97, 108, 117,
    101, 10, 32, 32, 32, 32, 46, 97, 116, 116, 114, 49, 61, 65, 116, 116, 114, 105, 98, 117, 116, 101, 32, 49, 10,
    10, 101, 120, 116, 114, 97, 45, 119, 104, 105, 116, 101, 115, 112, 97, 99, 101, 32, 32, 32, 32, 61, 32, 32,
    86, 97, 108, 117, 101, 10, 32, 32, 32, 32, 46, 97, 116, 116, 114, 49, 32, 32, 32, 61, 32, 32, 32, 32, 32, 32,
    65, 116, 116, 114, 105, 98, 117, 116, 101, 32, 49, 10, 10, 107, 101, 121, 48, 54, 32, 61, 32, 123, 34, 34,
    125, 10, 10, 35, 32, 74, 85, 78, 75, 32, 77, 105, 115, 115, 105, 110, 103, 32, 118, 97, 108, 117, 101, 10,
    107, 101, 121, 48, 55, 32, 61, 10, 10, 35, 32, 74, 85, 78, 75, 32, 77, 105, 115, 115, 105, 110, 103, 32, 61,
    10, 107, 101, 121, 48, 56, 10, 10, 75, 69, 89, 48, 57, 32, 61, 32, 86, 97, 108, 117, 101, 32, 48, 57, 10, 10,
    107, 101, 121, 45, 49, 48, 32, 61, 32, 86, 97, 108, 117, 101, 32, 49, 48, 10, 107, 101, 121, 95, 49, 49, 32,
    61, 32, 86, 97, 108, 117, 101, 32, 49, 49, 10, 107, 101, 121, 45, 49, 50, 45, 32, 61, 32, 86, 97, 108, 117,
    101, 32, 49, 50, 10, 107, 101, 121, 95, 49, 51, 95, 32, 61, 32, 86, 97, 108, 117, 101, 32, 49, 51, 10, 10, 35,
    32, 74, 85, 78, 75, 32, 73, 110, 118, 97, 108, 105, 100, 32, 105, 100, 10, 48, 101, 114, 114, 45, 49, 52, 32,
    61, 32, 86, 97, 108, 117, 101, 32, 49, 52, 10, 10, 35, 32, 74, 85, 78, 75, 32, 73, 110, 118, 97, 108, 105,
    100, 32, 105, 100, 10, 101, 114, 114, 45, 49, 53, 63, 32, 61, 32, 86, 97, 108, 117, 101, 32, 49, 53, 10, 10,
    35, 32, 74, 85, 78, 75, 32, 73, 110, 118, 97, 108, 105, 100, 32, 105, 100, 10, 101, 114, 114, 45, 196, 133,
    196, 153, 45, 49, 54, 32, 61, 32, 86, 97, 108, 117, 101, 32, 49, 54, 10]
#guard inClass fixture_messages true == false && inClass fixture_messages false == true

/-- census: `mixed_entries.ftl` — with_junk=true: false, with_junk=false: true -/
def fixture_mixed_entries : Src :=
    #[35, 32, 76, 105, 99, 101, 110, 115, 101, 32, 67, 111, 109, 109, 101, 110, 116, 10, 10, 35, 35, 35, 32, 82,
    101, 115, 111, 117, 114, 99, 101, 32, 67, 111, 109, 109, 101, 110, 116, 10, 10, 45, 98, 114, 97, 110, 100, 45,
    110, 97, 109, 101, 32, 61, 32, 65, 117, 114, 111, 114, 97, 10, 10, 35, 35, 32, 71, 114, 111, 117, 112, 32, 67,
    111, 109, 109, 101, 110, 116, 10, 10, 107, 101, 121, 48, 49, 32, 61, 10, 32, 32, 32, 32, 46, 97, 116, 116,
    114, 32, 61, 32, 65, 116, 116, 114, 105, 98, 117, 116, 101, 10, 10, 196, 133, 61, 73, 110, 118, 97, 108, 105,
    100, 32, 105, 100, 101, 110, 116, 105, 102, 105, 101, 114, 10, 196, 135, 61, 65, 110, 111, 116, 104, 101, 114,
    32, 111, 110, 101, 10, 10, 35, 32, 77, 101, 115, 115, 97, 103, 101, 32, 67, 111, 109, 109, 101, 110, 116, 10,
    107, 101, 121, 48, 50, 32, 61, 32, 86, 97, 108, 117, 101, 10, 10, 35, 32, 83, 116, 97, 110, 100, 97, 108, 111,
    110, 101, 32, 67, 111, 109, 109, 101, 110, 116, 10, 32, 32, 32, 32, 46, 97, 116, 116, 114, 32, 61, 32, 68, 97,
    110, 103, 108, 105, 110, 103, 32, 97, 116, 116, 114, 105, 98, 117, 116, 101, 10, 10, 35, 32, 84, 104, 101,
    114, 101, 32, 97, 114, 101, 32, 53, 32, 115, 112, 97, 99, 101, 115, 32, 111, 110, 32, 116, 104, 101, 32, 108,
    105, 110, 101, 32, 98, 101, 116, 119, 101, 101, 110, 32, 107, 101, 121, 48, 51, 32, 97, 110, 100, 32, 107,
    101, 121, 48, 52, 46, 10, 107, 101, 121, 48, 51, 32, 61, 32, 86, 97, 108, 117, 101, 32, 48, 51, 10, 32, 32,
    32, 32, 32, 10, 107, 101, 121, 48, 52, 32, 61, 32, 86, 97, 108, 117, 101, 32, 48, 52, 10]
#guard inClass fixture_mixed_entries true == false && inClass fixture_mixed_entries false == true

/-- census: `multiline_values.ftl` — with_junk=true: true, with_junk=false: true -/
def fixture_multiline_values : Src :=
    #[107, 101, 121, 48, 49, 32, 61, 32, 65, 32, 109, 117, 108, 116, 105, 108, 105, 110, 101, 32, 118, 97, 108,
    117, 101, 10, 32, 32, 32, 32, 99, 111, 110, 116, 105, 110, 117, 101, 100, 32, 111, 110, 32, 116, 104, 101, 32,
    110, 101, 120, 116, 32, 108, 105, 110, 101, 10, 10, 32, 32, 32, 32, 97, 110, 100, 32, 97, 108, 115, 111, 32,
    100, 111, 119, 110, 32, 104, 101, 114, 101, 46, 10, 10, 107, 101, 121, 48, 50, 32, 61, 10, 32, 32, 32, 32, 65,
    32, 109, 117, 108, 116, 105, 108, 105, 110, 101, 32, 118, 97, 108, 117, 101, 32, 115, 116, 97, 114, 116, 105,
    110, 103, 10, 32, 32, 32, 32, 111, 110, 32, 97, 32, 110, 101, 119, 32, 108, 105, 110, 101, 46, 10, 10, 107,
    101, 121, 48, 51, 32, 61, 10, 32, 32, 32, 32, 46, 97, 116, 116, 114, 32, 61, 32, 65, 32, 109, 117, 108, 116,
    105, 108, 105, 110, 101, 32, 97, 116, 116, 114, 105, 98, 117, 116, 101, 32, 118, 97, 108, 117, 101, 10, 32,
    32, 32, 32, 32, 32, 32, 32, 99, 111, 110, 116, 105, 110, 117, 101, 100, 32, 111, 110, 32, 116, 104, 101, 32,
    110, 101, 120, 116, 32, 108, 105, 110, 101, 10, 10, 32, 32, 32, 32, 32, 32, 32, 32, 97, 110, 100, 32, 97, 108,
    115, 111, 32, 100, 111, 119, 110, 32, 104, 101, 114, 101, 46, 10, 10, 107, 101, 121, 48, 52, 32, 61, 10, 32,
    32, 32, 32, 46, 97, 116, 116, 114, 32, 61, 10, 32, 32, 32, 32, 32, 32, 32, 32, 65, 32, 109, 117, 108, 116,
    105, 108, 105, 110, 101, 32, 97, 116, 116, 114, 105, 98, 117, 116, 101, 32, 118, 97, 108, 117, 101, 10, 32,
    32, 32, 32, 32, 32, 32, 32, 115, 116, 97, 114, 105, 110, 103, 32, 111, 110, 32, 97, 32, 110, 101, 119, 32,
    108, 105, 110, 101, 10, 10, 107, 101, 121, 48, 53, 32, 61, 10, 10, 32, 65, 32, 109, 117, 108, 116, 105, 108,
    105, 110, 101, 32, 118, 97, 108, 117, 101, 32, 119, 105, 116, 104, 32, 110, 111, 110, 45, 115, 116, 97, 110,
    100, 97, 114, 100, 10, 10, 32, 32, 32, 32, 32, 105, 110, 100, 101, 110, 116, 97, 116, 105, 111, 110, 46, 10,
    10, 107, 101, 121, 48, 54, 32, 61, 10, 32, 32, 32, 32, 65, 32, 109, 117, 108, 116, 105, 108, 105, 110, 101,
    32, 118, 97, 108, 117, 101, 32, 119, 105, 116, 104, 32, 123, 34, 112, 108, 97, 99, 101, 97, 98, 108, 101, 115,
    34, 125, 10, 32, 32, 32, 32, 123, 34, 97, 116, 34, 125, 32, 116, 104, 101, 32, 98, 101, 103, 105, 110, 110,
    105, 110, 103, 32, 97, 110, 100, 32, 116, 104, 101, 32, 101, 110, 100, 10, 32, 32, 32, 32, 123, 34, 111, 102,
    32, 108, 105, 110, 101, 115, 34, 125, 123, 34, 46, 34, 125, 10, 10, 107, 101, 121, 48, 55, 32, 61, 10, 32, 32,
    32, 32, 123, 34, 65, 32, 109, 117, 108, 116, 105, 108, 105, 110, 101, 32, 118, 97, 108, 117, 101, 34, 125, 32,
    115, 116, 97, 114, 116, 105, 110, 103, 32, 97, 110, 100, 32, 101, 110, 100, 105, 110, 103, 32, 123, 34, 119,
    105, 116, 104, 32, 97, 32, 112, 108, 97, 99, 101, 97, 98, 108, 101, 34, 125, 10, 10, 107, 101, 121, 48, 56,
    32, 61, 32, 32, 32, 32, 32, 76, 101, 97, 100, 105, 110, 103, 32, 97, 110, 100, 32, 116, 114, 97, 105, 108,
    105, 110, 103, 32, 119, 104, 105, 116, 101, 115, 112, 97, 99, 101, 46, 32, 32, 32, 32, 32, 10, 10, 107, 101,
    121, 48, 57, 32, 61, 32, 122, 101, 114, 111, 10, 32, 32, 32, 32, 32, 116, 104, 114, 101, 101, 10, 32, 32, 32,
    32, 116, 119, 111, 10, 32, 32, 32, 111, 110, 101, 10, 32, 32, 122, 101, 114, 111, 10, 10, 107, 101, 121, 49,
    48, 32, 61, 10, 32, 32, 32, 32, 32, 32, 116, 119, 111, 10, 32, 32, 32, 32, 122, 101, 114, 111, 10, 32, 32, 32,
    32, 32, 32, 32, 32, 102, 111, 117, 114, 10, 10, 107, 101, 121, 49, 49, 32, 61, 10, 10, 10, 32, 32, 32, 32, 32,
    32, 116, 119, 111, 10, 32, 32, 32, 32, 122, 101, 114, 111, 10, 10, 107, 101, 121, 49, 50, 32, 61, 10, 123, 34,
    46, 34, 125, 10, 32, 32, 32, 32, 102, 111, 117, 114, 10, 10, 107, 101, 121, 49, 51, 32, 61, 10, 32, 32, 32,
    32, 102, 111, 117, 114, 10, 123, 34, 46, 34, 125, 10]
#guard inClass fixture_multiline_values true == true && inClass fixture_multiline_values false == true

/-- census: `numbers.ftl` — with_junk=true: false, with_junk=false: true -/
def fixture_numbers : Src :=
    #[105, 110, 116, 45, 122, 101, 114, 111, 32, 61, 32, 123, 48, 125, 10, 105, 110, 116, 45, 112, 111, 115, 105,
    116, 105, 118, 101, 32, 61, 32, 123, 49, 125, 10, 105, 110, 116, 45, 110, 101, 103, 97, 116, 105, 118, 101,
    32, 61, 32, 123, 45, 49, 125, 10, 105, 110, 116, 45, 110, 101, 103, 97, 116, 105, 118, 101, 45, 122, 101, 114,
    111, 32, 61, 32, 123, 45, 48, 125, 10, 10, 105, 110, 116, 45, 112, 111, 115, 105, 116, 105, 118, 101, 45, 112,
    97, 100, 100, 101, 100, 32, 61, 32, 123, 48, 49, 125, 10, 105, 110, 116, 45, 110, 101, 103, 97, 116, 105, 118,
    101, 45, 112, 97, 100, 100, 101, 100, 32, 61, 32, 123, 45, 48, 49, 125, 10, 105, 110, 116, 45, 122, 101, 114,
    111, 45, 112, 97, 100, 100, 101, 100, 32, 61, 32, 123, 48, 48, 125, 10, 105, 110, 116, 45, 110, 101, 103, 97,
    116, 105, 118, 101, 45, 122, 101, 114, 111, 45, 112, 97, 100, 100, 101, 100, 32, 61, 32, 123, 45, 48, 48, 125,
    10, 10, 102, 108, 111, 97, 116, 45, 122, 101, 114, 111, 32, 61, 32, 123, 48, 46, 48, 125, 10, 102, 108, 111,
    97, 116, 45, 112, 111, 115, 105, 116, 105, 118, 101, 32, 61, 32, 123, 48, 46, 48, 49, 125, 10, 102, 108, 111,
    97, 116, 45, 112, 111, 115, 105, 116, 105, 118, 101, 45, 111, 110, 101, 32, 61, 32, 123, 49, 46, 48, 51, 125,
    10, 102, 108, 111, 97, 116, 45, 112, 111, 115, 105, 116, 105, 118, 101, 45, 119, 105, 116, 104, 111, 117, 116,
    45, 102, 114, 97, 99, 116, 105, 111, 110, 32, 61, 32, 123, 49, 46, 48, 48, 48, 125, 10, 10, 102, 108, 111, 97,
    116, 45, 110, 101, 103, 97, 116, 105, 118, 101, 32, 61, 32, 123, 45, 48, 46, 48, 49, 125, 10, 102, 108, 111,
    97, 116, 45, 110, 101, 103, 97, 116, 105, 118, 101, 45, 111, 110, 101, 32, 61, 32, 123, 45, 49, 46, 48, 51,
    125, 10, 102, 108, 111, 97, 116, 45, 110, 101, 103, 97, 116, 105, 118, 101, 45, 122, 101, 114, 111, 32, 61,
    32, 123, 45, 48, 46, 48, 125, 10, 102, 108, 111, 97, 116, 45, 110, 101, 103, 97, 116, 105, 118, 101, 45, 119,
    105, 116, 104, 111, 117, 116, 45, 102, 114, 97, 99, 116, 105, 111, 110, 32, 61, 32, 123, 45, 49, 46, 48, 48,
    48, 125, 10, 10, 102, 108, 111, 97, 116, 45, 112, 111, 115, 105, 116, 105, 118, 101, 45, 112, 97, 100, 100,
    101, 100, 45, 108, 101, 102, 116, 32, 61, 32, 123, 48, 49, 46, 48, 51, 125, 10, 102, 108, 111, 97, 116, 45,
    112, 111, 115, 105, 116, 105, 118, 101, 45, 112, 97, 100, 100, 101, 100, 45, 114, 105, 103, 104, 116, 32, 61,
    32, 123, 49, 46, 48, 51, 48, 48, 125, 10, 102, 108, 111, 97, 116, 45, 112, 111, 115, 105, 116, 105, 118, 101,
    45, 112, 97, 100, 100, 101, 100, 45, 98, 111, 116, 104, 32, 61, 32, 123, 48, 49, 46, 48, 51, 48, 48, 125, 10,
    10, 102, 108, 111, 97, 116, 45, 110, 101, 103, 97, 116, 105, 118, 101, 45, 112, 97, 100, 100, 101, 100, 45,
    108, 101, 102, 116, 32, 61, 32, 123, 45, 48, 49, 46, 48, 51, 125, 10, 102, 108, 111, 97, 116, 45, 110, 101,
    103, 97, 116, 105, 118, 101, 45, 112, 97, 100, 100, 101, 100, 45, 114, 105, 103, 104, 116, 32, 61, 32, 123,
    45, 49, 46, 48, 51, 48, 48, 125, 10, 102, 108, 111, 97, 116, 45, 110, 101, 103, 97, 116, 105, 118, 101, 45,
    112, 97, 100, 100, 101, 100, 45, 98, 111, 116, 104, 32, 61, 32, 123, 45, 48, 49, 46, 48, 51, 48, 48, 125, 10,
    10, 10, 35, 35, 32, 69, 82, 82, 79, 82, 83, 10, 10, 101, 114, 114, 48, 49, 32, 61, 32, 123, 49, 46, 125, 10,
    101, 114, 114, 48, 50, 32, 61, 32, 123, 46, 48, 50, 125, 10, 101, 114, 114, 48, 51, 32, 61, 32, 123, 49, 46,
    48, 50, 46, 48, 51, 125, 10, 101, 114, 114, 48, 52, 32, 61, 32, 123, 49, 46, 32, 48, 50, 125, 10, 101, 114,
    114, 48, 53, 32, 61, 32, 123, 49, 32, 46, 48, 50, 125, 10, 101, 114, 114, 48, 54, 32, 61, 32, 123, 45, 32, 49,
    125, 10, 101, 114, 114, 48, 55, 32, 61, 32, 123, 49, 44, 48, 50, 125, 10]
#guard inClass fixture_numbers true == false && inClass fixture_numbers false == true

/-- census: `obsolete.ftl` — with_junk=true: false, with_junk=false: true -/
def fixture_obsolete : Src :=
    #[35, 35, 35, 32, 84, 104, 101, 32, 115, 121, 110, 116, 97, 120, 32, 105, 110, 32, 116, 104, 105, 115, 32,
    102, 105, 108, 101, 32, 104, 97, 115, 32, 98, 101, 101, 110, 32, 100, 105, 115, 99, 111, 110, 116, 105, 110,
    117, 101, 100, 46, 32, 73, 116, 32, 105, 115, 32, 110, 111, 32, 108, 111, 110, 103, 101, 114, 32, 112, 97,
    114, 116, 32, 111, 102, 32, 116, 104, 101, 10, 35, 35, 35, 32, 70, 108, 117, 101, 110, 116, 32, 115, 112, 101,
    99, 105, 102, 105, 99, 97, 116, 105, 111, 110, 32, 97, 110, 100, 32, 115, 104, 111, 117, 108, 100, 32, 110,
    111, 116, 32, 98, 101, 32, 105, 109, 112, 108, 101, 109, 101, 110, 116, 101, 100, 32, 110, 111, 114, 32, 117,
    115, 101, 100, 46, 32, 87, 101, 39, 114, 101, 32, 107, 101, 101, 112, 105, 110, 103, 10, 35, 35, 35, 32, 116,
    104, 101, 115, 101, 32, 102, 105, 120, 116, 117, 114, 101, 115, 32, 97, 114, 111, 117, 110, 100, 32, 116, 111,
    32, 112, 114, 111, 116, 101, 99, 116, 32, 97, 103, 97, 105, 110, 115, 116, 32, 97, 99, 99, 105, 100, 101, 110,
    116, 97, 108, 32, 115, 121, 110, 116, 97, 120, 32, 114, 101, 117, 115, 101, 46, 10, 10, 10, 35, 35, 32, 86,
    97, 114, 105, 97, 110, 116, 32, 108, 105, 115, 116, 115, 46, 10, 10, 109, 101, 115, 115, 97, 103, 101, 45,
    118, 97, 114, 105, 97, 110, 116, 45, 108, 105, 115, 116, 32, 61, 10, 32, 32, 32, 32, 123, 10, 32, 32, 32, 32,
    32, 32, 32, 42, 91, 107, 101, 121, 93, 32, 86, 97, 108, 117, 101, 10, 32, 32, 32, 32, 125, 10, 10, 45, 116,
    101, 114, 109, 45, 118, 97, 114, 105, 97, 110, 116, 45, 108, 105, 115, 116, 32, 61, 10, 32, 32, 32, 32, 123,
    10, 32, 32, 32, 32, 32, 32, 32, 42, 91, 107, 101, 121, 93, 32, 86, 97, 108, 117, 101, 10, 32, 32, 32, 32, 125,
    10, 10, 10, 35, 35, 32, 86, 97, 114, 105, 97, 110, 116, 32, 101, 120, 112, 114, 101, 115, 115, 105, 111, 110,
    115, 46, 10, 10, 109, 101, 115, 115, 97, 103, 101, 45, 118, 97, 114, 105, 97, 110, 116, 45, 101, 120, 112,
    114, 101, 115, 115, 105, 111, 110, 45, 112, 108, 97, 99, 101, 97, 98, 108, 101, 32, 61, 32, 123, 109, 115,
    103, 91, 99, 97, 115, 101, 93, 125, 10, 109, 101, 115, 115, 97, 103, 101, 45, 118, 97, 114, 105, 97, 110, 116,
    45, 101, 120, 112, 114, 101, 115, 115, 105, 111, 110, 45, 115, 101, 108, 101, 99, 116, 111, 114, 32, 61, 32,
    123, 109, 115, 103, 91, 99, 97, 115, 101, 93, 32, 45, 62, 10, 32, 32, 32, 42, 91, 107, 101, 121, 93, 32, 86,
    97, 108, 117, 101, 10, 125, 10, 10, 116, 101, 114, 109, 45, 118, 97, 114, 105, 97, 110, 116, 45, 101, 120,
    112, 114, 101, 115, 115, 105, 111, 110, 45, 112, 108, 97, 99, 101, 97, 98, 108, 101, 32, 61, 32, 123, 45, 116,
    101, 114, 109, 91, 99, 97, 115, 101, 93, 125, 10, 116, 101, 114, 109, 45, 118, 97, 114, 105, 97, 110, 116, 45,
    101, 120, 112, 114, 101, 115, 115, 105, 111, 110, 45, 115, 101, 108, 101, 99, 116, 111, 114, 32, 61, 32, 123,
    45, 116, 101, 114, 109, 91, 99, 97, 115, 101, 93, 32, 45, 62, 10, 32, 32, 32, 42, 91, 107, 101, 121, 93, 32,
    86, 97, 108, 117, 101, 10, 125, 10]
#guard inClass fixture_obsolete true == false && inClass fixture_obsolete false == true

/-- census: `placeables.ftl` — with_junk=true: false, with_junk=false: true -/
def fixture_placeables : Src :=
    #[110, 101, 115, 116, 101, 100, 45, 112, 108, 97, 99, 101, 97, 98, 108, 101, 32, 61, 32, 123, 123, 123, 49,
    125, 125, 125, 10, 112, 97, 100, 100, 101, 100, 45, 112, 108, 97, 99, 101, 97, 98, 108, 101, 32, 61, 32, 123,
    32, 32, 49, 32, 32, 125, 10, 115, 112, 97, 114, 115, 101, 45, 112, 108, 97, 99, 101, 97, 98, 108, 101, 32, 61,
    32, 123, 32, 123, 32, 49, 32, 125, 32, 125, 10, 10, 35, 32, 69, 82, 82, 79, 82, 32, 85, 110, 109, 97, 116, 99,
    104, 101, 100, 32, 111, 112, 101, 110, 105, 110, 103, 32, 98, 114, 97, 99, 101, 10, 117, 110, 109, 97, 116,
    99, 104, 101, 100, 45, 111, 112, 101, 110, 49, 32, 61, 32, 123, 32, 49, 10, 10, 35, 32, 69, 82, 82, 79, 82,
    32, 85, 110, 109, 97, 116, 99, 104, 101, 100, 32, 111, 112, 101, 110, 105, 110, 103, 32, 98, 114, 97, 99, 101,
    10, 117, 110, 109, 97, 116, 99, 104, 101, 100, 45, 111, 112, 101, 110, 50, 32, 61, 32, 123, 123, 32, 49, 32,
    125, 10, 10, 35, 32, 69, 82, 82, 79, 82, 32, 85, 110, 109, 97, 116, 99, 104, 101, 100, 32, 99, 108, 111, 115,
    105, 110, 103, 32, 98, 114, 97, 99, 101, 10, 117, 110, 109, 97, 116, 99, 104, 101, 100, 45, 99, 108, 111, 115,
    101, 49, 32, 61, 32, 49, 32, 125, 10, 10, 35, 32, 69, 82, 82, 79, 82, 32, 85, 110, 109, 97, 116, 99, 104, 101,
    100, 32, 99, 108, 111, 115, 105, 110, 103, 32, 98, 114, 97, 99, 101, 10, 117, 110, 109, 97, 116, 99, 104, 101,
    100, 45, 99, 108, 111, 115, 101, 50, 32, 61, 32, 123, 32, 49, 32, 125, 125, 10]
#guard inClass fixture_placeables true == false && inClass fixture_placeables false == true

/-- census: `reference_expressions.ftl` — with_junk=true: false, with_junk=false: true -/
def fixture_reference_expressions : Src :=
    #[35, 35, 32, 82, 101, 102, 101, 114, 101, 110, 99, 101, 32, 101, 120, 112, 114, 101, 115, 115, 105, 111, 110,
    115, 32, 105, 110, 32, 112, 108, 97, 99, 101, 97, 98, 108, 101, 115, 46, 10, 10, 109, 101, 115, 115, 97, 103,
    101, 45, 114, 101, 102, 101, 114, 101, 110, 99, 101, 45, 112, 108, 97, 99, 101, 97, 98, 108, 101, 32, 61, 32,
    123, 109, 115, 103, 125, 10, 116, 101, 114, 109, 45, 114, 101, 102, 101, 114, 101, 110, 99, 101, 45, 112, 108,
    97, 99, 101, 97, 98, 108, 101, 32, 61, 32, 123, 45, 116, 101, 114, 109, 125, 10, 118, 97, 114, 105, 97, 98,
    108, 101, 45, 114, 101, 102, 101, 114, 101, 110, 99, 101, 45, 112, 108, 97, 99, 101, 97, 98, 108, 101, 32, 61,
    32, 123, 36, 118, 97, 114, 125, 10, 10, 35, 32, 70, 117, 110, 99, 116, 105, 111, 110, 32, 114, 101, 102, 101,
    114, 101, 110, 99, 101, 115, 32, 97, 114, 101, 32, 105, 110, 118, 97, 108, 105, 100, 32, 111, 117, 116, 115,
    105, 100, 101, 32, 111, 102, 32, 99, 97, 108, 108, 32, 101, 120, 112, 114, 101, 115, 115, 105, 111, 110, 115,
    46, 10, 35, 32, 84, 104, 105, 115, 32, 112, 97, 114, 115, 101, 115, 32, 97, 115, 32, 97, 32, 118, 97, 108,
    105, 100, 32, 77, 101, 115, 115, 97, 103, 101, 82, 101, 102, 101, 114, 101, 110, 99, 101, 46, 10, 102, 117,
    110, 99, 116, 105, 111, 110, 45, 114, 101, 102, 101, 114, 101, 110, 99, 101, 45, 112, 108, 97, 99, 101, 97,
    98, 108, 101, 32, 61, 32, 123, 70, 85, 78, 125, 10, 10, 10, 35, 35, 32, 82, 101, 102, 101, 114, 101, 110, 99,
    101, 32, 101, 120, 112, 114, 101, 115, 115, 105, 111, 110, 115, 32, 105, 110, 32, 115, 101, 108, 101, 99, 116,
    111, 114, 115, 46, 10, 10, 118, 97, 114, 105, 97, 98, 108, 101, 45, 114, 101, 102, 101, 114, 101, 110, 99,
    101, 45, 115, 101, 108, 101, 99, 116, 111, 114, 32, 61, 32, 123, 36, 118, 97, 114, 32, 45, 62, 10, 32, 32, 32,
    42, 91, 107, 101, 121, 93, 32, 86, 97, 108, 117, 101, 10, 125, 10, 10, 35, 32, 69, 82, 82, 79, 82, 32, 77,
    101, 115, 115, 97, 103, 101, 32, 118, 97, 108, 117, 101, 115, 32, 109, 97, 121, 32, 110, 111, 116, 32, 98,
    101, 32, 117, 115, 101, 100, 32, 97, 115, 32, 115, 101, 108, 101, 99, 116, 111, 114, 115, 46, 10, 109, 101,
    115, 115, 97, 103, 101, 45, 114, 101, 102, 101, 114, 101, 110, 99, 101, 45, 115, 101, 108, 101, 99, 116, 111,
    114, 32, 61, 32, 123, 109, 115, 103, 32, 45, 62, 10, 32, 32, 32, 42, 91, 107, 101, 121, 93, 32, 86, 97, 108,
    117, 101, 10, 125, 10, 35, 32, 69, 82, 82, 79, 82, 32, 84, 101, 114, 109, 32, 118, 97, 108, 117, 101, 115, 32,
    109, 97, 121, 32, 110, 111, 116, 32, 98, 101, 32, 117, 115, 101, 100, 32, 97, 115, 32, 115, 101, 108, 101, 99,
    116, 111, 114, 115, 46, 10, 116, 101, 114, 109, 45, 114, 101, 102, 101, 114, 101, 110, 99, 101, 45, 115, 101,
    108, 101, 99, 116, 111, 114, 32, 61, 32, 123, 45, 116, 101, 114, 109, 32, 45, 62, 10, 32, 32, 32, 42, 91, 107,
    101, 121, 93, 32, 86, 97, 108, 117, 101, 10, 125, 10, 35, 32, 69, 82, 82, 79, 82, 32, 70, 117, 110, 99, 116,
    105, 111, 110, 32, 114, 101, 102, 101, 114, 101, 110, 99, 101, 115, 32, 97, 114, 101, 32, 105, 110, 118, 97,
    108, 105, 100, 32, 111, 117, 116, 115, 105, 100, 101, 32, 111, 102, 32, 99, 97, 108, 108, 32, 101, 120, 112,
    114, 101, 115, 115, 105, 111, 110, 115, 44, 32, 97, 110, 100, 32, 116, 104, 105, 115, 10, 35, 32, 112, 97,
    114, 115, 101, 115, 32, 97, 115, 32, 97, 32, 77, 101, 115, 115, 97, 103, 101, 82, 101, 102, 101, 114, 101,
    110, 99, 101, 32, 119, 104, 105, 99, 104, 32, 105, 115, 110, 39, 116, 32, 97, 32, 118, 97, 108, 105, 100, 32,
    115, 101, 108, 101, 99, 116, 111, 114, 46, 10, 102, 117, 110, 99, 116, 105, 111, 110, 45, 101, 120, 112, 114,
    101, 115, 115, 105, 111, 110, 45, 115, 101, 108, 101, 99, 116, 111, 114, 32, 61, 32, 123, 70, 85, 78, 32, 45,
    62, 10, 32, 32, 32, 42, 91, 107, 101, 121, 93, 32, 86, 97, 108, 117, 101, 10, 125, 10]
#guard inClass fixture_reference_expressions true == false && inClass fixture_reference_expressions false == true

/-- census: `select_expressions.ftl` — with_junk=true: false, with_junk=false: true -/
def fixture_select_expressions : Src :=
    #[110, 101, 119, 45, 109, 101, 115, 115, 97, 103, 101, 115, 32, 61, 10, 32, 32, 32, 32, 123, 32, 66, 85, 73,
    76, 84, 73, 78, 40, 41, 32, 45, 62, 10, 32, 32, 32, 32, 32, 32, 32, 32, 91, 48, 93, 32, 90, 101, 114, 111, 10,
    32, 32, 32, 32, 32, 32, 32, 42, 91, 111, 116, 104, 101, 114, 93, 32, 123, 34, 34, 125, 79, 116, 104, 101, 114,
    10, 32, 32, 32, 32, 125, 10, 10, 118, 97, 108, 105, 100, 45, 115, 101, 108, 101, 99, 116, 111, 114, 45, 116,
    101, 114, 109, 45, 97, 116, 116, 114, 105, 98, 117, 116, 101, 32, 61, 10, 32, 32, 32, 32, 123, 32, 45, 116,
    101, 114, 109, 46, 99, 97, 115, 101, 32, 45, 62, 10, 32, 32, 32, 32, 32, 32, 32, 42, 91, 107, 101, 121, 93,
    32, 118, 97, 108, 117, 101, 10, 32, 32, 32, 32, 125, 10, 10, 35, 32, 69, 82, 82, 79, 82, 32, 84, 101, 114,
    109, 32, 118, 97, 108, 117, 101, 115, 32, 97, 114, 101, 32, 110, 111, 116, 32, 118, 97, 108, 105, 100, 32,
    115, 101, 108, 101, 99, 116, 111, 114, 115, 10, 105, 110, 118, 97, 108, 105, 100, 45, 115, 101, 108, 101, 99,
    116, 111, 114, 45, 116, 101, 114, 109, 45, 118, 97, 108, 117, 101, 32, 61, 10, 32, 32, 32, 32, 123, 32, 45,
    116, 101, 114, 109, 32, 45, 62, 10, 32, 32, 32, 32, 32, 32, 32, 42, 91, 107, 101, 121, 93, 32, 118, 97, 108,
    117, 101, 10, 32, 32, 32, 32, 125, 10, 10, 35, 32, 69, 82, 82, 79, 82, 32, 67, 97, 108, 108, 69, 120, 112,
    114, 101, 115, 115, 105, 111, 110, 115, 32, 111, 110, 32, 84, 101, 114, 109, 115, 32, 97, 114, 101, 32, 115,
    105, 109, 105, 108, 97, 114, 32, 116, 111, 32, 84, 101, 114, 109, 82, 101, 102, 101, 114, 101, 110, 99, 101,
    115, 10, 105, 110, 118, 97, 108, 105, 100, 45, 115, 101, 108, 101, 99, 116, 111, 114, 45, 116, 101, 114, 109,
    45, 118, 97, 114, 105, 97, 110, 116, 32, 61, 10, 32, 32, 32, 32, 123, 32, 45, 116, 101, 114, 109, 40, 99, 97,
    115, 101, 58, 32, 34, 110, 111, 109, 105, 110, 97, 116, 105, 118, 101, 34, 41, 32, 45, 62, 10, 32, 32, 32, 32,
    32, 32, 32, 42, 91, 107, 101, 121, 93, 32, 118, 97, 108, 117, 101, 10, 32, 32, 32, 32, 125, 10, 10, 35, 32,
    69, 82, 82, 79, 82, 32, 78, 101, 115, 116, 101, 100, 32, 101, 120, 112, 114, 101, 115, 115, 105, 111, 110,
    115, 32, 97, 114, 101, 32, 110, 111, 116, 32, 118, 97, 108, 105, 100, 32, 115, 101, 108, 101, 99, 116, 111,
    114, 115, 10, 105, 110, 118, 97, 108, 105, 100, 45, 115, 101, 108, 101, 99, 116, 111, 114, 45, 110, 101, 115,
    116, 101, 100, 45, 101, 120, 112, 114, 101, 115, 115, 105, 111, 110, 32, 61, 10, 32, 32, 32, 32, 123, 32, 123,
    32, 51, 32, 125, 32, 45, 62, 10, 32, 32, 32, 32, 32, 32, 32, 32, 42, 91, 107, 101, 121, 93, 32, 100, 101, 102,
    97, 117, 108, 116, 10, 32, 32, 32, 32, 125, 10, 10, 35, 32, 69, 82, 82, 79, 82, 32, 83, 101, 108, 101, 99,
    116, 32, 101, 120, 112, 114, 101, 115, 115, 105, 111, 110, 115, 32, 97, 114, 101, 32, 110, 111, 116, 32, 118,
    97, 108, 105, 100, 32, 115, 101, 108, 101, 99, 116, 111, 114, 115, 10, 105, 110, 118, 97, 108, 105, 100, 45,
    115, 101, 108, 101, 99, 116, 111, 114, 45, 115, 101, 108, 101, 99, 116, 45, 101, 120, 112, 114, 101, 115, 115,
    105, 111, 110, 32, 61, 10, 32, 32, 32, 32, 123, 32, 123, 32, 36, 115, 101, 108, 32, 45, 62, 10, 32, 32, 32,
    32, 32, 32, 32, 32, 42, 91, 107, 101, 121, 93, 32, 118, 97, 108, 117, 101, 10, 32, 32, 32, 32, 32, 32, 32, 32,
    125, 32, 45, 62, 10, 32, 32, 32, 32, 32, 32, 32, 32, 42, 91, 107, 101, 121, 93, 32, 100, 101, 102, 97, 117,
    108, 116, 10, 32, 32, 32, 32, 125, 10, 10, 101, 109, 112, 116, 121, 45, 118, 97, 114, 105, 97, 110, 116, 32,
    61, 10, 32, 32, 32, 32, 123, 32, 36, 115, 101, 108, 32, 45, 62, 10, 32, 32, 32, 32, 32, 32, 32, 42, 91, 107,
    101, 121, 93, 32, 123, 34, 34, 125, 10, 32, 32, 32, 32, 125, 10, 10, 114, 101, 100, 117, 99, 101, 100, 45,
    119, 104, 105, 116, 101, 115, 112, 97, 99, 101, 32, 61, 10, 32, 32, 32, 32, 123, 70, 79, 79, 40, 41, 45, 62,
    10, 32, 32, 32, 32, 32, 32, 32, 42, 91, 107, 101, 121, 93, 32, 123, 34, 34, 125, 10, 32, 32, 32, 32, 125, 10,
    10, 110, 101, 115, 116, 101, 100, 45, 115, 101, 108, 101, 99, 116, 32, 61, 10, 32, 32, 32, 32, 123, 32, 36,
    115, 101, 108, 32, 45, 62, 10, 32, 32, 32, 32, 32, 32, 32, 42, 91, 111, 110, 101, 93, 32, 123, 32, 36, 115,
    101, 108, 32, 45, 62, 10, 32, 32, 32, 32, 32, 32, 32, 32, 32, 32, 42, 91, 116, 119, 111, 93, 32, 86, 97, 108,
    117, 101, 10, 32, 32, 32, 32, 32, 32, 32, 125, 10, 32, 32, 32, 32, 125, 10, 10, 35, 32, 69, 82, 82, 79, 82,
    32, 77, 105, 115, 115, 105, 110, 103, 32, 115, 101, 108, 101, 99, 116, 111, 114, 10, 109, 105, 115, 115, 105,
    110, 103, 45, 115, 101, 108, 101, 99, 116, 111, 114, 32, 61, 10, 32, 32, 32, 32, 123, 10, 32, 32, 32, 32, 32,
    32, 32, 42, 91, 107, 101, 121, 93, 32, 86, 97, 108, 117, 101, 10, 32, 32, 32, 32, 125, 10, 10, 35, 32, 69, 82,
    82, 79, 82, 32, 77, 105, 115, 115, 105, 110, 103, 32, 108, 105, 110, 101, 32, 101, 110, 100, 32, 97, 102, 116,
    101, 114, 32, 118, 97, 114, 105, 97, 110, 116, 32, 108, 105, 115, 116, 10, 109, 105, 115, 115, 105, 110, 103,
    45, 108, 105, 110, 101, 45, 101, 110, 100, 32, 61, 10, 32, 32, 32, 32, 123, 32, 36, 115, 101, 108, 32, 45, 62,
    10, 32, 32, 32, 32, 32, 32, 32, 32, 42, 91, 107, 101, 121, 93, 32, 86, 97, 108, 117, 101, 125, 10]
#guard inClass fixture_select_expressions true == false && inClass fixture_select_expressions false == true

/-- census: `select_indent.ftl` — with_junk=true: false, with_junk=false: true -/
def fixture_select_indent : Src :=
    #[115, 101, 108, 101, 99, 116, 45, 49, 116, 98, 115, 45, 105, 110, 108, 105, 110, 101, 32, 61, 32, 123, 32,
    36, 115, 101, 108, 101, 99, 116, 111, 114, 32, 45, 62, 10, 32, 32, 32, 42, 91, 107, 101, 121, 93, 32, 86, 97,
    108, 117, 101, 10, 125, 10, 10, 115, 101, 108, 101, 99, 116, 45, 49, 116, 98, 115, 45, 110, 101, 119, 108,
    105, 110, 101, 32, 61, 32, 123, 10, 36, 115, 101, 108, 101, 99, 116, 111, 114, 32, 45, 62, 10, 32, 32, 32, 42,
    91, 107, 101, 121, 93, 32, 86, 97, 108, 117, 101, 10, 125, 10, 10, 115, 101, 108, 101, 99, 116, 45, 49, 116,
    98, 115, 45, 105, 110, 100, 101, 110, 116, 32, 61, 32, 123, 10, 32, 32, 32, 32, 36, 115, 101, 108, 101, 99,
    116, 111, 114, 32, 45, 62, 10, 32, 32, 32, 42, 91, 107, 101, 121, 93, 32, 86, 97, 108, 117, 101, 10, 125, 10,
    10, 115, 101, 108, 101, 99, 116, 45, 97, 108, 108, 109, 97, 110, 45, 105, 110, 108, 105, 110, 101, 32, 61, 10,
    123, 32, 36, 115, 101, 108, 101, 99, 116, 111, 114, 32, 45, 62, 10, 32, 32, 32, 42, 91, 107, 101, 121, 93, 32,
    86, 97, 108, 117, 101, 10, 32, 32, 32, 32, 91, 111, 116, 104, 101, 114, 93, 32, 79, 116, 104, 101, 114, 10,
    125, 10, 10, 115, 101, 108, 101, 99, 116, 45, 97, 108, 108, 109, 97, 110, 45, 110, 101, 119, 108, 105, 110,
    101, 32, 61, 10, 123, 10, 36, 115, 101, 108, 101, 99, 116, 111, 114, 32, 45, 62, 10, 32, 32, 32, 42, 91, 107,
    101, 121, 93, 32, 86, 97, 108, 117, 101, 10, 125, 10, 10, 115, 101, 108, 101, 99, 116, 45, 97, 108, 108, 109,
    97, 110, 45, 105, 110, 100, 101, 110, 116, 32, 61, 10, 123, 10, 32, 32, 32, 32, 36, 115, 101, 108, 101, 99,
    116, 111, 114, 32, 45, 62, 10, 32, 32, 32, 42, 91, 107, 101, 121, 93, 32, 86, 97, 108, 117, 101, 10, 125, 10,
    10, 115, 101, 108, 101, 99, 116, 45, 103, 110, 117, 45, 105, 110, 108, 105, 110, 101, 32, 61, 10, 32, 32, 32,
    123, 32, 36, 115, 101, 108, 101, 99, 116, 111, 114, 32, 45, 62, 10, 32, 32, 32, 32, 32, 32, 42, 91, 107, 101,
    121, 93, 32, 86, 97, 108, 117, 101, 10, 32, 32, 32, 125, 10, 10, 115, 101, 108, 101, 99, 116, 45, 103, 110,
    117, 45, 110, 101, 119, 108, 105, 110, 101, 32, 61, 10, 32, 32, 32, 123, 10, 36, 115, 101, 108, 101, 99, 116,
    111, 114, 32, 45, 62, 10, 32, 32, 32, 32, 32, 32, 42, 91, 107, 101, 121, 93, 32, 86, 97, 108, 117, 101, 10,
    32, 32, 32, 125, 10, 10, 115, 101, 108, 101, 99, 116, 45, 103, 110, 117, 45, 105, 110, 100, 101, 110, 116, 32,
    61, 10, 32, 32, 32, 123, 10, 32, 32, 32, 32, 32, 32, 32, 36, 115, 101, 108, 101, 99, 116, 111, 114, 32, 45,
    62, 10, 32, 32, 32, 32, 32, 32, 42, 91, 107, 101, 121, 93, 32, 86, 97, 108, 117, 101, 10, 32, 32, 32, 125, 10,
    10, 115, 101, 108, 101, 99, 116, 45, 110, 111, 45, 105, 110, 100, 101, 110, 116, 32, 61, 10, 123, 10, 36, 115,
    101, 108, 101, 99, 116, 111, 114, 32, 45, 62, 10, 42, 91, 107, 101, 121, 93, 32, 86, 97, 108, 117, 101, 10,
    91, 111, 116, 104, 101, 114, 93, 32, 79, 116, 104, 101, 114, 10, 125, 10, 10, 115, 101, 108, 101, 99, 116, 45,
    110, 111, 45, 105, 110, 100, 101, 110, 116, 45, 109, 117, 108, 116, 105, 108, 105, 110, 101, 32, 61, 10, 123,
    10, 36, 115, 101, 108, 101, 99, 116, 111, 114, 32, 45, 62, 10, 42, 91, 107, 101, 121, 93, 32, 86, 97, 108,
    117, 101, 10, 32, 32, 32, 32, 32, 32, 32, 67, 111, 110, 116, 105, 110, 117, 101, 100, 10, 91, 111, 116, 104,
    101, 114, 93, 10, 32, 32, 32, 32, 79, 116, 104, 101, 114, 10, 32, 32, 32, 32, 77, 117, 108, 116, 105, 108,
    105, 110, 101, 10, 125, 10, 10, 35, 32, 69, 82, 82, 79, 82, 32, 40, 77, 117, 108, 116, 105, 108, 105, 110,
    101, 32, 116, 101, 120, 116, 32, 109, 117, 115, 116, 32, 98, 101, 32, 105, 110, 100, 101, 110, 116, 101, 100,
    41, 10, 115, 101, 108, 101, 99, 116, 45, 110, 111, 45, 105, 110, 100, 101, 110, 116, 45, 109, 117, 108, 116,
    105, 108, 105, 110, 101, 32, 61, 32, 123, 32, 36, 115, 101, 108, 101, 99, 116, 111, 114, 32, 45, 62, 10, 32,
    32, 32, 42, 91, 107, 101, 121, 93, 32, 86, 97, 108, 117, 101, 10, 67, 111, 110, 116, 105, 110, 117, 101, 100,
    32, 119, 105, 116, 104, 111, 117, 116, 32, 105, 110, 100, 101, 110, 116, 46, 10, 125, 10, 10, 115, 101, 108,
    101, 99, 116, 45, 102, 108, 97, 116, 32, 61, 10, 123, 10, 36, 115, 101, 108, 101, 99, 116, 111, 114, 10, 45,
    62, 10, 42, 91, 10, 107, 101, 121, 10, 93, 32, 86, 97, 108, 117, 101, 10, 91, 10, 111, 116, 104, 101, 114, 10,
    93, 32, 79, 116, 104, 101, 114, 10, 125, 10, 10, 35, 32, 69, 97, 99, 104, 32, 108, 105, 110, 101, 32, 101,
    110, 100, 115, 32, 119, 105, 116, 104, 32, 53, 32, 115, 112, 97, 99, 101, 115, 46, 10, 115, 101, 108, 101, 99,
    116, 45, 102, 108, 97, 116, 45, 119, 105, 116, 104, 45, 116, 114, 97, 105, 108, 105, 110, 103, 45, 115, 112,
    97, 99, 101, 115, 32, 61, 10, 123, 32, 32, 32, 32, 32, 10, 36, 115, 101, 108, 101, 99, 116, 111, 114, 32, 32,
    32, 32, 32, 10, 45, 62, 32, 32, 32, 32, 32, 10, 42, 91, 32, 32, 32, 32, 32, 10, 107, 101, 121, 32, 32, 32, 32,
    32, 10, 93, 32, 86, 97, 108, 117, 101, 32, 32, 32, 32, 32, 10, 91, 32, 32, 32, 32, 32, 10, 111, 116, 104, 101,
    114, 32, 32, 32, 32, 32, 10, 93, 32, 79, 116, 104, 101, 114, 32, 32, 32, 32, 32, 10, 125, 32, 32, 32, 32, 32,
    10]
#guard inClass fixture_select_indent true == false && inClass fixture_select_indent false == true

/-- census: `sparse_entries.ftl` — with_junk=true: true, with_junk=false: true -/
def fixture_sparse_entries : Src :=
    #[107, 101, 121, 48, 49, 32, 61, 10, 10, 10, 32, 32, 32, 32, 86, 97, 108, 117, 101, 10, 10, 107, 101, 121, 48,
    50, 32, 61, 10, 10, 10, 32, 32, 32, 32, 46, 97, 116, 116, 114, 32, 61, 32, 65, 116, 116, 114, 105, 98, 117,
    116, 101, 10, 10, 10, 107, 101, 121, 48, 51, 32, 61, 10, 32, 32, 32, 32, 86, 97, 108, 117, 101, 10, 32, 32,
    32, 32, 67, 111, 110, 116, 105, 110, 117, 101, 100, 10, 10, 10, 32, 32, 32, 32, 79, 118, 101, 114, 32, 109,
    117, 108, 116, 105, 112, 108, 101, 10, 32, 32, 32, 32, 76, 105, 110, 101, 115, 10, 10, 10, 10, 32, 32, 32, 32,
    46, 97, 116, 116, 114, 32, 61, 32, 65, 116, 116, 114, 105, 98, 117, 116, 101, 10, 10, 10, 107, 101, 121, 48,
    53, 32, 61, 32, 32, 32, 32, 32, 32, 32, 32, 32, 32, 32, 32, 32, 32, 32, 32, 32, 32, 32, 32, 32, 86, 97, 108,
    117, 101, 10, 10, 107, 101, 121, 48, 54, 32, 61, 32, 123, 32, 49, 32, 45, 62, 10, 10, 10, 32, 32, 32, 32, 32,
    32, 32, 32, 32, 91, 111, 110, 101, 93, 32, 79, 110, 101, 10, 10, 10, 10, 10, 32, 32, 32, 32, 32, 32, 32, 32,
    42, 91, 116, 119, 111, 93, 32, 84, 119, 111, 10, 10, 10, 10, 32, 32, 32, 32, 125, 10]
#guard inClass fixture_sparse_entries true == true && inClass fixture_sparse_entries false == true

/-- census: `special_chars.ftl` — with_junk=true: false, with_junk=false: true -/
def fixture_special_chars : Src :=
    #[35, 35, 32, 79, 75, 10, 10, 98, 114, 97, 99, 107, 101, 116, 45, 105, 110, 108, 105, 110, 101, 32, 61, 32,
    91, 86, 97, 108, 117, 101, 93, 10, 100, 111, 116, 45, 105, 110, 108, 105, 110, 101, 32, 61, 32, 46, 86, 97,
    108, 117, 101, 10, 115, 116, 97, 114, 45, 105, 110, 108, 105, 110, 101, 32, 61, 32, 42, 86, 97, 108, 117, 101,
    10, 10, 35, 35, 32, 69, 82, 82, 79, 82, 83, 10, 10, 98, 114, 97, 99, 107, 101, 116, 45, 110, 101, 119, 108,
    105, 110, 101, 32, 61, 10, 32, 32, 32, 32, 91, 86, 97, 108, 117, 101, 93, 10, 100, 111, 116, 45, 110, 101,
    119, 108, 105, 110, 101, 32, 61, 10, 32, 32, 32, 32, 46, 86, 97, 108, 117, 101, 10, 115, 116, 97, 114, 45,
    110, 101, 119, 108, 105, 110, 101, 32, 61, 10, 32, 32, 32, 32, 42, 86, 97, 108, 117, 101, 10]
#guard inClass fixture_special_chars true == false && inClass fixture_special_chars false == true
example : (inClass fixture_special_chars true == false && inClass fixture_special_chars false == true) = true := by decide +kernel

/-- census: `tab.ftl` — with_junk=true: false, with_junk=false: true -/
def fixture_tab : Src :=
    #[35, 32, 79, 75, 32, 40, 116, 97, 98, 32, 97, 102, 116, 101, 114, 32, 61, 32, 105, 115, 32, 112, 97, 114,
    116, 32, 111, 102, 32, 116, 104, 101, 32, 118, 97, 108, 117, 101, 41, 10, 107, 101, 121, 48, 49, 32, 61, 9,
    86, 97, 108, 117, 101, 32, 48, 49, 10, 10, 35, 32, 69, 114, 114, 111, 114, 32, 40, 116, 97, 98, 32, 98, 101,
    102, 111, 114, 101, 32, 61, 41, 10, 107, 101, 121, 48, 50, 9, 61, 32, 86, 97, 108, 117, 101, 32, 48, 50, 10,
    10, 35, 32, 69, 114, 114, 111, 114, 32, 40, 116, 97, 98, 32, 105, 115, 32, 110, 111, 116, 32, 97, 32, 118, 97,
    108, 105, 100, 32, 105, 110, 100, 101, 110, 116, 41, 10, 107, 101, 121, 48, 51, 32, 61, 10, 9, 84, 104, 105,
    115, 32, 108, 105, 110, 101, 32, 105, 115, 110, 39, 116, 32, 112, 114, 111, 112, 101, 114, 108, 121, 32, 105,
    110, 100, 101, 110, 116, 101, 100, 46, 10, 10, 35, 32, 80, 97, 114, 116, 105, 97, 108, 32, 69, 114, 114, 111,
    114, 32, 40, 116, 97, 98, 32, 105, 115, 32, 110, 111, 116, 32, 97, 32, 118, 97, 108, 105, 100, 32, 105, 110,
    100, 101, 110, 116, 41, 10, 107, 101, 121, 48, 52, 32, 61, 10, 32, 32, 32, 32, 84, 104, 105, 115, 32, 108,
    105, 110, 101, 32, 105, 115, 32, 105, 110, 100, 101, 110, 116, 101, 100, 32, 98, 121, 32, 52, 32, 115, 112,
    97, 99, 101, 115, 44, 10, 9, 119, 104, 101, 114, 101, 97, 115, 32, 116, 104, 105, 115, 32, 108, 105, 110, 101,
    32, 98, 121, 32, 49, 32, 116, 97, 98, 46, 10, 10, 35, 32, 79, 75, 32, 40, 118, 97, 108, 117, 101, 32, 105,
    115, 32, 97, 32, 115, 105, 110, 103, 108, 101, 32, 116, 97, 98, 41, 10, 107, 101, 121, 48, 53, 32, 61, 32, 9,
    10, 10, 35, 32, 79, 75, 32, 40, 97, 116, 116, 114, 105, 98, 117, 116, 101, 32, 118, 97, 108, 117, 101, 32,
    105, 115, 32, 116, 119, 111, 32, 116, 97, 98, 115, 41, 10, 107, 101, 121, 48, 54, 32, 61, 10, 32, 32, 46, 97,
    116, 116, 114, 32, 61, 32, 9, 9, 10]
#guard inClass fixture_tab true == false && inClass fixture_tab false == true

/-- census: `term_parameters.ftl` — with_junk=true: true, with_junk=false: true -/
def fixture_term_parameters : Src :=
    #[45, 116, 101, 114, 109, 32, 61, 32, 123, 32, 36, 97, 114, 103, 32, 45, 62, 10, 32, 32, 32, 42, 91, 107, 101,
    121, 93, 32, 86, 97, 108, 117, 101, 10, 125, 10, 10, 107, 101, 121, 48, 49, 32, 61, 32, 123, 32, 45, 116, 101,
    114, 109, 32, 125, 10, 107, 101, 121, 48, 50, 32, 61, 32, 123, 32, 45, 116, 101, 114, 109, 32, 40, 41, 32,
    125, 10, 107, 101, 121, 48, 51, 32, 61, 32, 123, 32, 45, 116, 101, 114, 109, 40, 97, 114, 103, 58, 32, 49, 41,
    32, 125, 10, 107, 101, 121, 48, 52, 32, 61, 32, 123, 32, 45, 116, 101, 114, 109, 40, 34, 112, 111, 115, 105,
    116, 105, 111, 110, 97, 108, 34, 44, 32, 110, 97, 114, 103, 49, 58, 32, 49, 44, 32, 110, 97, 114, 103, 50, 58,
    32, 50, 41, 32, 125, 10]
#guard inClass fixture_term_parameters true == true && inClass fixture_term_parameters false == true
example : (inClass fixture_term_parameters true == true && inClass fixture_term_parameters false == true) = true := by decide +kernel

/-- census: `terms.ftl` — with_junk=true: false, with_junk=false: true -/
def fixture_terms : Src :=
    #[45, 116, 101, 114, 109, 48, 49, 32, 61, 32, 86, 97, 108, 117, 101, 10, 32, 32, 32, 32, 46, 97, 116, 116,
    114, 32, 61, 32, 65, 116, 116, 114, 105, 98, 117, 116, 101, 10, 10, 45, 116, 101, 114, 109, 48, 50, 32, 61,
    32, 123, 34, 34, 125, 10, 10, 35, 32, 74, 85, 78, 75, 32, 77, 105, 115, 115, 105, 110, 103, 32, 118, 97, 108,
    117, 101, 10, 45, 116, 101, 114, 109, 48, 51, 32, 61, 10, 32, 32, 32, 32, 46, 97, 116, 116, 114, 32, 61, 32,
    65, 116, 116, 114, 105, 98, 117, 116, 101, 10, 10, 35, 32, 74, 85, 78, 75, 32, 77, 105, 115, 115, 105, 110,
    103, 32, 118, 97, 108, 117, 101, 10, 35, 32, 32, 32, 32, 32, 32, 32, 32, 60, 32, 32, 119, 104, 105, 116, 101,
    115, 112, 97, 99, 101, 32, 32, 62, 10, 45, 116, 101, 114, 109, 48, 52, 32, 61, 32, 32, 32, 32, 32, 32, 32, 32,
    32, 32, 32, 32, 32, 32, 32, 32, 10, 32, 32, 32, 32, 46, 97, 116, 116, 114, 49, 32, 61, 32, 65, 116, 116, 114,
    105, 98, 117, 116, 101, 32, 49, 10, 10, 35, 32, 74, 85, 78, 75, 32, 77, 105, 115, 115, 105, 110, 103, 32, 118,
    97, 108, 117, 101, 10, 45, 116, 101, 114, 109, 48, 53, 32, 61, 10, 10, 35, 32, 74, 85, 78, 75, 32, 77, 105,
    115, 115, 105, 110, 103, 32, 118, 97, 108, 117, 101, 10, 35, 32, 32, 32, 32, 32, 32, 32, 32, 60, 32, 32, 119,
    104, 105, 116, 101, 115, 112, 97, 99, 101, 32, 32, 62, 10, 45, 116, 101, 114, 109, 48, 54, 32, 61, 32, 32, 32,
    32, 32, 32, 32, 32, 32, 32, 32, 32, 32, 32, 32, 32, 10, 10, 35, 32, 74, 85, 78, 75, 32, 77, 105, 115, 115,
    105, 110, 103, 32, 61, 10, 45, 116, 101, 114, 109, 48, 55, 10, 10, 45, 116, 101, 114, 109, 48, 56, 61, 86, 97,
    108, 117, 101, 10, 32, 32, 32, 32, 46, 97, 116, 116, 114, 61, 65, 116, 116, 114, 105, 98, 117, 116, 101, 10,
    10, 45, 116, 101, 114, 109, 48, 57, 32, 32, 32, 61, 32, 32, 86, 97, 108, 117, 101, 10, 32, 32, 32, 32, 46, 97,
    116, 116, 114, 32, 32, 61, 32, 32, 32, 65, 116, 116, 114, 105, 98, 117, 116, 101, 10]
#guard inClass fixture_terms true == false && inClass fixture_terms false == true

/-- census: `variables.ftl` — with_junk=true: false, with_junk=false: true -/
def fixture_variables : Src :=
    #[107, 101, 121, 48, 49, 32, 61, 32, 123, 36, 118, 97, 114, 125, 10, 107, 101, 121, 48, 50, 32, 61, 32, 123,
    32, 32, 32, 36, 118, 97, 114, 32, 32, 32, 125, 10, 107, 101, 121, 48, 51, 32, 61, 32, 123, 10, 32, 32, 32, 32,
    36, 118, 97, 114, 10, 125, 10, 107, 101, 121, 48, 52, 32, 61, 32, 123, 10, 36, 118, 97, 114, 125, 10, 10, 10,
    35, 35, 32, 69, 114, 114, 111, 114, 115, 10, 10, 35, 32, 69, 82, 82, 79, 82, 32, 77, 105, 115, 115, 105, 110,
    103, 32, 118, 97, 114, 105, 97, 98, 108, 101, 32, 105, 100, 101, 110, 116, 105, 102, 105, 101, 114, 10, 101,
    114, 114, 48, 49, 32, 61, 32, 123, 36, 125, 10, 35, 32, 69, 82, 82, 79, 82, 32, 68, 111, 117, 98, 108, 101,
    32, 36, 36, 10, 101, 114, 114, 48, 50, 32, 61, 32, 123, 36, 36, 118, 97, 114, 125, 10, 35, 32, 69, 82, 82, 79,
    82, 32, 73, 110, 118, 97, 108, 105, 100, 32, 102, 105, 114, 115, 116, 32, 99, 104, 97, 114, 32, 111, 102, 32,
    116, 104, 101, 32, 105, 100, 101, 110, 116, 105, 102, 105, 101, 114, 10, 101, 114, 114, 48, 51, 32, 61, 32,
    123, 36, 45, 118, 97, 114, 125, 10]
#guard inClass fixture_variables true == false && inClass fixture_variables false == true

/-- census: `variant_keys.ftl` — with_junk=true: false, with_junk=false: true -/
def fixture_variant_keys : Src :=
    #[115, 105, 109, 112, 108, 101, 45, 105, 100, 101, 110, 116, 105, 102, 105, 101, 114, 32, 61, 10, 32, 32, 32,
    32, 123, 32, 36, 115, 101, 108, 32, 45, 62, 10, 32, 32, 32, 32, 32, 32, 32, 42, 91, 107, 101, 121, 93, 32,
    118, 97, 108, 117, 101, 10, 32, 32, 32, 32, 125, 10, 10, 105, 100, 101, 110, 116, 105, 102, 105, 101, 114, 45,
    115, 117, 114, 114, 111, 117, 110, 100, 101, 100, 45, 98, 121, 45, 119, 104, 105, 116, 101, 115, 112, 97, 99,
    101, 32, 61, 10, 32, 32, 32, 32, 123, 32, 36, 115, 101, 108, 32, 45, 62, 10, 32, 32, 32, 32, 32, 32, 32, 42,
    91, 32, 32, 32, 32, 32, 107, 101, 121, 32, 32, 32, 32, 32, 93, 32, 118, 97, 108, 117, 101, 10, 32, 32, 32, 32,
    125, 10, 10, 105, 110, 116, 45, 110, 117, 109, 98, 101, 114, 32, 61, 10, 32, 32, 32, 32, 123, 32, 36, 115,
    101, 108, 32, 45, 62, 10, 32, 32, 32, 32, 32, 32, 32, 42, 91, 49, 93, 32, 118, 97, 108, 117, 101, 10, 32, 32,
    32, 32, 125, 10, 10, 102, 108, 111, 97, 116, 45, 110, 117, 109, 98, 101, 114, 32, 61, 10, 32, 32, 32, 32, 123,
    32, 36, 115, 101, 108, 32, 45, 62, 10, 32, 32, 32, 32, 32, 32, 32, 42, 91, 51, 46, 49, 52, 93, 32, 118, 97,
    108, 117, 101, 10, 32, 32, 32, 32, 125, 10, 10, 35, 32, 69, 82, 82, 79, 82, 10, 105, 110, 118, 97, 108, 105,
    100, 45, 105, 100, 101, 110, 116, 105, 102, 105, 101, 114, 32, 61, 10, 32, 32, 32, 32, 123, 32, 36, 115, 101,
    108, 32, 45, 62, 10, 32, 32, 32, 32, 32, 32, 32, 42, 91, 116, 119, 111, 32, 119, 111, 114, 100, 115, 93, 32,
    118, 97, 108, 117, 101, 10, 32, 32, 32, 32, 125, 10, 10, 35, 32, 69, 82, 82, 79, 82, 10, 105, 110, 118, 97,
    108, 105, 100, 45, 105, 110, 116, 32, 61, 10, 32, 32, 32, 32, 123, 32, 36, 115, 101, 108, 32, 45, 62, 10, 32,
    32, 32, 32, 32, 32, 32, 42, 91, 49, 32, 97, 112, 112, 108, 101, 93, 32, 118, 97, 108, 117, 101, 10, 32, 32,
    32, 32, 125, 10, 10, 35, 32, 69, 82, 82, 79, 82, 10, 105, 110, 118, 97, 108, 105, 100, 45, 105, 110, 116, 32,
    61, 10, 32, 32, 32, 32, 123, 32, 36, 115, 101, 108, 32, 45, 62, 10, 32, 32, 32, 32, 32, 32, 32, 42, 91, 51,
    46, 49, 52, 32, 97, 112, 112, 108, 101, 115, 93, 32, 118, 97, 108, 117, 101, 10, 32, 32, 32, 32, 125, 10]
#guard inClass fixture_variant_keys true == false && inClass fixture_variant_keys false == true

/-- census: `whitespace_in_value.ftl` — with_junk=true: true, with_junk=false: true -/
def fixture_whitespace_in_value : Src :=
    #[35, 32, 67, 97, 117, 116, 105, 111, 110, 44, 32, 108, 105, 110, 101, 115, 32, 54, 32, 97, 110, 100, 32, 55,
    32, 99, 111, 110, 116, 97, 105, 110, 32, 119, 104, 105, 116, 101, 45, 115, 112, 97, 99, 101, 45, 111, 110,
    108, 121, 32, 108, 105, 110, 101, 115, 10, 107, 101, 121, 32, 61, 10, 32, 32, 102, 105, 114, 115, 116, 32,
    108, 105, 110, 101, 10, 10, 10, 32, 32, 10, 32, 32, 10, 10, 10, 32, 32, 108, 97, 115, 116, 32, 108, 105, 110,
    101, 10]
#guard inClass fixture_whitespace_in_value true == true && inClass fixture_whitespace_in_value false == true
example : (inClass fixture_whitespace_in_value true == true && inClass fixture_whitespace_in_value false == true) = true := by decide +kernel

/-- census: `zero_length.ftl` — with_junk=true: true, with_junk=false: true -/
def fixture_zero_length : Src :=
    #[]
#guard inClass fixture_zero_length true == true && inClass fixture_zero_length false == true
example : (inClass fixture_zero_length true == true && inClass fixture_zero_length false == true) = true := by decide +kernel

def CRFree (str : String) : Prop := ∀ j : Nat, str.toUTF8.data[j]? ≠ some (13 : UInt8)

def NoLoneCRStr (str : String) : Prop :=
  ∀ j : Nat, str.toUTF8.data[j]? = some (13 : UInt8) → str.toUTF8.data[j + 1]? = some (10 : UInt8)

theorem CRFree.noLoneCR {str : String} (h : CRFree str) : NoLoneCRStr str := fun j hj => absurd hj (h j)

/-- **PATTERN SHAPE for every source** (lone `\r` included): with every text that may be joined to the text behind it
joined (`Ser.joinTop`; a text ending in `\r` is not joined to `"\n"`), the pattern `get_pattern` returns is in the class
`mlPattern` -/
theorem parse_pattern_shape_all (s : Src) (n p : Nat) (els : List (PatElem Span)) (q : Nat)
    (h : getPattern s n p = .ok (some els) q) : mlPattern (Ser.joinTop (mapPat (spanBytes s) els)) = true :=
  Ser.getPattern_mlPattern_joinAll s n p els q h

/-- **PATTERN SHAPE for CRLF sources.**  In a source in which every `\r` is followed by `\n`, a text slice in
front of `\r\n` is cut before the `\r` and the `\n` is pushed as an element of its own, so `get_pattern`
returns `…, "x", "\n", …` where an LF source gives `…, "x\n", …` (equal only under `norm`).  With every text
that does not end in `\n` joined to the text behind it (`Ser.joinTop` = the top level of `nPat okSafe`), the
pattern is in the class `mlPattern`. -/
theorem parse_pattern_shape_crlf (s : Src) (hcr : Ser.NoLoneCR s) (n p : Nat)
    (els : List (PatElem Span)) (q : Nat) (h : getPattern s n p = .ok (some els) q) :
    mlPattern (Ser.joinTop (mapPat (spanBytes s) els)) = true :=
  Ser.getPattern_mlPattern_join hcr n p els q h

/-- **PATTERN SHAPE, sources without `\r`.**  For every byte source without `\r`, every fuel and every start position: the
pattern `get_pattern` returns (resolved to bytes, after its dedent + trim post-pass) is in the class
`mlPattern` — non-empty; every text non-empty, without `\r` `{` `}`, `\n` only as its last byte; two texts
adjacent only across a line break; a text that starts a line is a blank line `"\n"`, or spaces followed by
a byte other than ` ` `\n` `.` `[` `*`, or only spaces directly in front of a placeable; the last text
does not end with ` ` / `\n`; the first text fits the layout `serialize_pattern` chooses; and if the
pattern is multi-line, some line has no excess indentation (or no line takes part in the common indent).
Proof (`Ser.getPattern_shape`): an invariant of `getPatternLoop` over a state machine on the collected placeholders
(`Ser.PInv`, `Ser.patternLoop_pinv`: placeholders well-shaped; role and cursor fit the last one;
`common_indent` = minimum of the line indents so far; `kept_common_indent` = minimum up to `last_non_blank`)
and an analysis of `finishElements` on such placeholder lists (`Ser.fin_shape`); without `\r` nothing is joined. -/
theorem parse_pattern_shape (s : Src) (hcr : ∀ j : Nat, s[j]? ≠ some (13 : UInt8)) (n p : Nat)
    (els : List (PatElem Span)) (q : Nat) (h : getPattern s n p = .ok (some els) q) :
    mlPattern (mapPat (spanBytes s) els) = true :=
  Ser.getPattern_mlPattern hcr n p els q h

/-- **Every entry the parser produces is in the class, or Junk.**  For every byte source without
`\r`: every entry of the tree returned by `parse` is Junk or satisfies `rtEntry` — identifiers, numbers,
string literals, callees, named arguments, selectors, variant keys, default variants as the class asks
(bridge from `ValidEntry`, `Parser.parse_valid`); every pattern at every depth (values, attribute values,
variant values, also inside call arguments and nested placeables) an `rtPattern` (`parse_pattern_shape`
lifted by `Ser.parse_deep`); every comment non-empty with lines free of line breaks
(`Ser.parse_comments_all`). -/
theorem parse_output_in_class (s : Src) (hcr : ∀ j : Nat, s[j]? ≠ some (13 : UInt8))
    (t : Resource Span) (errs : List PErr) (h : parse s = .done (t, errs)) :
    ∀ e ∈ t, (∃ c, e = .junk c) ∨ rtEntry (e.mapS (spanBytes s)) = true :=
  Ser.rtEntry_of_parse s (fun n p els q hg => Ser.getPattern_mlPattern hcr n p els q hg) t errs h

/-- **both full statements for EVERY string — lone `\r` included — when no Junk has to be written**: for
`with_junk = false` without any hypothesis, for `with_junk = true` when the tree has no Junk.  The case of
`Ser.roundtrip_source_all` in which the written normal form of the tree consists of entries of the class only; the proof
of the general statement does not need `hj`. -/
theorem C04_roundtrip_all_nojunk (str : String) (withJunk : Bool) (t : Resource Span)
    (errs : List PErr) (hp : parse str.toUTF8.data = .done (t, errs))
    (hj : withJunk = true → ∀ e ∈ t, ∀ c, e ≠ .junk c) :
    ∃ out, Ser.serialize withJunk (resolve str.toUTF8.data t) = some out ∧
      ∃ t' errs', parse out.toArray = .done (t', errs') ∧
        norm withJunk (resolve out.toArray t') = norm withJunk (resolve str.toUTF8.data t) ∧
        Ser.serialize withJunk (resolve out.toArray t') = some out :=
  Ser.roundtrip_source_all str withJunk t errs hp

/-- **both full statements with `with_junk = true`, for EVERY string — lone `\r` included — whatever Junk the tree
contains**: serialising the parse tree with the Junk kept succeeds, the output parses, the re-parsed tree equals the
original one under `norm true` (same entries, the Junk entries with the same content, in the same order), and
serialising it again reproduces the output byte for byte.  The case `with_junk = true` of `Ser.roundtrip_source_all`: the
Junk spans of the tree fail and recover in the source as recorded (`Ser.parse_srcGood`); by the two-source simulation of
the parser (`Parser.junk_transfer`, `Parser.attr_transfer`) the same bytes fail and recover in the same way in front of the
re-serialised following entries (`Ser.jgood_of_srcGood`); the entry loop on the serialised text returns the entries
again (`Ser.runs_textJ`).  A Junk may start with a lone `\r` in column 0 or behind blanks and may end with one at
the end of input. -/
theorem C04_roundtrip_withJunk_all (str : String) (t : Resource Span) (errs : List PErr)
    (hp : parse str.toUTF8.data = .done (t, errs)) :
    ∃ out, Ser.serialize true (resolve str.toUTF8.data t) = some out ∧
      ∃ t' errs', parse out.toArray = .done (t', errs') ∧
        norm true (resolve out.toArray t') = norm true (resolve str.toUTF8.data t) ∧
        Ser.serialize true (resolve out.toArray t') = some out :=
  Ser.roundtrip_source_all str true t errs hp

/-- **both full statements for EVERY string, both values of `with_junk`, no hypothesis at all**: serialising the parse
tree succeeds, the output parses, the re-parsed tree equals the original one under `norm`, and serialising it again
reproduces the output byte for byte (`Ser.roundtrip_source_all`: the written normal form of the tree is `Ser.JGood`, and
every `JGood` resource round-trips, `Ser.roundtrip_junk_tree`) -/
theorem C04_roundtrip_all (str : String) (withJunk : Bool) (t : Resource Span) (errs : List PErr)
    (hp : parse str.toUTF8.data = .done (t, errs)) :
    ∃ out, Ser.serialize withJunk (resolve str.toUTF8.data t) = some out ∧
      ∃ t' errs', parse out.toArray = .done (t', errs') ∧
        norm withJunk (resolve out.toArray t') = norm withJunk (resolve str.toUTF8.data t) ∧
        Ser.serialize withJunk (resolve out.toArray t') = some out :=
  Ser.roundtrip_source_all str withJunk t errs hp

theorem C04_roundtrip_full : C04_roundtrip_statement := by
  intro str withJunk t errs hp
  obtain ⟨out, h1, t', errs', h2, h3, _⟩ := C04_roundtrip_all str withJunk t errs hp
  exact ⟨out, h1, t', errs', h2, h3⟩

theorem C04_fixpoint_full : C04_fixpoint_statement := fixpoint_of_roundtrip C04_roundtrip_full

/-- `with_junk = false`, strings without the byte 13 (for them the tree itself, not only its `normSafe` form, is in the
class: `parse_output_in_class`); a case of `C04_roundtrip_all`, which does not need `hcr` -/
theorem C04_roundtrip_crfree_nojunk (str : String) (hcr : CRFree str) (t : Resource Span) (errs : List PErr)
    (hp : parse str.toUTF8.data = .done (t, errs)) :
    ∃ out, Ser.serialize false (resolve str.toUTF8.data t) = some out ∧
      ∃ t' errs', parse out.toArray = .done (t', errs') ∧
        norm false (resolve out.toArray t') = norm false (resolve str.toUTF8.data t) ∧
        Ser.serialize false (resolve out.toArray t') = some out :=
  C04_roundtrip_all str false t errs hp

/-- strings without the byte 13 whose tree contains no Junk entry; a case of `C04_roundtrip_all`, which needs neither
hypothesis -/
theorem C04_roundtrip_crfree_junkfree (str : String) (hcr : CRFree str) (t : Resource Span) (errs : List PErr)
    (hp : parse str.toUTF8.data = .done (t, errs)) (hj : ∀ e ∈ t, ∀ c, e ≠ .junk c) (withJunk : Bool) :
    ∃ out, Ser.serialize withJunk (resolve str.toUTF8.data t) = some out ∧
      ∃ t' errs', parse out.toArray = .done (t', errs') ∧
        norm withJunk (resolve out.toArray t') = norm withJunk (resolve str.toUTF8.data t) ∧
        Ser.serialize withJunk (resolve out.toArray t') = some out :=
  C04_roundtrip_all str withJunk t errs hp

/-- `with_junk = true`, strings without a lone `\r`; a case of `C04_roundtrip_withJunk_all`, which does not need `hcr` -/
theorem C04_roundtrip_withJunk (str : String) (hcr : NoLoneCRStr str) (t : Resource Span) (errs : List PErr)
    (hp : parse str.toUTF8.data = .done (t, errs)) :
    ∃ out, Ser.serialize true (resolve str.toUTF8.data t) = some out ∧
      ∃ t' errs', parse out.toArray = .done (t', errs') ∧
        norm true (resolve out.toArray t') = norm true (resolve str.toUTF8.data t) ∧
        Ser.serialize true (resolve out.toArray t') = some out :=
  C04_roundtrip_withJunk_all str t errs hp

/-- the round-trip sentence for the sources that contain a lone `\r` (a `\r` not followed by `\n`): it stays inside text
and comment lines and is doubled by the `TextWriter` in front of `\n`.  Proved: `C04_roundtrip_cr`. -/
def C04_roundtrip_cr_open : Prop :=
  ∀ (str : String) (withJunk : Bool) (t : Resource Span) (errs : List PErr), ¬ NoLoneCRStr str →
    parse str.toUTF8.data = .done (t, errs) →
    ∃ out, Ser.serialize withJunk (resolve str.toUTF8.data t) = some out ∧
      ∃ t' errs', parse out.toArray = .done (t', errs') ∧
        norm withJunk (resolve out.toArray t') = norm withJunk (resolve str.toUTF8.data t)

/-- the round-trip sentence for trees that contain Junk, `with_junk = true`, source without lone `\r`: the bytes of a
broken entry, put in front of the *re-serialised* following entry, are broken in the same way, although the failing run
of `get_entry` may have looked into the first line of the next entry (up to its `=`), whose blanks the serializer
normalises.  Proved: `C04_roundtrip_junk`. -/
def C04_roundtrip_junk_open : Prop :=
  ∀ (str : String) (t : Resource Span) (errs : List PErr), NoLoneCRStr str → (∃ e ∈ t, ∃ c, e = .junk c) →
    parse str.toUTF8.data = .done (t, errs) →
    ∃ out, Ser.serialize true (resolve str.toUTF8.data t) = some out ∧
      ∃ t' errs', parse out.toArray = .done (t', errs') ∧
        norm true (resolve out.toArray t') = norm true (resolve str.toUTF8.data t)

theorem C04_roundtrip_junk : C04_roundtrip_junk_open := by
  intro str t errs _ _ hp
  obtain ⟨out, h1, t', errs', h2, h3, _⟩ := C04_roundtrip_withJunk_all str t errs hp
  exact ⟨out, h1, t', errs', h2, h3⟩

theorem C04_roundtrip_cr : C04_roundtrip_cr_open :=
  fun str withJunk t errs _ hp => C04_roundtrip_full str withJunk t errs hp

/-- test: Junk kept by the serializer, the broken entry looks into the head of the next one whose blanks are
normalised (`"a = {\nb   =  x\n"`), Junk followed by a comment, by Junk, at the end of input without line end, behind a
message (starting with blanks and a `.`), CRLF -/
example : (roundtripHolds "a = {\nb   =  x\n".toUTF8.data true &&
    roundtripHolds "a = {\n# c\n\n\nm = x\n".toUTF8.data true &&
    roundtripHolds "a = {\nb = {\nc = {".toUTF8.data true &&
    roundtripHolds "a = x\n  .attr = {\n-b   =  y\n".toUTF8.data true &&
    roundtripHolds "a = {\r\nb = c\r\n".toUTF8.data true) = true := by decide +kernel

/-- test: `CRFree` and the hypotheses of `C04_roundtrip_crfree_nojunk` are satisfiable, and the theorem's
conclusion agrees with evaluation: `"a =\n    x\n     { $n ->\n   *[o] y\n    }\nerr {\n"` -/
example : roundtripHolds "a =\n    x\n     { $n ->\n   *[o] y\n    }\nerr {\n".toUTF8.data false = true := by decide +kernel

/-- test: a CRLF source (`"a =\r\n  x \r\n\r\n   { $y }\r\n y\r\n"`): its tree is outside the class, its `normSafe` form
inside, and the statement holds by evaluation -/
example : (inClass "a =\r\n  x \r\n\r\n   { $y }\r\n y\r\n".toUTF8.data false == false &&
    (match parse "a =\r\n  x \r\n\r\n   { $y }\r\n y\r\n".toUTF8.data with
     | .done (t, _) => RoundTrippable false (normSafe false (resolve "a =\r\n  x \r\n\r\n   { $y }\r\n y\r\n".toUTF8.data t))
     | _ => false) &&
    roundtripHolds "a =\r\n  x \r\n\r\n   { $y }\r\n y\r\n".toUTF8.data false) = true := by decide +kernel

/-- test: sources with a lone `\r` (no Junk written): a text that ends with `\r` in front of `\r\n`, a line made of
`\r` and blanks inside a pattern, comment lines that contain / end with `\r` or consist of blanks and `\r`, a `\r` at the
start of a pattern and of a continuation line, a stray `\r`-only line at the end of a pattern (F29), `\r` around a
placeable in an attribute -/
example : (roundtripHolds "a = x\r\r\n y\n".toUTF8.data false &&
    roundtripHolds "a =\n  x\r\n  \r \n  y".toUTF8.data true &&
    roundtripHolds "# c\r\r\n# \r\nb = \rfoo\n".toUTF8.data true &&
    roundtripHolds "a = {$x}\r\r\n z".toUTF8.data false &&
    roundtripHolds "a =\n    \rfoo\n  bar\r".toUTF8.data true &&
    roundtripHolds "a = x\n .b = y\r{ 1 }\r\r\n\r\n  z\n".toUTF8.data true) = true := by decide +kernel

/-- test: Junk with a lone `\r`, kept by the serializer: a Junk that starts with `\r` in column 0 behind a message, a
Junk that ends with `\r` at the end of input, a source that is a single `\r`, a `\r`-led line inside a broken entry -/
example : (roundtripHolds "a = b\n\rfoo\n".toUTF8.data true &&
    roundtripHolds "a = {\r".toUTF8.data true &&
    roundtripHolds "\r".toUTF8.data true &&
    roundtripHolds "a = {\n \r\nb = c".toUTF8.data true) = true := by decide +kernel

/-- test: the tree of a source with lone `\r` only (`"x\r"`, `"\n"`, `" y"` stay three elements) is in the class as it is;
with CRLF line ends as well its `normSafe` form is (comment line `c\r` included) -/
example : (inClass "a = x\r\r\n y\n".toUTF8.data false == true && inClass "a = x\r\n y\r\r\n z".toUTF8.data false == false &&
    (match parse "a = x\r\n y\r\r\n z\n# c\r\r\n".toUTF8.data with
     | .done (t, _) => RoundTrippable false (normSafe false (resolve "a = x\r\n y\r\r\n z\n# c\r\r\n".toUTF8.data t))
     | _ => false)) = true := by decide +kernel

end FluentProofs.C04

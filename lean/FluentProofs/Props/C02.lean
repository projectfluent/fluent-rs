import FluentProofs.ConstTieSyntax
import FluentProofs.SpecLex
import FluentProofs.SpecDedent
import FluentProofs.SpecFuel
import FluentProofs.SpecPatLoop
import FluentProofs.SpecResource
/-!
# C02 — well-formed FTL parses to exactly the tree the Fluent grammar assigns

Two executable objects are related here:

* `FluentModel.Syntax.parse` (`FluentModel/Parser.lean`) — the function-for-function model of the Rust
  parser, tied to `/repo` by the `parse` and `spec` correspondence checks;
* `FluentModel.SpecGrammar.parse` (`FluentModel/SpecGrammar.lean`) — an independent executable
  specification transcribed from the Fluent 1.0 EBNF (as a PEG) and the abstract-syntax rules, validated
  at every run against the repo's 68 reference trees.  `wellFormed src` = that tree has no Junk.

The property is the THEOREM `parse_refines_grammar` below (whole resource, every `String`):
if the grammar calls the source well-formed and the source satisfies the side condition `Surv` (which excludes
the shape of the known, deliberate deviation F30 and holds for every source without a lone carriage return —
`T3_side_condition`, `parse_refines_grammar_noLoneCR`), the parser model returns no error and its tree,
text-joined, IS the grammar's tree.  It is proved in layers, each a theorem below: T1 the scanners against the lexical rules,
the totality of the grammar, T2 the dedentation core and the expression layer, T3 patterns, entries and the resource loop.

The direction is "the grammar accepts ⇒ the parser returns the grammar's tree" (what the property needs: on
well-formed input no error branch of the parser is taken).  Spec-vs-parser differences on ill-formed input are
outside the property; the differential test of `tools/fv/props/c02.py` counts them as leniencies.

The source is the UTF-8 encoding of a `String` (`bytesOf str`), which is what a Rust `&str` is; the one
UTF-8 fact used is `asciiThenBoundary_of_string`.  `rest s p` = the bytes of `s` from `p` on.
-/
namespace FluentProofs.C02
open FluentModel FluentModel.Syntax FluentModel.SpecGrammar
open FluentProofs.Parser FluentProofs.SpecLex FluentProofs.SpecDedent
open FluentProofs.SpecRefine FluentProofs.PatLoop FluentProofs.SpecEntries FluentProofs.SpecResource

/-- the UTF-8 bytes of a string, as the parser model's source -/
def bytesOf (str : String) : Src := str.toUTF8.data

/-- **The statement of C02 WITHOUT a side condition**: for every source that the grammar calls
well-formed, the parser returns without panic or fuel exhaustion, reports no error (hence no Junk), and its tree
with adjacent text elements joined is the tree the grammar assigns.  This is the property as it should hold; on
the pinned tree it is FALSE — `parse_refines_grammar_unconditional_false` below refutes it with the witness of
the known finding F30 (a deliberate deviation: a last pattern line that consists of spaces and a lone carriage
return is kept by the reference and dropped by the parser).  What is proved is `parse_refines_grammar`: the same
conclusion for every well-formed source satisfying `Surv`. -/
def parse_refines_grammar_unconditional : Prop :=
  ∀ (str : String), wellFormed (bytesOf str).toList = true →
    ∃ t, parse (bytesOf str) = .done (t, []) ∧
      SpecGrammar.parse (bytesOf str).toList = some (Resource.joinText (resolve (bytesOf str) t))

/-- the executable grammar assigns a tree to EVERY input: the fuel `SpecGrammar.parse` passes to its
recursive productions always suffices (`wellFormed` is never decided by fuel exhaustion) -/
theorem spec_total (i : List UInt8) : (SpecGrammar.parse i).isSome = true :=
  FluentProofs.SpecFuel.parse_isSome i

/-- `blank_inline?` (`" "*`) is `skip_blank_inline` -/
theorem T1_blank_inline (str : String) (p : Nat) :
    spaces (rest (bytesOf str) p) = rest (bytesOf str) (skipBlankInline (bytesOf str) p) :=
  spaces_eq_skipBlankInline _ p

/-- `line_end ::= "\r\n" | "\n" | EOF` is `skip_eol`, except that the grammar also accepts `EOF` -/
theorem T1_line_end (str : String) (p : Nat) :
    lineEnd (rest (bytesOf str) p) =
      (match skipEol (bytesOf str) p with
       | some q => some (rest (bytesOf str) q)
       | none => if (bytesOf str).size ≤ p then some [] else none) :=
  lineEnd_eq_skipEol _ p

/-- `blank?` (`(blank_inline | line_end)*`) is `skip_blank` -/
theorem T1_blank (str : String) (p : Nat) :
    blankOpt (rest (bytesOf str) p) = rest (bytesOf str) (skipBlank (bytesOf str) p) :=
  blankOpt_eq_skipBlank _ p

/-- `blank_block ::= (blank_inline? line_end)+` is `skip_blank_block`: same number of line breaks, same end
position (spaces that run to `EOF` included); the rule fails exactly when nothing was skipped and the
input has not ended. -/
theorem T1_blank_block (str : String) (p : Nat) (hp : p ≤ (bytesOf str).size) :
    blankBlock (rest (bytesOf str) p) =
      (let qc := skipBlankBlock (bytesOf str) p
       if qc.2 = 0 ∧ qc.1 < (bytesOf str).size then none else some (qc.2, rest (bytesOf str) qc.1)) :=
  blankBlock_eq_skipBlankBlock _ p hp

/-- `get_identifier` succeeds exactly when `Identifier ::= [a-zA-Z][a-zA-Z0-9_-]*` matches, on exactly
the bytes `s[p..q)`, with the same rest; otherwise it reports an error and the rule fails; no panic. -/
theorem T1_identifier (str : String) (p : Nat) :
    match getIdentifier (bytesOf str) p with
    | .ok sp q => sp = ⟨p, q⟩ ∧ p < q ∧
        identifier (rest (bytesOf str) p) = some (spanBytes (bytesOf str) sp, rest (bytesOf str) q)
    | .err _ _ => identifier (rest (bytesOf str) p) = none
    | .panic _ => False
    | .fuel => False := by
  have h : (getIdentifier (bytesOf str) p).Cases _ _ := identifier_eq_getIdentifier (asciiThenBoundary_of_string str) p
  revert h
  cases getIdentifier (bytesOf str) p <;> exact id

/-- `get_number_literal` versus `NumberLiteral ::= "-"? digits ("." digits)?` (T1 + T2 acceptance):
success = the rule matches exactly `s[p..q)`.  On `digits "."` without a following digit the scanner
reports an error where the PEG rule matches the digits and stops before the dot. -/
theorem T1_number_literal (str : String) (p : Nat) (hp : isBoundary (bytesOf str) p = true) :
    match getNumberLiteral (bytesOf str) p with
    | .ok sp q => sp = ⟨p, q⟩ ∧ p < q ∧
        numberLiteral (rest (bytesOf str) p) = some (spanBytes (bytesOf str) sp, rest (bytesOf str) q)
    | .err _ _ => numberLiteral (rest (bytesOf str) p) = none ∨
        ∃ q, p < q ∧ (bytesOf str)[q]? = some 46 ∧
          numberLiteral (rest (bytesOf str) p) = some (seg (bytesOf str) p q, rest (bytesOf str) q)
    | .panic _ => False
    | .fuel => False := by
  have h : (getNumberLiteral (bytesOf str) p).Cases _ _ :=
    numberLiteral_eq_getNumberLiteral (asciiThenBoundary_of_string str) p hp
  revert h
  cases getNumberLiteral (bytesOf str) p <;> exact id

/-- the string-literal scanner (from after the opening quote; the caller then expects `"`) accepts
exactly `StringLiteral ::= "\"" quoted_char* "\""` — escapes `\\`, `\"`, `\uXXXX`, `\UXXXXXX` only, no raw
line end — and yields the same raw value `s[p+1..q)` (T1 + T2 acceptance). -/
theorem T1_string_literal (str : String) (p : Nat) (h : (bytesOf str)[p]? = some 34) :
    match scanString (bytesOf str) (p + 1) with
    | .ok _ q =>
      ((bytesOf str)[q]? = some 34 ∧
        stringLiteral (rest (bytesOf str) p) = some (seg (bytesOf str) (p + 1) q, rest (bytesOf str) (q + 1))) ∨
      ((bytesOf str)[q]? = none ∧ stringLiteral (rest (bytesOf str) p) = none)
    | .err _ _ => stringLiteral (rest (bytesOf str) p) = none
    | .panic _ => False
    | .fuel => False := by
  have h' : (scanString (bytesOf str) (p + 1)).Cases _ _ := stringLiteral_eq_scanString (asciiThenBoundary_of_string str) p h
  revert h'
  cases scanString (bytesOf str) (p + 1) <;> exact id

/-- `VariantKey`: the one-byte test `is_number_start` of `get_variant_key` decides the grammar's ordered
choice `NumberLiteral | Identifier` (with `T1_number_literal`, `T1_identifier`, `T1_blank`) -/
theorem T1_variant_key_choice (str : String) (p : Nat) :
    (isNumberStart (bytesOf str) p = true → identifier (rest (bytesOf str) p) = none) ∧
    (isNumberStart (bytesOf str) p = false → numberLiteral (rest (bytesOf str) p) = none) :=
  variantKey_choice _ p

/-- `get_text_slice` versus `inline_text ::= text_char+`: the slice starts at the cursor and covers exactly
the grammar's run of text chars (`text_char ::= any_char - "{" - "}" - line_end`; a lone `\r` is a text
char), plus the `\n` itself when the termination is a line feed; the terminations are exactly what can
follow a run (`\n`, `\r\n`, `{`, end of input) and `}` is the error. -/
theorem T1_inline_text (str : String) (p : Nat) (hp : p ≤ (bytesOf str).size) :
    match getTextSlice (bytesOf str) p with
    | .ok (start, stop, _, term) q => start = p ∧
        textRun (rest (bytesOf str) p) =
          (seg (bytesOf str) p (textStop term stop), rest (bytesOf str) (textStop term stop)) ∧
        (match term with
         | .lineFeed => (bytesOf str)[stop - 1]? = some 10 ∧ q = stop ∧ p < stop
         | .crlf => (bytesOf str)[stop]? = some 13 ∧ (bytesOf str)[stop + 1]? = some 10 ∧ q = stop + 1
         | .placeableStart => (bytesOf str)[stop]? = some 123 ∧ q = stop
         | .eof => stop = (bytesOf str).size ∧ q = (bytesOf str).size)
    | .err _ q => (bytesOf str)[q]? = some 125 ∧
        textRun (rest (bytesOf str) p) = (seg (bytesOf str) p q, rest (bytesOf str) q)
    | .panic _ => False
    | .fuel => False :=
  textRun_eq_getTextSlice _ p hp

/-- `get_comment_line` reads exactly `comment_char*` (up to, not including, the line end) -/
theorem T1_comment_line (str : String) (p : Nat) (hp : isBoundary (bytesOf str) p = true) :
    ∃ e, getCommentLine (bytesOf str) p = .ok ⟨p, e⟩ e ∧
      commentChars (rest (bytesOf str) p) = (spanBytes (bytesOf str) ⟨p, e⟩, rest (bytesOf str) e) :=
  commentChars_eq_getCommentLine p hp

/-- `get_comment_level` is the ordered choice `"###" | "##" | "#"` -/
theorem T1_comment_level (str : String) (p : Nat) :
    commentMarker (rest (bytesOf str) p) =
      (if (getCommentLevel (bytesOf str) p).1 = 0 then none
       else some ((getCommentLevel (bytesOf str) p).1, rest (bytesOf str) (getCommentLevel (bytesOf str) p).2)) :=
  commentMarker_eq_getCommentLevel _ p

/-- on an identifier, Rust's `is_callee` (every byte in `[A-Z0-9_-]`) is the grammar's callee rule
`[A-Z][A-Z0-9_-]*` -/
theorem T2_callee (s : Src) (sp : Span) (b : UInt8) (r : List UInt8)
    (h : spanBytes s sp = b :: r) (hb : isAlpha b = true) :
    calleeOk (spanBytes s sp) = isCallee s sp :=
  calleeOk_eq_isCallee s sp b r h hb

/-- for a line whose first `indent` bytes are spaces, the slice `start + min indent common .. stop` taken
by `finishElements` is what the grammar produces for the line: the indent minus `common` spaces, then the
line's text -/
theorem T2_dedent_offset (s : Src) (start stop indent common : Nat)
    (hsp : ∀ j, start ≤ j → j < start + indent → s[j]? = some 32) (h : start + indent ≤ stop) :
    spanBytes s ⟨start + min indent common, stop⟩ =
      dedentText common indent ++ spanBytes s ⟨start + indent, stop⟩ :=
  dedent_offset s start stop indent common hsp h

/-- `Slice::trim` (drops trailing `' ' | '\r' | '\n'`) is the grammar's "the last element loses trailing
white space", byte for byte -/
theorem T2_trim (s : Src) (sp : Span) (h : sp.stop ≤ s.size) :
    spanBytes s (trimEnd s sp) = dropTrailingWs (spanBytes s sp) :=
  trimEnd_eq_dropTrailingWs s sp h

/-- the grammar's common indent is the attained minimum over all `block_text`/`block_placeable` indents -/
theorem T2_common_indent_min (els : List RawEl) (c : Nat) (h : commonIndent els = some c) :
    c ∈ indentsOf els ∧ ∀ k ∈ indentsOf els, c ≤ k :=
  commonIndent_is_min els c h

/-- every pattern of the grammar's tree is in joined normal form and has no empty text element -/
theorem T2_pattern_normal_form (els : List RawEl) :
    NoAdjText (finishPattern els) ∧ ∀ e ∈ finishPattern els, nonEmptyEl e = true :=
  ⟨finishPattern_noAdj els, finishPattern_nonEmpty els⟩

/-- **Expression layer.** For every spec fuel `m`, under the side condition `Surv` (see `T3_side_condition`):
wherever the grammar's `InlineExpression`, `CallArguments`/`argument_list` (with the rules "no positional
argument after a named one", "no duplicate name", callee shape), `inline_placeable` (term attribute not as
placeable), `SelectExpression` (selector kinds) or `variant_list` (exactly one default, variant keys) accepts,
the parser model's `getInline` / `getCallArguments` / `getCallArgsLoop` / `getPlaceable` + `getExpression` /
`getVariants` return the same tree — spans resolved, adjacent text joined — and stop at the corresponding
position (`ExprRef` spells out the eight statements). -/
theorem T2_expression_layer (str : String) (hSurv : Surv (bytesOf str)) (m : Nat) : ExprRef (bytesOf str) m :=
  exprRef_all (asciiThenBoundary_of_string str) hSurv m

/-- **Pattern layer.** `Pattern ::= PatternElement+` followed by the abstract-syntax pass (dedent over all
indented lines, blank lines as `\n`, join, trim) against `get_pattern` (the loop with line roles, blank lines,
placeable-led lines, CRLF, `keptCommonIndent`, and `finishElements`): where the grammar accepts a pattern that is
followed by what can follow a pattern (`PatFollow`), `getPattern` returns the same pattern after joining text and
stops at the start of the first line that is not part of the pattern. -/
theorem T3_pattern_layer (str : String) (hSurv : Surv (bytesOf str)) (m : Nat) : PatternRef (bytesOf str) m :=
  patternRef_all (asciiThenBoundary_of_string str) hSurv m

/-- **The side condition.**  `Surv` ("every non-blank text slice keeps a byte under the final
trim") holds for every source in which each `\r` belongs to a `\r\n`; the witness of the known finding F30
violates it (its last line is a lone carriage return). -/
theorem T3_side_condition :
    (∀ str : String, NoLoneCR (bytesOf str) → Surv (bytesOf str)) ∧
    ¬ Surv (strBytes "a =\n  x\n \r").toArray :=
  ⟨fun str h => surv_of_noLoneCR (asciiThenBoundary_of_string str) h, f30_witness_not_surv⟩

/-- **Attributes.** `Attribute*` against `get_attributes` (line end, blank, `.`, identifier, `=`, pattern; the
cursor goes back to the line start when the next line is not an attribute) -/
theorem T3_attributes (str : String) (hSurv : Surv (bytesOf str)) (sf n : Nat) : AttrsRef (bytesOf str) sf n :=
  attrsRef (asciiThenBoundary_of_string str) hSurv sf n

/-- **Message.** Where the grammar's `Message` matches and is followed by what follows an entry of a junk-free
source (`EntryFollow`: a line end, and the next non-blank byte is in column 0 and not `.`/`{`), `get_message`
returns the same message (value or attributes-only, attributes in order, no comment yet) and stops at the start of
the next non-blank line. -/
theorem T3_message (str : String) (hSurv : Surv (bytesOf str)) {sf pf es p : Nat} {msg : Message Bytes}
    {r4 : List UInt8} (h : messageP sf (rest (bytesOf str) p) = .ok msg r4) (hfol : EntryFollow r4)
    (hp : p ≤ (bytesOf str).size) (hpf : 4 * ((bytesOf str).size - p) + 2 ≤ pf) :
    ∃ m' q, getMessage (bytesOf str) pf es p = .ok m' q ∧ jMsg (bytesOf str) m' = msg ∧
      rest (bytesOf str) q = afterBlank r4 ∧ q ≤ (bytesOf str).size ∧ Bnd (bytesOf str) q ∧ p < q :=
  message_ref (asciiThenBoundary_of_string str) hSurv h hfol hpf

/-- **Term.** The same for `Term` and `get_term`. -/
theorem T3_term (str : String) (hSurv : Surv (bytesOf str)) {sf pf es p : Nat} {trm : Term Bytes}
    {r4 : List UInt8} (h : termP sf (rest (bytesOf str) p) = .ok trm r4) (hfol : EntryFollow r4)
    (hp : p ≤ (bytesOf str).size) (hpf : 4 * ((bytesOf str).size - p) + 2 ≤ pf) :
    ∃ t' q, getTerm (bytesOf str) pf es p = .ok t' q ∧ jTerm (bytesOf str) t' = trm ∧
      rest (bytesOf str) q = afterBlank r4 ∧ q ≤ (bytesOf str).size ∧ Bnd (bytesOf str) q ∧ p < q :=
  term_ref (asciiThenBoundary_of_string str) hSurv h hfol hpf

/-- what follows a Message or Term in a junk-free source satisfies `EntryFollow` (so `T3_message`/`T3_term` apply
to every entry of a well-formed source) -/
theorem T3_entry_follow {sf m : Nat} {r4 r5 : List UInt8} {raw : List (Option (Entry Bytes))}
    (hl : lineEnd r4 = some r5) (h : resourceRaw sf m r5 = some raw) (hj : hasJunk raw = false) : EntryFollow r4 :=
  follow_of_raw hl h hj

/-- **Comments: levels and joining.**  From a line start `p` of a junk-free source (the grammar's raw item list from
there is `raw`), `get_comment`'s loop (`lv = 0`: first round, the level is that of the first line; `lv = L`: later
rounds) consumes exactly the maximal run of `CommentLine`s of level `L` — `raw` is that run followed by `raw1`, which
does not begin with a comment of level `L` — and collects their contents in order.  The cursor it returns is either the
start `p1` of the next line (end of input, or a `#` line of another level) or the line feed in front of `p1` (the next
line does not begin with `#`), which `skip_blank_block` then counts as one blank line. -/
theorem T3_comment_run (str : String) (sf : Nat) {L : Nat} (hL : L = 1 ∨ L = 2 ∨ L = 3)
    (g m p lv : Nat) (content : List Span) (raw : List (Option (Entry Bytes))) (hp : p ≤ (bytesOf str).size)
    (hg : (bytesOf str).size - p + 1 ≤ g) (hraw : resourceRaw sf m (rest (bytesOf str) p) = some raw)
    (hj : hasJunk raw = false)
    (hlv : (lv = L ∧ (p < (bytesOf str).size → 0 < p ∧ (bytesOf str)[p - 1]? = some 10)) ∨ (lv = 0 ∧ headLevel raw = L)) :
    ∃ spans raw1 q p1 m1,
      raw = runItems (bytesOf str) L spans ++ raw1 ∧
      getCommentGo (bytesOf str) g lv content p = .ok (content ++ spans, L) q ∧
      resourceRaw sf m1 (rest (bytesOf str) p1) = some raw1 ∧ m1 ≤ m ∧ hasJunk raw1 = false ∧ headLevel raw1 ≠ L ∧
      p ≤ p1 ∧ p1 ≤ (bytesOf str).size ∧ (lv = 0 → p < p1) ∧
      ((q = p1 ∧ ((bytesOf str).size ≤ p1 ∨ (bytesOf str)[p1]? = some 35)) ∨
       (q + 1 = p1 ∧ (bytesOf str)[q]? = some 10 ∧ p1 < (bytesOf str).size ∧ (bytesOf str)[p1]? ≠ some 35)) :=
  comment_run (asciiThenBoundary_of_string str) sf hL g m p lv content raw hp hg hraw hj hlv

/-- **Comment attachment: the blank-line count.**  After `get_comment` returned at `q` (see `T3_comment_run`),
`skip_blank_block` stops at the start of the next non-blank line, the grammar's items from `p1` on are the same
less at most one `blank_block`, and the count `skip_blank_block` reports is `< 2` exactly when no `blank_block`
stands between (or nothing follows at all) — the parser's test `last_blank_count < 2` for attaching the comment. -/
theorem T3_blank_after_comment (str : String) {sf m1 q p1 : Nat} {raw1 : List (Option (Entry Bytes))}
    (hraw : resourceRaw sf m1 (rest (bytesOf str) p1) = some raw1) (hj : hasJunk raw1 = false)
    (hp1 : p1 ≤ (bytesOf str).size)
    (hq : (q = p1 ∧ ((bytesOf str).size ≤ p1 ∨ (bytesOf str)[p1]? = some 35)) ∨
          (q + 1 = p1 ∧ (bytesOf str)[q]? = some 10 ∧ p1 < (bytesOf str).size ∧ (bytesOf str)[p1]? ≠ some 35)) :
    ∃ raw2 m2, resourceRaw sf m2 (rest (bytesOf str) (skipBlankBlock (bytesOf str) q).1) = some raw2 ∧
      hasJunk raw2 = false ∧ Canon (rest (bytesOf str) (skipBlankBlock (bytesOf str) q).1) ∧
      q ≤ (skipBlankBlock (bytesOf str) q).1 ∧ (skipBlankBlock (bytesOf str) q).1 ≤ (bytesOf str).size ∧
      ((raw1 = raw2 ∧ (skipBlankBlock (bytesOf str) q).2 < 2) ∨
       (raw1 = none :: raw2 ∧ (2 ≤ (skipBlankBlock (bytesOf str) q).2 ∨ raw2 = []))) :=
  blank_after_comment hraw hj hp1 hq

/-- **The resource loop.**  From the start `p` of a non-blank line of a junk-free source, `Parser::parse`'s loop
(no pending comment; any blank count) finishes with NO error and appends exactly the entries the grammar's abstract
pass assigns to the rest of the source (`assemble raw`: comment lines joined by level, a `#` comment attached to the
Message/Term that follows it without a blank block, blank blocks dropped) — spans resolved, text joined. -/
theorem T3_resource_loop (str : String) (hSurv : Surv (bytesOf str)) {sf pf : Nat} (hpf : 4 * (bytesOf str).size + 2 ≤ pf)
    (N m p : Nat) (raw : List (Option (Entry Bytes))) (body : List (Entry Span)) (cnt : Nat)
    (hraw : resourceRaw sf m (rest (bytesOf str) p) = some raw) (hj : hasJunk raw = false)
    (hcan : Canon (rest (bytesOf str) p)) (hp : p ≤ (bytesOf str).size) (hN : (bytesOf str).size - p + 1 ≤ N) :
    ∃ out, parseLoop (bytesOf str) pf N body [] none cnt p = .done (body ++ out, []) ∧
      out.map (jEntry (bytesOf str)) = assemble raw :=
  resource_loop (asciiThenBoundary_of_string str) hSurv hpf N m p raw body cnt hraw hj hcan hp hN

/-- **C02.**  For every source (a `String`) that the grammar calls well-formed — `SpecGrammar.parse` assigns it a
tree without Junk — and that satisfies the side condition `Surv` (`T3_side_condition`: the witness of the known
finding F30 violates it, and it holds whenever every `\r` belongs to a `\r\n`), the parser model terminates without
panic or fuel exhaustion, reports NO error, and its tree — spans resolved to bytes, adjacent text elements joined —
is exactly the tree the grammar assigns. -/
theorem parse_refines_grammar (str : String) (hwf : wellFormed (bytesOf str).toList = true)
    (hSurv : Surv (bytesOf str)) :
    ∃ t, parse (bytesOf str) = .done (t, []) ∧
      SpecGrammar.parse (bytesOf str).toList = some (Resource.joinText (resolve (bytesOf str) t)) :=
  parse_refines (asciiThenBoundary_of_string str) hSurv hwf

/-- C02 for sources without a lone carriage return (a side condition that can be read off the source) -/
theorem parse_refines_grammar_noLoneCR (str : String) (hwf : wellFormed (bytesOf str).toList = true)
    (hcr : NoLoneCR (bytesOf str)) :
    ∃ t, parse (bytesOf str) = .done (t, []) ∧
      SpecGrammar.parse (bytesOf str).toList = some (Resource.joinText (resolve (bytesOf str) t)) :=
  parse_refines_grammar str hwf (surv_of_noLoneCR (asciiThenBoundary_of_string str) hcr)

/-- **Layout independence** (the property's second sentence).  Two well-formed sources to which the grammar assigns
the same tree — any two layouts of one AST: spacing, blank lines, indentation depth, LF/CRLF, final newline, as far as
`SpecGrammar.parse` does not see them — get the same tree from the parser (and no error). -/
theorem layout_independence (a b : String)
    (ha : wellFormed (bytesOf a).toList = true) (hb : wellFormed (bytesOf b).toList = true)
    (sa : Surv (bytesOf a)) (sb : Surv (bytesOf b))
    (hg : SpecGrammar.parse (bytesOf a).toList = SpecGrammar.parse (bytesOf b).toList) :
    ∃ ta tb, parse (bytesOf a) = .done (ta, []) ∧ parse (bytesOf b) = .done (tb, []) ∧
      Resource.joinText (resolve (bytesOf a) ta) = Resource.joinText (resolve (bytesOf b) tb) := by
  obtain ⟨ta, a1, a2⟩ := parse_refines_grammar a ha sa
  obtain ⟨tb, b1, b2⟩ := parse_refines_grammar b hb sb
  refine ⟨ta, tb, a1, b1, ?_⟩
  rw [a2, b2] at hg
  exact Option.some.inj hg

/-- the conclusion of `parse_refines_grammar` as a test that runs, compared through `Resource.sexp` -/
def agrees (s : Src) : Bool :=
  match parse s, SpecGrammar.parse s.toList with
  | .done (t, errs), some g => errs.isEmpty && Resource.sexp (Resource.joinText (resolve s t)) == Resource.sexp g
  | _, _ => false

theorem agrees_of_refines {s : Src}
    (h : ∃ t, parse s = .done (t, []) ∧ SpecGrammar.parse s.toList = some (Resource.joinText (resolve s t))) :
    agrees s = true := by
  obtain ⟨t, h1, h2⟩ := h
  simp [agrees, h1, h2]

/-- **The side condition cannot be dropped on the pinned tree**: the witness of the known finding F30 is well-formed,
and the parser's tree for it is not the grammar's. -/
theorem parse_refines_grammar_unconditional_false : ¬ parse_refines_grammar_unconditional := by
  intro h
  have e : bytesOf "a =\n  x\n \r" = (strBytes "a =\n  x\n \r").toArray := by simp [bytesOf, strBytes]
  have hw : wellFormed (bytesOf "a =\n  x\n \r").toList = true := by rw [e]; decide +kernel
  have := agrees_of_refines (h _ hw)
  rw [e] at this
  revert this
  decide +kernel

/-- test: a well-formed source with an attached comment, a multi-line value with a placeable-led line,
a select expression and a term: the grammar calls it well-formed and `parse_refines_grammar`'s
conclusion holds for it (`agrees`) -/
example :
    let src := strBytes "# c\nkey =\n      two\n    { $n ->\n        [one] x\n       *[other] { FOO(1, k: \"v\") }\n    }\n-t = v\n    .a = w\n"
    (wellFormed src &&
      (match parse src.toArray, SpecGrammar.parse src with
       | .done (t, errs), some g => errs.isEmpty && Resource.sexp (Resource.joinText (resolve src.toArray t)) == Resource.sexp g
       | _, _ => false)) = true := by decide +kernel

/-- test: the grammar rejects what the abstract syntax forbids (entries become Junk) -/
example :
    ((["a = { -t.attr }\n", "a = { m -> \n *[x] y\n}\n", "a = { FOO(x: 1, 2) }\n", "a = { FOO(x: 1, x: 2) }\n",
       "a = { foo() }\n", "a = { $x ->\n [a] b\n}\n", "a = { \"\\q\" }\n"].map
        fun s => wellFormed (strBytes s)) = [false, false, false, false, false, false, false]) := by decide +kernel

end FluentProofs.C02

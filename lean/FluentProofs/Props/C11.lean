import FluentProofs.BytesOrder
/-!
# C11 — FluentArgs is a map: last write wins, lookup finds every key

Model: `FluentModel.Args` (`setL`/`getL`/`fromPairs`, keys = UTF-8 bytes in Rust `str` order).
All theorems quantify over *every* sequence of `set` operations (`ops`), every key and every
value type `V` (values are stored and returned unchanged: the model is parametric in `V`, which
is the "values round-trip unchanged" clause).
-/
namespace FluentProofs.C11
open FluentModel FluentModel.Args

variable {V : Type}

/-- state after `FluentArgs::new()` and any sequence of `set` calls
(= `from_iter` = `fluent_args!`, which are folds of `set`) -/
abbrev run (ops : List (Bytes × V)) : List (Bytes × V) := fromPairs bytesLt ops

/-- The vector is strictly sorted by key after every history (the invariant `get` relies on). -/
theorem C11_invariant (ops : List (Bytes × V)) : Sorted bytesLt (run ops) :=
  sorted_fromPairs bytesLt_strictTotal [] ops trivial

/-- `get` returns the value most recently set for the key, and nothing for keys never set. -/
theorem C11_last_write_wins (ops : List (Bytes × V)) (k : Bytes) :
    getL bytesLt (run ops) k = (ops.reverse.find? (fun p => p.1 = k)).map (·.2) := by
  have := getL_foldl bytesLt_strictTotal ([] : List (Bytes × V)) ops k
  unfold run fromPairs
  rw [this]
  cases ops.reverse.find? (fun p => p.1 = k) <;> simp [getL]

/-- one-step form of the map law (for states reached by any history) -/
theorem C11_get_set (ops : List (Bytes × V)) (k k' : Bytes) (v : V) :
    getL bytesLt (setL bytesLt (run ops) k v) k' = if k' = k then some v else getL bytesLt (run ops) k' :=
  getL_setL bytesLt_strictTotal _ k v k'

/-- iteration yields exactly the keys that were set … -/
theorem C11_iter_keys (ops : List (Bytes × V)) (k : Bytes) :
    k ∈ keys (run ops) ↔ k ∈ ops.map (·.1) :=
  (mem_keys_foldl bytesLt_strictTotal ([] : List (Bytes × V)) ops k).trans (or_iff_left List.not_mem_nil)

/-- … each exactly once … -/
theorem C11_iter_nodup (ops : List (Bytes × V)) : (keys (run ops)).Nodup :=
  sorted_keys_nodup bytesLt_strictTotal _ (C11_invariant ops)

/-- … and every pair iteration yields is what `get` returns for that key. -/
theorem C11_iter_values (ops : List (Bytes × V)) (p : Bytes × V) (hp : p ∈ run ops) :
    getL bytesLt (run ops) p.1 = some p.2 := by
  have hs := C11_invariant ops
  generalize run ops = l at hp hs
  induction l with
  | nil => cases hp
  | cons q r ih =>
    obtain ⟨k₁, v₁⟩ := q
    have h' := (sorted_cons_iff bytesLt_strictTotal k₁ v₁ r).1 hs
    rcases List.mem_cons.1 hp with rfl | hp
    · simp [getL, bytesLt_irrefl]
    · have hlt : bytesLt k₁ p.1 = true := h'.1 p hp
      simp [getL, hlt, ih hp h'.2]

/-- The result does not depend on how the arguments were inserted: two histories that leave the
same final map leave the *same value* (used by C08). -/
theorem C11_canonical (ops₁ ops₂ : List (Bytes × V))
    (h : ∀ k, getL bytesLt (run ops₁) k = getL bytesLt (run ops₂) k) : run ops₁ = run ops₂ :=
  sorted_ext bytesLt_strictTotal _ _ (C11_invariant ops₁) (C11_invariant ops₂) h

/-- non-vacuity / sanity: a concrete history with an overwrite, an empty key and a prefix pair -/
example :
    run [([98], 1), ([], 2), ([97, 98], 3), ([97], 4), ([98], 5)]
      = [([], 2), ([97], 4), ([97, 98], 3), ([98], 5)] := by decide

end FluentProofs.C11

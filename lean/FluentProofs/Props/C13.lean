import FluentProofs.Unescape
import FluentProofs.UnescapeFast
/-!
# C13 — string-literal escapes decode exactly and never fail

Model: `FluentModel.Unescape` (byte cursor over `Array UInt8`, transcribed from
`fluent-syntax/src/unicode.rs`; slicing off a char boundary or out of range is the explicit outcome
`panic`, the loops take fuel).  Specification: `FluentProofs.UnescapeSpec.decode` (recursion on
characters, written from the property text).  Inputs are *all* `String`s, i.e. all valid UTF-8 byte
sequences of any length (`ByteArray.IsValidUTF8`); nothing is bounded.
-/
namespace FluentProofs.C13
open FluentModel FluentModel.Unescape FluentProofs.UnescapeSpec FluentProofs.Unescape FluentProofs.UnescapeFast

/-- **Unescaping returns, for every valid UTF-8 input of any length**: neither entry point reaches a
panicking slice (`&input[a..b]` off a char boundary or out of range) and the fuel the model passes to
its loops is sufficient (termination). -/
theorem C13_unescape_total (b : ByteArray) (h : b.IsValidUTF8) (w : Bytes) :
    (∃ r, unescapeUnicodeToString b.data = .done r) ∧ (∃ r, unescapeUnicode w b.data = .done r) := by
  obtain ⟨cs, hcs⟩ := validUTF8_bytes b h
  rw [hcs]
  exact ⟨⟨_, unescapeUnicodeToString_spec cs⟩, ⟨_, unescapeUnicode_spec w cs⟩⟩

/-- **Exact decoding on all inputs**: the string form yields the UTF-8 of `decode` of the input's
characters (`\\`→`\`, `\"`→`"`, `\uXXXX`/`\UXXXXXX`→ the scalar or U+FFFD, malformed escape → U+FFFD, all
other text unchanged and in order), and `Cow::Owned` exactly when `decode` had an escape to process. -/
theorem C13_unescape_eq_decode (s : String) :
    unescapeUnicodeToString s.toUTF8.data =
      .done (utf8 (decode s.toList), s.toList.any (· == '\\')) := by
  rw [string_bytes, unescapeUnicodeToString_spec, utf8_eq_enc]; rfl

/-- **Well-formed input decodes token by token**: on any concatenation of plain characters, `\\`, `\"`,
`\uXXXX` and `\UXXXXXX` (exactly 4 / 6 hex digits) the output is the concatenation of the tokens' values
(U+FFFD for surrogates and values above U+10FFFF). -/
theorem C13_unescape_wellformed (ts : List Tok) (h : ∀ t ∈ ts, t.Valid) :
    ∃ owned, unescapeUnicodeToString (String.ofList (ts.flatMap Tok.text)).toUTF8.data =
      .done (utf8 (ts.flatMap Tok.value), owned) := by
  refine ⟨(ts.flatMap Tok.text).any (· == '\\'), ?_⟩
  rw [C13_unescape_eq_decode, String.toList_ofList, decode_tokens ts h]

/-- **Borrowed iff no backslash**: the result is `Cow::Borrowed` (flag `false`) exactly when the input has
no backslash, and then it is the input itself, byte for byte. -/
theorem C13_no_backslash_borrowed (s : String) :
    ∃ out owned, unescapeUnicodeToString s.toUTF8.data = .done (out, owned) ∧
      (owned = false ↔ '\\' ∉ s.toList) ∧ (owned = false → out = s.toUTF8.data.toList) := by
  refine ⟨_, _, C13_unescape_eq_decode s, ?_, ?_⟩
  · rw [← hasBS_iff]; cases h : hasBS s.toList <;> simp_all [hasBS]
  · intro h
    rw [utf8_eq_enc, decode_noBS _ h, string_bytes]; rfl

/-- **Writer form = string form**: `unescape_unicode(w, input)` appends to `w` exactly the text that
`unescape_unicode_to_string(input)` returns (whether borrowed or owned). -/
theorem C13_writer_eq_string (s : String) (w : Bytes) :
    ∃ out owned, unescapeUnicodeToString s.toUTF8.data = .done (out, owned) ∧
      unescapeUnicode w s.toUTF8.data = .done (w ++ out) := by
  refine ⟨_, _, C13_unescape_eq_decode s, ?_⟩
  rw [string_bytes, unescapeUnicode_spec, utf8_eq_enc]

/-! ### The functions the driver `fvm_unesc` runs

The model tie executes the linear-time variants `unescapeUnicodeToStringFast` / `unescapeUnicodeFast`
(`FluentModel.UnescapeFast`: the written bytes are kept in an array instead of a list).  They are equal
to the functions above on every input and in every outcome (`FluentProofs.UnescapeFast`), so the
headline theorems hold of them verbatim. -/

/-- **The driver's functions are the model's functions** (all inputs, all outcomes incl. the flag). -/
theorem C13_fast_eq (s : Src) (w : Bytes) :
    unescapeUnicodeToStringFast s = unescapeUnicodeToString s ∧
      unescapeUnicodeFast w s = unescapeUnicode w s :=
  ⟨unescapeUnicodeToStringFast_eq s, unescapeUnicodeFast_eq w s⟩

/-- `C13_unescape_total` for the functions the driver runs. -/
theorem C13_unescape_total_fast (b : ByteArray) (h : b.IsValidUTF8) (w : Bytes) :
    (∃ r, unescapeUnicodeToStringFast b.data = .done r) ∧ (∃ r, unescapeUnicodeFast w b.data = .done r) := by
  rw [unescapeUnicodeToStringFast_eq, unescapeUnicodeFast_eq]
  exact C13_unescape_total b h w

/-- `C13_unescape_eq_decode` and `C13_writer_eq_string` for the functions the driver runs: the string
form yields the UTF-8 of `decode` with the owned/borrowed flag, the writer form appends that same text. -/
theorem C13_unescape_eq_decode_fast (s : String) (w : Bytes) :
    unescapeUnicodeToStringFast s.toUTF8.data =
        .done (utf8 (decode s.toList), s.toList.any (· == '\\')) ∧
      unescapeUnicodeFast w s.toUTF8.data = .done (w ++ utf8 (decode s.toList)) := by
  rw [unescapeUnicodeToStringFast_eq, unescapeUnicodeFast_eq]
  refine ⟨C13_unescape_eq_decode s, ?_⟩
  rw [string_bytes, unescapeUnicode_spec, utf8_eq_enc]

/-! Non-vacuity / sanity (these are tests on literals, not the theorems): the model run on the former
crash witness F3 (`\u000éx`), on F4 (`\u+041`), on a truncated escape, and a well-formed token list. -/
example : unescapeUnicodeToString (src "\\u000éx".toList) = .done (enc "�x".toList, true) := by
  rw [unescapeUnicodeToString_spec]; decide +kernel
example : decode "\\u+041".toList = "�".toList := by decide +kernel
example : decode "a\\\\b\\\"c\\u00e9\\U01F600\\uD800\\U110000\\".toList = "a\\b\"cé😀���".toList := by decide +kernel
example : decode "\\u00".toList = "�".toList ∧ decode "\\xé".toList = "�é".toList ∧
    decode "\\é\\".toList = "��".toList := by decide +kernel
example : Tok.Valid (.u "00e9".toList) ∧ Tok.Valid (.U "10FFFF".toList) ∧ Tok.Valid (.plain 'é') := by
  simp only [Tok.Valid]; decide +kernel

end FluentProofs.C13

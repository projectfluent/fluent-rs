import FluentProofs.EndToEnd
import FluentProofs.Props.C01
import FluentProofs.Props.C06
import FluentProofs.Props.C08
import FluentModel.Drv.FmtDrv
/-!
# E2E — "load FTL text into a bundle, then format a message" is total, fuel-independent and bounded

Composition of the per-component theorems over the pipeline model `FluentModel/Bundle.lean`
(`Bundle.ofSources` = runtime parser + `add_resource[_overriding]` for every source, in order;
`Bundle.env` = the `Env` the resolver sees; `Bundle.format` / `Bundle.write` = `format_pattern` /
`write_pattern` on the value or attribute of a message, as the `fmt` driver chooses it):

* C01 `parseRuntime_total` (every `String` parses: no panic, no fuel exhaustion)  →  `Bundle.ofSources` is `some`;
* the registry is a finite list whose entries are configured functions or messages/terms of the parsed trees
  →  a depth bound `S = regDepth b.reg` exists (the `hS` hypothesis of C06 is discharged, not assumed);
* C06 `format_total` + `fuel_irrelevant` + `too_many_reported_at_most_once`, C08 `format_eq_write`
  →  one result `(w, errs)` for both APIs at every fuel `≥ fuelBound S`;
* C06 `output_bound` with `M`, `E` computed from the loaded bundle and the arguments.

The only hypotheses left are the contracts on the configuration: `hcat` (the plural rules of the bundle's
locale are total, C12) and — for the size bound only — that named arguments of term calls are literals
(`regLit`, a decidable check on the loaded bundle; the grammar asks for it, the parser does not enforce it: see
`ResolverBound`) and a bound on what registered functions print.
-/
namespace FluentProofs.E2E
open FluentModel FluentModel.Syntax FluentModel.Resolver FluentModel.Bundle
open FluentProofs.Resolver FluentProofs.EndToEnd

/-- the bundle model's default fuel is the `fmt` driver's constant -/
theorem resolverFuel_eq : Bundle.resolverFuel = FluentModel.Drv.FmtDrv.resolverFuel := rfl

/-! ## 1. loading is total, the registry is finite and every entry has an origin -/

/-- **bundle_of_sources_total.**  For EVERY configuration and EVERY list of sources (any `String`s, each added
with `add_resource` or `add_resource_overriding`), `Bundle.ofSources` returns a bundle: the parser model never
panics and never runs out of fuel (C01).  The bundle keeps the configuration; its registry is a finite list
(`b.reg : List _`) and every entry of it is a configured function or the entry `(m.id, m)` / `(t.id, t)` of a
message / term of the tree the runtime parser returned for one of the sources (`Origin`).  In particular
whatever the resolver's lookups answer is such an entry, stored under its own id. -/
theorem bundle_of_sources_total (cfg : BundleCfg) (srcs : List (Bool × String)) :
    ∃ b, Bundle.ofSources cfg srcs = some b ∧ b.cfg = cfg ∧
      (∀ x ∈ b.reg, Origin cfg srcs x) ∧
      (∀ args id m, (b.env args).msg id = some m → m.id = id ∧
        ∃ s ∈ srcs, ∃ res errs, parseRuntime s.2.toUTF8.data = .done (res, errs) ∧
          Entry.message m ∈ resolve s.2.toUTF8.data res) ∧
      (∀ args id t, (b.env args).term id = some t → t.id = id ∧
        ∃ s ∈ srcs, ∃ res errs, parseRuntime s.2.toUTF8.data = .done (res, errs) ∧
          Entry.term t ∈ resolve s.2.toUTF8.data res) ∧
      (∀ args id f, (b.env args).fn id = some f → (id, f) ∈ cfg.functions) := by
  obtain ⟨b, hb, hcfg, horg⟩ := ofSources_some cfg srcs fun s _ => FluentProofs.C01.parseRuntime_total s.2
  refine ⟨b, hb, hcfg, horg, ?_, ?_, ?_⟩
  · intro args id m hm
    rcases horg _ (get_mem (env_msg hm)) with ⟨nf, _, hx⟩ | ⟨s, hs, res, errs, hp, hf⟩
    · cases hx
    · rcases hf with ⟨m', hm', hx⟩ | ⟨t', _, hx⟩
      · cases hx; exact ⟨rfl, s, hs, res, errs, hp, hm'⟩
      · cases hx
  · intro args id t ht
    rcases horg _ (get_mem (env_term ht)) with ⟨nf, _, hx⟩ | ⟨s, hs, res, errs, hp, hf⟩
    · cases hx
    · rcases hf with ⟨m', _, hx⟩ | ⟨t', ht', hx⟩
      · cases hx
      · cases hx; exact ⟨rfl, s, hs, res, errs, hp, ht'⟩
  · intro args id f hf
    rcases horg _ (get_mem (env_fn hf)) with ⟨nf, hnf, hx⟩ | ⟨s, _, res, errs, _, hf'⟩
    · cases hx; exact hnf
    · rcases hf' with ⟨m', _, hx⟩ | ⟨t', _, hx⟩ <;> cases hx

/-! ## 2. a depth bound exists (and is computable) -/

/-- **depth_bound_exists.**  For every bundle there is an `S` — explicitly `regDepth b.reg`, the maximum of
`depthPat` over the values and attribute values of the finitely many registry entries — that bounds the
syntactic depth of every pattern the resolver can reach through a reference, whatever the arguments.  This is
the hypothesis `hS` of `C06.format_total` / `C06.fuel_sufficient`, discharged for every loaded bundle. -/
theorem depth_bound_exists (b : Bundle) :
    ∃ S, S = regDepth b.reg ∧ ∀ args p, Reach (b.env args) p → depthPat p ≤ S :=
  ⟨_, rfl, fun _ _ h => reach_depth h⟩

/-! ## 3. formatting is total, the same through both APIs and at every sufficient fuel -/

theorem three_le_fuelBound (S : Nat) : 3 ≤ fuelBound S := by
  unfold fuelBound; rw [Nat.succ_mul]; omega

/-- **format_total_e2e, for a given bundle.**  Let `b` be any bundle whose plural rules are total, `p` the
value / attribute `Bundle.pattern` finds, `F = fuelBound (regDepth b.reg)`.  There is ONE result `(w, errs)` such
that for every `fuel ≥ F` both `format_pattern` and `write_pattern` return exactly `.ok (w, errs)` — never
`.panic`, never `.fuel`, the same through both APIs (C08) and independent of the fuel (C06 `fuel_irrelevant`) —
with `TooManyPlaceables` at most once in `errs`; and if `F` is at most the constant the `fmt` driver passes,
`Bundle.format` / `Bundle.write` (which use that constant) answer that result. -/
theorem format_total_bundle (b : Bundle) (hcat : ∀ n, b.cfg.category n ≠ none)
    (id : Bytes) (attr : Option Bytes) (p : Pattern Bytes) (hp : b.pattern id attr = some p)
    (args : Option ArgList) :
    ∃ w errs,
      (∀ fuel, fuelBound (regDepth b.reg) ≤ fuel →
        formatPattern (b.env args) fuel p = .ok (w, errs) ∧
        writePatternTop (b.env args) fuel p = .ok (w, errs)) ∧
      errs.count RErr.tooManyPlaceables ≤ 1 ∧
      (fuelBound (regDepth b.reg) ≤ FluentModel.Drv.FmtDrv.resolverFuel →
        b.format id attr args = some (.ok (w, errs)) ∧ b.write id attr args = some (.ok (w, errs))) := by
  have hmax := ConstTie.max_placeables_fits_u8
  have hS : ∀ q, Reach (b.env args) q → depthPat q ≤ regDepth b.reg := fun _ h => reach_depth h
  obtain ⟨⟨w, errs, hF⟩, ⟨w', errs', hW⟩⟩ :=
    FluentProofs.C06.format_total hmax (b.env args) hcat (regDepth b.reg) hS p (hS p (pattern_reach hp args))
      (fuelBound (regDepth b.reg)) (Nat.le_refl _)
  have heq := FluentProofs.C08.format_eq_write (b.env args) _ p (three_le_fuelBound (regDepth b.reg))
  rw [hF, hW] at heq
  cases heq
  have hall : ∀ fuel, fuelBound (regDepth b.reg) ≤ fuel →
      formatPattern (b.env args) fuel p = .ok (w, errs) ∧ writePatternTop (b.env args) fuel p = .ok (w, errs) := by
    intro fuel hle
    have hi := FluentProofs.C06.fuel_irrelevant (b.env args) _ fuel hle p
    constructor
    · rw [hi.1 (by rw [hF]; intro h; cases h), hF]
    · rw [hi.2 (by rw [hW]; intro h; cases h), hW]
  refine ⟨w, errs, hall, FluentProofs.C06.too_many_reported_at_most_once hmax _ _ p w errs hF, fun hle => ?_⟩
  have := hall _ hle
  simp only [Bundle.format, Bundle.write, hp, Option.map_some, Bundle.resolverFuel]
  exact ⟨congrArg some this.1, congrArg some this.2⟩

/-- **format_total_e2e.**  For EVERY list of `String` sources, EVERY configuration whose plural rules are total,
EVERY message id / attribute that is present and EVERY argument list: loading succeeds (1.), the depth bound
`S = regDepth b.reg` exists (2.), and with `F = fuelBound S` there is one `(w, errs)` that `format_pattern` and
`write_pattern` both return at every `fuel ≥ F` (no panic, no fuel exhaustion, fuel-independent, APIs agree),
with `TooManyPlaceables` at most once; if `F ≤ FmtDrv.resolverFuel` it is the driver's answer. -/
theorem format_total_e2e (cfg : BundleCfg) (hcat : ∀ n, cfg.category n ≠ none) (srcs : List (Bool × String)) :
    ∃ b, Bundle.ofSources cfg srcs = some b ∧ ∃ F, F = fuelBound (regDepth b.reg) ∧
      ∀ (id : Bytes) (attr : Option Bytes) (p : Pattern Bytes), b.pattern id attr = some p →
      ∀ args : Option ArgList, ∃ w errs,
        (∀ fuel, F ≤ fuel →
          formatPattern (b.env args) fuel p = .ok (w, errs) ∧
          writePatternTop (b.env args) fuel p = .ok (w, errs)) ∧
        errs.count RErr.tooManyPlaceables ≤ 1 ∧
        (F ≤ FluentModel.Drv.FmtDrv.resolverFuel →
          b.format id attr args = some (.ok (w, errs)) ∧ b.write id attr args = some (.ok (w, errs))) := by
  obtain ⟨b, hb, hcfg, _⟩ := bundle_of_sources_total cfg srcs
  refine ⟨b, hb, _, rfl, fun id attr p hp args => ?_⟩
  exact format_total_bundle b (by rw [hcfg]; exact hcat) id attr p hp args

/-- uniqueness form: whatever `format_pattern` returns at ANY fuel that is not `.fuel` is that result (so "the
result of formatting" is well defined without mentioning fuel) -/
theorem format_result_unique (b : Bundle) (hcat : ∀ n, b.cfg.category n ≠ none)
    (id : Bytes) (attr : Option Bytes) (p : Pattern Bytes) (hp : b.pattern id attr = some p)
    (args : Option ArgList) (n : Nat) (hn : formatPattern (b.env args) n p ≠ .fuel) :
    formatPattern (b.env args) n p = formatPattern (b.env args) (max n (fuelBound (regDepth b.reg))) p ∧
    ∃ w errs, formatPattern (b.env args) n p = .ok (w, errs) := by
  obtain ⟨w, errs, hall, _, _⟩ := format_total_bundle b hcat id attr p hp args
  have h1 := (FluentProofs.C06.fuel_irrelevant (b.env args) n _ (Nat.le_max_left n (fuelBound (regDepth b.reg))) p).1 hn
  refine ⟨h1.symm, w, errs, ?_⟩
  rw [← h1]; exact (hall _ (Nat.le_max_right _ _)).1

/-! ## 4. the output is bounded by an explicit function of the loaded sources and the arguments -/

/-- `M`: the largest text / literal / error-token size over the (finite) registry — `regNeed`, a computable
function of the bundle, i.e. of `cfg` and `srcs` -/
def boundM (b : Bundle) (args : Option ArgList) : Nat := regNeed b args

/-- `E`: at least `M`, the largest printed caller argument (`argsE`), and `A` (what functions print) -/
def boundE (b : Bundle) (args : Option ArgList) (A : Nat) : Nat :=
  max (regNeed b args) (max (argsE (b.env args) args) A)

/-- **format_bounded_e2e, for a given bundle.**  If every named argument of a term call in the bundle is a
literal (`regLit`, decidable) and every registered function prints at most `A`
bytes, then with `M = boundM b args`, `E = boundE b args A` every output of `format_pattern` / `write_pattern`
on a pattern of the bundle, at any fuel, has at most `M + (maxPlaceables + 1) * (2 * M + E + 6)` bytes.  The
hypotheses `hReach`, `hArgs`, `hFn`, `hp` of `C06.output_bound` are discharged from the finite registry. -/
theorem format_bounded_bundle (b : Bundle) (hlit : regLit b.reg = true) (args : Option ArgList) (A : Nat)
    (hFn : ∀ id f, (b.env args).fn id = some f → ∀ rp rn, (valueString (b.env args) (f rp rn)).length ≤ A)
    (id : Bytes) (attr : Option Bytes) (p : Pattern Bytes) (hp : b.pattern id attr = some p)
    (fuel : Nat) (w : Bytes) (errs : List RErr) :
    (formatPattern (b.env args) fuel p = .ok (w, errs) →
      w.length ≤ boundM b args + (Generated.maxPlaceables + 1) * (2 * boundM b args + boundE b args A + 6)) ∧
    (writePatternTop (b.env args) fuel p = .ok (w, errs) →
      w.length ≤ boundM b args + (Generated.maxPlaceables + 1) * (2 * boundM b args + boundE b args A + 6)) := by
  have hM : regNeed b args ≤ boundM b args := Nat.le_refl _
  have hE : regNeed b args ≤ boundE b args A := Nat.le_max_left _ _
  exact FluentProofs.C06.output_bound ConstTie.max_placeables_fits_u8 (b.env args) (boundM b args) (boundE b args A)
    (fun q hq => reach_okPat hlit hM hE hq)
    (fun k v h => Nat.le_trans (args_small (b.env args) args k v h)
      (Nat.le_trans (Nat.le_max_left _ _) (Nat.le_max_right _ _)))
    (fun id f rp rn h => Nat.le_trans (hFn id f h rp rn)
      (Nat.le_trans (Nat.le_max_right _ _) (Nat.le_max_right _ _)))
    p (reach_okPat hlit hM hE (pattern_reach hp args)) fuel w errs

/-- **format_bounded_e2e.**  For EVERY list of `String` sources and EVERY configuration with total plural rules
the bundle loads, and — provided its term calls pass only literal named arguments (`regLit`) and the configured
functions print at most `A` bytes — for every present message id / attribute and every argument list the one
result `(w, errs)` of `format_total_e2e` (returned by both APIs at every fuel `≥ fuelBound (regDepth b.reg)`)
satisfies `|w| ≤ M + (maxPlaceables + 1) * (2 * M + E + 6)` with `M = boundM b args`, `E = boundE b args A`:
explicit functions of the loaded sources, the configuration and the arguments, linear in the largest pattern,
the largest argument and the limit — no multiplicative blow-up through reference chains. -/
theorem format_bounded_e2e (cfg : BundleCfg) (hcat : ∀ n, cfg.category n ≠ none) (srcs : List (Bool × String)) :
    ∃ b, Bundle.ofSources cfg srcs = some b ∧
      (regLit b.reg = true → ∀ (args : Option ArgList) (A : Nat),
        (∀ nf ∈ cfg.functions, ∀ rp rn, (valueString (b.env args) (nf.2 rp rn)).length ≤ A) →
        ∀ (id : Bytes) (attr : Option Bytes) (p : Pattern Bytes), b.pattern id attr = some p →
        ∃ w errs,
          (∀ fuel, fuelBound (regDepth b.reg) ≤ fuel →
            formatPattern (b.env args) fuel p = .ok (w, errs) ∧
            writePatternTop (b.env args) fuel p = .ok (w, errs)) ∧
          w.length ≤ boundM b args + (Generated.maxPlaceables + 1) * (2 * boundM b args + boundE b args A + 6)) := by
  obtain ⟨b, hb, hcfg, _, _, _, hfn⟩ := bundle_of_sources_total cfg srcs
  refine ⟨b, hb, fun hlit args A hA id attr p hp => ?_⟩
  obtain ⟨w, errs, hall, _, _⟩ := format_total_bundle b (by rw [hcfg]; exact hcat) id attr p hp args
  refine ⟨w, errs, hall, ?_⟩
  exact (format_bounded_bundle b hlit args A
    (fun id f h rp rn => hA (id, f) (hfn args id f h) rp rn) id attr p hp _ w errs).1 (hall _ (Nat.le_refl _)).1

/-- total size in bytes of the sources -/
def srcBytes (srcs : List (Bool × String)) : Nat := (srcs.map fun s => (srcOf s.2).size).sum

/-- Stated, not proved, and FALSE as it stands: the bound is linear in the size of the sources.  The first conjunct
("the literal check passes for every bundle the parser produces") fails, because `get_inline_expression(only_literal =
true)` still reads a message reference or a function call as a named argument (see `ResolverBound`): the source
`-t = v\na = { -t(n: foo) }\nfoo = bar\n` loads with `regLit b.reg = false`.  What is open is the second conjunct
for a bundle with `regLit b.reg = true`: when the transform, `unescape` and number printing do not expand their
input, `M` is at most the total byte length of the sources (+ a constant).  That needs a fact about the parser that
is not a Lean theorem in this development: the spans of one entry are pairwise disjoint. -/
def format_bounded_linear_statement : Prop :=
  ∀ (cfg : BundleCfg) (srcs : List (Bool × String)) (b : Bundle), Bundle.ofSources cfg srcs = some b →
    regLit b.reg = true ∧
    ((∀ f, cfg.transform = some f → ∀ v, (f v).length ≤ v.length) →
     (∀ v, (cfg.unescape v).length ≤ v.length) →
     (∀ args v, (valueString (b.env args) (cfg.tryNumber v)).length ≤ v.length) →
     ∀ args, boundM b args ≤ srcBytes srcs + 8)

/-! ## tests (`decide +kernel` on literals: non-vacuity witnesses, not the unbounded claim) -/
section tests

def tCfg : BundleCfg where
  useIsolating := false
  transform := none
  formatter := none
  functions := []
  category := fun _ => some .other
  unescape := id
  tryNumber := fun v => .str v
  customStr := id

/-- two messages referring to each other -/
def cycSrc : List (Bool × String) := [(false, "a = x { b }\nb = y { a }\n")]

/-- test: the two-message cyclic source loads into a registry of two messages of depth 5, the sufficient fuel
`fuelBound 5` is below the driver's constant, and `a` formats to `x y {a}` with exactly the error `Cyclic`
through both APIs — at the sufficient fuel and at the driver's fuel -/
example :
    (match Bundle.ofSources tCfg cycSrc with
     | some b =>
       b.reg.length == 2 && regDepth b.reg == 5 &&
       decide (fuelBound (regDepth b.reg) ≤ FluentModel.Drv.FmtDrv.resolverFuel) &&
       (match b.format [97] none none (fuelBound (regDepth b.reg)), b.write [97] none none (fuelBound (regDepth b.reg)) with
        | some (.ok (w, errs)), some (.ok (w', errs')) =>
          w == [120, 32, 121, 32, 123, 97, 125] && errs == [RErr.cyclic] && w' == w && errs' == errs
        | _, _ => false)
     | none => false) = true := by decide +kernel

/-- test: with less fuel than the nesting needs the model does report `.fuel` (the bound is not vacuous) -/
example :
    (match Bundle.ofSources tCfg cycSrc with
     | some b => (match b.format [97] none none 6 with | some .fuel => true | _ => false)
     | none => false) = true := by decide +kernel

/-- test: `add_resource` keeps the first `a`, `add_resource_overriding` replaces it; a missing id gives `none` -/
example :
    (match Bundle.ofSources tCfg [(false, "a = 1\n"), (false, "a = 2\n-t = 3\n"), (true, "t = 4\n")] with
     | some b =>
       (match b.format [97] none none, b.format [116] none none, b.format [122] none none with
        | some (.ok (w, [])), some (.ok (w', [])), none => w == [49] && w' == [52]
        | _, _, _ => false)
     | none => false) = true := by decide +kernel

/-- a term called with a literal named argument, and a caller argument -/
def termSrc : List (Bool × String) := [(false, "-t = v { $n } w\na = { -t(n: 12345) } and { $x }\n")]
def termArgs : Option ArgList := some (ArgList.ofPairs [([120], .str [65, 66, 67, 68, 69, 70, 71, 72, 73, 74, 75, 76])])

/-- test: on that bundle the literal check passes, `M = 5` (`v ` + ` w`, `12345`, `{$n}`, `{-t}`), `E = 12` (the
argument `x`), the sources have 48 bytes, and `a` formats to the 26 bytes `v 12345 w and ABCDEFGHIJKL` —
within `M + (maxPlaceables + 1) * (2 * M + E + 6)` -/
example :
    (match Bundle.ofSources tCfg termSrc with
     | some b =>
       regLit b.reg && boundM b termArgs == 5 && boundE b termArgs 0 == 12 && srcBytes termSrc == 48 &&
       (match b.format [97] none termArgs with
        | some (.ok (w, errs)) =>
          w.length == 26 && errs.isEmpty &&
          decide (w.length ≤ boundM b termArgs + (Generated.maxPlaceables + 1) * (2 * boundM b termArgs + boundE b termArgs 0 + 6))
        | _ => false)
     | none => false) = true := by decide +kernel

/-- test: a non-literal named argument never reaches the bundle — the parser turns `a` into Junk, only `-t` loads -/
example :
    (match Bundle.ofSources tCfg [(false, "-t = v\na = { -t(n: $x) }\n")] with
     | some b => b.reg.length == 1 && regLit b.reg && (b.pattern [97] none).isNone
     | none => false) = true := by decide +kernel

/-- test: the hypotheses of `format_total_e2e` / `format_bounded_e2e` are satisfiable — instantiated on `termSrc`
(`regLit` by evaluation, no functions configured) -/
example : ∃ b, Bundle.ofSources tCfg termSrc = some b ∧
    ∀ p, b.pattern [97] none = some p → ∃ w errs,
      (∀ fuel, fuelBound (regDepth b.reg) ≤ fuel →
        formatPattern (b.env termArgs) fuel p = .ok (w, errs) ∧ writePatternTop (b.env termArgs) fuel p = .ok (w, errs)) ∧
      w.length ≤ boundM b termArgs + (Generated.maxPlaceables + 1) * (2 * boundM b termArgs + boundE b termArgs 0 + 6) := by
  obtain ⟨b, hb, H⟩ := format_bounded_e2e tCfg (fun _ => by simp [tCfg]) termSrc
  have hl : (Bundle.ofSources tCfg termSrc).all (fun b => regLit b.reg) = true := by decide +kernel
  rw [hb] at hl
  exact ⟨b, hb, fun p hp => H hl termArgs 0 (fun nf h => by cases h) [97] none p hp⟩

end tests
end FluentProofs.E2E

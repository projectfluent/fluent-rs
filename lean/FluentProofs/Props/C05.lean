import FluentProofs.ConstTieSyntax
import FluentProofs.ParserLinesWF
/-!
# C05 — the runtime parser agrees with the full parser apart from comments

Model: `parse` / `parseRuntime` of `FluentModel/Parser.lean` (transcriptions of `Parser::parse`
and `Parser::parse_runtime`; they share `getMessage`/`getTerm` exactly as the Rust code shares
`get_message`/`get_term`).

The first sentence (`C05_full`) holds for EVERY byte source on which both parsers finish, whatever its `#` lines look like
(well-formed, mixed levels, malformed `#x`, CRLF): the proof is a simulation between the two entry loops
(`FluentProofs/ParserLinesSim.lean`).  The second (`C05_junk_errors`: Junk and the complete error list) needs every line
whose first byte is `#` to match `#{1,3}( .*)?` (`CommentsWellFormed`, a decidable predicate on the bytes; CRLF line ends
allowed), by a second simulation (`FluentProofs/ParserLinesWF.lean`); the hypothesis is needed: see the `#x` example at the
end.
-/
namespace FluentProofs.C05
open FluentModel.Syntax

/-- full statement of the property on the model (first sentence; proved below: `C05_full`) -/
def C05_full_statement : Prop :=
  ∀ (s : Src) (b₁ b₂ : Resource Span) (e₁ e₂ : List PErr),
    parse s = .done (b₁, e₁) → parseRuntime s = .done (b₂, e₂) →
    msgsTerms b₂ = msgsTerms b₁

/-- **C05, first sentence**: for every source, the runtime parser returns exactly the messages and terms (same
order, same content, no comments) that the full parser returns. -/
theorem C05_full : C05_full_statement := by
  intro s b₁ b₂ e₁ e₂ h1 h2
  open FluentProofs.Parser in
  exact (sim_msgsTerms s _ _ _ [] [] none 0 _ [] [] _ (b₁, e₁) (b₂, e₂) (start_LSE s) (start_LSE s)
    (Sync.refl _ _) rfl h1 h2).symm

/-- **C05 for every `String`**: both parsers finish (C01) and return the same messages and terms. -/
theorem C05_full_string (str : String) :
    ∃ b₁ e₁ b₂ e₂, parse str.toUTF8.data = .done (b₁, e₁) ∧ parseRuntime str.toUTF8.data = .done (b₂, e₂) ∧
      msgsTerms b₂ = msgsTerms b₁ := by
  open FluentProofs.Parser in
  have hs := asciiThenBoundary_of_string str
  obtain ⟨⟨b₁, e₁⟩, h1, _⟩ := parse_done hs
  obtain ⟨⟨b₂, e₂⟩, h2, _⟩ := parseRuntime_done hs
  exact ⟨b₁, e₁, b₂, e₂, h1, h2, C05_full _ b₁ b₂ e₁ e₂ h1 h2⟩

/-- **C05, second sentence**: when every `#` line of the input is a well-formed comment line, the two parsers
also agree on all Junk entries (same spans, in order) and on the complete error list. -/
theorem C05_junk_errors (s : Src) (hwf : FluentProofs.Parser.CommentsWellFormed s) (b₁ b₂ : Resource Span)
    (e₁ e₂ : List PErr) (h1 : parse s = .done (b₁, e₁)) (h2 : parseRuntime s = .done (b₂, e₂)) :
    junkSpans b₂ = junkSpans b₁ ∧ e₂ = e₁ :=
  FluentProofs.Parser.parse_runtime_junk s hwf b₁ b₂ e₁ e₂ h1 h2

/-- **C05 for every `String`, both sentences**: both parsers finish; messages and terms agree; and if all `#`
lines are well-formed comments, Junk and errors agree too. -/
theorem C05_complete_string (str : String) :
    ∃ b₁ e₁ b₂ e₂, parse str.toUTF8.data = .done (b₁, e₁) ∧ parseRuntime str.toUTF8.data = .done (b₂, e₂) ∧
      msgsTerms b₂ = msgsTerms b₁ ∧
      (FluentProofs.Parser.CommentsWellFormed str.toUTF8.data → junkSpans b₂ = junkSpans b₁ ∧ e₂ = e₁) := by
  obtain ⟨b₁, e₁, b₂, e₂, h1, h2, h3⟩ := C05_full_string str
  exact ⟨b₁, e₁, b₂, e₂, h1, h2, h3, fun hwf => C05_junk_errors _ hwf b₁ b₂ e₁ e₂ h1 h2⟩

/-- lock-step: where no comment is involved both entry points run the same entry parser -/
theorem C05_dispatch (s : Src) (fuel p : Nat) (h : s[p]? ≠ some (35 : UInt8)) :
    getEntryRuntime s fuel p =
      (match getEntry s fuel p with
       | .ok e q => .ok (some e) q
       | .err e q => .err e q
       | .panic m => .panic m
       | .fuel => .fuel) :=
  FluentProofs.Parser.getEntryRuntime_eq_of_not_hash s fuel p h

/-- for every source without a `#` byte: identical trees, Junk and error lists -/
theorem C05_no_hash_partial (s : Src) (h : NoHash s) : parseRuntime s = parse s := by
  unfold parseRuntime parse
  exact (parseLoop_eq_runtime_of_noHash s h _ _ _ _ _ _).symm

/-- non-vacuity / sanity (a test): a source with comments of all levels, Junk, a message and a term -/
example :
    (match parse (FluentModel.strBytes "# c\na = 1\n## g\n\n### r\nx {\n-t = 2\n").toArray,
           parseRuntime (FluentModel.strBytes "# c\na = 1\n## g\n\n### r\nx {\n-t = 2\n").toArray with
     | .done (b₁, e₁), .done (b₂, e₂) =>
       (msgsTerms b₁).length == 2 && (msgsTerms b₂).length == 2 && e₁.length == 1 && e₂.length == 1
     | _, _ => false) = true := by decide +kernel

/-- test: the well-formedness predicate is decidable and holds for the source above -/
example : FluentProofs.Parser.CommentsWellFormed
    (FluentModel.strBytes "# c\na = 1\n## g\n\n### r\nx {\n-t = 2\n").toArray := by decide +kernel

/-- test: the hypothesis of `C05_junk_errors` is needed.  In `#x⏎ foo⏎bar = 1⏎` the malformed comment line makes
the full parser's Junk `0..8` (it runs to the next line that looks like an entry) while the runtime parser skips
the `#` line and records Junk `3..8`; the message `bar` is found by both. -/
example :
    (match parse (FluentModel.strBytes "#x\n foo\nbar = 1\n").toArray,
           parseRuntime (FluentModel.strBytes "#x\n foo\nbar = 1\n").toArray with
     | .done (b₁, _), .done (b₂, _) =>
       junkSpans b₁ == [⟨0, 8⟩] && junkSpans b₂ == [⟨3, 8⟩] && (msgsTerms b₁).length == 1 && (msgsTerms b₂).length == 1
     | _, _ => false) = true := by decide +kernel

example : ¬ FluentProofs.Parser.CommentsWellFormed (FluentModel.strBytes "#x\n foo\nbar = 1\n").toArray := by
  decide +kernel

end FluentProofs.C05

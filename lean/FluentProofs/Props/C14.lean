import FluentProofs.Memo
import FluentProofs.MemoIntl
import FluentProofs.MemoReenter
import FluentProofs.MemoConc
/-!
# C14 — the formatter memoizer constructs each formatter once per key, under any schedule

Model: `FluentModel.Memo` (`withTryGet`, `mstep`, `cstep`; see its header for what is transcribed and what is a
contract).  `X : Ext …` is the external code (`Memoizable::construct` of every formatter type) over an arbitrary
world `σ`; callbacks are arbitrary functions carried by the operations.  All theorems quantify over every `X`,
every initial world, every language, every history of operations and (concurrent part) every schedule.
-/
namespace FluentProofs.C14
open FluentModel.Memo

variable {σ L τ α ι ε ρ : Type} [DecidableEq τ] [DecidableEq α]
variable (X : Ext σ L τ α ι ε) (lang : L) (w₀ : σ)

/-! ## one memoizer, sequential histories -/

/-- the memoizer after `IntlLangMemoizer::new(lang)` and any history of `with_try_get` calls -/
abbrev after (ops : List (Op σ τ α ι ρ)) : LMemo L τ α ι ε := (runOps X lang ops LMemo.empty w₀).2.1

/-- the invariant holds after every history -/
theorem C14_invariant (ops : List (Op σ τ α ι ρ)) : LInv lang (after X lang w₀ ops) :=
  LInv_runOps X lang LMemo.empty w₀ ops (LInv_empty lang)

/-- **at most once**: after any history, every key `(type, args)` has at most one successful construct event
(failed constructions in between do not change that). -/
theorem C14_construct_at_most_once (ops : List (Op σ τ α ι ρ)) (t : τ) (a : α) :
    (okEvents (after X lang w₀ ops) t a).length ≤ 1 :=
  (C14_invariant X lang w₀ ops).at_most_once t a

/-- **with exactly those arguments and the memoizer's language**: every construct call (successful or not)
carried the memoizer's language, and the successful one for a cached key is
`construct(lang, args) = Ok(the cached instance)` for exactly that key. -/
theorem C14_construct_lang_args (ops : List (Op σ τ α ι ρ)) :
    (∀ e ∈ (after X lang w₀ ops).log, e.lang = lang) ∧
    ∀ t a, match find (after X lang w₀ ops).map t a with
      | none => okEvents (after X lang w₀ ops) t a = []
      | some i => okEvents (after X lang w₀ ops) t a = [⟨lang, t, a, .ok i⟩] :=
  ⟨(C14_invariant X lang w₀ ops).lang_ok, (C14_invariant X lang w₀ ops).cached⟩

/-- **every callback for a key ran against that one instance**: whenever a callback ran for key `(t, a)`
against instance `i` anywhere in the history, the only successful construct event for `(t, a)` is the one
that returned `i`. -/
theorem C14_callback_instance (ops : List (Op σ τ α ι ρ)) (t : τ) (a : α) (i : ι)
    (h : (t, a, i) ∈ (after X lang w₀ ops).calls) :
    okEvents (after X lang w₀ ops) t a = [⟨lang, t, a, .ok i⟩] :=
  (C14_invariant X lang w₀ ops).call_instance t a i h

/-- **one lookup, in any reachable state** (`m` is the memoizer after any history, `w` any world):
* cached key: `construct` is not called, the callback runs against the cached instance, its result is returned
  unchanged, no lookup changes;
* not cached, `construct(lang, args)` fails: that error is returned, no callback runs, *nothing* is cached
  (no lookup changes: the failing key stays absent, other keys are untouched);
* not cached, `construct(lang, args)` succeeds with `i`: the callback runs against `i`, its result is returned
  unchanged, `i` is cached under exactly this key and no other lookup changes.
In the two miss cases `construct` received the memoizer's language and exactly the looked-up type and arguments
(`X.construct w lang op.ty op.args`). -/
theorem C14_lookup_step (m : LMemo L τ α ι ε) (w : σ) (op : Op σ τ α ι ρ) :
    let r := withTryGet X lang m w op
    let c := X.construct w lang op.ty op.args
    match find m.map op.ty op.args, c.1 with
    | some i, _ =>
      r.out = .ok (op.cb i w).1 ∧ r.ev = none ∧ r.world = (op.cb i w).2 ∧
      ∀ t a, find r.memo.map t a = find m.map t a
    | none, .error e =>
      r.out = .err e ∧ r.ev = some ⟨lang, op.ty, op.args, .error e⟩ ∧ r.world = c.2 ∧
      r.memo.calls = m.calls ∧ ∀ t a, find r.memo.map t a = find m.map t a
    | none, .ok i =>
      r.out = .ok (op.cb i c.2).1 ∧ r.ev = some ⟨lang, op.ty, op.args, .ok i⟩ ∧ r.world = (op.cb i c.2).2 ∧
      ∀ t a, find r.memo.map t a = if t = op.ty ∧ a = op.args then some i else find m.map t a := by
  intro r c
  cases h : find m.map op.ty op.args with
  | some i =>
    obtain ⟨h1, h2, h3, _, _, h6⟩ := withTryGet_hit X lang m w op h
    exact ⟨h1, h2, h3, h6⟩
  | none =>
    cases hc : c.1 with
    | error e =>
      obtain ⟨h1, h2, h3, _, h5, h6⟩ := withTryGet_miss_err X lang m w op h hc
      exact ⟨h1, h2, h3, h5, h6⟩
    | ok i =>
      obtain ⟨h1, h2, h3, _, _, h6⟩ := withTryGet_miss_ok X lang m w op h hc
      exact ⟨h1, h2, h3, h6⟩

/-- **lookup_eq_construct**: if `construct` is a function `f` of (language, type, arguments)
and callback results do not depend on the world, the outcomes of any history are those of calling `construct`
afresh for every lookup – the cache is unobservable. -/
theorem C14_lookup_eq_construct (f : L → τ → α → Except ε ι)
    (hpure : ∀ w l t a, (X.construct w l t a).1 = f l t a)
    (ops : List (Op σ τ α ι ρ)) (hcb : ∀ op ∈ ops, ∀ i w w', (op.cb i w).1 = (op.cb i w').1) :
    (runOps X lang ops LMemo.empty w₀).1 = ops.map (pureOutcome f lang w₀) :=
  lookup_eq_construct_run X lang LMemo.empty w₀ f hpure w₀ ops hcb (PInv_empty lang f)

/-! ## `IntlMemoizer::get_for_lang`: histories of get_for_lang / new / drop / lookups through handles -/

section Intl
variable [DecidableEq L]

/-- the state after `IntlMemoizer::default()` and any history -/
abbrev mafter (ops : List (MOp σ L τ α ι ρ)) : MState σ L τ α ι ε := (mrun X ops (MState.init w₀)).2

/-- after every history: strong count = number of live handles (> 0) for every live allocation, every live
allocation's memoizer satisfies the per-memoizer invariant (at most once, language, callback instance) for its
own language, no handle dangles, weak table entries point to allocations of the right language -/
theorem C14_intl_invariant (ops : List (MOp σ L τ α ι ρ)) : MInv (mafter X w₀ ops) :=
  MInv_run X ops _ (MInv_init w₀)

/-- no history ever uses a freed memoizer -/
theorem C14_no_dangling (ops : List (MOp σ L τ α ι ρ)) :
    MObs.dangling ∉ (mrun X ops (MState.init w₀ : MState σ L τ α ι ε)).1 :=
  no_dangling_run X ops _ (MInv_init w₀)

/-- at most one successful construction per key in every live memoizer, after every history that mixes
get_for_lang, drops and lookups through any handles -/
theorem C14_intl_construct_at_most_once (ops : List (MOp σ L τ α ι ρ)) (oid : Nat) (o : Obj L τ α ι ε)
    (ho : aget (mafter X w₀ ops).heap oid = some o) (t : τ) (a : α) :
    (okEvents o.memo t a).length ≤ 1 ∧ ∀ e ∈ o.memo.log, e.lang = o.lang :=
  ⟨((C14_intl_invariant X w₀ ops).heap_ok oid o ho).2.2.2.at_most_once t a,
   ((C14_intl_invariant X w₀ ops).heap_ok oid o ho).2.2.2.lang_ok⟩

/-- **shared while in use**: `get_for_lang(l)` hands out handle `h`; whatever happens afterwards (other
languages, other handles created and dropped, lookups, failures), as long as handle `h` itself has not been
dropped, `get_for_lang(l)` returns the *same* allocation, with its cache as the lookups left it (only the
strong count changes) and without touching the table. -/
theorem C14_shared_while_in_use (pre mid : List (MOp σ L τ α ι ρ)) (l : L) (oid : Nat) :
    let s₁ := mafter X w₀ pre
    let h := s₁.handles.length
    let r := mstep (ρ := ρ) X s₁ (.getForLang l)
    let s₃ := (mrun X mid r.1).2
    r.2 = .handle h oid → s₃.handles[h]? = some (some oid) →
    ∃ o, aget s₃.heap oid = some o ∧
      mstep (ρ := ρ) X s₃ (.getForLang l) =
        ({ s₃ with heap := aset s₃.heap oid { o with strong := o.strong + 1 }
                   handles := s₃.handles ++ [some oid] }, .handle s₃.handles.length oid) := by
  intro s₁ h r s₃ _ halive
  obtain ⟨ht, o, ho⟩ := shared_of_getForLang X s₁ (C14_intl_invariant X w₀ pre) l mid oid halive
  exact ⟨o, ho, getStep_alive s₃ l oid o ht ho⟩

/-- **shared while in use, seen from inside a lookup** (`reenter_same`).  `MOp.lookupReenter h op` is a
`with_try_get` through handle `h` whose callback, while the lookup is still active, calls `get_for_lang` for the
memoizer's own language, compares the `Rc` it gets with the one it runs on and drops it.  In every reachable state
(`pre`, `mid`: any histories, re-entrant lookups included), if `h` is the handle `get_for_lang(l)` handed out and it
has not been dropped, the inner call is handed the very memoizer the lookup runs on: the flag is `some true`
whenever the callback ran, `none` when the construction failed (no callback) – never `some false`. -/
theorem C14_reenter_same (pre mid : List (MOp σ L τ α ι ρ)) (l : L) (op : Op σ τ α ι ρ) :
    let s₁ := mafter X w₀ pre
    let h := s₁.handles.length
    let s₃ := (mrun X mid (mstep (ρ := ρ) X s₁ (.getForLang l)).1).2
    (∃ oid, s₃.handles[h]? = some (some oid)) →
    ∃ out ev, (mstep X s₃ (.lookupReenter h op)).2 = .resReenter out ev (sameOk out) :=
  reenter_same X w₀ pre mid l op

/-- **the re-entrant call is transparent** (`reenter_transparent`): under the same hypotheses the re-entrant lookup
ends in exactly the state of the plain lookup (strong counts, table, id counter, handles, caches, world) with the
same outcome and construct event. -/
theorem C14_reenter_transparent (pre mid : List (MOp σ L τ α ι ρ)) (l : L) (op : Op σ τ α ι ρ) :
    let s₁ := mafter X w₀ pre
    let h := s₁.handles.length
    let s₃ := (mrun X mid (mstep (ρ := ρ) X s₁ (.getForLang l)).1).2
    (∃ oid, s₃.handles[h]? = some (some oid)) →
    (mstep X s₃ (.lookupReenter h op)).1 = (mstep X s₃ (.lookup h op)).1 ∧
    ∃ out ev same, (mstep X s₃ (.lookupReenter h op)).2 = .resReenter out ev same ∧
      (mstep X s₃ (.lookup h op)).2 = .res out ev :=
  reenter_transparent X w₀ pre mid l op

/-- **independent across languages**: a memoizer handed out for `l₁` and one handed out later for `l₂ ≠ l₁`
are never the same allocation, whatever happened in between -/
theorem C14_independent_across_languages (pre mid : List (MOp σ L τ α ι ρ)) (l₁ l₂ : L) (hne : l₁ ≠ l₂)
    (h₁ oid₁ h₂ oid₂ : Nat) :
    let s₁ := mafter X w₀ pre
    let r₁ := mstep (ρ := ρ) X s₁ (.getForLang l₁)
    let s₂ := (mrun X mid r₁.1).2
    let r₂ := mstep (ρ := ρ) X s₂ (.getForLang l₂)
    r₁.2 = .handle h₁ oid₁ → r₂.2 = .handle h₂ oid₂ → oid₁ ≠ oid₂ := by
  intro s₁ r₁ s₂ r₂ e₁ e₂ heq
  have hi₁ : MInv s₁ := C14_intl_invariant X w₀ pre
  have hi₂ : MInv s₂ := MInv_run X mid _ (MInv_step X s₁ _ hi₁)
  obtain ⟨a₁, o₁, g1, _, _, g4, g5⟩ := getForLang_result (ρ := ρ) X s₁ l₁ hi₁
  obtain ⟨a₂, o₂, k1, _, _, k4, k5⟩ := getForLang_result (ρ := ρ) X s₂ l₂ hi₂
  obtain rfl : a₁ = oid₁ := by rw [e₁] at g1; cases g1; rfl
  obtain rfl : a₂ = oid₂ := by rw [e₂] at k1; cases k1; rfl
  subst heq
  -- the allocation's language is fixed for life
  obtain ⟨o, ho, e⟩ := ((Frame_mrun X mid r₁.1).trans (Frame_mstep X s₂ (.getForLang l₂))).heap_back a₁ o₂
    ((MInv_step X s₁ _ hi₁).heap_ok a₁ o₁ g4).1 k4
  rw [g4] at ho; cases ho
  exact hne (g5.symm.trans (e.symm.trans k5))

/-- a lookup through one handle touches nothing but that handle's memoizer (so memoizers of different
languages, and different memoizers of one language, never disturb each other) -/
theorem C14_lookup_isolated (s : MState σ L τ α ι ε) (h : Nat) (op : Op σ τ α ι ρ) :
    (mstep X s (.lookup h op)).1.table = s.table ∧ (mstep X s (.lookup h op)).1.handles = s.handles ∧
    (mstep X s (.lookup h op)).1.next = s.next ∧
    ∀ oid, s.handles[h]? = some (some oid) → ∀ oid', oid' ≠ oid →
      aget (mstep X s (.lookup h op)).1.heap oid' = aget s.heap oid' :=
  lookup_isolated X s h op

/-- **fresh after the last drop**: when the only live handle of the memoizer registered for `l` is dropped,
the memoizer is freed, and the next `get_for_lang(l)` returns a brand-new allocation – an id no earlier
operation ever handed out – with an empty cache and strong count 1. -/
theorem C14_fresh_after_last_drop (ops : List (MOp σ L τ α ι ρ)) (h oid : Nat) (l : L) :
    let s := mafter X w₀ ops
    let s' := (mstep (ρ := ρ) X s (.drop h)).1
    let r := mstep (ρ := ρ) X s' (.getForLang l)
    s.handles[h]? = some (some oid) → liveCount s.handles oid = 1 → aget s.table l = some oid →
    aget s'.heap oid = none ∧
    r.2 = .handle s'.handles.length s'.next ∧
    aget r.1.heap s'.next = some { lang := l, strong := 1, memo := LMemo.empty } ∧
    ∀ h' oid', MObs.handle h' oid' ∈ (mrun X ops (MState.init w₀ : MState σ L τ α ι ε)).1 → oid' < s'.next := by
  intro s s' r hh hone ht
  have hi : MInv s := C14_intl_invariant X w₀ ops
  obtain ⟨htab, hnext, hfree⟩ := drop_spec (ρ := ρ) X s h
  have hfree := hfree hi oid hh hone
  have hr : r = allocFresh s' l true :=
    getStep_fresh s' l (Or.inr ⟨oid, by rw [htab]; exact ht, hfree⟩)
  obtain ⟨a1, _, a3, _, _⟩ := allocFresh_spec (ρ := ρ) s' l true
  refine ⟨hfree, by rw [hr]; exact a1, by rw [hr]; exact a3, ?_⟩
  intro h' oid' hm
  rw [hnext]
  exact handed_out_lt_next X ops _ (MInv_init w₀) h' oid' hm

end Intl

/-! ## the thread-safe memoizer: all schedules -/

/-- the state reached from a cold `concurrent::IntlLangMemoizer::new(lang)` with one thread per program under
schedule `sched` (any list of thread ids; steps of blocked or finished threads are no-ops) -/
abbrev cafter (progs : List (List (Op σ τ α ι ρ))) (sched : List Nat) : CState σ L τ α ι ε ρ :=
  crun X sched (CState.init lang w₀ progs)

theorem C14_conc_lang (progs : List (List (Op σ τ α ι ρ))) (sched : List Nat) :
    (cafter X lang w₀ progs sched).lang = lang :=
  (CInv_run X lang w₀ sched _ (CInv_init X lang w₀ progs)).lang_eq

/-- the per-memoizer invariant holds under every schedule -/
theorem C14_conc_invariant (progs : List (List (Op σ τ α ι ρ))) (sched : List Nat) :
    LInv lang (cafter X lang w₀ progs sched).memo := by
  have := LInv_crun X sched (CState.init lang w₀ progs : CState σ L τ α ι ε ρ) (LInv_empty lang)
  rw [C14_conc_lang X lang w₀ progs sched] at this
  exact this

/-- **at most once under any schedule**: whatever the interleaving of any number of threads, every key has at
most one successful construct event; all events carry the memoizer's language; the successful event of a
cached key is `construct(lang, args) = Ok(cached instance)`. -/
theorem C14_conc_construct_at_most_once (progs : List (List (Op σ τ α ι ρ))) (sched : List Nat)
    (t : τ) (a : α) :
    (okEvents (cafter X lang w₀ progs sched).memo t a).length ≤ 1 ∧
    (∀ e ∈ (cafter X lang w₀ progs sched).memo.log, e.lang = lang) ∧
    (match find (cafter X lang w₀ progs sched).memo.map t a with
      | none => okEvents (cafter X lang w₀ progs sched).memo t a = []
      | some i => okEvents (cafter X lang w₀ progs sched).memo t a = [⟨lang, t, a, .ok i⟩]) :=
  ⟨(C14_conc_invariant X lang w₀ progs sched).at_most_once t a,
   (C14_conc_invariant X lang w₀ progs sched).lang_ok,
   (C14_conc_invariant X lang w₀ progs sched).cached t a⟩

/-- every callback of every thread ran against the one instance constructed for its key -/
theorem C14_conc_callback_instance (progs : List (List (Op σ τ α ι ρ))) (sched : List Nat)
    (t : τ) (a : α) (i : ι) (h : (t, a, i) ∈ (cafter X lang w₀ progs sched).memo.calls) :
    okEvents (cafter X lang w₀ progs sched).memo t a = [⟨lang, t, a, .ok i⟩] :=
  (C14_conc_invariant X lang w₀ progs sched).call_instance t a i h

/-- the simulation invariant (also describes states in which the lock is held) after every schedule -/
theorem C14_conc_simulation (progs : List (List (Op σ τ α ι ρ))) (sched : List Nat) :
    CInv X lang w₀ (cafter X lang w₀ progs sched) :=
  CInv_run X lang w₀ sched _ (CInv_init X lang w₀ progs)

/-- **every schedule = the sequential run in lock-acquisition order.**  Let `order` be the (thread, lookup)
pairs in the order in which the lock was acquired, and `seq` the ordinary sequential run (`runOps`) of those
lookups on a fresh memoizer.  Whenever the lock is free (in particular when all threads are done) the shared
memoizer and world are the sequential ones, and the outcomes `outs` of the sequential run, tagged with the
acquiring thread, are exactly what the threads got: thread `t` holds, in order, the outcomes at `t`'s positions. -/
theorem C14_conc_eq_sequential (progs : List (List (Op σ τ α ι ρ))) (sched : List Nat) :
    let s := cafter X lang w₀ progs sched
    let order := s.acq.reverse
    let seq := runOps X lang (order.map (·.2)) LMemo.empty w₀
    s.lock = none →
    (s.memo, s.world) = seq.2 ∧
    ∃ outs : List (Nat × Outcome ε ρ),
      outs.map (·.1) = order.map (·.1) ∧ outs.map (·.2) = seq.1 ∧
      ∀ t, (s.threads t).results.reverse = (outs.filter fun p => decide (p.1 = t)).map (·.2) := by
  intro s order seq hl
  obtain ⟨_, q2, q3⟩ := (C14_conc_simulation X lang w₀ progs sched).quiet hl
  obtain ⟨e1, e2, e3⟩ := seqAfter_eq_runOps X lang w₀ s.acq
  refine ⟨q2.trans e1, (seqOuts X lang w₀ s.acq).reverse, e3, e2, ?_⟩
  intro t
  rw [q3 t]
  simp only [outsOf, List.filter_reverse, List.map_reverse]
  rfl

/-- the acquisition order is an interleaving of the programs: what thread `t` acquired so far (oldest first)
followed by what it has not started yet is exactly `t`'s program -/
theorem C14_conc_order_interleaves (progs : List (List (Op σ τ α ι ρ))) (sched : List Nat) (t : Nat) :
    acqOf t (cafter X lang w₀ progs sched).acq ++ ((cafter X lang w₀ progs sched).threads t).prog =
      ((CState.init lang w₀ progs : CState σ L τ α ι ε ρ).threads t).prog :=
  IInv_run_init X lang w₀ progs sched t

/-- **deadlock freedom**: in every reachable state, if some thread still has work, some thread is enabled.
(One lock, never acquired while held; `construct`/callbacks do not re-enter – see the model header.) -/
theorem C14_deadlock_free (progs : List (List (Op σ τ α ι ρ))) (sched : List Nat) (t : Nat)
    (hu : unfinished (cafter X lang w₀ progs sched) t) : ∃ t', enabled (cafter X lang w₀ progs sched) t' :=
  deadlock_free X lang w₀ _ (C14_conc_simulation X lang w₀ progs sched) t hu

/-- **progress**: a step of an enabled thread lowers that thread's measure (3 per outstanding lookup) by one
and leaves the other threads alone; a step of a thread that is not enabled changes nothing.  Hence every
schedule contains at most `3 × (number of lookups)` effective steps. -/
theorem C14_progress (s : CState σ L τ α ι ε ρ) (t : Nat) :
    (enabled s t → ((cstep X s t).threads t).measure + 1 = (s.threads t).measure ∧
      ∀ t', t' ≠ t → (cstep X s t).threads t' = s.threads t') ∧
    (¬ enabled s t → cstep X s t = s) :=
  ⟨cstep_enabled X s t, cstep_not_enabled X s t⟩

/-- **completion** (no livelock): after *any* schedule prefix, `3 × (number of lookups)` rounds of round-robin
finish every thread.  This is the schedule the model driver appends, so the driver always prints a complete run. -/
theorem C14_completion (progs : List (List (Op σ τ α ι ρ))) (sched : List Nat) (t : Nat) :
    ¬ unfinished (cafter X lang w₀ progs
        (sched ++ roundRobin progs.length (3 * (progs.map List.length).sum))) t := by
  unfold cafter
  rw [crun_append]
  have hi := C14_conc_simulation X lang w₀ progs sched
  have hb : BInv progs.length (cafter X lang w₀ progs sched) :=
    BInv_run X _ sched _ (BInv_init lang w₀ progs)
  apply rounds_finish X lang w₀ _ _ _ hi hb
  have := msum_crun_le X progs.length sched _ (BInv_init (ε := ε) lang w₀ progs)
  rw [msum_init] at this
  exact this

/-- in a complete run the lock is free, every thread acquired exactly its program, in program order, and (by
`C14_conc_eq_sequential`) got the sequential outcomes -/
theorem C14_conc_complete_run (progs : List (List (Op σ τ α ι ρ))) (sched : List Nat)
    (hf : ∀ t, ¬ unfinished (cafter X lang w₀ progs sched) t) :
    (cafter X lang w₀ progs sched).lock = none ∧
    ∀ t, acqOf t (cafter X lang w₀ progs sched).acq =
      ((CState.init lang w₀ progs : CState σ L τ α ι ε ρ).threads t).prog := by
  refine ⟨lock_free_of_finished X lang w₀ _ (C14_conc_simulation X lang w₀ progs sched) hf, ?_⟩
  intro t
  have h1 := C14_conc_order_interleaves X lang w₀ progs sched t
  rw [prog_nil_of_finished (hf t), List.append_nil] at h1
  exact h1

/-! ## non-vacuity witnesses

Concrete instances of everything the theorems quantify over.  `decide` on these literals is a *test* (it
evaluates the executable model in the kernel); the property itself is the theorems above. -/
namespace Ex

/-- world = number of `construct` calls so far; args 7 always fail, args 8 fail when the world is even
(fail-then-succeed), everything else succeeds with instance `100·world + args` -/
def XE : Ext Nat Nat Nat Nat Nat Nat :=
  { construct := fun w _ _ a =>
      if a = 7 then (.error w, w + 1)
      else if a = 8 ∧ w % 2 = 0 then (.error w, w + 1)
      else (.ok (100 * w + a), w + 1) }

def op (t a x : Nat) : Op Nat Nat Nat Nat Nat := { ty := t, args := a, cb := fun i w => (i + x, w) }

/-- hit, second type with equal args, fail-then-succeed, always-fail, hit after failures of other keys -/
def hist : List (Op Nat Nat Nat Nat Nat) :=
  [op 0 1 5, op 0 1 6, op 1 1 0, op 0 8 0, op 0 8 0, op 0 7 0, op 0 1 7]

example : (runOps XE 0 hist LMemo.empty 0).1 = [.ok 6, .ok 7, .ok 101, .err 2, .ok 308, .err 4, .ok 8] := by decide +kernel
example : (okEvents (after XE 0 0 hist) 0 8).length = 1 ∧ (okEvents (after XE 0 0 hist) 0 7).length = 0 ∧
    (after XE 0 0 hist).log.length = 5 ∧
    (after XE 0 0 hist).calls = [(0, 1, 1), (0, 8, 308), (1, 1, 101), (0, 1, 1), (0, 1, 1)] := by decide +kernel

def obsOid : MObs Nat Nat Nat Nat Nat Nat → Option Nat
  | .handle _ oid => some oid
  | _ => none

def constructed : MObs Nat Nat Nat Nat Nat Nat → Bool
  | .res _ (some _) => true
  | _ => false

/-- shared while alive (handles 0, 1), other language separate (handle 2), fresh after the last drop
(handle 3 constructs again) -/
def mhist : List (MOp Nat Nat Nat Nat Nat Nat) :=
  [.getForLang 0, .lookup 0 (op 0 1 0), .getForLang 0, .drop 0, .getForLang 1, .lookup 1 (op 0 1 0), .drop 1,
   .getForLang 0, .lookup 3 (op 0 1 0)]

example : (mrun XE mhist (MState.init 0)).1.map obsOid =
    [some 0, none, some 0, none, some 1, none, none, some 2, none] := by decide +kernel
example : (mrun XE mhist (MState.init 0)).1.map constructed =
    [false, true, false, false, false, false, false, false, true] := by decide +kernel

/-- the `same` flag of a re-entrant lookup -/
def sameFlag : MObs Nat Nat Nat Nat Nat Nat → Option (Option Bool)
  | .resReenter _ _ b => some b
  | _ => none

/-- re-entrant lookups: through a `get_for_lang` handle (same), through an unregistered `newLang` handle while the
registered memoizer of that language is alive (the inner call upgrades the OTHER one), with a failing construction
(no callback), after the registered one was freed (the inner call allocates a fresh memoizer, registers it and
drops it again: the table is left with a dead weak reference and id 2 is used up), through a fresh registered one -/
def rhist : List (MOp Nat Nat Nat Nat Nat Nat) :=
  [.getForLang 0, .lookupReenter 0 (op 0 1 0), .newLang 0, .lookupReenter 1 (op 0 1 0),
   .lookupReenter 1 (op 0 7 0), .drop 0, .lookupReenter 1 (op 0 1 0), .getForLang 0, .lookupReenter 2 (op 0 7 0),
   .lookupReenter 2 (op 0 1 0), .lookupReenter 0 (op 0 1 0)]

example : (mrun XE rhist (MState.init 0)).1.map sameFlag =
    [none, some (some true), none, some (some false), some none, none, some (some false), none, some none,
     some (some true), none] := by decide +kernel
/-- handle numbers do not shift (the `get_for_lang` after four re-entrant lookups is handle 2), the inner
allocation used up id 2, strong counts are back to the number of live handles -/
example : (mrun XE rhist (MState.init 0)).1.map obsOid =
      [some 0, none, some 1, none, none, none, none, some 3, none, none, none] ∧
    (mafter XE 0 rhist).handles = [none, some 1, some 3] ∧ (mafter XE 0 rhist).table = [(0, 3)] ∧
    (mafter XE 0 rhist).next = 4 ∧
    ((mafter XE 0 rhist).heap.map fun p => (p.1, p.2.strong)) = [(1, 1), (3, 1)] := by decide +kernel
/-- after the re-entrant lookup through the unregistered handle 1 (registered memoizer freed before): the table
holds a dead weak reference to the temporary memoizer 2 -/
example : (mafter XE 0 (rhist.take 7)).table = [(0, 2)] ∧ (mafter XE 0 (rhist.take 7)).next = 3 ∧
    ((mafter XE 0 (rhist.take 7)).heap.map fun p => (p.1, p.2.strong)) = [(1, 1)] := by decide +kernel

/-- the hypothesis of `C14_reenter_same` / `C14_reenter_transparent` is satisfiable (pre = [], mid = a re-entrant
lookup, an unregistered memoizer of the same language and a re-entrant lookup through it) -/
example :
    let r := mstep (ρ := Nat) XE (mafter XE 0 ([] : List (MOp Nat Nat Nat Nat Nat Nat))) (.getForLang 0)
    (mrun XE [.lookupReenter 0 (op 0 1 0), .newLang 0, .lookupReenter 1 (op 0 1 0)] r.1).2.handles[0]?
      = some (some 0) := by decide +kernel

/-- the hypotheses of `C14_shared_while_in_use` are satisfiable (pre = [], mid = lookup, other language, drop) -/
example :
    let r := mstep XE (mafter XE 0 ([] : List (MOp Nat Nat Nat Nat Nat Nat))) (.getForLang 0)
    obsOid r.2 = some 0 ∧
    (mrun XE [.lookup 0 (op 0 1 0), .getForLang 1, .drop 1] r.1).2.handles[0]? = some (some 0) := by decide +kernel

/-- the hypotheses of `C14_fresh_after_last_drop` are satisfiable -/
example :
    let s := mafter XE 0 (mhist.take 4)
    s.handles[1]? = some (some 0) ∧ liveCount s.handles 0 = 1 ∧ aget s.table 0 = some 0 := by decide +kernel

/-- three threads, simultaneous first lookups of one key, a fail-then-succeed key -/
def progs : List (List (Op Nat Nat Nat Nat Nat)) := [[op 0 1 1, op 0 8 2], [op 0 1 3, op 0 8 4], [op 0 1 9]]

def sched : List Nat :=
  [1, 0, 2, 1, 1, 0, 2, 0, 0, 1, 2, 2, 1, 0, 0, 1, 1, 0, 0, 1, 1, 2, 2] ++ roundRobin 3 15

set_option maxRecDepth 8000 in
example :
    ((cafter XE 0 0 progs sched).threads 0).results = [.ok 110, .ok 2] ∧
    ((cafter XE 0 0 progs sched).threads 1).results = [.ok 112, .ok 4] ∧
    ((cafter XE 0 0 progs sched).threads 2).results = [.ok 10] ∧
    (cafter XE 0 0 progs sched).acq.map (·.1) = [2, 0, 1, 0, 1] ∧
    (cafter XE 0 0 progs sched).lock = none ∧
    (okEvents (cafter XE 0 0 progs sched).memo 0 1).length = 1 := by decide +kernel

/-- a reachable state with the lock held and unfinished threads (hypothesis of `C14_deadlock_free`) -/
example : (cafter XE 0 0 progs [1, 0, 2, 1]).lock = some 1 ∧
    (List.range 3).map (finishedB (cafter XE 0 0 progs [1, 0, 2, 1])) = [false, false, false] := by decide +kernel

end Ex

end FluentProofs.C14

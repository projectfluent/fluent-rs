import FluentProofs.ConstTieNum
import FluentProofs.NumRules
import FluentProofs.NumMerge
import FluentProofs.BundleLocale
/-!
# C12 — numbers keep their written precision and select the locale's plural category

All theorems are about the executable model that the driver `fvm_num` runs
(`FluentModel/Num.lean`, `FluentModel/Plural.lean`).  Values are exact decimals (`Dec`); the tie to
`f64` is the correspondence check on the ≤ 15-significant-digit domain (DESIGN §4.5).  The theorems
about plural categories are parametric in the rule function; `cldrRule` (hand-transcribed CLDR 37)
and `crateRule` (what intl_pluralrules 7.0.2 computes) are instances.
-/
namespace FluentProofs.C12
open FluentModel FluentModel.Num FluentModel.Plural FluentProofs.Num

/-- **literal_fraction_digits.**  For every source text that `FluentNumber::from_str` /
`FluentValue::try_number` turns into a number (number literals and numeric-string arguments):
the number remembers exactly the fraction digits that were written, and `as_string` prints a decimal
that denotes the same value and shows at least that many fraction digits, up to the clamp
`MAX_FRACTION_DIGITS` — exactly that many when the written count is within the clamp. -/
theorem literal_fraction_digits (src : Bytes) (n : FluentNumber) (h : tryNumber src = .number n) :
    ∃ d, parseDec src = some d ∧ n.value = d ∧
      n.options.minimumFractionDigits = (if (splitAtDot src).2.isSome then some d.frac.length else none) ∧
      ∃ p, parseDec (asString n) = some p ∧ p.valueEq d = true ∧
        min d.frac.length maxFractionDigits ≤ p.frac.length ∧
        (d.frac.length ≤ maxFractionDigits → p.frac.length = d.frac.length) := by
  unfold tryNumber at h
  cases hp : parseDec src with
  | none =>
    simp only [hp] at h
    split at h <;> cases h
  | some d =>
    simp only [hp] at h
    split at h
    · cases h
    · cases h
      obtain ⟨hm, hnone, hsome⟩ := mfdOfSource_parseDec hp
      have hwf : WF d := parseDec_wf hp
      refine ⟨d, rfl, rfl, hm, ?_⟩
      let n : FluentNumber := ⟨d, { minimumFractionDigits := mfdOfSource src }⟩
      have hval : Dec.valueEq ⟨d.neg, stripLeadingZeros d.int, visibleFrac n⟩ d = true := by
        unfold Dec.valueEq
        simp [stripLeadingZeros_idem, stripTrailingZeros_visibleFrac n, show n.value = d from rfl]
      cases hs : (splitAtDot src).2 with
      | none =>
        -- no point written: nothing remembered, nothing padded
        have hmn : n.options.minimumFractionDigits = none := by
          show mfdOfSource src = none
          rw [hm, hs]; rfl
        have hv : visibleFrac n = [] := by
          unfold visibleFrac
          rw [hmn]
          show stripTrailingZeros d.frac = []
          rw [hnone hs]; rfl
        refine ⟨_, parseDec_asString hwf (fun h => by rw [hmn] at h; cases h), hval, ?_⟩
        show min d.frac.length maxFractionDigits ≤ (visibleFrac n).length ∧
          (d.frac.length ≤ maxFractionDigits → (visibleFrac n).length = d.frac.length)
        rw [hv, hnone hs]
        exact ⟨Nat.le_of_eq (Nat.zero_min _), fun _ => rfl⟩
      | some fb =>
        have hmn : n.options.minimumFractionDigits = some d.frac.length := by
          show mfdOfSource src = some d.frac.length
          rw [hm, hs]; rfl
        have hpos : 0 < d.frac.length := List.length_pos_iff.mpr (hsome (by rw [hs]; rfl))
        have hle := (stripTrailingZeros_sublist d.frac).length_le
        have hlen : (visibleFrac n).length = (stripTrailingZeros d.frac).length +
            (min d.frac.length maxFractionDigits - (stripTrailingZeros d.frac).length) :=
          length_visibleFrac_some hmn
        have hmax : 0 < maxFractionDigits := by decide
        refine ⟨_, parseDec_asString hwf (fun _ he => ?_), hval, ?_⟩
        · rw [he] at hlen
          simp only [List.length_nil] at hlen
          omega
        · show min d.frac.length maxFractionDigits ≤ (visibleFrac n).length ∧
            (d.frac.length ≤ maxFractionDigits → (visibleFrac n).length = d.frac.length)
          rw [hlen]
          omega

/-- **number_options_override.**  `NUMBER(x, named…)` on a number keeps the value and yields, for
every option name, the value given by the last named argument that `merge` has an arm for
(`effective`), and otherwise the option the value already had.  (On anything but a number the
result is the error value.) -/
theorem number_options_override (n : FluentNumber) (more : List Val) (named : List (String × Val)) :
    ∃ m, fnNUMBER (.num n :: more) named = .num m ∧ m.value = n.value ∧
      ∀ name, getOption m.options name = (effective named name).getD (getOption n.options name) :=
  ⟨{ n with options := merge n.options named }, rfl, rfl, fun name => getOption_merge n.options named name⟩

theorem number_of_non_number (b : Bytes) (more : List Val) (named : List (String × Val)) :
    fnNUMBER (.str b :: more) named = .error ∧ fnNUMBER (.error :: more) named = .error ∧
    fnNUMBER [] named = .error := ⟨rfl, rfl, rfl⟩

/-- **operands_match_display.**  For a well-formed decimal value (everything `parseDec` yields,
`parseDec_wf`): the string `as_string` prints has CLDR operands `spec`, and whenever at most 18
fraction digits are visible and the integer part fits a `u64`, the operands the code computes
(`value.to_string()` through the `&str` parser, then the `minimum_fraction_digits` adjustment of `v`
and `f`) are these operands: same `i v w f t`, and `n` of the same numeric value.  No panic. -/
theorem operands_match_display (n : FluentNumber) (hwf : WF n.value) :
    ∃ spec, cldrOperands (asString n) = some spec ∧
      (spec.v ≤ 18 → spec.i ≤ u64Max →
        ∃ code, operandsOf n = some code ∧ Same code spec) := by
  refine ⟨_, cldrOperands_asString hwf, ?_⟩
  intro hv hi
  refine ⟨_, operandsOf_eq hwf hi hv, ?_, rfl, rfl, rfl, rfl, rfl⟩
  unfold Dec.valueEq
  simp [stripTrailingZeros_visibleFrac, stripTrailingZeros_idem]

/-- the same for a number that came from source text -/
theorem operands_match_display_of_source (src : Bytes) (n : FluentNumber) (h : tryNumber src = .number n) :
    ∃ spec, cldrOperands (asString n) = some spec ∧
      (spec.v ≤ 18 → spec.i ≤ u64Max → ∃ code, operandsOf n = some code ∧ Same code spec) := by
  obtain ⟨d, hp, hv, _⟩ := literal_fraction_digits src n h
  exact operands_match_display n (by rw [hv]; exact parseDec_wf hp)

/-- **plural_match_iff.**  A variant key that is a plural keyword (`zero one two few many other`)
matches the number `x` exactly when the rule (of the number's `type`) assigns that category to the
CLDR operands of the string `as_string` prints for `x` — visible fraction digits included.
Parametric in the rule function (any function that reads `n` through its value). -/
theorem plural_match_iff (rule : NumType → Rule) (hr : RespectsValue rule) (kw : Bytes) (c : Category)
    (hk : categoryOfKeyword kw = some c) (x : FluentNumber) (hwf : WF x.value) :
    ∃ spec, cldrOperands (asString x) = some spec ∧
      (spec.v ≤ 18 → spec.i ≤ u64Max →
        keyMatches (pluralCategoryWith rule) (.str kw) (.num x) =
          some (decide (rule x.options.type spec = c))) := by
  obtain ⟨spec, hs, hcode⟩ := operands_match_display x hwf
  refine ⟨spec, hs, ?_⟩
  intro hv hi
  obtain ⟨code, hc, hsame⟩ := hcode hv hi
  unfold keyMatches pluralCategoryWith
  simp only [hk, hc, Option.map_some, hr x.options.type code spec hsame]
  rfl

/-- an identifier key that is not a plural keyword never matches a number; a numeric key matches a
number exactly by `FluentNumber.eq` (value and options); a numeric key never matches a string -/
theorem other_keys (cat : FluentNumber → Option Category) (kw : Bytes) (a x : FluentNumber) (s : Bytes) :
    (categoryOfKeyword kw = none → keyMatches cat (.str kw) (.num x) = some false) ∧
    keyMatches cat (.num a) (.num x) = some (a.eq x) ∧
    keyMatches cat (.num a) (.str s) = some false ∧
    keyMatches cat (.str kw) (.str s) = some (kw == s) := by
  refine ⟨?_, rfl, rfl, rfl⟩
  intro h
  simp [keyMatches, h]

/-- **Variant order decides.**  The select writes the first variant (in source order) whose key
matches; in particular an exact numeric key wins over a plural keyword when — and only when — it
comes first. -/
theorem select_first_match (cat : FluentNumber → Option Category) (sel : Val) (hsel : sel ≠ .error)
    (pre post : List (Key × Bool)) (k : Key) (d : Bool)
    (hpre : ∀ kd ∈ pre, ∃ kv, keyValue kd.1 = .val kv ∧ keyMatches cat kv sel = some false)
    (hk : ∃ kv, keyValue k = .val kv ∧ keyMatches cat kv sel = some true) :
    selectVariant cat sel (pre ++ (k, d) :: post) = .idx pre.length := by
  obtain ⟨kv, h1, h2⟩ := hk
  unfold selectVariant
  have hm : firstMatch cat sel (pre ++ (k, d) :: post) 0 = some (.idx pre.length) := by
    rw [firstMatch_append cat sel pre _ 0 hpre]
    simp [firstMatch, h1, h2]
  cases sel with
  | error => exact absurd rfl hsel
  | str s => simp only [hm]
  | num x => simp only [hm]

/-- when no key matches, the default variant is written (the first one flagged as default) -/
theorem select_default (cat : FluentNumber → Option Category) (sel : Val) (vs : List (Key × Bool))
    (h : ∀ kd ∈ vs, ∃ kv, keyValue kd.1 = .val kv ∧ keyMatches cat kv sel = some false) :
    selectVariant cat sel vs =
      match firstDefault vs 0 with
      | some i => .idx i
      | none => .noDefault := by
  unfold selectVariant
  have hm := firstMatch_none cat sel vs 0 h
  cases sel <;> simp only [hm] <;> cases firstDefault vs 0 <;> rfl

/-- the plural category is defined (the Rust code does not panic) for every well-formed value with
at most 18 visible fraction digits and an integer part below 2^64 -/
theorem plural_category_total (locale : String) (n : FluentNumber) (hwf : WF n.value)
    (hv : (visibleFrac n).length ≤ 18) (hi : digitsToNat (stripLeadingZeros n.value.int) ≤ u64Max) :
    (pluralCategory locale n).isSome = true := by
  unfold pluralCategory pluralCategoryWith
  rw [operandsOf_eq hwf hi hv]; rfl

/-- "the rule of the bundle's FIRST locale": the formatters (plural rules included) of a bundle are created for the
head of its locale chain (`FluentBundle::new` / `new_concurrent`: `locales.first()`), so the category of every number
is the same for all chains with that head — nothing after the first locale is consulted -/
theorem first_locale_only (l : String) (r₁ r₂ : List String) (n : FluentNumber) :
    pluralCategory (memoizerLocale (l :: r₁)) n = pluralCategory (memoizerLocale (l :: r₂)) n :=
  FluentProofs.BundleLocale.category_tail_irrelevant l r₁ r₂ n

/-- TEST: `["xx", "pl"]` selects with the rules of `xx` (none of its own: negotiated to `en`), not with Polish ones -/
example : pluralCategory (memoizerLocale ["xx", "pl"]) ⟨⟨false, [2], []⟩, {}⟩ = some .other ∧
    pluralCategory "pl" ⟨⟨false, [2], []⟩, {}⟩ = some .few := by decide +kernel

/-! ## non-vacuity and CLDR sanity facts (these are TESTS on literals, checked by kernel evaluation) -/

/-- a well-formed value (hypothesis of `operands_match_display`, `plural_match_iff`); every parsed source is one -/
example : WF ⟨true, [0, 1, 2], [5, 0]⟩ :=
  ⟨by decide, by intro d hd; simp at hd; omega, by intro d hd; simp at hd; omega⟩
example (src : Bytes) (d : Dec) (h : parseDec src = some d) : WF d := parseDec_wf h

/-- the rule tables are instances of the hypothesis of `plural_match_iff` -/
example : RespectsValue (cldrRule "ar") := cldrRule_respects "ar"
example : RespectsValue (crateRule "lt") := crateRule_respects "lt"

def ops (s : String) : Option Operands := cldrOperands (strBytes s)
def cat (lang : String) (ty : NumType) (s : String) : Option Category := (ops s).map (cldrRule lang ty)

-- TEST: operands of printed strings
example : ops "1.50" = some ⟨⟨false, [1], [5, 0]⟩, 1, 2, 1, 50, 5⟩ := by decide +kernel
example : ops "-0012.0" = some ⟨⟨false, [0, 0, 1, 2], [0]⟩, 12, 1, 0, 0, 0⟩ := by decide +kernel
example : ops "1." = some ⟨⟨false, [1], []⟩, 1, 0, 0, 0, 0⟩ := by decide +kernel
-- TEST: English — 1 is `one`, 1.0 is `other`
example : cat "en" .cardinal "1" = some .one := by decide +kernel
example : cat "en" .cardinal "1.0" = some .other := by decide +kernel
example : cat "en" .cardinal "-1" = some .one := by decide +kernel
example : cat "en" .ordinal "1" = some .one ∧ cat "en" .ordinal "2" = some .two ∧ cat "en" .ordinal "3" = some .few ∧
    cat "en" .ordinal "11" = some .other ∧ cat "en" .ordinal "112" = some .other ∧ cat "en" .ordinal "23" = some .few := by decide +kernel
-- TEST: Polish, Russian, Arabic, French, Czech, Lithuanian, Japanese
example : cat "pl" .cardinal "1" = some .one ∧ cat "pl" .cardinal "2" = some .few ∧ cat "pl" .cardinal "5" = some .many ∧
    cat "pl" .cardinal "12" = some .many ∧ cat "pl" .cardinal "22" = some .few ∧ cat "pl" .cardinal "1.5" = some .other := by decide +kernel
example : cat "ru" .cardinal "21" = some .one ∧ cat "ru" .cardinal "11" = some .many ∧ cat "ru" .cardinal "3" = some .few ∧
    cat "ru" .cardinal "21.0" = some .other := by decide +kernel
example : cat "ar" .cardinal "0" = some .zero ∧ cat "ar" .cardinal "2" = some .two ∧ cat "ar" .cardinal "11" = some .many ∧
    cat "ar" .cardinal "103" = some .few ∧ cat "ar" .cardinal "100" = some .other ∧ cat "ar" .cardinal "3.0" = some .few := by decide +kernel
example : cat "fr" .cardinal "0" = some .one ∧ cat "fr" .cardinal "1.9" = some .one ∧ cat "fr" .cardinal "2" = some .other ∧
    cat "fr" .ordinal "1" = some .one ∧ cat "fr" .ordinal "2" = some .other := by decide +kernel
example : cat "cs" .cardinal "3" = some .few ∧ cat "cs" .cardinal "1.0" = some .many ∧ cat "cs" .cardinal "5" = some .other := by decide +kernel
example : cat "lt" .cardinal "21" = some .one ∧ cat "lt" .cardinal "22" = some .few ∧ cat "lt" .cardinal "11" = some .other ∧
    cat "lt" .cardinal "1.5" = some .many := by decide +kernel
example : cat "ja" .cardinal "1" = some .other := by decide +kernel

-- TEST (known finding F26): where intl_pluralrules 7.0.2 leaves CLDR
example : (ops "103").map (crateRule "ar" .cardinal) = some .other ∧ cat "ar" .cardinal "103" = some .few := by decide +kernel
example : (ops "22").map (crateRule "lt" .cardinal) = some .other ∧ cat "lt" .cardinal "22" = some .few := by decide +kernel
example : (ops "1.5").map (crateRule "en" .ordinal) = some .one ∧ cat "en" .ordinal "1.5" = some .other := by decide +kernel

-- TEST: the whole path of the code on `1.0` in English: remembered digits, printing, operands, category, selection
example : tryNumber (strBytes "1.0") = .number ⟨⟨false, [1], [0]⟩, { minimumFractionDigits := some 1 }⟩ := by rfl
example : ruleLocale "en-US" .cardinal = "en" ∧ ruleLocale "pl" .ordinal = "pl" ∧ ruleLocale "xx" .cardinal = "en" ∧
    ruleLocale "ar-EG" .cardinal = "ar" := by decide +kernel
-- TEST: negotiation with the crate's one region-specific entry: exact `pt-PT` (cardinal only) wins over `pt`
example : ruleLocale "pt-PT" .cardinal = "pt-PT" ∧ ruleLocale "pt" .cardinal = "pt" ∧ ruleLocale "pt-BR" .cardinal = "pt" ∧
    ruleLocale "pt-AO" .cardinal = "pt" ∧ ruleLocale "pt-PT" .ordinal = "pt" ∧ ruleLocale "pt-Latn-PT" .cardinal = "en" ∧
    localeShape "pt-Latn-PT" = none := by decide +kernel
-- TEST: pt versus pt-PT on 0 and 1.5 (pt one: i = 0..1; pt-PT one: i = 1 and v = 0)
example : cat "pt" .cardinal "0" = some .one ∧ cat "pt-PT" .cardinal "0" = some .other ∧
    cat "pt" .cardinal "1.5" = some .one ∧ cat "pt-PT" .cardinal "1.5" = some .other ∧
    cat "pt" .cardinal "1" = some .one ∧ cat "pt-PT" .cardinal "1" = some .one ∧
    cat "pt" .cardinal "2" = some .other ∧ cat "pt-PT" .cardinal "1.0" = some .other := by decide +kernel
example : pluralCategory "pt-PT" ⟨⟨false, [0], []⟩, {}⟩ = some .other ∧ pluralCategory "pt-BR" ⟨⟨false, [0], []⟩, {}⟩ = some .one ∧
    pluralCategory "pt-PT" ⟨⟨false, [1], [5]⟩, {}⟩ = some .other ∧ pluralCategory "pt" ⟨⟨false, [1], [5]⟩, {}⟩ = some .one := by decide +kernel
example : asString ⟨⟨false, [1], [0]⟩, { minimumFractionDigits := some 1 }⟩ = strBytes "1.0" := by decide +kernel
example : operandsOf ⟨⟨false, [1], [0]⟩, { minimumFractionDigits := some 1 }⟩ =
    some ⟨⟨false, [1], []⟩, 1, 1, 0, 0, 0⟩ := by decide +kernel
example : pluralCategory "en-US" ⟨⟨false, [1], [0]⟩, { minimumFractionDigits := some 1 }⟩ = some .other := by decide +kernel
example : pluralCategory "en" ⟨⟨false, [1], []⟩, {}⟩ = some .one := by decide +kernel
-- TEST: `[one] … [1] … *[other]` versus `[1] … [one] … *[other]` on the selector 1: the first matching key wins
example : selectVariant (pluralCategory "en") (.num ⟨⟨false, [1], []⟩, {}⟩)
    [(.ident (strBytes "one"), false), (.numLit (strBytes "1"), false), (.ident (strBytes "other"), true)] = .idx 0 := by decide +kernel
example : selectVariant (pluralCategory "en") (.num ⟨⟨false, [1], []⟩, {}⟩)
    [(.numLit (strBytes "1"), false), (.ident (strBytes "one"), false), (.ident (strBytes "other"), true)] = .idx 0 := by decide +kernel
example : selectVariant (pluralCategory "en") (.num ⟨⟨false, [1], []⟩, {}⟩)
    [(.numLit (strBytes "1.0"), false), (.ident (strBytes "one"), false), (.ident (strBytes "other"), true)] = .idx 1 := by decide +kernel
-- TEST: NUMBER(1, minimumFractionDigits: 1) is `other` in English, prints `1.0`
example : fnNUMBER [.num ⟨⟨false, [1], []⟩, {}⟩] [("minimumFractionDigits", .num ⟨⟨false, [1], []⟩, {}⟩)] =
    .num ⟨⟨false, [1], []⟩, { minimumFractionDigits := some 1 }⟩ := by decide +kernel
example : effective [("type", .str (strBytes "ordinal")), ("type", .num ⟨⟨false, [1], []⟩, {}⟩)] "type" = some "ordinal" := by
  decide +kernel
-- TEST: an explicit `type: "cardinal"` on a number that already is ordinal (handed over by the caller, or the result of an
-- inner NUMBER call) makes it cardinal again - the call's option replaces the value's; English 2 is then `other`, not `two`
example : fnNUMBER [.num ⟨⟨false, [2], []⟩, { type := .ordinal }⟩] [("type", .str (strBytes "cardinal"))] =
    .num ⟨⟨false, [2], []⟩, { type := .cardinal }⟩ := by decide +kernel
example : pluralCategory "en" ⟨⟨false, [2], []⟩, { type := .ordinal }⟩ = some .two ∧
    pluralCategory "en" ⟨⟨false, [2], []⟩, { type := .cardinal }⟩ = some .other := by decide +kernel

end FluentProofs.C12

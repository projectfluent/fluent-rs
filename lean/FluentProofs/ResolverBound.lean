import FluentProofs.Resolver
/-!
# Output bound for the resolver model (C06)

`|output| ≤ M + (maxPlaceables + 1) * (2 * M + E + 6)` where

* `M` bounds, for every pattern of the bundle (message/term values, attribute values, variant values,
  at any nesting) the total size of its text elements after the transform, and every literal /
  error token (`{id}`, `{-term.attr}`, `{$var}`, `FN()`) of the bundle;
* `E` bounds `valueString` of every caller argument, of every result of a registered function and of
  every literal passed as a named argument to a term.

Accounting: every byte written is either text of the pattern being written (each pattern is entered
at most once per counted placeable, plus the start pattern) or is written by a counted placeable
itself (isolation marks 6, its error token ≤ `M`, a value ≤ `E` or a literal/token ≤ `M`); the
counter never exceeds `maxPlaceables + 1`.  Invariant of the induction:
`|w'| + placeables * K ≤ |w| + direct(node) + placeables' * K` with `K = 2 * M + E + 6`.

Named arguments of term calls must be literals (`namedLit`).  The grammar asks for that, the parser does not enforce
it: `get_inline_expression(only_literal = true)` refuses `$x`, `{…}` and term references but still reads a message
reference or a function call.  Such a named argument carries a whole resolved message into a term that may print it
several times, and sizes multiply per nesting level; for those resources the bound is false, so `namedLit` is a real
restriction on parsed input and not a consequence of parsing.
-/
namespace FluentProofs.Resolver
open FluentModel FluentModel.Syntax FluentModel.Resolver
open FluentProofs.ResolverRefine FluentProofs.Bidi

/-- total size of the text elements of one pattern (after the transform) -/
def textBytes (env : Env) : List (PatElem Bytes) → Nat
  | [] => 0
  | .text v :: r => (match env.transform with | some f => f v | .none => v).length + textBytes env r
  | .placeable _ :: r => textBytes env r

def Small (env : Env) (E : Nat) (v : Value) : Prop := (valueString env v).length ≤ E

/-- size of the error token `{…}` of an inline expression -/
def tokLen (e : Inline Bytes) : Nat := (braced (inlineWriteError e)).length

/-- named arguments are string/number literals whose printed value is at most `E` bytes -/
def namedLit (env : Env) (E : Nat) : List (Bytes × Inline Bytes) → Prop
  | [] => True
  | (_, .str v) :: r => Small env E (.str (env.unescape v)) ∧ namedLit env E r
  | (_, .num v) :: r => Small env E (env.tryNumber v) ∧ namedLit env E r
  | _ :: _ => False

mutual
/-- every literal and error token below this node is at most `M` bytes, every nested pattern has at most
`M` bytes of text, and named arguments of term calls are small literals -/
def okInline (env : Env) (M E : Nat) : Inline Bytes → Prop
  | .str v => (env.unescape v).length ≤ M
  | .num v => (valueString env (env.tryNumber v)).length ≤ M
  | .var id => tokLen (.var id) ≤ M
  | .msg id a => tokLen (.msg id a) ≤ M
  | .term id a .none => tokLen (.term id a .none) ≤ M
  | .term id a (some (p, n)) =>
    tokLen (.term id a (some (p, n))) ≤ M ∧ okInlines env M E p ∧ okNamed env M E n ∧ namedLit env E n
  | .fn id p n => tokLen (.fn id p n) ≤ M ∧ okInlines env M E p ∧ okNamed env M E n
  | .placeable e => okExpr env M E e
def okInlines (env : Env) (M E : Nat) : List (Inline Bytes) → Prop
  | [] => True
  | x :: xs => okInline env M E x ∧ okInlines env M E xs
def okNamed (env : Env) (M E : Nat) : List (Bytes × Inline Bytes) → Prop
  | [] => True
  | (_, x) :: xs => okInline env M E x ∧ okNamed env M E xs
def okExpr (env : Env) (M E : Nat) : Expr Bytes → Prop
  | .inline e => okInline env M E e
  | .select s vs => okInline env M E s ∧ okVariants env M E vs
def okVariants (env : Env) (M E : Nat) : List (Variant Bytes) → Prop
  | [] => True
  | v :: vs => okVariant env M E v ∧ okVariants env M E vs
def okVariant (env : Env) (M E : Nat) : Variant Bytes → Prop
  | .mk _ val _ => textBytes env val ≤ M ∧ okElems env M E val
def okElems (env : Env) (M E : Nat) : List (PatElem Bytes) → Prop
  | [] => True
  | e :: es => okElem env M E e ∧ okElems env M E es
def okElem (env : Env) (M E : Nat) : PatElem Bytes → Prop
  | .text _ => True
  | .placeable e => okExpr env M E e ∧ (braced (exprWriteError e)).length ≤ M
end

def okPat (env : Env) (M E : Nat) (p : Pattern Bytes) : Prop := textBytes env p ≤ M ∧ okElems env M E p

/-- the arguments of the enclosing term call print small -/
def LocOk (env : Env) (E : Nat) (sc : Scope) : Prop :=
  ∀ l, sc.localArgs = some l → ∀ k v, l.get k = some v → Small env E v

theorem LocOk.congr {env : Env} {E : Nat} {a b : Scope} (h : b.localArgs = a.localArgs) (ha : LocOk env E a) :
    LocOk env E b := by
  unfold LocOk; rw [h]; exact ha

/-- per-placeable budget -/
def Kb (M E : Nat) : Nat := 2 * M + E + 6

@[simp] theorem braced_length (b : Bytes) : (braced b).length = b.length + 2 := by
  simp [braced]

theorem resolveInline_lit {env : Env} {E n : Nat} {k : Bytes} {e : Inline Bytes} {r : List (Bytes × Inline Bytes)}
    {sc sc1 : Scope} {v : Value} (hl : namedLit env E ((k, e) :: r)) (h : resolveInline env n e sc = .ok (v, sc1)) :
    Small env E v ∧ namedLit env E r := by
  match n, e with
  | 0, _ => rw [resolveInline_zero] at h; cases h
  | n + 1, .str x => rw [resolveInline_str] at h; cases h; exact hl
  | n + 1, .num x => rw [resolveInline_num] at h; cases h; exact hl
  | _ + 1, .var _ => exact hl.elim
  | _ + 1, .msg _ _ => exact hl.elim
  | _ + 1, .term _ _ _ => exact hl.elim
  | _ + 1, .fn _ _ _ => exact hl.elim
  | _ + 1, .placeable _ => exact hl.elim

theorem resolveNamed_small (env : Env) (E : Nat) (es : List (Bytes × Inline Bytes)) :
    ∀ n sc vs sc', namedLit env E es → resolveNamed env n es sc = .ok (vs, sc') →
      ∀ kv ∈ vs, Small env E kv.2 := by
  induction es with
  | nil =>
    intro n sc vs sc' _ hr
    match n with
    | 0 => rw [resolveNamed_zero] at hr; cases hr
    | n + 1 => rw [resolveNamed_nil] at hr; cases hr; exact fun _ h => nomatch h
  | cons ke r ih =>
    intro n sc vs sc' hl hr
    obtain ⟨k, e⟩ := ke
    match n with
    | 0 => rw [resolveNamed_zero] at hr; cases hr
    | n + 1 =>
      rw [resolveNamed_cons] at hr
      obtain ⟨⟨v, sc1⟩, h1, hr⟩ := RR.bind_eq_ok hr
      obtain ⟨⟨vs2, sc2⟩, h2, hr⟩ := RR.bind_eq_ok hr
      cases hr
      obtain ⟨hv, hlr⟩ := resolveInline_lit hl h1
      intro kv hkv
      rcases List.mem_cons.1 hkv with rfl | hkv
      · exact hv
      · exact ih _ _ _ _ hlr h2 kv hkv

theorem getArguments_named_small (env : Env) (E n : Nat)
    (args : Option (List (Inline Bytes) × List (Bytes × Inline Bytes))) (sc sc1 : Scope) (rp : List Value)
    (named : ArgList) (hr : getArguments env n args sc = .ok ((rp, named), sc1))
    (hlit : ∀ p nm, args = some (p, nm) → namedLit env E nm) :
    ∀ k v, named.get k = some v → Small env E v := by
  match n, args with
  | 0, _ => rw [getArguments_zero] at hr; cases hr
  | n + 1, .none => rw [getArguments_none] at hr; cases hr; exact fun _ _ h => nomatch h
  | n + 1, some (p, nm) =>
    rw [getArguments_some] at hr
    obtain ⟨⟨vs, sc0⟩, _, hr⟩ := RR.bind_eq_ok hr
    obtain ⟨⟨ns, sc2⟩, h2, hr⟩ := RR.bind_eq_ok hr
    cases hr
    intro k v h
    obtain ⟨k', hk⟩ := get_mem h
    exact resolveNamed_small env E nm n sc0 ns _ (hlit p nm rfl) h2 (k', v) (mem_ofPairs hk)

theorem okVariants_mem {env : Env} {M E : Nat} {vs : List (Variant Bytes)} {k : VKey Bytes} {v : Pattern Bytes}
    {d : Bool} (h : Variant.mk k v d ∈ vs) (hv : okVariants env M E vs) : okPat env M E v := by
  induction vs with
  | nil => cases h
  | cons x rest ih =>
    rw [okVariants] at hv
    rcases List.mem_cons.1 h with rfl | h
    · exact hv.1
    · exact ih h hv.2

/-- the invariant of the induction (see the head of the file); `direct` bounds what the node writes itself -/
def Acc (M E : Nat) (direct : Nat) (w : Bytes) (sc : Scope) (w' : Bytes) (sc' : Scope) : Prop :=
  w'.length + sc.placeables * Kb M E ≤ w.length + direct + sc'.placeables * Kb M E

theorem Acc.append {M E d : Nat} {w x : Bytes} {sc sc' : Scope} (hx : x.length ≤ d) (hp : sc'.placeables = sc.placeables) :
    Acc M E d w sc (w ++ x) sc' := by
  unfold Acc; rw [List.length_append, hp]; omega

theorem Acc.nil {M E d : Nat} {w : Bytes} {sc sc' : Scope} (hp : sc.placeables ≤ sc'.placeables) :
    Acc M E d w sc w sc' := by
  have := Nat.mul_le_mul_right (Kb M E) hp
  unfold Acc; omega

theorem Acc.weaken {M E d d' : Nat} {w w' : Bytes} {sc sc' : Scope} (h : Acc M E d w sc w' sc') (hd : d ≤ d') :
    Acc M E d' w sc w' sc' := by
  unfold Acc at *; omega

theorem Acc.after {M E d : Nat} {w w' : Bytes} {sc sc1 sc' : Scope} (hs : sc.placeables ≤ sc1.placeables)
    (h : Acc M E d w sc1 w' sc') : Acc M E d w sc w' sc' := by
  have := Nat.mul_le_mul_right (Kb M E) hs
  unfold Acc at *; omega

theorem Acc.text {M E d : Nat} {w t w' : Bytes} {sc sc' : Scope} (h : Acc M E d (w ++ t) sc w' sc') :
    Acc M E (t.length + d) w sc w' sc' := by
  unfold Acc at *; rw [List.length_append] at h; omega

/-- a counted placeable: its budget `Kb` pays for both marks (`o₁`, `o₂`), the value (`M + E`) and the
`{error}` fallback `fb` -/
theorem Acc.placeable {M E d : Nat} {w o₁ w2 fb o₂ w' : Bytes} {sc sc2 sc3 sc' : Scope}
    (hp : sc2.placeables = sc.placeables + 1) (h1 : Acc M E (M + E) (w ++ o₁) sc2 w2 sc3)
    (h2 : Acc M E d (w2 ++ fb ++ o₂) sc3 w' sc') (a1 : o₁.length ≤ 3) (a2 : o₂.length ≤ 3) (a3 : fb.length ≤ M) :
    Acc M E d w sc w' sc' := by
  unfold Acc at *
  rw [hp, Nat.add_mul] at h1
  simp only [List.length_append] at h1 h2
  have hK : Kb M E = 2 * M + E + 6 := rfl
  omega

/-- `Acc` for the six functions that take the writer, at fuel `n`; the other four enter the proofs through `inv_all`
(what they do to the counter) and the `Small` lemmas above (what they return) -/
structure Out (env : Env) (M E n : Nat) : Prop where
  writeElems : ∀ whole len els w sc w' sc', okElems env M E els → LocOk env E sc →
    writeElems env n whole len els w sc = .ok (w', sc') → Acc M E (textBytes env els) w sc w' sc'
  writePattern : ∀ p w sc w' sc', okElems env M E p → LocOk env E sc →
    writePattern env n p w sc = .ok (w', sc') → Acc M E (textBytes env p) w sc w' sc'
  track : ∀ p e w sc w' sc', okPat env M E p → tokLen e ≤ M → LocOk env E sc →
    track env n p e w sc = .ok (w', sc') → Acc M E M w sc w' sc'
  writeExpr : ∀ e w sc w' sc', okExpr env M E e → LocOk env E sc →
    writeExpr env n e w sc = .ok (w', sc') → Acc M E (M + E) w sc w' sc'
  writeDefault : ∀ vs w sc w' sc', okVariants env M E vs → LocOk env E sc →
    writeDefault env n vs w sc = .ok (w', sc') → Acc M E M w sc w' sc'
  writeInline : ∀ e w sc w' sc', okInline env M E e → LocOk env E sc →
    writeInline env n e w sc = .ok (w', sc') → Acc M E (M + E) w sc w' sc'

theorem out_zero (env : Env) (M E : Nat) : Out env M E 0 := by
  constructor <;> intros <;> rename_i hr <;>
    simp only [writeElems_zero, writePattern_zero, track_zero, writeExpr_zero, writeDefault_zero, writeInline_zero] at hr <;>
    cases hr

section step
variable {env : Env} {M E n : Nat} (hmax : Generated.maxPlaceables ≤ 254)
  (hReach : ∀ p, Reach env p → okPat env M E p)
  (hArgs : ∀ k v, env.args.bind (·.get k) = some v → Small env E v)
  (hFn : ∀ id f rp rn, env.fn id = some f → Small env E (f rp rn))
  (IH : Out env M E n)
include IH

theorem writePattern_out (p : Pattern Bytes) (w : Bytes) (sc : Scope) (w' : Bytes) (sc' : Scope)
    (hp : okElems env M E p) (hl : LocOk env E sc) (hr : writePattern env (n + 1) p w sc = .ok (w', sc')) :
    Acc M E (textBytes env p) w sc w' sc' := by
  rw [writePattern_succ] at hr
  exact IH.writeElems _ _ _ _ _ _ _ hp hl hr

theorem writeDefault_out (vs : List (Variant Bytes)) (w : Bytes) (sc : Scope) (w' : Bytes) (sc' : Scope)
    (hv : okVariants env M E vs) (hl : LocOk env E sc) (hr : writeDefault env (n + 1) vs w sc = .ok (w', sc')) :
    Acc M E M w sc w' sc' := by
  rw [writeDefault_succ] at hr
  split at hr
  · rename_i v hd
    obtain ⟨k, hk⟩ := defaultVariant_mem hd
    have hok := okVariants_mem hk hv
    exact (IH.writePattern v w sc w' sc' hok.2 hl hr).weaken hok.1
  · cases hr; exact Acc.nil (Nat.le_refl _)

theorem track_out (p : Pattern Bytes) (e : Inline Bytes) (w : Bytes) (sc : Scope) (w' : Bytes) (sc' : Scope)
    (hp : okPat env M E p) (he : tokLen e ≤ M) (hl : LocOk env E sc)
    (hr : track env (n + 1) p e w sc = .ok (w', sc')) : Acc M E M w sc w' sc' := by
  rw [track_succ] at hr
  split at hr
  · cases hr; exact Acc.append he rfl
  · obtain ⟨⟨w1, sc1⟩, hw, hr⟩ := RR.bind_eq_ok hr
    cases hr
    exact Acc.weaken (IH.writePattern p w { sc with travelled := sc.travelled ++ [p] } w' sc1 hp.2
      (LocOk.congr (a := sc) rfl hl) hw) hp.1

theorem selectTail_out (vs : List (Variant Bytes)) (w : Bytes) (sc : Scope) (s : Value) (w' : Bytes)
    (sc' : Scope) (hv : okVariants env M E vs) (hl : LocOk env E sc)
    (hr : selectTail env n vs w sc s = .ok (w', sc')) : Acc M E M w sc w' sc' := by
  rcases chosen_cases env vs s with h | ⟨_, v, _, hm, h⟩ | ⟨m, _, h, _⟩
  · rw [selectTail_none h] at hr; exact IH.writeDefault _ _ _ _ _ hv hl hr
  · rw [selectTail_some h] at hr
    have hok := okVariants_mem hm hv
    exact (IH.writePattern v w sc w' sc' hok.2 hl hr).weaken hok.1
  · rw [selectTail_panic h] at hr; cases hr

include hmax in
theorem writeExpr_out (e : Expr Bytes) (w : Bytes) (sc : Scope) (w' : Bytes) (sc' : Scope)
    (he : okExpr env M E e) (hl : LocOk env E sc) (hr : writeExpr env (n + 1) e w sc = .ok (w', sc')) :
    Acc M E (M + E) w sc w' sc' := by
  cases e with
  | inline e =>
    rw [writeExpr_inline] at hr
    exact IH.writeInline _ _ _ _ _ he hl hr
  | select sel vs =>
    rw [writeExpr_select] at hr
    obtain ⟨⟨selector, sc1⟩, hs, hr⟩ := RR.bind_eq_ok hr
    have hst := ((inv_all hmax env n).resolveInline sel sc).step_of_ok hs
    exact ((selectTail_out IH vs w sc1 _ w' sc' he.2 (LocOk.congr hst.localArgs hl) hr).after hst.placeables).weaken
      (Nat.le_add_right M E)

include hmax hReach hArgs hFn in
theorem writeInline_out (e : Inline Bytes) (w : Bytes) (sc : Scope) (w' : Bytes) (sc' : Scope)
    (he : okInline env M E e) (hl : LocOk env E sc) (hr : writeInline env (n + 1) e w sc = .ok (w', sc')) :
    Acc M E (M + E) w sc w' sc' := by
  cases e with
  | str v =>
    rw [writeInline_str] at hr; cases hr
    exact Acc.append (Nat.le_trans he (Nat.le_add_right M E)) rfl
  | num v =>
    rw [writeInline_num] at hr; cases hr
    exact Acc.append (Nat.le_trans he (Nat.le_add_right M E)) rfl
  | placeable e =>
    rw [writeInline_placeable] at hr
    exact IH.writeExpr _ _ _ _ _ he hl hr
  | var id =>
    rw [writeInline_var] at hr
    have miss : (braced (inlineWriteError (.var id))).length ≤ M + E := Nat.le_trans he (Nat.le_add_right M E)
    have hit : ∀ {v : Value}, Small env E v → (valueString env v).length ≤ M + E := fun h =>
      Nat.le_trans h (Nat.le_add_left E M)
    split at hr
    · rename_i l hla
      split at hr
      · rename_i v hv; cases hr; exact Acc.append (hit (hl l hla id v hv)) rfl
      · cases hr; exact Acc.append miss rfl
    · split at hr
      · rename_i v hv; cases hr; exact Acc.append (hit (hArgs id v hv)) rfl
      · cases hr; exact Acc.append miss rfl
  | msg id attr =>
    rw [writeInline_msg] at hr
    refine Acc.weaken ?_ (Nat.le_add_right M E)
    split at hr
    · rename_i p hp
      exact IH.track _ _ _ _ _ _ (hReach p (reach_msgTarget hp)) he hl hr
    · cases hr; exact Acc.append he rfl
    · cases hr; exact Acc.append he rfl
  | fn id pos named =>
    rw [writeInline_fn] at hr
    obtain ⟨⟨⟨rp, rn⟩, sc1⟩, hg, hr⟩ := RR.bind_eq_ok hr
    have hst := ((inv_all hmax env n).getArguments _ sc).step_of_ok hg
    refine Acc.after hst.placeables ?_
    cases hf : env.fn id with
    | none =>
      rw [hf] at hr; cases hr
      exact Acc.append (Nat.le_trans he.1 (Nat.le_add_right M E)) rfl
    | some f =>
      rw [hf] at hr; cases hr
      refine Acc.append ?_ rfl
      have hE : (valueString env (f rp rn)).length ≤ E := hFn id f rp rn hf
      have htk : (braced (inlineWriteError (.fn id pos named))).length ≤ M := he.1
      rw [braced_length] at htk
      unfold fnText
      split <;> omega
  | term id attr args =>
    rw [writeInline_term] at hr
    have htok : tokLen (.term id attr args) ≤ M := by
      match args with
      | .none => exact he
      | some (p, nm) => exact he.1
    have hlit : ∀ p nm, args = some (p, nm) → namedLit env E nm := by
      intro p nm h; subst h; exact he.2.2.2
    obtain ⟨⟨⟨rp, named⟩, sc1⟩, hg, hr⟩ := RR.bind_eq_ok hr
    obtain ⟨⟨w1, sc3⟩, hr3, hr⟩ := RR.bind_eq_ok hr
    cases hr
    have hst := ((inv_all hmax env n).getArguments args sc).step_of_ok hg
    have hsmall := getArguments_named_small env E n args sc sc1 rp named hg hlit
    have hl2 : LocOk env E { sc1 with localArgs := some named } := by
      intro l hl' k v hk
      cases hl'; exact hsmall k v hk
    refine Acc.weaken (Acc.after hst.placeables ?_) (Nat.le_add_right M E)
    show Acc M E M w { sc1 with localArgs := some named } w' sc3
    split at hr3
    · rename_i p hp
      exact IH.track _ _ _ _ _ _ (hReach p (reach_termTarget hp)) htok hl2 hr3
    · cases hr3; exact Acc.append htok rfl

include hmax in
theorem writeElems_out (whole : Pattern Bytes) (len : Nat) (els : List (PatElem Bytes)) (w : Bytes) (sc : Scope)
    (w' : Bytes) (sc' : Scope) (hp : okElems env M E els) (hl : LocOk env E sc)
    (hr : writeElems env (n + 1) whole len els w sc = .ok (w', sc')) :
    Acc M E (textBytes env els) w sc w' sc' := by
  cases els with
  | nil => rw [writeElems_nil] at hr; cases hr; exact Acc.nil (Nat.le_refl _)
  | cons el rest =>
    cases el with
    | text v =>
      rw [writeElems_text] at hr
      by_cases hd : sc.dirty = true
      · rw [if_pos hd] at hr; cases hr; exact Acc.nil (Nat.le_refl _)
      · rw [if_neg hd] at hr
        exact (IH.writeElems _ _ _ _ _ _ _ hp.2 hl hr).text
    | placeable e =>
      rw [writeElems_placeable] at hr
      by_cases hd : sc.dirty = true
      · rw [if_pos hd] at hr; cases hr; exact Acc.nil (Nat.le_refl _)
      rw [if_neg hd] at hr
      by_cases h255 : sc.placeables + 1 > 255
      · rw [if_pos h255] at hr; cases hr
      rw [if_neg h255] at hr
      by_cases hlim : sc.placeables + 1 > Generated.maxPlaceables
      · rw [if_pos hlim] at hr; cases hr; exact Acc.nil (Nat.le_succ _)
      rw [if_neg hlim] at hr
      obtain ⟨⟨w2, sc3⟩, he, hr⟩ := RR.bind_eq_ok hr
      have hst := ((inv_all hmax env n).writeExpr e _ _).step_of_ok he
      have hl2 : LocOk env E (trackScope whole sc) := LocOk.congr (by rw [trackScope_eq]) hl
      refine Acc.placeable (d := textBytes env rest) (by rw [trackScope_eq]) (IH.writeExpr _ _ _ _ _ hp.1.1 hl2 he)
        (IH.writeElems _ _ _ _ _ _ _ hp.2 (LocOk.congr hst.localArgs hl2) hr) ?_ ?_ ?_
      · unfold openMark; split <;> decide
      · unfold closeMark; split <;> decide
      · unfold fallback; split
        · exact hp.1.2
        · exact Nat.zero_le M

end step

theorem out_all (hmax : Generated.maxPlaceables ≤ 254) (env : Env) (M E : Nat)
    (hReach : ∀ p, Reach env p → okPat env M E p)
    (hArgs : ∀ k v, env.args.bind (·.get k) = some v → Small env E v)
    (hFn : ∀ id f rp rn, env.fn id = some f → Small env E (f rp rn)) : ∀ n, Out env M E n := by
  intro n
  induction n with
  | zero => exact out_zero env M E
  | succ n IH =>
    exact ⟨writeElems_out hmax IH, writePattern_out IH, track_out IH, writeExpr_out hmax IH, writeDefault_out IH,
      writeInline_out hmax hReach hArgs hFn IH⟩

def outBound (M E : Nat) : Nat := M + (Generated.maxPlaceables + 1) * Kb M E

theorem locOk_init (env : Env) (E : Nat) : LocOk env E ({} : Scope) := by
  intro l h; cases h

theorem writePattern_init_bound (hmax : Generated.maxPlaceables ≤ 254) (env : Env) (M E : Nat)
    (hReach : ∀ p, Reach env p → okPat env M E p)
    (hArgs : ∀ k v, env.args.bind (·.get k) = some v → Small env E v)
    (hFn : ∀ id f rp rn, env.fn id = some f → Small env E (f rp rn))
    (p : Pattern Bytes) (hp : okPat env M E p) (fuel : Nat) (w : Bytes) (sc : Scope)
    (h : writePattern env fuel p [] {} = .ok (w, sc)) : w.length ≤ outBound M E := by
  have hacc := (out_all hmax env M E hReach hArgs hFn fuel).writePattern p [] {} w sc hp.2 (locOk_init env E) h
  have hst := ((inv_all hmax env fuel).writePattern p [] {}).step_of_ok h
  have hpl : sc.placeables ≤ Generated.maxPlaceables + 1 := by
    rcases (final_scope hst).1 with h | ⟨h, _⟩ <;> omega
  have hm := Nat.mul_le_mul_right (Kb M E) hpl
  have := hp.1
  unfold Acc at hacc
  have e0 : ({} : Scope).placeables = 0 := rfl
  have e1 : ([] : Bytes).length = 0 := rfl
  rw [e0, e1, Nat.zero_mul] at hacc
  unfold outBound; omega

theorem entry_bound (hmax : Generated.maxPlaceables ≤ 254) (env : Env) (M E : Nat)
    (hReach : ∀ p, Reach env p → okPat env M E p)
    (hArgs : ∀ k v, env.args.bind (·.get k) = some v → Small env E v)
    (hFn : ∀ id f rp rn, env.fn id = some f → Small env E (f rp rn))
    (p : Pattern Bytes) (hp : okPat env M E p) (fuel : Nat) {w : Bytes} {errs : List RErr}
    (h : formatPattern env fuel p = .ok (w, errs) ∨ writePatternTop env fuel p = .ok (w, errs)) :
    w.length ≤ outBound M E :=
  entry_ok (X := fun w _ => w.length ≤ outBound M E)
    (fun v hv => by
      subst hv
      -- the single text element is the whole text of the pattern
      have : (tr env v).length + 0 ≤ M := hp.1
      unfold outBound; omega)
    (fun w sc hr => writePattern_init_bound hmax env M E hReach hArgs hFn p hp fuel w sc hr) h

end FluentProofs.Resolver

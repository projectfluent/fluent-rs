import FluentProofs.ParserLocalSimExpr
import FluentProofs.ParserLocalBarEntry
import FluentProofs.ParserLocalShiftEntry
/-!
# Locality of the parser, SIMULATION family, part 4: attributes, messages, terms; `get_entry` and junk recovery

Under `Sim N s₁ s₂`, with the `&str` invariant on both sources and a fuel `F` that suffices for both:
`get_attribute`, `get_attributes`, `get_message`, `get_term` started before `N` are related by `SimR`.  Then: a failing
`get_comment` fails on its first line; a failing `get_entry` on `s₁` fails on `s₂` (`getEntry_err_sim`); junk recovery ends
at the same position (`junk_sim`); a failing attribute fails in both (`attr_sim`).
-/
namespace FluentProofs.Parser
open FluentModel.Syntax

section
variable {N : Nat} {s₁ s₂ : Src}

/-- the common head of an attribute, a message, a term; then `K` from behind the `=` -/
theorem identEq_simR {β : Type} (h : Sim N s₁ s₂) {H : Prop} {p : Nat} (hp : p < N) {K₁ K₂ : Span → Nat → R β}
    (hK : ∀ id q2, q2 < N → SimR N H (K₁ id q2) (K₂ id q2)) (hg₁ : ∀ id q, CurGe q (K₁ id q))
    (hg₂ : ∀ id q, CurGe q (K₂ id q)) :
    SimR N H ((getIdentifier s₁ p).bind fun id q => (expectByte s₁ (skipBlankInline s₁ q) 61).bind fun _ q2 => K₁ id q2)
      ((getIdentifier s₂ p).bind fun id q => (expectByte s₂ (skipBlankInline s₂ q) 61).bind fun _ q2 => K₂ id q2) := by
  obtain ⟨e1, hle, e2⟩ := getIdentifier_sim h hp
  refine (SimR.of_eq e1 hle).bind (fun id q hr _ => ?_)
    (fun id q => ((expectByte_ge s₁ _ 61).weaken (skipBlankInline_after s₁ q).le).seq fun _ q2 => hg₁ id q2)
    (fun id q => ((expectByte_ge s₂ _ 61).weaken (skipBlankInline_after s₂ q).le).seq fun _ q2 => hg₂ id q2)
  have hq := (e2 id q hr).1
  have hq1 := h.skipBlankInline_lt hq
  rw [skipBlankInline_sim h (Nat.le_of_lt hq)]
  exact (expectByte_simR h (Nat.le_of_lt hq1) (by decide)).bind
    (fun _ q2 hx _ => hK id q2 ((h.expectByte_ok_lt (Nat.le_of_lt hq1) (by decide) hx).2.2 (by decide)))
    (fun _ q2 => hg₁ id q2) (fun _ q2 => hg₂ id q2)

theorem getAttribute_simR (h : Sim N s₁ s₂) (F : Nat) {p : Nat} (hp : p < N) :
    SimR N (Hash s₁ N) (getAttribute s₁ F p) (getAttribute s₂ F p) := by
  have ge : ∀ (id : Span) (o : Option (Pattern Span)) (q3 : Nat), CurGe q3 (match o with
      | some pat => R.ok (⟨id, pat⟩ : Attribute Span) q3
      | none => .err (mkErr .missingValue q3) q3) := by
    intro id o q3; cases o <;> exact Nat.le_refl q3
  rw [getAttribute_eq, getAttribute_eq]
  refine identEq_simR h hp (fun id q2 hq2 => ?_) (fun id q => (getPattern_ge s₁ F q).seq (ge id))
    (fun id q => (getPattern_ge s₂ F q).seq (ge id))
  refine ((sspecs_all h F).pattern _ hq2).bind (fun o q3 _ hq3 => ?_) (ge id) (ge id)
  cases o <;> exact SimR.of_eq rfl hq3

theorem past_un_err {α : Type} {n E : Nat} {r : R α} (hf : Fin r) (hp : Past n r) (hu : UN n E r) : ∃ e q, r = .err e q := by
  rcases hf with ⟨a, q, rfl⟩ | ⟨e, q, rfl⟩
  · simp only [past_ok, un_ok] at hp hu; omega
  · exact ⟨e, q, rfl⟩

theorem getAttributesGo_simR (h : Sim N s₁ s₂) (hs₁ : AsciiThenBoundary s₁) (hs₂ : AsciiThenBoundary s₂) {F : Nat}
    (hF₁ : exprFuel s₁ ≤ F) (hF₂ : exprFuel s₂ ≤ F) :
    ∀ (k₁ k₂ : Nat) (acc : List (Attribute Span)) (p : Nat), p ≤ N → N - p + 1 ≤ k₁ → N - p + 1 ≤ k₂ →
      SimR N (Hash s₁ N) (getAttributesGo s₁ F k₁ acc p) (getAttributesGo s₂ F k₂ acc p) := by
  intro k₁
  induction k₁ with
  | zero => intro k₂ acc p hp h1 _; omega
  | succ k₁ ih =>
    intro k₂ acc p hp h1 h2
    obtain ⟨k₂, rfl⟩ : ∃ k, k₂ = k + 1 := ⟨k₂ - 1, by omega⟩
    have hp1 := h.skipBlankInline_le hp
    have hge := (skipBlankInline_after s₁ p).le
    rw [getAttributesGo_unfold, getAttributesGo_unfold, skipBlankInline_sim h hp, h.get _ hp1]
    by_cases hb : s₁[skipBlankInline s₁ p]? = some 46
    · rw [if_pos hb, if_pos hb]
      have hlt := h.lt_of_byte hp1 hb (by decide)
      have hlt2 := h.succ_lt hlt hb (by decide)
      rcases getAttribute_simR h F hlt2 with ⟨hle, heq⟩ | ⟨hH, hp1', hp2'⟩
      · rw [heq]
        cases ha : getAttribute s₁ F (skipBlankInline s₁ p + 1) with
        | ok a q =>
          rw [ha] at hle
          have hg := getAttribute_ge s₁ F (skipBlankInline s₁ p + 1)
          rw [ha] at hg
          simp only [curGe_ok, curLe_ok] at hg hle
          exact ih k₂ _ q hle (by omega) (by omega)
        | err e q => exact SimR.of_eq rfl hp
        | panic m => exact SimR.of_eq rfl trivial
        | fuel => exact SimR.of_eq rfl trivial
      · -- both attributes run into the entry head at `N`: both fail there, and the list ends at `p` in both
        have hfin₁ := getAttribute_fin hs₁ hF₁ (p := skipBlankInline s₁ p + 1) (by have := h.lt₁ (Nat.le_of_lt hlt2); omega)
        have hfin₂ := getAttribute_fin hs₂ hF₂ (p := skipBlankInline s₁ p + 1) (by have := h.lt₂ (Nat.le_of_lt hlt2); omega)
        obtain ⟨E₁, hb₁⟩ := h.t₁.bar hH
        obtain ⟨E₂, hb₂⟩ := h.t₂.bar (fun hh => hH (h.hash_iff.mp hh))
        obtain ⟨e₁, q₁, hr₁⟩ := past_un_err hfin₁ hp1' (hb₁.getAttribute_lt F hlt2)
        obtain ⟨e₂, q₂, hr₂⟩ := past_un_err hfin₂ hp2' (hb₂.getAttribute_lt F hlt2)
        rw [hr₁, hr₂]
        exact SimR.of_eq rfl hp
    · rw [if_neg hb, if_neg hb]
      exact SimR.of_eq rfl hp

theorem getAttributes_simR (h : Sim N s₁ s₂) (hs₁ : AsciiThenBoundary s₁) (hs₂ : AsciiThenBoundary s₂) {F : Nat}
    (hF₁ : exprFuel s₁ ≤ F) (hF₂ : exprFuel s₂ ≤ F) {p : Nat} (hp : p ≤ N) :
    SimR N (Hash s₁ N) (getAttributes s₁ F p) (getAttributes s₂ F p) := by
  unfold getAttributes
  exact getAttributesGo_simR h hs₁ hs₂ hF₁ hF₂ _ _ [] p hp (by have := h.lt₁ (Nat.le_refl N); omega)
    (by have := h.lt₂ (Nat.le_refl N); omega)

/-- what `get_message` / `get_term` do from the start of the value on: value, blank block, attributes, then `k`
(one source) -/
theorem valueAttrs_ge {α : Type} (s : Src) (F q : Nat) {k : Option (Pattern Span) → List (Attribute Span) → Nat → R α}
    (hk : ∀ v attrs q5, CurGe q5 (k v attrs q5)) :
    CurGe q ((getPattern s F q).bind fun v q3 => (getAttributes s F (skipBlankBlock s q3).1).bind (k v)) :=
  (getPattern_ge s F q).seq fun v q3 => ((getAttributes_ge s F _).weaken (skipBlankBlock_le s q3)).seq (hk v)

theorem valueAttrs_simR {α : Type} (h : Sim N s₁ s₂) (hs₁ : AsciiThenBoundary s₁) (hs₂ : AsciiThenBoundary s₂) {F : Nat}
    (hF₁ : exprFuel s₁ ≤ F) (hF₂ : exprFuel s₂ ≤ F) {q2 : Nat} (hq2 : q2 < N)
    {k : Option (Pattern Span) → List (Attribute Span) → Nat → R α}
    (hk1 : ∀ v attrs q5, q5 ≤ N → CurLe N (k v attrs q5)) (hk2 : ∀ v attrs q5, CurGe q5 (k v attrs q5)) :
    SimR N (Hash s₁ N)
      ((getPattern s₁ F q2).bind fun v q3 => (getAttributes s₁ F (skipBlankBlock s₁ q3).1).bind (k v))
      ((getPattern s₂ F q2).bind fun v q3 => (getAttributes s₂ F (skipBlankBlock s₂ q3).1).bind (k v)) := by
  refine ((sspecs_all h F).pattern _ hq2).bind (fun v q3 _ hq3 => ?_)
    (fun v q3 => ((getAttributes_ge s₁ F _).weaken (skipBlankBlock_le s₁ q3)).seq (hk2 v))
    (fun v q3 => ((getAttributes_ge s₂ F _).weaken (skipBlankBlock_le s₂ q3)).seq (hk2 v))
  rw [skipBlankBlock_sim h hq3]
  exact (getAttributes_simR h hs₁ hs₂ hF₁ hF₂ (h.skipBlankBlock_le hq3)).bind
    (fun attrs q5 _ hq5 => SimR.refl_of _ (Or.inl (hk1 v attrs q5 hq5))) (hk2 v) (hk2 v)

theorem getMessage_simR (h : Sim N s₁ s₂) (hs₁ : AsciiThenBoundary s₁) (hs₂ : AsciiThenBoundary s₂) {F : Nat}
    (hF₁ : exprFuel s₁ ≤ F) (hF₂ : exprFuel s₂ ≤ F) (es : Nat) {p : Nat} (hp : p < N) :
    SimR N (Hash s₁ N) (getMessage s₁ F es p) (getMessage s₂ F es p) := by
  rw [getMessage_eq, getMessage_eq]
  exact identEq_simR h hp
    (fun id q2 hq2 => valueAttrs_simR h hs₁ hs₂ hF₁ hF₂ hq2 (fun _ _ _ hq5 => CurLe.ite hq5 hq5)
      (fun _ _ q5 => CurGe.ite (Nat.le_refl q5) (Nat.le_refl q5)))
    (fun id q => valueAttrs_ge s₁ F q fun _ _ q5 => CurGe.ite (Nat.le_refl q5) (Nat.le_refl q5))
    (fun id q => valueAttrs_ge s₂ F q fun _ _ q5 => CurGe.ite (Nat.le_refl q5) (Nat.le_refl q5))

theorem getTerm_simR (h : Sim N s₁ s₂) (hs₁ : AsciiThenBoundary s₁) (hs₂ : AsciiThenBoundary s₂) {F : Nat}
    (hF₁ : exprFuel s₁ ≤ F) (hF₂ : exprFuel s₂ ≤ F) (es : Nat) {p : Nat} (hp : p < N) :
    SimR N (Hash s₁ N) (getTerm s₁ F es p) (getTerm s₂ F es p) := by
  have hk1 : ∀ (id : Span) (v : Option (Pattern Span)) (attrs : List (Attribute Span)) (q5 : Nat), q5 ≤ N →
      CurLe N (match v with
        | some v => R.ok (⟨id, v, attrs, none⟩ : Term Span) q5
        | none => .err (mkErr2 (.expectedTermField id) es q5) q5) := by
    intro id v attrs q5 hq5; cases v <;> exact hq5
  have hk2 : ∀ (id : Span) (v : Option (Pattern Span)) (attrs : List (Attribute Span)) (q5 : Nat),
      CurGe q5 (match v with
        | some v => R.ok (⟨id, v, attrs, none⟩ : Term Span) q5
        | none => .err (mkErr2 (.expectedTermField id) es q5) q5) := by
    intro id v attrs q5; cases v <;> exact Nat.le_refl q5
  have ge : ∀ (s : Src) (id : Span) (q : Nat), CurGe q ((getPattern s F (skipBlankInline s q)).bind fun v q3 =>
      (getAttributes s F (skipBlankBlock s q3).1).bind fun attrs q5 =>
        match v with
        | some v => R.ok (⟨id, v, attrs, none⟩ : Term Span) q5
        | none => .err (mkErr2 (.expectedTermField id) es q5) q5) :=
    fun s id q => (valueAttrs_ge s F _ (hk2 id)).weaken (skipBlankInline_after s q).le
  rw [getTerm_eq, getTerm_eq]
  refine (SimR.of_eq (expectByte_sim h (Nat.le_of_lt hp) 45) ?_).bind (fun _ p0 hx _ => ?_)
    (fun _ p0 => CurGe.weaken (p := p0) ?_ (Nat.le_refl p0)) (fun _ p0 => CurGe.weaken (p := p0) ?_ (Nat.le_refl p0))
  · rcases expectByte_cases s₁ p 45 with ⟨hx, _⟩ | ⟨hx, _⟩ <;> rw [hx]
    · exact hp
    · exact Nat.le_of_lt hp
  · obtain ⟨rfl, hb45⟩ := expectByte_ok hx
    refine identEq_simR h (h.succ_lt hp hb45 (by decide)) (fun id q2 hq2 => ?_) (ge s₁) (ge s₂)
    rw [skipBlankInline_sim h (Nat.le_of_lt hq2)]
    exact valueAttrs_simR h hs₁ hs₂ hF₁ hF₂ (h.skipBlankInline_lt hq2) (hk1 id) (hk2 id)
  · exact (getIdentifier_ge s₁ p0).seq fun id q =>
      ((expectByte_ge s₁ _ 61).weaken (skipBlankInline_after s₁ q).le).seq fun _ q2 => ge s₁ id q2
  · exact (getIdentifier_ge s₂ p0).seq fun id q =>
      ((expectByte_ge s₂ _ 61).weaken (skipBlankInline_after s₂ q).le).seq fun _ q2 => ge s₂ id q2

end

/-- once a comment has a line, `get_comment` does not fail (a line that does not fit ends the comment) -/
theorem getCommentGo_nonempty_noErr (s : Src) (k : Nat) : ∀ (level : Nat) (content : List Span) (p : Nat), content ≠ [] →
    ∀ e q, getCommentGo s k level content p ≠ .err e q := by
  induction k with
  | zero => intro level content p _ e q h; cases h
  | succ k ih =>
    intro level content p hc e q h
    rw [getCommentGo_unfold] at h
    cases hst : commentStep s level content.isEmpty p with
    | line l sp p' => rw [hst] at h; exact ih _ _ _ (by simp) e q h
    | stop lv q0 => rw [hst] at h; cases h
    | bad q0 => exact hc (List.isEmpty_iff.mp (commentStep_bad hst).1)
    | panic m => rw [hst] at h; cases h

theorem getComment_err_of {s : Src} {p : Nat} (h35 : s[p]? = some 35) (h1 : isEol s (getCommentLevel s p).2 = false)
    (h2 : s[(getCommentLevel s p).2]? ≠ some 32) :
    getComment s p = .err (mkErr (.expectedToken 32) (getCommentLevel s p).2) (getCommentLevel s p).2 := by
  obtain ⟨l, hl, _, _, hl0⟩ := getCommentLevel_spec s p
  rw [hl] at h1 h2 ⊢
  rw [getComment, getCommentGo_unfold, List.isEmpty_nil,
    commentStep_first_bad (get_lt h35) hl (fun h0 => hl0 h0 h35) (Or.inl rfl) h1 h2]

/-- a failing `get_comment` fails on its first line -/
theorem getComment_err_inv {s : Src} {p : Nat} (_h35 : s[p]? = some 35) {e : PErr} {q : Nat} (hr : getComment s p = .err e q) :
    isEol s (getCommentLevel s p).2 = false ∧ s[(getCommentLevel s p).2]? ≠ some 32 := by
  rw [getComment, getCommentGo_unfold] at hr
  cases hst : commentStep s 0 ([] : List Span).isEmpty p with
  | line l sp p' => rw [hst] at hr; exact absurd hr (getCommentGo_nonempty_noErr s _ _ _ _ (by simp) e q)
  | stop lv q0 => rw [hst] at hr; cases hr
  | bad q0 =>
    obtain ⟨_, he, h32, l, _, _, _, hl, _⟩ := commentStep_bad hst
    rw [hl]; exact ⟨he, h32⟩
  | panic m => rw [hst] at hr; cases hr

section
variable {N : Nat} {s₁ s₂ : Src}

theorem getCommentLevel_sim (h : Sim N s₁ s₂) {p : Nat} (hp : p < N) :
    getCommentLevel s₂ p = getCommentLevel s₁ p ∧ ((getCommentLevel s₁ p).1 ≠ 0 → (getCommentLevel s₁ p).2 < N) := by
  refine ⟨getCommentLevel_win h.loc.win hp, ?_⟩
  obtain ⟨l, hl, hlt⟩ := h.loc.edge₁.getCommentLevel_lt hp
  rw [hl]
  exact fun _ => hlt

theorem getEntry_hash_sim (h : Sim N s₁ s₂) (F : Nat) {p : Nat} (hp : p < N) (h35 : s₁[p]? = some 35) {e : PErr} {q : Nat}
    (hr : getEntry s₁ F p = .err e q) : q < N ∧ getEntry s₂ F p = .err e q := by
  have h35' : s₂[p]? = some 35 := by rw [h.get p (Nat.le_of_lt hp)]; exact h35
  have hc : getComment s₁ p = .err e q := by
    unfold getEntry at hr
    simp only [h35] at hr
    cases hcm : getComment s₁ p with
    | ok v q' =>
      rw [hcm] at hr
      obtain ⟨content, level⟩ := v
      simp only [] at hr
      (repeat' split at hr) <;> cases hr
    | err e' q' => rw [hcm] at hr; simp only [] at hr; injection hr with a b; rw [a, b]
    | panic m => rw [hcm] at hr; cases hr
    | fuel => rw [hcm] at hr; cases hr
  obtain ⟨i1, i2⟩ := getComment_err_inv h35 hc
  obtain ⟨l1, l2⟩ := getCommentLevel_sim h hp
  have hlv : (getCommentLevel s₁ p).1 ≠ 0 := by
    obtain ⟨l, hl, _, _, hl0⟩ := getCommentLevel_spec s₁ p
    rw [hl]; exact fun h0 => hl0 h0 h35
  have hq1 := l2 hlv
  have e1 := getComment_err_of h35 i1 i2
  rw [e1] at hc
  injection hc with hc1 hc2
  have e2 : getComment s₂ p = .err (mkErr (.expectedToken 32) (getCommentLevel s₁ p).2) (getCommentLevel s₁ p).2 := by
    have := getComment_err_of (s := s₂) h35' (by rw [l1, isEol_sim h (Nat.le_of_lt hq1)]; exact i1)
      (by rw [l1, h.get _ (Nat.le_of_lt hq1)]; exact i2)
    rw [l1] at this
    exact this
  refine ⟨by omega, ?_⟩
  unfold getEntry
  simp only [h35', e2]
  rw [hc1, hc2]

theorem getEntry_simR (h : Sim N s₁ s₂) (hs₁ : AsciiThenBoundary s₁) (hs₂ : AsciiThenBoundary s₂) {F : Nat}
    (hF₁ : exprFuel s₁ ≤ F) (hF₂ : exprFuel s₂ ≤ F) {p : Nat} (hp : p < N) (h35 : s₁[p]? ≠ some 35) :
    SimR N (Hash s₁ N) (getEntry s₁ F p) (getEntry s₂ F p) := by
  have hget := h.get p (Nat.le_of_lt hp)
  rw [getEntry_of_not_hash s₁ F p h35, getEntry_of_not_hash s₂ F p (hget ▸ h35), hget]
  split
  · exact (getTerm_simR h hs₁ hs₂ hF₁ hF₂ p hp).bind_ok _
  · exact (getMessage_simR h hs₁ hs₂ hF₁ hF₂ p hp).bind_ok _

theorem getEntry_err_sim (h : Sim N s₁ s₂) (hs₁ : AsciiThenBoundary s₁) (hs₂ : AsciiThenBoundary s₂) {F : Nat}
    (hF₁ : exprFuel s₁ ≤ F) (hF₂ : exprFuel s₂ ≤ F) {p : Nat} (hp : p < N) {e : PErr} {q : Nat}
    (hr : getEntry s₁ F p = .err e q) :
    (q ≤ N ∧ getEntry s₂ F p = .err e q) ∨
      (¬ Hash s₁ N ∧ N < q ∧ ∃ e' q', getEntry s₂ F p = .err e' q' ∧ N < q') := by
  by_cases h35 : s₁[p]? = some 35
  · obtain ⟨h1, h2⟩ := getEntry_hash_sim h F hp h35 hr
    exact Or.inl ⟨Nat.le_of_lt h1, h2⟩
  · rcases getEntry_simR h hs₁ hs₂ hF₁ hF₂ hp h35 with ⟨hle, heq⟩ | ⟨hH, hp1, hp2⟩
    · rw [hr] at hle heq
      exact Or.inl ⟨hle, heq⟩
    · -- the run on `s₂` ends inside the entry head at `N`: it is an error
      rw [hr] at hp1
      obtain ⟨E₂, hb₂⟩ := h.t₂.bar (fun hh => hH (h.hash_iff.mp hh))
      obtain ⟨e', q', hr'⟩ := past_un_err (getEntry_fin hs₂ hF₂ (h.lt₂ (Nat.le_of_lt hp))) hp2 (hb₂.getEntry_lt F hp)
      rw [hr'] at hp2
      exact Or.inr ⟨hH, hp1, e', q', hr', hp2⟩

theorem Sim.entryStart₁ (h : Sim N s₁ s₂) : EndsAtEntryStart s₁ N := by
  obtain ⟨b, hb, hw⟩ := h.wall₁
  exact Or.inr ⟨b, hb, by simpa [wallByte, isReal] using hw, Or.inr h.nl⟩

theorem skipToNextEntryStart_sim (h : Sim N s₁ s₂) {p q : Nat} (hq : q ≤ N) :
    skipToNextEntryStart s₂ p q = skipToNextEntryStart s₁ p q ∧
      ∀ q1, skipToNextEntryStart s₁ p q = some q1 → q1 ≤ N := by
  refine ⟨(skipToNextEntryStart_win h.loc.win h.entryStart₁ h.symm.entryStart₁ p hq).trans (map_add_zero _), fun q1 hq1 => ?_⟩
  exact skipToNextEntryStart_le_of_start h.entryStart₁ (Nat.le_trans (junkFrom_le s₁ p q) hq) hq1

end

/-- junk recovery after an error inside the entry head at `n` (in an entry started before `n`) stops at `n` exactly: it
goes back to the start of the line of the error, which is `n` -/
theorem Bar.skipToNextEntryStart_eq {s : Src} {n E : Nat} (hb : Bar s n E) {p q : Nat} (hp : p < n) (h1 : n < q) (h2 : q ≤ E) :
    skipToNextEntryStart s p q = some n := by
  have hsz := hb.lt_size
  have hnl : rposNewline s p (min q s.size) = some (n - 1) :=
    rposNewline_eq_some.mpr ⟨by omega, by omega, hb.nl hp, fun j j1 j2 h10 => by
      have := hb.stop (x := j) (by omega) h10; omega⟩
  refine skipToNextEntryStart_eq_some.mpr ⟨by omega, ?_⟩
  have e : junkFrom s p q = n := by unfold junkFrom; rw [hnl]; show n - 1 + 1 = n; omega
  rw [e]
  exact .here hb.entryStart

section
variable {N : Nat} {s₁ s₂ : Src}

theorem junk_sim (h : Sim N s₁ s₂) (hs₁ : AsciiThenBoundary s₁) (hs₂ : AsciiThenBoundary s₂) {p : Nat} (hp : p < N)
    {e : PErr} {q q1 : Nat} (hr : getEntry s₁ (exprFuel s₁) p = .err e q) (hk : skipToNextEntryStart s₁ p q = some q1) :
    q1 ≤ N ∧ ∃ e' q', getEntry s₂ (exprFuel s₂) p = .err e' q' ∧ skipToNextEntryStart s₂ p q' = some q1 := by
  obtain ⟨e₁, hr₁⟩ := getEntry_err_fuel hr (Nat.le_max_left (exprFuel s₁) (exprFuel s₂))
  have down : ∀ e' q', getEntry s₂ (max (exprFuel s₁) (exprFuel s₂)) p = .err e' q' →
      ∃ e'', getEntry s₂ (exprFuel s₂) p = .err e'' q' := fun e' q' he =>
    getEntry_err_of_fuel (getEntry_fin hs₂ (Nat.le_refl _) (h.lt₂ (Nat.le_of_lt hp))).ne_fuel (Nat.le_max_right _ _) he
  rcases getEntry_err_sim h hs₁ hs₂ (Nat.le_max_left _ _) (Nat.le_max_right _ _) hp hr₁ with ⟨hq, h2⟩ | ⟨hH, hq, e', q', h2, hq'⟩
  · obtain ⟨k1, k2⟩ := skipToNextEntryStart_sim h (p := p) hq
    obtain ⟨e'', h3⟩ := down _ _ h2
    exact ⟨k2 q1 hk, e'', q, h3, by rw [k1]; exact hk⟩
  · obtain ⟨E₁, hb₁⟩ := h.t₁.bar hH
    obtain ⟨E₂, hb₂⟩ := h.t₂.bar (fun hh => hH (h.hash_iff.mp hh))
    have hu₁ := hb₁.getEntry_lt (exprFuel s₁) hp
    rw [hr] at hu₁
    simp only [un_err] at hu₁
    have hu₂ := hb₂.getEntry_lt (max (exprFuel s₁) (exprFuel s₂)) hp
    rw [h2] at hu₂
    simp only [un_err] at hu₂
    have e1 := hb₁.skipToNextEntryStart_eq hp hq hu₁
    rw [e1] at hk
    injection hk with hk
    subst hk
    obtain ⟨e'', h3⟩ := down _ _ h2
    exact ⟨Nat.le_refl _, e'', q', h3, hb₂.skipToNextEntryStart_eq hp hq' hu₂⟩

theorem attr_sim (h : Sim N s₁ s₂) (hs₂ : AsciiThenBoundary s₂) {p : Nat} (hp : p < N)
    {e : PErr} {q : Nat} (hr : getAttribute s₁ (exprFuel s₁) p = .err e q) :
    ∃ e' q', getAttribute s₂ (exprFuel s₂) p = .err e' q' := by
  obtain ⟨e₁, hr₁⟩ := getAttribute_err_fuel hr (Nat.le_max_left (exprFuel s₁) (exprFuel s₂))
  have hle₂ : p ≤ s₂.size := Nat.le_of_lt (h.lt₂ (Nat.le_of_lt hp))
  have hfinF := getAttribute_fin hs₂ (Nat.le_max_right (exprFuel s₁) (exprFuel s₂)) hle₂
  -- the run on `s₂` with the large fuel is an error
  have herr : ∃ e' q', getAttribute s₂ (max (exprFuel s₁) (exprFuel s₂)) p = .err e' q' := by
    rcases getAttribute_simR h (max (exprFuel s₁) (exprFuel s₂)) hp with ⟨_, heq⟩ | ⟨hH, hp1, hp2⟩
    · exact ⟨e₁, q, by rw [heq, hr₁]⟩
    · obtain ⟨E₂, hb₂⟩ := h.t₂.bar (fun hh => hH (h.hash_iff.mp hh))
      exact past_un_err hfinF hp2 (hb₂.getAttribute_lt _ hp)
  obtain ⟨e', q', he'⟩ := herr
  obtain ⟨e₀, h0⟩ := getAttribute_err_of_fuel (getAttribute_fin hs₂ (Nat.le_refl _) hle₂).ne_fuel (Nat.le_max_right _ _) he'
  exact ⟨e₀, q', h0⟩

end

end FluentProofs.Parser

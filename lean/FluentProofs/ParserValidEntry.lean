import FluentProofs.ParserValidExpr
import FluentProofs.ParserLines
/-!
# `ValidEntry` pass: attributes, messages, terms, entries and the two entry loops

Hypothesis-free (any byte source, any fuel): every message or term that ends up in the body of
`parse` / `parseRuntime` satisfies `ValidEntry`.
-/
namespace FluentProofs.Parser
open FluentModel FluentModel.Syntax

theorem getPattern_patOk {s : Src} {fuel p : Nat} {o : Option (Pattern Span)} {q : Nat}
    (h : getPattern s fuel p = .ok o q) : ∀ els, o = some els → patOk s els = true :=
  (vspecs_all s fuel).pattern p o q h

theorem getAttribute_attrOk {s : Src} {fuel p : Nat} {a : Attribute Span} {q : Nat}
    (h : getAttribute s fuel p = .ok a q) : attrOk s a = true := by
  rw [getAttribute_eq] at h
  obtain ⟨id, q1, hr, h⟩ := R.bind_eq_ok h
  obtain ⟨_, q2, _, h⟩ := R.bind_eq_ok h
  obtain ⟨o, q3, hr3, h⟩ := R.bind_eq_ok h
  cases o with
  | none => cases h
  | some pat =>
    cases h
    simp [attrOk, getIdentifier_identOk hr, getPattern_patOk hr3 pat rfl]

theorem getAttributesGo_attrOk {s : Src} {fuel n : Nat} {acc attrs : List (Attribute Span)} {p q : Nat}
    (h : getAttributesGo s fuel n acc p = .ok attrs q) (hacc : acc.all (attrOk s) = true) :
    attrs.all (attrOk s) = true := by
  induction n generalizing acc p with
  | zero => simp [getAttributesGo] at h
  | succ n ih =>
    rw [getAttributesGo_unfold] at h
    split at h
    · cases hr : getAttribute s fuel (skipBlankInline s p + 1) with
      | ok a q1 =>
        rw [hr] at h
        refine ih h ?_
        simp [List.all_append, hacc, getAttribute_attrOk hr]
      | err e q1 => rw [hr] at h; cases h; exact hacc
      | panic m => rw [hr] at h; cases h
      | fuel => rw [hr] at h; cases h
    · cases h; exact hacc

theorem getAttributes_attrOk {s : Src} {fuel p : Nat} {attrs : List (Attribute Span)} {q : Nat}
    (h : getAttributes s fuel p = .ok attrs q) : attrs.all (attrOk s) = true :=
  getAttributesGo_attrOk h rfl

theorem getMessage_valid {s : Src} {fuel es p : Nat} {m : Message Span} {q : Nat}
    (h : getMessage s fuel es p = .ok m q) : validEntry s (.message m) = true := by
  rw [getMessage_eq] at h
  obtain ⟨id, q1, hr, h⟩ := R.bind_eq_ok h
  obtain ⟨_, q2, _, h⟩ := R.bind_eq_ok h
  obtain ⟨o, q3, hr3, h⟩ := R.bind_eq_ok h
  obtain ⟨attrs, q5, hr4, h⟩ := R.bind_eq_ok h
  split at h
  · cases h
  · rename_i hne
    cases h
    have hid := getIdentifier_identOk hr
    have hat := getAttributes_attrOk hr4
    have hp := getPattern_patOk hr3
    cases o with
    | none =>
      have : attrs.isEmpty = false := by simpa using hne
      simp [validEntry, hid, hat, this]
    | some v => simp [validEntry, hid, hat, hp v rfl]

theorem getTerm_valid {s : Src} {fuel es p : Nat} {t : Term Span} {q : Nat}
    (h : getTerm s fuel es p = .ok t q) : validEntry s (.term t) = true := by
  rw [getTerm_eq] at h
  obtain ⟨_, p0, _, h⟩ := R.bind_eq_ok h
  obtain ⟨id, q1, hr, h⟩ := R.bind_eq_ok h
  obtain ⟨_, q2, _, h⟩ := R.bind_eq_ok h
  obtain ⟨o, q3, hr3, h⟩ := R.bind_eq_ok h
  obtain ⟨attrs, q5, hr4, h⟩ := R.bind_eq_ok h
  cases o with
  | none => cases h
  | some v =>
    cases h
    simp [validEntry, getIdentifier_identOk hr, getAttributes_attrOk hr4, getPattern_patOk hr3 v rfl]

theorem getEntry_valid {s : Src} {fuel p : Nat} {e : Entry Span} {q : Nat}
    (h : getEntry s fuel p = .ok e q) : validEntry s e = true := by
  by_cases h35 : s[p]? = some 35
  · rw [getEntry_unfold, if_pos h35] at h
    obtain ⟨r, q1, _, h⟩ := R.bind_eq_ok h
    rcases entryOfComment_cases r q1 with ⟨e', he, hs⟩ | ⟨_, m, hm⟩ <;> rw [h] at *
    · cases he; rcases hs with rfl | rfl | rfl <;> rfl
    · cases hm
  · rw [getEntry_of_not_hash s fuel p h35] at h
    split at h <;> obtain ⟨x, q', hr, h⟩ := R.bind_eq_ok h <;> cases h
    · exact getTerm_valid hr
    · exact getMessage_valid hr

theorem getEntryRuntime_valid {s : Src} {fuel p : Nat} {o : Option (Entry Span)} {q : Nat}
    (h : getEntryRuntime s fuel p = .ok o q) : ∀ e, o = some e → validEntry s e = true := by
  intro e he
  by_cases h35 : s[p]? = some 35
  · rw [getEntryRuntime_unfold, if_pos h35] at h
    cases h; cases he
  · rw [getEntryRuntime_of_not_hash s fuel p h35] at h
    split at h <;> obtain ⟨x, q', hr, h⟩ := R.bind_eq_ok h <;> cases h <;> cases he
    · exact getTerm_valid hr
    · exact getMessage_valid hr

/-- all messages and terms of a body (comments stripped) are valid -/
def VB (s : Src) (l : List (Entry Span)) : Prop := ∀ e ∈ msgsTerms l, validEntry s e = true

theorem VB.all {s : Src} {l : List (Entry Span)} (h : VB s l) : ∀ e ∈ l, validEntry s e = true := by
  induction l with
  | nil => intro e he; cases he
  | cons x xs ih =>
    intro e he
    rcases List.mem_cons.mp he with rfl | he
    · cases e with
      | message m => exact h (.message { m with comment := none }) (by simp [msgsTerms])
      | term t => exact h (.term { t with comment := none }) (by simp [msgsTerms])
      | _ => rfl
    · refine ih ?_ e he
      intro y hy
      refine h y ?_
      cases x <;> simp [msgsTerms, hy]

theorem VB.one {s : Src} {e : Entry Span} (h : validEntry s e = true) : ∀ x ∈ msgsTerms [e], validEntry s x = true := by
  intro x hx
  cases e <;> simp [msgsTerms] at hx
  · subst hx; exact h
  · subst hx; exact h

theorem parseLoop_valid (s : Src) (fuel n : Nat) (body : List (Entry Span)) (errors : List PErr)
    (lc : Option (List Span)) (lbc p : Nat) (hb : VB s body) :
    ∀ r, parseLoop s fuel n body errors lc lbc p = .done r → VB s r.1 :=
  parseLoop_msgsTerms s fuel (fun _ _ _ hr => VB.one (getEntry_valid hr)) n body errors lc lbc p hb

theorem parseRuntimeLoop_valid (s : Src) (fuel n : Nat) (body : List (Entry Span)) (errors : List PErr)
    (p : Nat) (hb : VB s body) :
    ∀ r, parseRuntimeLoop s fuel n body errors p = .done r → VB s r.1 := by
  refine parseRuntimeLoop_msgsTerms s fuel (fun _ o _ hr => ?_) n body errors p hb
  cases o with
  | none => intro x hx; cases hx
  | some e => exact VB.one (getEntryRuntime_valid hr e rfl)

theorem parse_valid (s : Src) (body : Resource Span) (errs : List PErr) (h : parse s = .done (body, errs)) :
    ∀ e ∈ body, ValidEntry s e :=
  (parseLoop_valid s _ _ [] [] none 0 _ (fun e he => by cases he) _ h).all

theorem parseRuntime_valid (s : Src) (body : Resource Span) (errs : List PErr)
    (h : parseRuntime s = .done (body, errs)) : ∀ e ∈ body, ValidEntry s e :=
  (parseRuntimeLoop_valid s _ _ [] [] _ (fun e he => by cases he) _ h).all

end FluentProofs.Parser

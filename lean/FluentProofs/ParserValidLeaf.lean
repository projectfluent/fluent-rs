import FluentProofs.ParserValid
import FluentProofs.ParserForward
/-!
# `ValidEntry` pass over the leaf functions

What a leaf function returns with `ok` reads back (`spanBytes`) as bytes that satisfy the rule of `ParserValid` for its
kind: identifiers, number literals, string literals, text without braces; and the final pass of `get_pattern` keeps
valid placeholders valid.
-/
namespace FluentProofs.Parser
open FluentModel FluentModel.Syntax

theorem skipHexGo_range (s : Src) (n p : Nat) :
    skipHexGo s n p ≤ p + n ∧ ∀ j, p ≤ j → j < skipHexGo s n p → ∃ b, s[j]? = some b ∧ isHexDigit b = true := by
  rw [skipHexGo_eq]; exact (scanWhileGo_spec s isHexDigit n p).2

theorem skipUnicodeEscapeSequence_ok {s : Src} {p len q : Nat} (h : skipUnicodeEscapeSequence s p len = .ok () q) :
    q = p + len ∧ ∀ j, p ≤ j → j < p + len → ∃ b, s[j]? = some b ∧ isHexDigit b = true := by
  unfold skipUnicodeEscapeSequence at h
  simp only [] at h
  split at h
  · split at h <;> cases h
  · rename_i hc
    cases h
    have hc : skipHexGo s len p - p = len := by simpa using hc
    have := skipHexGo_range s len p
    have hle := (skipHexGo_after s len p).le
    have e : skipHexGo s len p = p + len := by omega
    rw [e] at this ⊢
    exact ⟨rfl, this.2⟩

theorem noBrace_of_clean {s : Src} {a b : Nat} (h : FluentProofs.Ser.Clean s a b) :
    ∀ j, a ≤ j → j < b → ∀ c, s[j]? = some c → noBrace c = true := by
  intro j h1 h2 c hc
  have := h j h1 h2
  rw [hc] at this
  simp only [noBrace, Bool.and_eq_true, bne_iff_ne, ne_eq]
  exact ⟨fun e => this.2.1 (e ▸ rfl), fun e => this.2.2 (e ▸ rfl)⟩

theorem getTextSlice_noBrace {s : Src} {p start stop : Nat} {nb : Bool} {term : Termination} {q : Nat}
    (h : getTextSlice s p = .ok (start, stop, nb, term) q) :
    start = p ∧ p ≤ stop ∧ ∀ j, p ≤ j → j < stop → ∀ b, s[j]? = some b → noBrace b = true := by
  by_cases hp : p ≤ s.size
  · obtain ⟨rfl, e, h1, _, hcl, hS⟩ := FluentProofs.Ser.getTextSlice_slice hp h
    have hr := noBrace_of_clean hcl
    rcases hS with ⟨_, _, rfl, _⟩ | ⟨_, _, rfl, _⟩ | ⟨_, h10, _, rfl, _⟩ | ⟨_, _, _, _, rfl, _⟩
    · exact ⟨rfl, h1, hr⟩
    · exact ⟨rfl, h1, hr⟩
    · refine ⟨rfl, by omega, fun j j1 j2 b hb => ?_⟩
      by_cases hj : j = e
      · subst hj; rw [h10] at hb; cases hb; decide
      · exact hr j j1 (by omega) b hb
    · exact ⟨rfl, by omega, fun j j1 j2 => hr j j1 (by omega)⟩
  · unfold getTextSlice at h
    rw [if_pos (by omega)] at h
    cases h; exact ⟨rfl, Nat.le_refl _, fun j h1 h2 => by omega⟩

theorem getIdentifierUnchecked_identOk {s : Src} {p : Nat} {b : UInt8} {sp : Span} {q : Nat}
    (hb : s[p]? = some b) (ha : isAlpha b = true) (h : getIdentifierUnchecked s (p + 1) = .ok sp q) :
    identOk s sp = true := by
  unfold getIdentifierUnchecked at h
  simp only [usub, show 1 ≤ p + 1 by omega, if_true, Nat.add_sub_cancel] at h
  split at h
  · rename_i sp' hsl
    cases h
    obtain ⟨rfl, hv⟩ := slice_eq_some hsl
    have hle := scanWhile_le s isIdentByte (p + 1)
    unfold identOk
    rw [spanBytes_cons hb (by omega)]
    simp only [identBytesOk, ha, Bool.true_and]
    exact scanWhile_all s isIdentByte (p + 1)
  · cases h

theorem getIdentifier_identOk {s : Src} {p : Nat} {sp : Span} {q : Nat} (h : getIdentifier s p = .ok sp q) :
    identOk s sp = true := by
  unfold getIdentifier at h
  split at h
  · cases h
  · rename_i hc
    have hc : isIdentifierStart s p = true := by simpa using hc
    obtain ⟨b, hb, ha⟩ := (isIdentifierStart_iff s p).mp hc
    exact getIdentifierUnchecked_identOk hb ha h

theorem getAttributeAccessor_identOk {s : Src} {p : Nat} {o : Option Span} {q : Nat}
    (h : getAttributeAccessor s p = .ok o q) : optIdentOk s o = true := by
  unfold getAttributeAccessor at h
  rcases takeByteIf_cases s p 46 with ⟨ht, _⟩ | ⟨ht, _⟩ <;> rw [ht] at h <;> simp only [] at h
  · cases hr : getIdentifier s (p + 1) <;> simp only [hr] at h <;> try contradiction
    cases h
    exact getIdentifier_identOk hr
  · simp at h; cases h.1; rfl

theorem takeDrop_digits (D T : List UInt8) (hD : D.all isDigit = true)
    (hT : T = [] ∨ ∃ c r, T = c :: r ∧ isDigit c = false) :
    (D ++ T).takeWhile isDigit = D ∧ (D ++ T).dropWhile isDigit = T := by
  induction D with
  | nil =>
    rcases hT with rfl | ⟨c, r, rfl, hc⟩
    · simp
    · simp [hc]
  | cons d D ih =>
    simp only [List.all_cons, Bool.and_eq_true] at hD
    have := ih hD.2
    simp [hD.1, this.1, this.2]

theorem isDigit_ne_45 : ∀ b : UInt8, isDigit b = true → (b == 45) = false := fun b h =>
  beq_eq_false_iff_ne.mpr (ne_of_toNat_ne (by have := (isDigit_iff b).mp h; simp only [UInt8.toNat_ofNat]; omega))

theorem numBytesOk_intro (sign : Bool) (D T : List UInt8) (hne : D ≠ []) (hD : D.all isDigit = true)
    (hT : T = [] ∨ ∃ r2, T = 46 :: r2 ∧ r2 ≠ [] ∧ r2.all isDigit = true) :
    numBytesOk ((if sign then [45] else []) ++ D ++ T) = true := by
  have hT' : T = [] ∨ ∃ c r, T = c :: r ∧ isDigit c = false := by
    rcases hT with h | ⟨r2, h, _⟩
    · exact Or.inl h
    · exact Or.inr ⟨46, r2, h, by decide⟩
  have htd := takeDrop_digits D T hD hT'
  have hl1 : stripSign ((if sign then [45] else []) ++ D ++ T) = D ++ T := by
    cases sign with
    | true => simp [stripSign]
    | false =>
      cases D with
      | nil => exact (hne rfl).elim
      | cons d D' =>
        simp only [List.all_cons, Bool.and_eq_true] at hD
        simp [stripSign, isDigit_ne_45 d hD.1]
  unfold numBytesOk
  simp only [hl1, htd.1, htd.2]
  have : D.isEmpty = false := by cases D <;> simp_all
  simp only [this, Bool.not_false, Bool.true_and]
  rcases hT with rfl | ⟨r2, rfl, h2, h3⟩
  · rfl
  · have : r2.isEmpty = false := by cases r2 <;> simp_all
    simp [this, h3]

theorem skipDigits_ok {s : Src} {p q : Nat} (h : skipDigits s p = .ok () q) :
    p < q ∧ q = scanWhile s isDigit p := by
  unfold skipDigits at h
  simp only [] at h
  split at h
  · cases h
  · rename_i hne
    cases h
    have := scanWhile_le s isDigit p
    have hne : scanWhile s isDigit p ≠ p := by simpa using hne
    exact ⟨by omega, rfl⟩

theorem digits_span {s : Src} {p q : Nat} (h : skipDigits s p = .ok () q) :
    spanBytes s ⟨p, q⟩ ≠ [] ∧ (spanBytes s ⟨p, q⟩).all isDigit = true ∧ q ≤ s.size := by
  obtain ⟨h1, h2⟩ := skipDigits_ok h
  have hsz : q ≤ s.size := by
    by_cases hp : p ≤ s.size
    · rw [h2]; exact (scanWhile_after s isDigit isDigit_lt p).le_size hp
    · exfalso
      have : scanWhile s isDigit p = p := by
        unfold scanWhile
        have : s.size - p = 0 := by omega
        rw [this]; rfl
      omega
  have hb : s[p]? = some s[p] := Array.getElem?_eq_getElem (by omega)
  refine ⟨by rw [spanBytes_cons hb h1]; simp, ?_, hsz⟩
  subst h2
  exact scanWhile_all s isDigit p

theorem getNumberLiteral_numOk {s : Src} {p : Nat} {sp : Span} {q : Nat} (h : getNumberLiteral s p = .ok sp q) :
    numOk s sp = true := by
  unfold getNumberLiteral at h
  have hsign : ∃ sign : Bool, ∀ q', (takeByteIf s p 45).1 ≤ q' → q' ≤ s.size →
      spanBytes s ⟨p, q'⟩ = (if sign then [45] else []) ++ spanBytes s ⟨(takeByteIf s p 45).1, q'⟩ ∧
      p ≤ (takeByteIf s p 45).1 := by
    rcases takeByteIf_cases s p 45 with ⟨ht, hb⟩ | ⟨ht, _⟩ <;> rw [ht]
    · exact ⟨true, fun q' h1 h2 => ⟨by rw [spanBytes_cons hb h1]; rfl, by simp⟩⟩
    · exact ⟨false, fun q' h1 h2 => ⟨by simp, by simp⟩⟩
  obtain ⟨sign, hsign⟩ := hsign
  generalize takeByteIf s p 45 = t at h hsign
  obtain ⟨p1, d1⟩ := t
  simp only [] at h hsign
  rcases hr : skipDigits s p1 with ⟨u, p2⟩ | ⟨e, q0⟩ | m | _ <;> simp only [hr] at h <;> try contradiction
  have hD := digits_span hr
  have hlt := (skipDigits_ok hr).1
  rcases takeByteIf_cases s p2 46 with ⟨ht, hb⟩ | ⟨ht, _⟩ <;> rw [ht] at h <;> simp only [] at h
  · simp only [if_true] at h
    rcases hr2 : skipDigits s (p2 + 1) with ⟨u2, p4⟩ | ⟨e, q0⟩ | m | _ <;> simp only [hr2] at h <;> try contradiction
    have hD2 := digits_span hr2
    have hlt2 := (skipDigits_ok hr2).1
    split at h
    · rename_i sp' hsl
      injection h with e1 e2
      subst e1; subst e2
      obtain ⟨rfl, _⟩ := slice_eq_some hsl
      unfold numOk
      rw [(hsign p4 (by omega) hD2.2.2).1, spanBytes_append (Nat.le_of_lt hlt) (by omega) hD.2.2,
        spanBytes_cons hb (by omega), ← List.append_assoc]
      exact numBytesOk_intro sign _ _ hD.1 hD.2.1 (Or.inr ⟨_, rfl, hD2.1, hD2.2.1⟩)
    · cases h
  · simp only [Bool.false_eq_true, if_false] at h
    split at h
    · rename_i sp' hsl
      injection h with e1 e2
      subst e1; subst e2
      obtain ⟨rfl, _⟩ := slice_eq_some hsl
      unfold numOk
      rw [(hsign p2 (by omega) hD.2.2).1]
      have := numBytesOk_intro sign _ [] hD.1 hD.2.1 (Or.inl rfl)
      simpa using this
    · cases h

theorem strBytesOk_bs (rest : List UInt8) : strBytesOk (92 :: 92 :: rest) = strBytesOk rest := by
  rw [strBytesOk.eq_def]; rfl
theorem strBytesOk_q (rest : List UInt8) : strBytesOk (92 :: 34 :: rest) = strBytesOk rest := by
  rw [strBytesOk.eq_def]; rfl
theorem strBytesOk_u (a b c d : UInt8) (rest : List UInt8) :
    strBytesOk (92 :: 117 :: a :: b :: c :: d :: rest) =
      (isHexDigit a && isHexDigit b && isHexDigit c && isHexDigit d && strBytesOk rest) := by
  rw [strBytesOk.eq_def]; rfl
theorem strBytesOk_U (a b c d e f : UInt8) (rest : List UInt8) :
    strBytesOk (92 :: 85 :: a :: b :: c :: d :: e :: f :: rest) =
      (isHexDigit a && isHexDigit b && isHexDigit c && isHexDigit d && isHexDigit e && isHexDigit f &&
        strBytesOk rest) := by
  rw [strBytesOk.eq_def]; rfl
theorem strBytesOk_plain (b : UInt8) (rest : List UInt8) (h1 : (b == 92) = false) (h2 : (b == 34) = false)
    (h3 : (b == 10) = false) : strBytesOk (b :: rest) = strBytesOk rest := by
  rw [strBytesOk.eq_def]; simp [h1, h2, h3]

theorem spanBytes_hex4 {s : Src} {p q : Nat} (hq : p + 4 ≤ q)
    (hh : ∀ j, p ≤ j → j < p + 4 → ∃ b, s[j]? = some b ∧ isHexDigit b = true) :
    ∃ h1 h2 h3 h4, spanBytes s ⟨p, q⟩ = h1 :: h2 :: h3 :: h4 :: spanBytes s ⟨p + 4, q⟩ ∧
      isHexDigit h1 = true ∧ isHexDigit h2 = true ∧ isHexDigit h3 = true ∧ isHexDigit h4 = true := by
  obtain ⟨b1, g1, x1⟩ := hh p (by omega) (by omega)
  obtain ⟨b2, g2, x2⟩ := hh (p + 1) (by omega) (by omega)
  obtain ⟨b3, g3, x3⟩ := hh (p + 2) (by omega) (by omega)
  obtain ⟨b4, g4, x4⟩ := hh (p + 3) (by omega) (by omega)
  refine ⟨b1, b2, b3, b4, ?_, x1, x2, x3, x4⟩
  rw [spanBytes_cons g1 (by omega), spanBytes_cons g2 (by omega), spanBytes_cons g3 (by omega),
    spanBytes_cons g4 (by omega)]

theorem scanStringGo_ok {s : Src} {n p q : Nat} (h : scanStringGo s n p = .ok () q) :
    p ≤ q ∧ strBytesOk (spanBytes s ⟨p, q⟩) = true := by
  induction n generalizing p with
  | zero => cases h; exact ⟨Nat.le_refl _, by rw [spanBytes_nil (Nat.le_refl _)]; rfl⟩
  | succ n ih =>
    revert h
    refine scanStringGo_cases₂ (motive := fun r _ => r = .ok () q → p ≤ q ∧ strBytesOk (spanBytes s ⟨p, q⟩) = true)
      s s n n p p rfl (fun _ => rfl) ?_ ?_ ?_ ?_ ?_ ?_
    · intro _ h; cases h; exact ⟨Nat.le_refl _, by rw [spanBytes_nil (Nat.le_refl _)]; rfl⟩
    · intro c h0 h1 hc h
      obtain ⟨i1, i2⟩ := ih h
      refine ⟨by omega, ?_⟩
      rw [spanBytes_cons h0 (by omega), spanBytes_cons h1 (by omega)]
      rcases hc with rfl | rfl
      · rw [strBytesOk_bs]; exact i2
      · rw [strBytesOk_q]; exact i2
    · intro c len h0 h1 hc h
      obtain ⟨_, q', hr, h⟩ := R.bind_eq_ok h
      obtain ⟨rfl, e2⟩ := skipUnicodeEscapeSequence_ok hr
      obtain ⟨i1, i2⟩ := ih h
      refine ⟨by omega, ?_⟩
      rw [spanBytes_cons h0 (by omega), spanBytes_cons h1 (by omega)]
      obtain ⟨a1, a2, a3, a4, ha, x1, x2, x3, x4⟩ := spanBytes_hex4 (p := p + 2) (q := q) (by omega)
        (fun j j1 j2 => e2 j j1 (by rcases hc with ⟨_, rfl⟩ | ⟨_, rfl⟩ <;> omega))
      rcases hc with ⟨rfl, rfl⟩ | ⟨rfl, rfl⟩
      · rw [ha, strBytesOk_u, x1, x2, x3, x4, i2]; rfl
      · obtain ⟨g5, y5, x5⟩ := e2 (p + 2 + 4) (by omega) (by omega)
        obtain ⟨g6, y6, x6⟩ := e2 (p + 2 + 5) (by omega) (by omega)
        rw [ha, spanBytes_cons y5 (by omega), spanBytes_cons y6 (by omega), strBytesOk_U, x1, x2, x3, x4, x5, x6, i2]; rfl
    · intro _ _ _ _ _ h; cases h
    · intro _ h; cases h
    · intro b h0 n92 n34 n10 h
      obtain ⟨i1, i2⟩ := ih h
      refine ⟨by omega, ?_⟩
      rw [spanBytes_cons h0 (by omega), strBytesOk_plain b _ (beq_eq_false_iff_ne.mpr n92) (beq_eq_false_iff_ne.mpr n34)
        (beq_eq_false_iff_ne.mpr n10)]
      exact i2

theorem scanString_ok {s : Src} {p q : Nat} (h : scanString s p = .ok () q) :
    p ≤ q ∧ strBytesOk (spanBytes s ⟨p, q⟩) = true := scanStringGo_ok h

theorem alpha_callee_upper : ∀ b : UInt8, isAlpha b = true → (isUpper b || isDigit b || b == 95 || b == 45) = true →
    isUpper b = true := by
  intro b ha h
  have ha := (isAlpha_iff b).mp ha
  simp only [Bool.or_eq_true, beq_iff_eq, isDigit_iff, byte_eq_iff, UInt8.toNat_ofNat] at h
  rcases h with ((h | h) | h) | h
  · exact h
  all_goals exact (isUpper_iff b).mpr (by omega)

theorem calleeOk_of {s : Src} {id : Span} (hid : identOk s id = true) (hc : isCallee s id = true) :
    calleeOk s id = true := by
  unfold calleeOk
  unfold identOk at hid
  unfold isCallee at hc
  cases hb : spanBytes s id with
  | nil => rw [hb] at hid; cases hid
  | cons b rest =>
    rw [hb] at hid hc
    simp only [identBytesOk, Bool.and_eq_true] at hid
    simp only [List.all_cons, Bool.and_eq_true] at hc
    have := alpha_callee_upper b hid.1 hc.1
    simp [isCallee, hb, this, hc.2]

theorem namesDistinct_append {s : Src} (l : List Span) (x : Span) (h : namesDistinct s l = true)
    (hx : (l.any fun m => spanBytes s m == spanBytes s x) = false) : namesDistinct s (l ++ [x]) = true := by
  induction l with
  | nil => simp [namesDistinct]
  | cons n l ih =>
    simp only [namesDistinct, Bool.and_eq_true, Bool.not_eq_eq_eq_not, Bool.not_true] at h
    simp only [List.any_cons, Bool.or_eq_false_iff] at hx
    simp only [List.cons_append, namesDistinct, List.any_append, List.any_cons, List.any_nil, Bool.or_false,
      Bool.and_eq_true, Bool.not_eq_eq_eq_not, Bool.not_true, Bool.or_eq_false_iff]
    refine ⟨⟨h.1, ?_⟩, ih h.2 hx.2⟩
    have := hx.1
    rw [Bool.beq_comm] at this
    exact this

/-- validity invariant of a collected placeholder -/
def PhV (s : Src) : Placeholder → Prop
  | .placeable e => vExpr s e = true
  | .text start stop _ _ => ∀ j, start ≤ j → j < stop → ∀ b, s[j]? = some b → noBrace b = true

/-- a placeholder that is certain to produce an element -/
def Strong : Placeholder → Prop
  | .placeable _ => True
  | .text start stop indent _ => start + indent < stop

theorem finishElements_vPat {s : Src} {ci : Option Nat} {lnb i : Nat} {els : List Placeholder}
    {r : List (PatElem Span)} (h : finishElements s ci lnb i els = some r) (hv : ∀ ph ∈ els, PhV s ph) :
    vPat s r = true := by
  induction els generalizing i r with
  | nil => simp only [finishElements] at h; cases h; simp [vPat]
  | cons ph rest ih =>
    have hrest : ∀ ph ∈ rest, PhV s ph := fun x hx => hv x (List.mem_cons_of_mem _ hx)
    have hph := hv ph List.mem_cons_self
    by_cases hi : i > lnb
    · simp only [finishElements, hi, if_true] at h; cases h; simp [vPat]
    · cases ph with
      | placeable e =>
        obtain ⟨r', h1, rfl⟩ := fe_placeable (Nat.le_of_not_lt hi) h
        simp only [vPat, vPatElem, Bool.and_eq_true]
        exact ⟨hph, ih h1 hrest⟩
      | text start stop indent role =>
        have g1 := (feStart_le ci start indent role).1
        rcases fe_text (Nat.le_of_not_lt hi) h with ⟨_, h1⟩ | ⟨hlt, _, r', h1, rfl⟩
        · exact ih h1 hrest
        · simp only [vPat, vPatElem, Bool.and_eq_true]
          refine ⟨?_, ih h1 hrest⟩
          have hall : ∀ a b, feStart ci start indent role ≤ a → b ≤ stop → textOk s ⟨a, b⟩ = true := by
            intro a b ha hb
            exact spanBytes_all (fun j j1 j2 => hph j (by omega) (by omega))
          split
          · exact hall _ _ (Nat.le_refl _) (trimEndGo_result s _ _ stop (Nat.le_of_lt hlt)).2.1
          · exact hall _ _ (Nat.le_refl _) (Nat.le_refl _)

theorem finishElements_ne_nil {s : Src} {ci : Option Nat} {lnb i : Nat} {els : List Placeholder}
    {r : List (PatElem Span)} (h : finishElements s ci lnb i els = some r) (hi : i ≤ lnb)
    (hk : ∃ ph, els[lnb - i]? = some ph ∧ Strong ph) : r ≠ [] := by
  induction els generalizing i r with
  | nil => obtain ⟨ph, h1, _⟩ := hk; simp at h1
  | cons ph rest ih =>
    by_cases hlt : i < lnb
    · have hk' : ∃ ph', rest[lnb - (i + 1)]? = some ph' ∧ Strong ph' := by
        obtain ⟨ph', h1, h2⟩ := hk
        refine ⟨ph', ?_, h2⟩
        have e : lnb - i = (lnb - (i + 1)) + 1 := by omega
        rw [e, List.getElem?_cons_succ] at h1
        exact h1
      cases ph with
      | placeable e => obtain ⟨r', _, rfl⟩ := fe_placeable hi h; simp
      | text start stop indent role =>
        rcases fe_text hi h with ⟨_, h1⟩ | ⟨_, _, r', _, rfl⟩
        · exact ih h1 (by omega) hk'
        · simp
    · have e : lnb - i = 0 := by omega
      obtain ⟨ph', h1, h2⟩ := hk
      rw [e] at h1
      simp only [List.getElem?_cons_zero, Option.some.injEq] at h1
      subst h1
      cases ph with
      | placeable e => obtain ⟨r', _, rfl⟩ := fe_placeable hi h; simp
      | text start stop indent role =>
        have g2 := (feStart_le ci start indent role).2
        have h2 : start + indent < stop := h2
        rcases fe_text hi h with ⟨g, _⟩ | ⟨_, _, r', _, rfl⟩
        · omega
        · simp

end FluentProofs.Parser

import FluentModel.Parser
/-!
# The bytes of a source as a list

`rest s p` is what remains of the source at the cursor `p` and `seg s p q` the bytes of `[p, q)`, as `List.drop` and `List.take`
of `s.toList`, so that what is needed of them comes from the core library's lemmas about `take`, `drop` and `<+:`.  The grammar
refinement reads the grammar's input off `rest`; the model's `spanBytes s ⟨p, q⟩` is `seg s p q` (`spanBytes_eq_seg`), and the
lemmas about `spanBytes` are those about `seg`.
-/
namespace FluentProofs.Parser
open FluentModel.Syntax

theorem get_lt {s : Src} {i : Nat} {b : UInt8} (h : s[i]? = some b) : i < s.size :=
  (Array.getElem?_eq_some_iff.mp h).1

end FluentProofs.Parser

namespace FluentProofs.SpecLex
open FluentModel FluentModel.Syntax FluentProofs.Parser

def rest (s : Src) (p : Nat) : List UInt8 := s.toList.drop p

theorem rest_cons {s : Src} {p : Nat} {b : UInt8} (h : s[p]? = some b) : rest s p = b :: rest s (p + 1) := by
  obtain ⟨hlt, hb⟩ := Array.getElem?_eq_some_iff.mp h
  rw [rest, List.drop_eq_getElem_cons (Array.length_toList ▸ hlt), Array.getElem_toList, hb]
  rfl

theorem rest_eq_nil_iff {s : Src} {p : Nat} : rest s p = [] ↔ s.size ≤ p :=
  List.drop_eq_nil_iff.trans (by rw [Array.length_toList])

theorem rest_nil {s : Src} {p : Nat} (h : s[p]? = none) : rest s p = [] :=
  rest_eq_nil_iff.mpr (Array.getElem?_eq_none_iff.mp h)

theorem rest_cases (s : Src) (p : Nat) :
    (s[p]? = none ∧ rest s p = []) ∨ (∃ b, s[p]? = some b ∧ rest s p = b :: rest s (p + 1)) := by
  cases h : s[p]? with
  | none => exact Or.inl ⟨rfl, rest_nil h⟩
  | some b => exact Or.inr ⟨b, rfl, rest_cons h⟩

theorem rest_cons_iff {s : Src} {p : Nat} {b : UInt8} {t : List UInt8} :
    rest s p = b :: t ↔ s[p]? = some b ∧ t = rest s (p + 1) := by
  rcases rest_cases s p with ⟨h, hr⟩ | ⟨c, h, hr⟩ <;> rw [h, hr]
  · exact ⟨nofun, nofun⟩
  · rw [List.cons.injEq, Option.some.injEq, @eq_comm _ t]

theorem rest_head {s : Src} {p : Nat} {b : UInt8} {t : List UInt8} (h : rest s p = b :: t) : s[p]? = some b :=
  (rest_cons_iff.mp h).1

theorem rest_lt {s : Src} {p : Nat} {b : UInt8} {t : List UInt8} (h : rest s p = b :: t) : p < s.size :=
  get_lt (rest_head h)

theorem byte_cases (s : Src) (p : Nat) (c : UInt8) :
    (s[p]? = some c ∧ rest s p = c :: rest s (p + 1)) ∨ (s[p]? ≠ some c ∧ ∀ r, rest s p ≠ c :: r) := by
  by_cases h : s[p]? = some c
  · exact .inl ⟨h, rest_cons h⟩
  · exact .inr ⟨h, fun _ hr => h (rest_head hr)⟩

theorem rest_drop (s : Src) (p k : Nat) : (rest s p).drop k = rest s (p + k) :=
  List.drop_drop ..

theorem rest_get (s : Src) (p i : Nat) : (rest s p)[i]? = s[p + i]? := by
  rw [rest, List.getElem?_drop, Array.getElem?_toList]

theorem rest_length (s : Src) (p : Nat) : (rest s p).length = s.size - p := by simp [rest]

theorem rest_inj {s : Src} {p q : Nat} (hp : p ≤ s.size) (hq : q ≤ s.size) (h : rest s p = rest s q) : p = q := by
  have := congrArg List.length h
  rw [rest_length, rest_length] at this
  rw [← Nat.sub_sub_self hp, ← Nat.sub_sub_self hq, this]

def seg (s : Src) (p q : Nat) : List UInt8 := (rest s p).take (q - p)

theorem spanBytes_eq_seg (s : Src) (p q : Nat) : spanBytes s ⟨p, q⟩ = seg s p q := by
  simp [spanBytes, seg, rest]

theorem seg_self (s : Src) (p : Nat) : seg s p p = [] := by
  rw [seg, Nat.sub_self]; rfl

theorem seg_empty (s : Src) {a e : Nat} (h : e ≤ a) : seg s a e = [] := by
  unfold seg; rw [Nat.sub_eq_zero_of_le h]; rfl

theorem seg_cons {s : Src} {p q : Nat} {b : UInt8} (h : s[p]? = some b) (hq : p < q) :
    seg s p q = b :: seg s (p + 1) q := by
  rw [seg, rest_cons h, ← Nat.succ_pred_eq_of_pos (Nat.sub_pos_of_lt hq), List.take_succ_cons]
  rfl

theorem seg_one {s : Src} {p : Nat} {a : UInt8} (h1 : s[p]? = some a) : seg s p (p + 1) = [a] := by
  rw [seg_cons h1 (Nat.lt_succ_self p), seg_self]

theorem seg_take (s : Src) (p k : Nat) : (rest s p).take k = seg s p (p + k) := by
  rw [seg, Nat.add_sub_cancel_left]

theorem seg_length {s : Src} {p q : Nat} (hq : q ≤ s.size) : (seg s p q).length = q - p := by
  rw [seg, List.length_take, rest, List.length_drop, Array.length_toList]
  exact Nat.min_eq_left (Nat.sub_le_sub_right hq p)

theorem seg_append {s : Src} {p q r : Nat} (h1 : p ≤ q) (h2 : q ≤ r) : seg s p r = seg s p q ++ seg s q r := by
  rw [seg, seg, seg, ← Nat.sub_add_sub_cancel h2 h1, Nat.add_comm, List.take_add, rest_drop, Nat.add_sub_cancel' h1]

theorem seg_snoc {s : Src} {a e : Nat} {b : UInt8} (hae : a < e) (hb : s[e - 1]? = some b) :
    seg s a e = seg s a (e - 1) ++ [b] := by
  obtain ⟨k, rfl⟩ : ∃ k, e = k + 1 := ⟨e - 1, by omega⟩
  rw [Nat.add_sub_cancel] at hb ⊢
  rw [seg_append (Nat.le_of_lt_succ hae) (Nat.le_succ k), seg_one hb]

theorem seg_spaces (s : Src) (a k : Nat) (h : ∀ j, a ≤ j → j < a + k → s[j]? = some 32) :
    seg s a (a + k) = List.replicate k 32 := by
  induction k generalizing a with
  | zero => simp [seg_self]
  | succ k ih =>
    have h0 : s[a]? = some 32 := h a (Nat.le_refl _) (by omega)
    rw [seg_cons h0 (by omega), show a + (k + 1) = (a + 1) + k by omega,
      ih (a + 1) (fun j h1 h2 => h j (by omega) (by omega))]
    rfl

theorem seg_get (s : Src) (p q i : Nat) : (seg s p q)[i]? = if i < q - p then s[p + i]? else none := by
  rw [seg, List.getElem?_take, rest_get]

theorem seg_mem_iff {s : Src} {p q : Nat} {x : UInt8} : x ∈ seg s p q ↔ ∃ j, p ≤ j ∧ j < q ∧ s[j]? = some x := by
  rw [List.mem_iff_getElem?]
  constructor
  · rintro ⟨i, hi⟩
    rw [seg_get] at hi
    by_cases h : i < q - p
    · rw [if_pos h] at hi; exact ⟨p + i, Nat.le_add_right _ _, by omega, hi⟩
    · rw [if_neg h] at hi; cases hi
  · rintro ⟨j, h1, h2, hx⟩
    exact ⟨j - p, by rw [seg_get, if_pos (by omega), show p + (j - p) = j by omega, hx]⟩

end FluentProofs.SpecLex

namespace FluentProofs.Parser
open FluentModel.Syntax FluentProofs.SpecLex

theorem spanBytes_get (s : Src) (p q i : Nat) :
    (spanBytes s ⟨p, q⟩)[i]? = if i < min q s.size - p then s[p + i]? else none := by
  simp only [spanBytes, Array.getElem?_toList, Array.getElem?_extract]

theorem spanBytes_nil {s : Src} {p q : Nat} (h : q ≤ p) : spanBytes s ⟨p, q⟩ = [] := by
  rw [spanBytes_eq_seg]; exact seg_empty s h

theorem spanBytes_append {s : Src} {p m q : Nat} (h1 : p ≤ m) (h2 : m ≤ q) (_ : m ≤ s.size) :
    spanBytes s ⟨p, q⟩ = spanBytes s ⟨p, m⟩ ++ spanBytes s ⟨m, q⟩ := by
  simp only [spanBytes_eq_seg]; exact seg_append h1 h2

theorem spanBytes_cons {s : Src} {p q : Nat} {b : UInt8} (hb : s[p]? = some b) (h : p < q) :
    spanBytes s ⟨p, q⟩ = b :: spanBytes s ⟨p + 1, q⟩ := by
  rw [spanBytes_eq_seg, spanBytes_eq_seg]; exact seg_cons hb h

theorem spanBytes_all {s : Src} {p q : Nat} {f : UInt8 → Bool}
    (h : ∀ j, p ≤ j → j < q → ∀ b, s[j]? = some b → f b = true) : (spanBytes s ⟨p, q⟩).all f = true := by
  rw [spanBytes_eq_seg, List.all_eq_true]
  intro x hx
  obtain ⟨j, h1, h2, hj⟩ := seg_mem_iff.mp hx
  exact h j h1 h2 x hj

theorem spanBytes_length (s : Src) (a b : Nat) (hb : b ≤ s.size) : (spanBytes s ⟨a, b⟩).length = b - a := by
  rw [spanBytes_eq_seg]; exact seg_length hb

theorem spanBytes_get' {s : Src} {a b i : Nat} (_hb : b ≤ s.size) (hi : i < b - a) :
    (spanBytes s ⟨a, b⟩)[i]? = s[a + i]? := by
  rw [spanBytes_eq_seg, seg_get, if_pos hi]

theorem spanBytes_snoc {s : Src} {a b : Nat} (hab : a < b) (hb : b ≤ s.size) :
    spanBytes s ⟨a, b⟩ = spanBytes s ⟨a, b - 1⟩ ++ [s[b - 1]'(by omega)] := by
  simp only [spanBytes_eq_seg]
  exact seg_snoc hab (Array.getElem?_eq_getElem (by omega))

theorem spanBytes_ne_nil {s : Src} {a b : Nat} (hab : a < b) (hb : b ≤ s.size) : spanBytes s ⟨a, b⟩ ≠ [] := by
  rw [spanBytes_snoc hab hb]; simp

theorem spanBytes_getLast {s : Src} {a b : Nat} (hab : a < b) (hb : b ≤ s.size) :
    (spanBytes s ⟨a, b⟩).getLast? = s[b - 1]? := by
  rw [spanBytes_snoc hab hb, List.getLast?_concat, Array.getElem?_eq_getElem]

theorem spanBytes_head {s : Src} {a b : Nat} (hab : a < b) (hb : b ≤ s.size) :
    (spanBytes s ⟨a, b⟩).head? = s[a]? := by
  have hx : s[a]? = some (s[a]'(by omega)) := Array.getElem?_eq_getElem (by omega)
  rw [spanBytes_cons hx hab, hx]; rfl

theorem spanBytes_dropLast {s : Src} {a b : Nat} (hb : b ≤ s.size) :
    (spanBytes s ⟨a, b⟩).dropLast = spanBytes s ⟨a, b - 1⟩ := by
  rcases Nat.lt_or_ge a b with hab | hab
  · rw [spanBytes_snoc hab hb, List.dropLast_concat]
  · rw [spanBytes_nil hab, spanBytes_nil (by omega)]; rfl

end FluentProofs.Parser

import FluentProofs.SerializerOutDeep
import FluentProofs.SerializerOutComment
import FluentProofs.ParserValidEntry
/-!
# Serializer lemmas: from `ValidEntry` to the class `rtEntry` (C04, "parser output is in the class")

`parse_valid` (C03) says that every entry the parser produces satisfies the AST-visible syntax rules
(`validEntry`, over span trees).  Here: those rules imply the byte-tree predicates of the
`RoundTrippable` class on the resolved tree (`validIdent`, `validNumber`, `validStrBody`,
`isCalleeName`, `namesNodup`, `selShapeB`, `validKey`, exactly one default variant); together with
the pattern shape (`mlPattern`, a hypothesis here, lifted to every depth by `parse_deep`), the shape of
named-argument values and the comments (`parse_comments_all`), every non-junk entry of the tree returned
by `parse` is `rtEntry` (select expressions are allowed at every inline position of the class).
-/
namespace FluentProofs.Ser
open FluentModel FluentModel.Syntax FluentModel.Syntax.Ser FluentProofs.Parser

theorem identBytesOk_eq (l : Bytes) : identBytesOk l = validIdent l := by
  cases l <;> rfl

theorem stripSign_eq (l : Bytes) : stripSign l = numBody l := by
  cases l with
  | nil => rfl
  | cons b r =>
    by_cases hb : b = 45
    · subst hb; rfl
    · have h1 : stripSign (b :: r) = b :: r := by simp [stripSign, hb]
      have h2 : numBody (b :: r) = b :: r := by
        unfold numBody; split
        · rename_i r' heq; cases heq; exact absurd rfl hb
        · rfl
      rw [h1, h2]

theorem validNumber_of (l : Bytes) (h : numBytesOk l = true) : validNumber l = true := by
  unfold numBytesOk at h
  unfold validNumber validNumBody
  rw [stripSign_eq] at h
  generalize numBody l = body at h ⊢
  simp only [Bool.and_eq_true] at h ⊢
  refine ⟨h.1, ?_⟩
  have h2 := h.2
  cases hr : body.dropWhile isDigit with
  | nil => rfl
  | cons c r2 =>
    rw [hr] at h2
    simp only [Bool.and_eq_true, beq_iff_eq] at h2
    obtain ⟨⟨rfl, h3⟩, h4⟩ := h2
    simp [h3, h4]

theorem validStrBody_of (l : Bytes) (h : strBytesOk l = true) : validStrBody l = true := by
  fun_induction strBytesOk l <;> simp_all [validStrBody]
  · rename_i h1 _
    rcases h1 with rfl | rfl <;> simp_all [validStrBody]

theorem isCalleeName_of {s : Src} {sp : Span} (h : calleeOk s sp = true) : isCalleeName (spanBytes s sp) = true := by
  simp only [calleeOk, Bool.and_eq_true] at h
  exact h.1

theorem identOk_valid {s : Src} {sp : Span} (h : identOk s sp = true) : validIdent (spanBytes s sp) = true := by
  rw [← identBytesOk_eq]; exact h

theorem optIdent_of {s : Src} {a : Option Span} (h : optIdentOk s a = true) : optIdent (a.map (spanBytes s)) = true := by
  cases a with
  | none => rfl
  | some a => exact identOk_valid h

theorem mapNamed_fst (f : Span → Bytes) (named : List (Span × Inline Span)) :
    (mapNamed f named).map Prod.fst = (named.map (·.1)).map f := by
  induction named with
  | nil => rfl
  | cons x xs ih => obtain ⟨n, v⟩ := x; simp [mapNamed, ih]

theorem nodup_of_namesDistinct (s : Src) : ∀ (l : List Span), namesDistinct s l = true → (l.map (spanBytes s)).Nodup := by
  intro l
  induction l with
  | nil => intro _; simp
  | cons n rest ih =>
    intro h
    simp only [namesDistinct, Bool.and_eq_true, Bool.not_eq_true', List.any_eq_false, beq_iff_eq] at h
    simp only [List.map_cons, List.nodup_cons, List.mem_map, not_exists, not_and]
    exact ⟨fun m hm => h.1 m hm, ih h.2⟩

theorem namesNodup_of {s : Src} {named : List (Span × Inline Span)} (h : namesDistinct s (named.map (·.1)) = true) :
    namesNodup (mapNamed (spanBytes s) named) = true := by
  simp only [namesNodup, decide_eq_true_eq, mapNamed_fst]
  exact nodup_of_namesDistinct s _ h

theorem validKey_of {s : Src} {k : VKey Span} (h : vkeyOk s k = true) : validKey (k.mapS (spanBytes s)) = true := by
  cases k with
  | ident n => exact identOk_valid h
  | num v => exact validNumber_of _ h

theorem filter_default_length (f : Span → Bytes) (vs : List (Variant Span)) :
    ((mapVariants f vs).filter isDefault).length = vs.countP variantDefault := by
  induction vs with
  | nil => rfl
  | cons v vs ih =>
    obtain ⟨k, val, d⟩ := v
    cases d <;> simp [mapVariants, Variant.mapS, isDefault, variantDefault, List.filter_cons, List.countP_cons, ih]

theorem isNamedValue_of {f : Span → Bytes} {v : Inline Span} (h : nvShape v) : isNamedValue (v.mapS f) = true := by
  cases v with
  | term id attr args => cases h
  | var id => cases h
  | placeable e => cases h
  | _ => simp [Inline.mapS, isNamedValue]

theorem rtExpr_inline_of {f : Span → Bytes} (i : Inline Span) (hnt : isTermAttr i = false)
    (hi : rtInline (i.mapS f) = true) : rtExpr (.inline (i.mapS f)) = true := by
  cases i with
  | term id attr args =>
    cases attr with
    | some a => simp [isTermAttr] at hnt
    | none =>
      cases args with
      | none => simpa [Inline.mapS, rtExpr] using hi
      | some pn => obtain ⟨pos, named⟩ := pn; simpa [Inline.mapS, rtExpr] using hi
  | _ => simpa [Inline.mapS, rtExpr] using hi

theorem selShapeB_of {f : Span → Bytes} (sel : Inline Span) (hs : selectorOk sel = true) :
    selShapeB (sel.mapS f) = true := by
  cases sel with
  | term id attr args =>
    cases attr with
    | none => simp [selectorOk] at hs
    | some a =>
      cases args with
      | none => simp [Inline.mapS, selShapeB]
      | some pn => obtain ⟨pos, named⟩ := pn; simp [Inline.mapS, selShapeB]
  | msg id attr => simp [selectorOk] at hs
  | placeable e => simp [selectorOk] at hs
  | _ => simp [Inline.mapS, selShapeB]

/-- the per-call pattern fact that is assumed: the pattern shape of the resolved pattern -/
abbrev PPs (s : Src) : List (PatElem Span) → Prop := fun els => mlPattern (mapPat (spanBytes s) els) = true

section bridge
variable {s : Src}

mutual
theorem bInline : ∀ (i : Inline Span), vInline s i = true → dInline (PPs s) nvShape i →
    rtInline (i.mapS (spanBytes s)) = true
  | .str v, hv, _ => validStrBody_of _ hv
  | .num v, hv, _ => validNumber_of _ hv
  | .var id, hv, _ => identOk_valid hv
  | .msg id attr, hv, _ => by
    simp only [vInline, Bool.and_eq_true] at hv
    simp only [Inline.mapS, rtInline, Bool.and_eq_true]
    exact ⟨identOk_valid hv.1, optIdent_of hv.2⟩
  | .term id attr none, hv, _ => by
    simp only [vInline, Bool.and_eq_true] at hv
    simp only [Inline.mapS, rtInline, Bool.and_eq_true]
    exact ⟨identOk_valid hv.1, optIdent_of hv.2⟩
  | .term id attr (some (pos, named)), hv, hd => by
    simp only [vInline, Bool.and_eq_true] at hv
    simp only [dInline] at hd
    simp only [Inline.mapS, rtInline, Bool.and_eq_true]
    exact ⟨⟨⟨⟨identOk_valid hv.1.1.1.1, optIdent_of hv.1.1.1.2⟩, bInl pos hv.1.1.2 hd.1⟩,
      bNamed named hv.1.2 hd.2⟩, namesNodup_of hv.2⟩
  | .fn id pos named, hv, hd => by
    simp only [vInline, Bool.and_eq_true] at hv
    simp only [dInline] at hd
    simp only [Inline.mapS, rtInline, Bool.and_eq_true]
    exact ⟨⟨⟨⟨identOk_valid hv.1.1.1.1, isCalleeName_of hv.1.1.1.2⟩, bInl pos hv.1.1.2 hd.1⟩,
      bNamed named hv.1.2 hd.2⟩, namesNodup_of hv.2⟩
  | .placeable e, hv, hd => by
    simp only [vInline] at hv
    simp only [dInline] at hd
    simp only [Inline.mapS, rtInline]
    exact bExpr e hv hd
theorem bInl : ∀ (xs : List (Inline Span)), vInl s xs = true → dInl (PPs s) nvShape xs →
    rtInl (mapInl (spanBytes s) xs) = true
  | [], _, _ => rfl
  | x :: xs, hv, hd => by
    simp only [vInl, Bool.and_eq_true] at hv
    simp only [dInl] at hd
    simp only [mapInl, rtInl, Bool.and_eq_true]
    exact ⟨bInline x hv.1 hd.1, bInl xs hv.2 hd.2⟩
theorem bNamed : ∀ (xs : List (Span × Inline Span)), vNamed s xs = true → dNamed (PPs s) nvShape xs →
    rtNamed (mapNamed (spanBytes s) xs) = true
  | [], _, _ => rfl
  | (n, x) :: xs, hv, hd => by
    simp only [vNamed, Bool.and_eq_true] at hv
    simp only [dNamed] at hd
    simp only [mapNamed, rtNamed, Bool.and_eq_true]
    exact ⟨⟨⟨identOk_valid hv.1.1, isNamedValue_of hd.1.1⟩, bInline x hv.1.2 hd.1.2⟩, bNamed xs hv.2 hd.2⟩
theorem bExpr : ∀ (e : Expr Span), vExpr s e = true → dExpr (PPs s) nvShape e →
    rtExpr (e.mapS (spanBytes s)) = true
  | .inline i, hv, hd => by
    simp only [vExpr, Bool.and_eq_true, Bool.not_eq_true'] at hv
    simp only [dExpr] at hd
    simp only [Expr.mapS]
    exact rtExpr_inline_of i hv.2 (bInline i hv.1 hd)
  | .select sel vs, hv, hd => by
    simp only [vExpr, Bool.and_eq_true, beq_iff_eq] at hv
    simp only [dExpr] at hd
    simp only [Expr.mapS, rtExpr, Bool.and_eq_true, decide_eq_true_eq]
    refine ⟨⟨⟨bInline sel hv.1.1.1 hd.1, selShapeB_of sel hv.1.1.2⟩, bVariants vs hv.1.2 hd.2⟩, ?_⟩
    rw [filter_default_length]; exact hv.2
theorem bVariants : ∀ (vs : List (Variant Span)), vVariants s vs = true → dVariants (PPs s) nvShape vs →
    rtVariants (mapVariants (spanBytes s) vs) = true
  | [], _, _ => rfl
  | v :: vs, hv, hd => by
    simp only [vVariants, Bool.and_eq_true] at hv
    simp only [dVariants] at hd
    simp only [mapVariants, rtVariants, Bool.and_eq_true]
    exact ⟨bVariant v hv.1 hd.1, bVariants vs hv.2 hd.2⟩
theorem bVariant : ∀ (v : Variant Span), vVariant s v = true → dVariant (PPs s) nvShape v →
    rtVariant (v.mapS (spanBytes s)) = true
  | .mk k val d, hv, hd => by
    simp only [vVariant, Bool.and_eq_true] at hv
    simp only [dVariant] at hd
    simp only [Variant.mapS, rtVariant, Bool.and_eq_true]
    exact ⟨⟨validKey_of hv.1.1, hd.1⟩, bElems val hv.2 hd.2⟩
theorem bElems : ∀ (es : List (PatElem Span)), vPat s es = true → dElems (PPs s) nvShape es →
    rtElems (mapPat (spanBytes s) es) = true
  | [], _, _ => rfl
  | .text v :: es, hv, hd => by
    simp only [vPat, Bool.and_eq_true] at hv
    simp only [dElems] at hd
    simp only [mapPat, PatElem.mapS, rtElems]
    exact bElems es hv.2 hd.2
  | .placeable e :: es, hv, hd => by
    simp only [vPat, vPatElem, Bool.and_eq_true] at hv
    simp only [dElems, dElem] at hd
    simp only [mapPat, PatElem.mapS, rtElems, Bool.and_eq_true]
    exact ⟨bExpr e hv.1 hd.1, bElems es hv.2 hd.2⟩
end

end bridge

theorem rtPattern_of {s : Src} (els : List (PatElem Span)) (hv : vPat s els = true) (hd : dPat (PPs s) nvShape els) :
    rtPattern (mapPat (spanBytes s) els) = true := by
  simp only [rtPattern, Bool.and_eq_true]
  exact ⟨hd.1, bElems els hv hd.2⟩

theorem rtAttrs_of {s : Src} (as : List (Attribute Span)) (hv : as.all (attrOk s) = true) (hd : dAttrs (PPs s) nvShape as) :
    (as.map (Attribute.mapS (spanBytes s))).all rtAttr = true := by
  simp only [List.all_eq_true, List.mem_map] at hv ⊢
  rintro _ ⟨a, ha, rfl⟩
  have h1 := hv a ha
  simp only [attrOk, patOk, Bool.and_eq_true] at h1
  simp only [rtAttr, Attribute.mapS, Bool.and_eq_true]
  exact ⟨identOk_valid h1.1, rtPattern_of _ h1.2.2 (hd a ha)⟩

theorem rtOptComment_of {s : Src} (o : Option (List Span)) (h : OptCmtOK s o) :
    rtOptComment (o.map (List.map (spanBytes s))) = true := by
  cases o with
  | none => rfl
  | some c => exact h c rfl

theorem rtEntry_of {s : Src} (e : Entry Span) (hv : ValidEntry s e) (hd : dEntry (PPs s) nvShape e) (hc : cEntry s e) :
    (∃ c, e = .junk c) ∨ rtEntry (e.mapS (spanBytes s)) = true := by
  cases e with
  | junk c => exact Or.inl ⟨c, rfl⟩
  | comment c => exact Or.inr hc
  | groupComment c => exact Or.inr hc
  | resourceComment c => exact Or.inr hc
  | term t =>
    right
    simp only [ValidEntry, validEntry, patOk, Bool.and_eq_true] at hv
    simp only [Entry.mapS, rtEntry, Bool.and_eq_true]
    exact ⟨⟨⟨identOk_valid hv.1.1, rtPattern_of _ hv.1.2.2 hd.1⟩, rtAttrs_of _ hv.2 hd.2⟩, rtOptComment_of _ hc⟩
  | message m =>
    right
    simp only [ValidEntry, validEntry, Bool.and_eq_true] at hv
    simp only [Entry.mapS, rtEntry, Bool.and_eq_true]
    refine ⟨⟨⟨identOk_valid hv.1.1.1, ?_⟩, rtAttrs_of _ hv.1.2 hd.2⟩, rtOptComment_of _ hc⟩
    cases hval : m.value with
    | none =>
      have := hv.2
      simp only [hval, Option.isSome_none, Bool.false_or] at this
      simpa using this
    | some v =>
      have h1 := hv.1.1.2
      simp only [hval, patOk, Bool.and_eq_true] at h1
      simp only [Option.map_some]
      exact rtPattern_of v h1.2 (hd.1 v hval)

/-- **The parser's output is in the class.**  Given the pattern shape of everything `get_pattern` returns (it has it
when the source is without the byte 13): every entry of the tree returned by `parse` is Junk or an entry of the class
`rtEntry`. -/
theorem rtEntry_of_parse (s : Src)
    (hpat : ∀ n p els q, getPattern s n p = .ok (some els) q → mlPattern (mapPat (spanBytes s) els) = true)
    (t : Resource Span) (errs : List PErr) (h : parse s = .done (t, errs)) :
    ∀ e ∈ t, (∃ c, e = .junk c) ∨ rtEntry (e.mapS (spanBytes s)) = true := by
  intro e he
  exact rtEntry_of e (parse_valid s t errs h e he)
    (parse_deep s (PPs s) nvShape hpat (getInline_literal_shape s) t errs h e he)
    (parse_comments_all s t errs h e he)

end FluentProofs.Ser

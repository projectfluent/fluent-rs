import FluentProofs.Memo
import FluentProofs.MemoConc
/-!
Lock-granularity corollary of the simulation invariant of `MemoConc` (on which the concurrent C14 theorems rest too),
used by C15: with a *pure* `construct` and world-independent
callbacks, what a thread gets from the thread-safe memoizer does not depend on the schedule – it is
`pureOutcome` (callback applied to what `construct` returns for the key, or `construct`'s error) of its own
lookups, i.e. what that thread alone would get from a cold memoizer.

Ingredients: the simulation invariant `CInv` (results = sequential run in lock-acquisition order,
`MemoConc.lean`), `lookup_eq_construct_run` (sequential outcomes = pure outcomes, `Memo.lean`), the
interleaving invariant `IInv`, and a list lemma (filtering tagged outcomes by thread commutes with mapping).
-/
namespace FluentModel.Memo
set_option linter.unusedSectionVars false

theorem filter_tagged_map {A B : Type} (g : A → B) (t : Nat) :
    ∀ (outs : List (Nat × B)) (order : List (Nat × A)),
      outs.map (·.1) = order.map (·.1) → outs.map (·.2) = (order.map (·.2)).map g →
      (outs.filter fun p => decide (p.1 = t)).map (·.2) =
        ((order.filter fun p => decide (p.1 = t)).map (·.2)).map g := by
  intro outs
  induction outs with
  | nil =>
    intro order h1 _
    cases order with
    | nil => rfl
    | cons q r => simp at h1
  | cons p ps ih =>
    intro order h1 h2
    cases order with
    | nil => simp at h1
    | cons q r =>
      simp only [List.map_cons, List.cons.injEq] at h1 h2
      obtain ⟨h1a, h1b⟩ := h1
      obtain ⟨h2a, h2b⟩ := h2
      have := ih r h1b h2b
      simp only [List.filter_cons]
      rw [h1a]
      by_cases e : q.1 = t
      · simp only [e, decide_true, if_true, List.map_cons, this, h2a]
      · simp only [e, decide_false, Bool.false_eq_true, if_false, this]

section Pure
variable {σ L τ α ι ε ρ : Type} [DecidableEq τ] [DecidableEq α]
variable (X : Ext σ L τ α ι ε) (lang : L) (w₀ : σ)

theorem acqOf_eq_filter_reverse (t : Nat) (acq : List (Nat × Op σ τ α ι ρ)) :
    acqOf t acq = (acq.reverse.filter fun p => decide (p.1 = t)).map (·.2) := by
  simp [acqOf, List.filter_reverse, List.map_reverse]

/-- program of thread `t` at the start -/
def progOf (progs : List (List (Op σ τ α ι ρ))) (t : Nat) : List (Op σ τ α ι ρ) :=
  match progs[t]? with
  | some p => p
  | none => []

theorem init_prog (progs : List (List (Op σ τ α ι ρ))) (t : Nat) :
    ((CState.init lang w₀ progs : CState σ L τ α ι ε ρ).threads t).prog = progOf progs t := by
  simp only [CState.init, progOf]
  cases progs[t]? <;> rfl

theorem mem_progOf (progs : List (List (Op σ τ α ι ρ))) (t : Nat) (op : Op σ τ α ι ρ)
    (h : op ∈ progOf progs t) : ∃ p, p ∈ progs ∧ op ∈ p := by
  unfold progOf at h
  cases hp : progs[t]? with
  | none => rw [hp] at h; cases h
  | some p => rw [hp] at h; exact ⟨p, List.mem_of_getElem? hp, h⟩

theorem acq_interleaves (progs : List (List (Op σ τ α ι ρ))) (sched : List Nat) (t : Nat) :
    acqOf t (crun X sched (CState.init lang w₀ progs : CState σ L τ α ι ε ρ)).acq ++
      ((crun X sched (CState.init lang w₀ progs : CState σ L τ α ι ε ρ)).threads t).prog = progOf progs t :=
  (IInv_run_init X lang w₀ progs sched t).trans (init_prog lang w₀ progs t)

theorem acq_from_progs (progs : List (List (Op σ τ α ι ρ))) (sched : List Nat) (op : Op σ τ α ι ρ)
    (h : op ∈ (crun X sched (CState.init lang w₀ progs : CState σ L τ α ι ε ρ)).acq.reverse.map (·.2)) :
    ∃ p, p ∈ progs ∧ op ∈ p := by
  obtain ⟨q, hq, rfl⟩ := List.mem_map.1 h
  have hq' := List.mem_reverse.1 hq
  have : q.2 ∈ acqOf q.1 (crun X sched (CState.init lang w₀ progs : CState σ L τ α ι ε ρ)).acq := by
    unfold acqOf
    rw [List.mem_reverse]
    exact List.mem_map.2 ⟨q, List.mem_filter.2 ⟨hq', by simp⟩, rfl⟩
  apply mem_progOf progs q.1
  rw [← acq_interleaves X lang w₀ progs sched q.1]
  exact List.mem_append_left _ this

variable (f : L → τ → α → Except ε ι) (hpure : ∀ w l t a, (X.construct w l t a).1 = f l t a)
include hpure

theorem lookups_schedule_independent (progs : List (List (Op σ τ α ι ρ)))
    (hcb : ∀ p ∈ progs, ∀ op ∈ p, ∀ i w w', (op.cb i w).1 = (op.cb i w').1) (sched : List Nat)
    (hl : (crun X sched (CState.init lang w₀ progs : CState σ L τ α ι ε ρ)).lock = none) (t : Nat) :
    ((crun X sched (CState.init lang w₀ progs : CState σ L τ α ι ε ρ)).threads t).results.reverse =
      (acqOf t (crun X sched (CState.init lang w₀ progs : CState σ L τ α ι ε ρ)).acq).map
        (pureOutcome f lang w₀) := by
  generalize hs : crun X sched (CState.init lang w₀ progs : CState σ L τ α ι ε ρ) = s at hl ⊢
  have hi : CInv X lang w₀ s := by rw [← hs]; exact CInv_run X lang w₀ sched _ (CInv_init X lang w₀ progs)
  obtain ⟨_, _, q3⟩ := hi.quiet hl
  obtain ⟨_, e2, e3⟩ := seqAfter_eq_runOps X lang w₀ s.acq
  -- sequential outcomes in acquisition order = pure outcomes (the cache is unobservable)
  have hseq : (runOps X lang (s.acq.reverse.map (·.2)) LMemo.empty w₀).1 =
      (s.acq.reverse.map (·.2)).map (pureOutcome f lang w₀) := by
    apply lookup_eq_construct_run X lang LMemo.empty w₀ f hpure w₀ _ _ (PInv_empty lang f)
    intro op hop
    obtain ⟨p, hp, hop'⟩ := acq_from_progs X lang w₀ progs sched op (by rw [hs]; exact hop)
    exact hcb p hp op hop'
  rw [q3 t, acqOf_eq_filter_reverse]
  have := filter_tagged_map (pureOutcome f lang w₀) t (seqOuts X lang w₀ s.acq).reverse s.acq.reverse e3
    (e2.trans hseq)
  rw [← this]
  simp only [outsOf, List.filter_reverse, List.map_reverse]

theorem complete_results_schedule_independent (progs : List (List (Op σ τ α ι ρ)))
    (hcb : ∀ p ∈ progs, ∀ op ∈ p, ∀ i w w', (op.cb i w).1 = (op.cb i w').1) (sched : List Nat)
    (hf : ∀ t, ¬ unfinished (crun X sched (CState.init lang w₀ progs : CState σ L τ α ι ε ρ)) t) (t : Nat) :
    ((crun X sched (CState.init lang w₀ progs : CState σ L τ α ι ε ρ)).threads t).results.reverse =
      (progOf progs t).map (pureOutcome f lang w₀) := by
  have hi := CInv_run X lang w₀ sched _ (CInv_init X lang w₀ progs)
  have hl := lock_free_of_finished X lang w₀ _ hi hf
  rw [lookups_schedule_independent X lang w₀ f hpure progs hcb sched hl t]
  have h1 := acq_interleaves X lang w₀ progs sched t
  rw [prog_nil_of_finished (hf t), List.append_nil] at h1
  rw [h1]

theorem complete_results_eq_single_thread (progs : List (List (Op σ τ α ι ρ)))
    (hcb : ∀ p ∈ progs, ∀ op ∈ p, ∀ i w w', (op.cb i w).1 = (op.cb i w').1) (sched : List Nat)
    (hf : ∀ t, ¬ unfinished (crun X sched (CState.init lang w₀ progs : CState σ L τ α ι ε ρ)) t) (t : Nat) :
    ((crun X sched (CState.init lang w₀ progs : CState σ L τ α ι ε ρ)).threads t).results.reverse =
      (runOps X lang (progOf progs t) LMemo.empty w₀).1 := by
  rw [complete_results_schedule_independent X lang w₀ f hpure progs hcb sched hf t]
  symm
  apply lookup_eq_construct_run X lang LMemo.empty w₀ f hpure w₀ _ _ (PInv_empty lang f)
  intro op hop
  obtain ⟨p, hp, hop'⟩ := mem_progOf progs t op hop
  exact hcb p hp op hop'

end Pure
end FluentModel.Memo

import FluentModel.ResolverSpec
import FluentProofs.ResolverEqns
/-!
# Facts about the reference semantics `ResolverSpec` alone: its one-step equations, and what an evaluation can
add to the error log

The clauses of `ResolverSpec` are unfolded once, per constructor, into a form in which the outcome of a
sub-evaluation is passed on by `Out.bind`, with the same names for lookups and variant choice as the equations
of the model (`ResolverEqns`).

`SpecAll D f`: every spec call at fuel `f` extends the log it is given (`LogOk`): a `.val` outcome returns
`log ++ added`, a `.limit` outcome returns `log ++ added ++ [tooManyPlaceables]`, and no entry of `added` is
`tooManyPlaceables`; with `D = true` (every select expression of the pattern and of every message and term of
the bundle has a default variant — what `ParserValid` asks of every parsed tree in its own terms,
`countP variantDefault == 1`; no theorem connects the two) no entry is `missingDefault` either, so the
entries are exactly `reference`, `noValue` and `cyclic` reports.
-/
namespace FluentProofs.ResolverRefine
open FluentModel FluentModel.Syntax FluentModel.Num FluentModel.Resolver FluentModel.ResolverSpec

/-! ## "every select expression has a default variant" -/
mutual
def inlineD : Inline Bytes → Bool
  | .fn _ p n => inlinesD p && namedD n
  | .term _ _ (some (p, n)) => inlinesD p && namedD n
  | .placeable e => exprD e
  | _ => true
def inlinesD : List (Inline Bytes) → Bool
  | [] => true
  | x :: xs => inlineD x && inlinesD xs
def namedD : List (Bytes × Inline Bytes) → Bool
  | [] => true
  | (_, x) :: xs => inlineD x && namedD xs
def exprD : Expr Bytes → Bool
  | .inline e => inlineD e
  | .select s vs => inlineD s && variantsD vs && (defaultVariant vs).isSome
def variantsD : List (Variant Bytes) → Bool
  | [] => true
  | .mk _ v _ :: vs => patD v && variantsD vs
def patD : List (PatElem Bytes) → Bool
  | [] => true
  | e :: es => elemD e && patD es
def elemD : PatElem Bytes → Bool
  | .text _ => true
  | .placeable e => exprD e
end

def argsD : Option (List (Inline Bytes) × List (Bytes × Inline Bytes)) → Bool
  | .none => true
  | some (p, n) => inlinesD p && namedD n

/-- every pattern of the bundle has defaults everywhere -/
def EnvD (env : Env) : Prop :=
  (∀ id m, env.msg id = some m →
    (∀ p, m.value = some p → patD p = true) ∧ ∀ a ∈ m.attributes, patD a.value = true) ∧
  (∀ id t, env.term id = some t → patD t.value = true ∧ ∀ a ∈ t.attributes, patD a.value = true)

theorem variantsD_mem {vs : List (Variant Bytes)} {k : VKey Bytes} {v : Pattern Bytes} {d : Bool}
    (h : Variant.mk k v d ∈ vs) (hv : variantsD vs = true) : patD v = true := by
  induction vs with
  | nil => cases h
  | cons x rest ih =>
    obtain ⟨k', v', d'⟩ := x
    rw [variantsD, Bool.and_eq_true] at hv
    rcases List.mem_cons.1 h with h | h
    · cases h; exact hv.1
    · exact ih h hv.2

theorem EnvD.reach {env : Env} (h : EnvD env) {p : Pattern Bytes} (hp : Resolver.Reach env p) : patD p = true :=
  Resolver.Reach.elim (fun id m p hm hv => (h.1 id m hm).1 p hv) (fun id m a hm ha => (h.1 id m hm).2 a ha)
    (fun id t ht => (h.2 id t ht).1) (fun id t a ht ha => (h.2 id t ht).2 a ha) hp

end FluentProofs.ResolverRefine

namespace FluentModel.ResolverSpec

/-- pass the result of a `.val` outcome on; `.limit`, `.panic` and `.fuel` end the evaluation -/
def Out.bind {α β : Type} (o : Out α) (k : α → Nat → List Resolver.RErr → Out β) : Out β :=
  match o with
  | .val a c l => k a c l
  | .limit l => .limit l
  | .panic m => .panic m
  | .fuel => .fuel

end FluentModel.ResolverSpec

namespace FluentProofs.ResolverRefine
open FluentModel FluentModel.Syntax FluentModel.Num FluentModel.Resolver FluentModel.ResolverSpec
open FluentProofs.Resolver FluentProofs.Bidi

/-- the spec's choice of a variant once the selector is evaluated: first match, else the default -/
def evalTail (c : Ctx) (f : Nat) (vs : List (Variant Bytes)) (selector : Value) (count : Nat) (log : List RErr) :
    Out Bytes :=
  match chosen c.env vs selector with
  | .ok (some v) => evalElems c f v.length v count log
  | .ok .none =>
    (match defaultVariant vs with
     | some v => evalElems c f v.length v count log
     | .none => .val [] count (log ++ [.missingDefault]))
  | .panic m => .panic m
  | .fuel => .fuel

/-- an expression evaluated in print mode and used as a string -/
def viaEval (c : Ctx) (f : Nat) (e : Inline Bytes) (count : Nat) (log : List RErr) : Out Value :=
  (evalInline c f e count log).bind fun s count' log' => .val (.str s) count' log'

theorem evalTail_none {c : Ctx} {vs : List (Variant Bytes)} {s : Value} (h : chosen c.env vs s = .ok .none) (f : Nat)
    (count : Nat) (log : List RErr) :
    evalTail c f vs s count log =
      match defaultVariant vs with
      | some v => evalElems c f v.length v count log
      | .none => .val [] count (log ++ [.missingDefault]) := by
  unfold evalTail; rw [h]

theorem evalTail_some {c : Ctx} {vs : List (Variant Bytes)} {s : Value} {v : Pattern Bytes}
    (h : chosen c.env vs s = .ok (some v)) (f : Nat) (count : Nat) (log : List RErr) :
    evalTail c f vs s count log = evalElems c f v.length v count log := by
  unfold evalTail; rw [h]

theorem evalTail_panic {c : Ctx} {vs : List (Variant Bytes)} {s : Value} {m : String}
    (h : chosen c.env vs s = .panic m) (f : Nat) (count : Nat) (log : List RErr) :
    evalTail c f vs s count log = .panic m := by
  unfold evalTail; rw [h]

section eqns
variable {c : Ctx} {f : Nat} {count : Nat} {log : List RErr}

@[simp] theorem evalElems_zero {n : Nat} {es : List (PatElem Bytes)} : evalElems c 0 n es count log = .fuel := by
  rw [evalElems]
@[simp] theorem evalRef_zero {p : Pattern Bytes} {src : Inline Bytes} : evalRef c 0 p src count log = .fuel := by
  rw [evalRef]
@[simp] theorem evalExpr_zero {e : Expr Bytes} : evalExpr c 0 e count log = .fuel := by rw [evalExpr]
@[simp] theorem evalInline_zero {e : Inline Bytes} : evalInline c 0 e count log = .fuel := by rw [evalInline]
@[simp] theorem evalValue_zero {e : Inline Bytes} : evalValue c 0 e count log = .fuel := by rw [evalValue]
@[simp] theorem evalArgs_zero {a : Option (List (Inline Bytes) × List (Bytes × Inline Bytes))} :
    evalArgs c 0 a count log = .fuel := by rw [evalArgs]
@[simp] theorem evalList_zero {es : List (Inline Bytes)} : evalList c 0 es count log = .fuel := by rw [evalList]
@[simp] theorem evalNamed_zero {es : List (Bytes × Inline Bytes)} : evalNamed c 0 es count log = .fuel := by
  rw [evalNamed]

theorem evalElems_nil {n : Nat} : evalElems c (f + 1) n [] count log = .val [] count log := by rw [evalElems]

theorem evalElems_text {n : Nat} {v : Bytes} {rest : List (PatElem Bytes)} :
    evalElems c (f + 1) n (.text v :: rest) count log =
      (evalElems c f n rest count log).bind fun r count' log' => .val (tr c.env v ++ r) count' log' := by
  rw [evalElems]; cases evalElems c f n rest count log <;> rfl

theorem evalElems_placeable {n : Nat} {e : Expr Bytes} {rest : List (PatElem Bytes)} :
    evalElems c (f + 1) n (.placeable e :: rest) count log =
      if count + 1 > Generated.maxPlaceables then .limit (log ++ [.tooManyPlaceables])
      else (evalExpr c f e (count + 1) log).bind fun s count' log' =>
        (evalElems c f n rest count' log').bind fun r count'' log'' =>
          .val (openMark c.env n e ++ s ++ closeMark c.env n e ++ r) count'' log'' := by
  rw [evalElems]
  refine ite_congr rfl (fun _ => rfl) (fun _ => ?_)
  cases evalExpr c f e (count + 1) log with
  | val s c1 l1 =>
    have : (if (c.env.useIsolating && decide (n > 1) && isolatable e) = true then fsi ++ s ++ pdi else s) =
        openMark c.env n e ++ s ++ closeMark c.env n e := by
      unfold openMark closeMark; cases c.env.useIsolating && decide (n > 1) && isolatable e <;> simp
    simp only [Out.bind, this]
    cases evalElems c f n rest c1 l1 <;> rfl
  | limit l => rfl
  | panic m => rfl
  | fuel => rfl

theorem evalRef_succ {p : Pattern Bytes} {src : Inline Bytes} :
    evalRef c (f + 1) p src count log =
      if travelledContains c.stack p = true then .val (braced (inlineWriteError src)) count (log ++ [.cyclic])
      else evalElems { c with stack := c.stack ++ [p] } f p.length p count log := by rw [evalRef]

theorem evalExpr_inline {e : Inline Bytes} : evalExpr c (f + 1) (.inline e) count log = evalInline c f e count log := by
  rw [evalExpr]

theorem evalExpr_select {sel : Inline Bytes} {vs : List (Variant Bytes)} :
    evalExpr c (f + 1) (.select sel vs) count log =
      (evalValue c f sel count log).bind fun selector count' log' => evalTail c f vs selector count' log' := by
  rw [evalExpr]
  cases evalValue c f sel count log with
  | val selector c' l' => cases selector <;> rfl
  | limit l => rfl
  | panic m => rfl
  | fuel => rfl

theorem evalInline_str {v : Bytes} : evalInline c (f + 1) (.str v) count log = .val (c.env.unescape v) count log := by
  rw [evalInline]

theorem evalInline_num {v : Bytes} :
    evalInline c (f + 1) (.num v) count log = .val (valueString c.env (c.env.tryNumber v)) count log := by
  rw [evalInline]

theorem evalInline_msg {id : Bytes} {attr : Option Bytes} :
    evalInline c (f + 1) (.msg id attr) count log =
      match msgTarget c.env id attr with
      | .pattern p => evalRef c f p (.msg id attr) count log
      | .noValue => .val (braced (inlineWriteError (.msg id attr))) count (log ++ [.noValue id])
      | .missing => .val (braced (inlineWriteError (.msg id attr))) count (log ++ [.reference (.message id attr)]) := by
  rw [evalInline]
  unfold msgTarget
  cases c.env.msg id with
  | none => rfl
  | some m =>
    cases attr with
    | some a => simp only []; cases findAttr m.attributes a <;> rfl
    | none => simp only []; cases m.value <;> rfl

theorem evalInline_term {id : Bytes} {attr : Option Bytes}
    {args : Option (List (Inline Bytes) × List (Bytes × Inline Bytes))} :
    evalInline c (f + 1) (.term id attr args) count log =
      (evalArgs c f args count log).bind fun x count' log' =>
        match termTarget c.env id attr with
        | some p => evalRef { c with locals := some x.2 } f p (.term id attr args) count' log'
        | .none => .val (braced (inlineWriteError (.term id attr args))) count' (log' ++ [.reference (.term id attr)]) := by
  rw [evalInline]
  cases evalArgs c f args count log <;> rfl

theorem evalInline_fn {id : Bytes} {pos : List (Inline Bytes)} {named : List (Bytes × Inline Bytes)} :
    evalInline c (f + 1) (.fn id pos named) count log =
      (evalArgs c f (some (pos, named)) count log).bind fun x count' log' =>
        match c.env.fn id with
        | some fn => .val (fnText c.env (.fn id pos named) (fn x.1 x.2)) count' log'
        | .none => .val (braced (inlineWriteError (.fn id pos named))) count' (log' ++ [.reference (.function id)]) := by
  rw [evalInline]
  cases evalArgs c f (some (pos, named)) count log with
  | val x c' l' =>
    obtain ⟨rp, rn⟩ := x
    simp only [Out.bind]
    cases c.env.fn id with
    | none => rfl
    | some fn => simp only [fnText]; cases fn rp rn <;> rfl
  | limit l => rfl
  | panic m => rfl
  | fuel => rfl

theorem evalInline_var {id : Bytes} :
    evalInline c (f + 1) (.var id) count log =
      match c.locals with
      | some l =>
        (match l.get id with
         | some v => .val (valueString c.env v) count log
         | .none => .val (braced (inlineWriteError (.var id))) count log)
      | .none =>
        (match c.env.args.bind (·.get id) with
         | some v => .val (valueString c.env v) count log
         | .none => .val (braced (inlineWriteError (.var id))) count (log ++ [.reference (.variable id)])) := by
  rw [evalInline]
  cases c.locals with
  | some l => simp only []; cases l.get id <;> rfl
  | none => simp only []; cases c.env.args.bind (·.get id) <;> rfl

theorem evalInline_placeable {e : Expr Bytes} :
    evalInline c (f + 1) (.placeable e) count log = evalExpr c f e count log := by rw [evalInline]

theorem evalValue_str {v : Bytes} : evalValue c (f + 1) (.str v) count log = .val (.str (c.env.unescape v)) count log := by
  rw [evalValue]

theorem evalValue_num {v : Bytes} : evalValue c (f + 1) (.num v) count log = .val (c.env.tryNumber v) count log := by
  rw [evalValue]

theorem evalValue_var {id : Bytes} :
    evalValue c (f + 1) (.var id) count log =
      match c.locals with
      | some l => .val ((l.get id).getD .error) count log
      | .none =>
        (match c.env.args.bind (·.get id) with
         | some v => .val v count log
         | .none => .val .error count (log ++ [.reference (.variable id)])) := by
  rw [evalValue]
  cases c.locals with
  | some l => rfl
  | none => simp only []; cases c.env.args.bind (·.get id) <;> rfl

theorem evalValue_fn {id : Bytes} {pos : List (Inline Bytes)} {named : List (Bytes × Inline Bytes)} :
    evalValue c (f + 1) (.fn id pos named) count log =
      (evalArgs c f (some (pos, named)) count log).bind fun x count' log' =>
        match c.env.fn id with
        | some fn => .val (fn x.1 x.2) count' log'
        | .none => .val .error count' (log' ++ [.reference (.function id)]) := by
  rw [evalValue]
  cases evalArgs c f (some (pos, named)) count log <;> rfl

theorem evalValue_msg {id : Bytes} {attr : Option Bytes} :
    evalValue c (f + 1) (.msg id attr) count log = viaEval c f (.msg id attr) count log := by
  rw [evalValue]
  · unfold viaEval; cases evalInline c f _ count log <;> rfl
  all_goals (intros; contradiction)

theorem evalValue_term {id : Bytes} {attr : Option Bytes}
    {args : Option (List (Inline Bytes) × List (Bytes × Inline Bytes))} :
    evalValue c (f + 1) (.term id attr args) count log = viaEval c f (.term id attr args) count log := by
  rw [evalValue]
  · unfold viaEval; cases evalInline c f _ count log <;> rfl
  all_goals (intros; contradiction)

theorem evalValue_placeable {e : Expr Bytes} :
    evalValue c (f + 1) (.placeable e) count log = viaEval c f (.placeable e) count log := by
  rw [evalValue]
  · unfold viaEval; cases evalInline c f _ count log <;> rfl
  all_goals (intros; contradiction)

theorem evalArgs_none : evalArgs c (f + 1) .none count log = .val ([], []) count log := by rw [evalArgs]

theorem evalArgs_some {pos : List (Inline Bytes)} {named : List (Bytes × Inline Bytes)} :
    evalArgs c (f + 1) (some (pos, named)) count log =
      (evalList c f pos count log).bind fun vs count' log' =>
        (evalNamed c f named count' log').bind fun ns count'' log'' => .val (vs, ArgList.ofPairs ns) count'' log'' := by
  rw [evalArgs]
  cases evalList c f pos count log with
  | val vs c' l' => simp only [Out.bind]; cases evalNamed c f named c' l' <;> rfl
  | limit l => rfl
  | panic m => rfl
  | fuel => rfl

theorem evalList_nil : evalList c (f + 1) [] count log = .val [] count log := by rw [evalList]

theorem evalList_cons {e : Inline Bytes} {es : List (Inline Bytes)} :
    evalList c (f + 1) (e :: es) count log =
      (evalValue c f e count log).bind fun v count' log' =>
        (evalList c f es count' log').bind fun vs count'' log'' => .val (v :: vs) count'' log'' := by
  rw [evalList]
  cases evalValue c f e count log with
  | val v c' l' => simp only [Out.bind]; cases evalList c f es c' l' <;> rfl
  | limit l => rfl
  | panic m => rfl
  | fuel => rfl

theorem evalNamed_nil : evalNamed c (f + 1) [] count log = .val [] count log := by rw [evalNamed]

theorem evalNamed_cons {k : Bytes} {e : Inline Bytes} {es : List (Bytes × Inline Bytes)} :
    evalNamed c (f + 1) ((k, e) :: es) count log =
      (evalValue c f e count log).bind fun v count' log' =>
        (evalNamed c f es count' log').bind fun vs count'' log'' => .val ((k, v) :: vs) count'' log'' := by
  rw [evalNamed]
  cases evalValue c f e count log with
  | val v c' l' => simp only [Out.bind]; cases evalNamed c f es c' l' <;> rfl
  | limit l => rfl
  | panic m => rfl
  | fuel => rfl

end eqns

/-- an entry an evaluation may add on a normal path -/
def Rep (D : Bool) (x : RErr) : Prop := x ≠ .tooManyPlaceables ∧ (D = true → x ≠ .missingDefault)

def LogOk {α : Type} (D : Bool) (log : List RErr) : Out α → Prop
  | .val _ _ l' => ∃ added, l' = log ++ added ∧ ∀ x ∈ added, Rep D x
  | .limit lg => ∃ added, lg = log ++ added ++ [.tooManyPlaceables] ∧ ∀ x ∈ added, Rep D x
  | _ => True

theorem LogOk.val_refl {α : Type} (D : Bool) (log : List RErr) (a : α) (c : Nat) : LogOk D log (.val a c log) :=
  ⟨[], (List.append_nil _).symm, fun _ h => nomatch h⟩

theorem LogOk.val_add {α : Type} (D : Bool) (log : List RErr) (a : α) (c : Nat) (e : RErr) (h : Rep D e) :
    LogOk D log (.val a c (log ++ [e])) :=
  ⟨[e], rfl, by simpa using h⟩

theorem LogOk.trans {α : Type} {D : Bool} {log a1 : List RErr} {r : Out α} (h1 : ∀ x ∈ a1, Rep D x)
    (h2 : LogOk D (log ++ a1) r) : LogOk D log r := by
  have mem : ∀ {a2 : List RErr}, (∀ x ∈ a2, Rep D x) → ∀ x ∈ a1 ++ a2, Rep D x := fun h x hx =>
    (List.mem_append.1 hx).elim (h1 x) (h x)
  match r, h2 with
  | .val _ _ _, ⟨a2, e, h⟩ => exact ⟨a1 ++ a2, by rw [e, List.append_assoc], mem h⟩
  | .limit _, ⟨a2, e, h⟩ => exact ⟨a1 ++ a2, by rw [e]; simp only [List.append_assoc], mem h⟩
  | .panic _, _ => trivial
  | .fuel, _ => trivial

theorem LogOk.bind {α β : Type} {D : Bool} {log : List RErr} {o : Out α} {k : α → Nat → List RErr → Out β}
    (h : LogOk D log o) (hk : ∀ a c l, LogOk D l (k a c l)) : LogOk D log (o.bind k) := by
  match o, h with
  | .val a c _, ⟨a1, rfl, ha⟩ => exact LogOk.trans ha (hk a c _)
  | .limit _, h => exact h
  | .panic _, _ => trivial
  | .fuel, _ => trivial

theorem rep_reference (D : Bool) (k : RefKind) : Rep D (.reference k) := ⟨nofun, fun _ => nofun⟩
theorem rep_noValue (D : Bool) (id : Bytes) : Rep D (.noValue id) := ⟨nofun, fun _ => nofun⟩
theorem rep_cyclic (D : Bool) : Rep D .cyclic := ⟨nofun, fun _ => nofun⟩

/-- `b` holds when defaults are assumed -/
abbrev IfD (D : Bool) (b : Bool) : Prop := D = true → b = true

theorem IfD.and {D a b : Bool} (h : IfD D (a && b)) : IfD D a ∧ IfD D b :=
  ⟨fun d => (Bool.and_eq_true _ _ ▸ h d).1, fun d => (Bool.and_eq_true _ _ ▸ h d).2⟩

structure SpecAll (D : Bool) (f : Nat) : Prop where
  elems : ∀ c n es count log, (D = true → EnvD c.env) → IfD D (patD es) → LogOk D log (evalElems c f n es count log)
  ref : ∀ c p src count log, (D = true → EnvD c.env) → IfD D (patD p) → LogOk D log (evalRef c f p src count log)
  expr : ∀ c e count log, (D = true → EnvD c.env) → IfD D (exprD e) → LogOk D log (evalExpr c f e count log)
  inline : ∀ c e count log, (D = true → EnvD c.env) → IfD D (inlineD e) → LogOk D log (evalInline c f e count log)
  value : ∀ c e count log, (D = true → EnvD c.env) → IfD D (inlineD e) → LogOk D log (evalValue c f e count log)
  args : ∀ c a count log, (D = true → EnvD c.env) → IfD D (argsD a) → LogOk D log (evalArgs c f a count log)
  list : ∀ c es count log, (D = true → EnvD c.env) → IfD D (inlinesD es) → LogOk D log (evalList c f es count log)
  named : ∀ c es count log, (D = true → EnvD c.env) → IfD D (namedD es) → LogOk D log (evalNamed c f es count log)

theorem specAll_zero (D : Bool) : SpecAll D 0 := by
  constructor <;> intros <;> simp only [evalElems_zero, evalRef_zero, evalExpr_zero, evalInline_zero, evalValue_zero,
    evalArgs_zero, evalList_zero, evalNamed_zero] <;> trivial

section step
variable {D : Bool} {f : Nat} (IH : SpecAll D f) {c : Ctx} (hE : D = true → EnvD c.env) (count : Nat) (log : List RErr)
include IH hE

theorem evalElems_log (n : Nat) (es : List (PatElem Bytes)) (hD : IfD D (patD es)) :
    LogOk D log (evalElems c (f + 1) n es count log) := by
  cases es with
  | nil => rw [evalElems_nil]; exact LogOk.val_refl D log _ _
  | cons el rest =>
    cases el with
    | text v =>
      rw [evalElems_text]
      rw [patD] at hD
      exact (IH.elems c n rest count log hE hD.and.2).bind fun _ _ l => LogOk.val_refl D l _ _
    | placeable e =>
      rw [evalElems_placeable]
      rw [patD, elemD] at hD
      split
      · exact ⟨[], by rw [List.append_nil], fun _ h => nomatch h⟩
      · exact (IH.expr c e _ log hE hD.and.1).bind fun _ _ _ =>
          (IH.elems c n rest _ _ hE hD.and.2).bind fun _ _ l => LogOk.val_refl D l _ _

theorem evalRef_log (p : Pattern Bytes) (src : Inline Bytes) (hD : IfD D (patD p)) :
    LogOk D log (evalRef c (f + 1) p src count log) := by
  rw [evalRef_succ]
  split
  · exact LogOk.val_add D log _ _ _ (rep_cyclic D)
  · exact IH.elems _ _ _ _ _ hE hD

theorem evalTail_log (vs : List (Variant Bytes)) (s : Value) (hD : IfD D (variantsD vs && (defaultVariant vs).isSome)) :
    LogOk D log (evalTail c f vs s count log) := by
  rcases chosen_cases c.env vs s with h | ⟨_, v, _, hm, h⟩ | ⟨m, _, h, _⟩
  · rw [evalTail_none h]
    cases hd : defaultVariant vs with
    | some v =>
      obtain ⟨_, hk⟩ := defaultVariant_mem hd
      exact IH.elems c _ v count log hE fun d => variantsD_mem hk (hD.and.1 d)
    | none =>
      refine LogOk.val_add D log _ _ _ ⟨nofun, fun d => ?_⟩
      have := hD.and.2 d
      rw [hd] at this; cases this
  · rw [evalTail_some h]; exact IH.elems c _ v count log hE fun d => variantsD_mem hm (hD.and.1 d)
  · rw [evalTail_panic h]; trivial

theorem evalExpr_log (e : Expr Bytes) (hD : IfD D (exprD e)) : LogOk D log (evalExpr c (f + 1) e count log) := by
  cases e with
  | inline e => rw [evalExpr_inline]; exact IH.inline c e count log hE (by rwa [exprD] at hD)
  | select sel vs =>
    rw [evalExpr_select]
    rw [exprD, Bool.and_assoc] at hD
    exact (IH.value c sel count log hE hD.and.1).bind fun _ _ _ => evalTail_log IH hE _ _ vs _ hD.and.2

theorem evalInline_log (e : Inline Bytes) (hD : IfD D (inlineD e)) : LogOk D log (evalInline c (f + 1) e count log) := by
  cases e with
  | str v => rw [evalInline_str]; exact LogOk.val_refl D log _ _
  | num v => rw [evalInline_num]; exact LogOk.val_refl D log _ _
  | placeable e => rw [evalInline_placeable]; exact IH.expr c e count log hE (by rwa [inlineD] at hD)
  | var id =>
    rw [evalInline_var]
    split
    · split <;> exact LogOk.val_refl D log _ _
    · split
      · exact LogOk.val_refl D log _ _
      · exact LogOk.val_add D log _ _ _ (rep_reference D _)
  | msg id attr =>
    rw [evalInline_msg]
    split
    · rename_i p hp
      exact IH.ref c p _ count log hE fun d => (hE d).reach (reach_msgTarget hp)
    · exact LogOk.val_add D log _ _ _ (rep_noValue D _)
    · exact LogOk.val_add D log _ _ _ (rep_reference D _)
  | fn id pos named =>
    rw [evalInline_fn]
    refine (IH.args c (some (pos, named)) count log hE (by rwa [inlineD] at hD)).bind fun _ _ l => ?_
    cases c.env.fn id with
    | some fn => exact LogOk.val_refl D l _ _
    | none => exact LogOk.val_add D l _ _ _ (rep_reference D _)
  | term id attr args =>
    rw [evalInline_term]
    have hA : IfD D (argsD args) := by
      match args with
      | .none => exact fun _ => rfl
      | some (p, n) => rwa [inlineD] at hD
    refine (IH.args c args count log hE hA).bind fun _ _ l => ?_
    split
    · rename_i p hp
      exact IH.ref _ p _ _ l hE fun d => (hE d).reach (reach_termTarget hp)
    · exact LogOk.val_add D l _ _ _ (rep_reference D _)

theorem evalValue_log (e : Inline Bytes) (hD : IfD D (inlineD e)) : LogOk D log (evalValue c (f + 1) e count log) := by
  have viaEval : LogOk D log (viaEval c f e count log) :=
    (IH.inline c e count log hE hD).bind fun _ _ l => LogOk.val_refl D l _ _
  cases e with
  | str v => rw [evalValue_str]; exact LogOk.val_refl D log _ _
  | num v => rw [evalValue_num]; exact LogOk.val_refl D log _ _
  | var id =>
    rw [evalValue_var]
    split
    · exact LogOk.val_refl D log _ _
    · split
      · exact LogOk.val_refl D log _ _
      · exact LogOk.val_add D log _ _ _ (rep_reference D _)
  | fn id pos named =>
    rw [evalValue_fn]
    refine (IH.args c (some (pos, named)) count log hE (by rwa [inlineD] at hD)).bind fun _ _ l => ?_
    cases c.env.fn id with
    | some fn => exact LogOk.val_refl D l _ _
    | none => exact LogOk.val_add D l _ _ _ (rep_reference D _)
  | msg id attr => rw [evalValue_msg]; exact viaEval
  | term id attr args => rw [evalValue_term]; exact viaEval
  | placeable e => rw [evalValue_placeable]; exact viaEval

theorem evalArgs_log (a : Option (List (Inline Bytes) × List (Bytes × Inline Bytes))) (hD : IfD D (argsD a)) :
    LogOk D log (evalArgs c (f + 1) a count log) := by
  cases a with
  | none => rw [evalArgs_none]; exact LogOk.val_refl D log _ _
  | some pn =>
    obtain ⟨pos, named⟩ := pn
    rw [evalArgs_some]
    rw [argsD] at hD
    exact (IH.list c pos count log hE hD.and.1).bind fun _ _ _ =>
      (IH.named c named _ _ hE hD.and.2).bind fun _ _ l => LogOk.val_refl D l _ _

theorem evalList_log (es : List (Inline Bytes)) (hD : IfD D (inlinesD es)) :
    LogOk D log (evalList c (f + 1) es count log) := by
  cases es with
  | nil => rw [evalList_nil]; exact LogOk.val_refl D log _ _
  | cons e es =>
    rw [evalList_cons]
    rw [inlinesD] at hD
    exact (IH.value c e count log hE hD.and.1).bind fun _ _ _ =>
      (IH.list c es _ _ hE hD.and.2).bind fun _ _ l => LogOk.val_refl D l _ _

theorem evalNamed_log (es : List (Bytes × Inline Bytes)) (hD : IfD D (namedD es)) :
    LogOk D log (evalNamed c (f + 1) es count log) := by
  cases es with
  | nil => rw [evalNamed_nil]; exact LogOk.val_refl D log _ _
  | cons ke es =>
    obtain ⟨k, e⟩ := ke
    rw [evalNamed_cons]
    rw [namedD] at hD
    exact (IH.value c e count log hE hD.and.1).bind fun _ _ _ =>
      (IH.named c es _ _ hE hD.and.2).bind fun _ _ l => LogOk.val_refl D l _ _

end step

theorem specAll (D : Bool) : ∀ f, SpecAll D f := by
  intro f
  induction f with
  | zero => exact specAll_zero D
  | succ f IH =>
    exact ⟨fun c n es count log hE => evalElems_log IH hE count log n es,
      fun c p src count log hE => evalRef_log IH hE count log p src,
      fun c e count log hE => evalExpr_log IH hE count log e,
      fun c e count log hE => evalInline_log IH hE count log e,
      fun c e count log hE => evalValue_log IH hE count log e,
      fun c a count log hE => evalArgs_log IH hE count log a,
      fun c es count log hE => evalList_log IH hE count log es,
      fun c es count log hE => evalNamed_log IH hE count log es⟩

theorem format_log (D : Bool) (env : Env) (fuel : Nat) (p : Pattern Bytes) (hE : D = true → EnvD env)
    (hp : D = true → patD p = true) : LogOk D [] (ResolverSpec.format env fuel p) :=
  (specAll D fuel).elems ⟨env, .none, [p]⟩ p.length p 0 [] hE hp

end FluentProofs.ResolverRefine

import FluentProofs.SerializerML
import FluentProofs.ParserLoops
import FluentProofs.SerializerResTexts
/-!
# Serializer round trip: the entry level where no pattern of the class is read (C04, parser half)

`get_comment` on the text of a comment (lines come back canonicalised), the follow-conditions of entries
(`EntryStart ⇒ EntryStop ⇒ Stopper ⇒ BlockStop`, `EntryFollow ⇒ PatFollow`), and the round of the entry loop on a free-standing
and on an attached comment, as a step from one `Runs` to another.  Nothing here needs the round trip of patterns;
`SerializerResParse` adds values and attributes.
-/
namespace FluentProofs.Ser
open FluentModel FluentModel.Syntax FluentModel.Syntax.Ser FluentProofs.Parser

/-- `get_comment_line` on a line `l` without line feed in `[p, q)` that is followed by an end of line (a final `\r` of `l` is not
followed by `\n`): the content ends at `q` -/
theorem commentLineEnd_at {s : Src} {l : Bytes} (hl : ∀ b ∈ l, b ≠ 10) {p q : Nat} (h : AtTo s p l q)
    {c : UInt8} (hc : s[q]? = some c) (hend : isEol s q = true)
    (hcr : endsCr l = true → c ≠ 10) : commentLineEndGo s (s.size - p) p = q :=
  (commentLineEnd_first s p).unique ⟨h.le, (fun j h1 h2 hj => by
    obtain ⟨i, rfl⟩ : ∃ i, j = p + i := ⟨j - p, by omega⟩
    have hi : i < l.length := by have := h.len; omega
    have hx := at_get h.txt i hi
    have x1 := hl l[i] (List.getElem_mem _)
    -- the byte behind `l[i]`: the next byte of `l`, or `c`
    have hnext : l[i] = 13 → s[p + i + 1]? ≠ some 10 := by
      intro h13
      by_cases hlast : i + 1 < l.length
      · rw [show p + i + 1 = p + (i + 1) by omega, at_get h.txt (i + 1) hlast]
        simpa using hl _ (List.getElem_mem _)
      · have hil : i + 1 = l.length := by omega
        rw [show p + i + 1 = q by have := h.len; omega, hc]
        have : endsCr l = true := by
          simp only [endsCr, List.getLast?_eq_getElem?, beq_iff_eq]
          rw [show l.length - 1 = i by omega, List.getElem?_eq_getElem hi, h13]
        simpa using hcr this
    unfold isEol at hj
    rw [hx] at hj
    split at hj
    · rename_i hh; exact x1 (Option.some.inj hh)
    · rename_i hh; exact hnext (Option.some.inj hh) (by simpa using hj)
    · rename_i hh; cases hh
    · cases hj), hend⟩

theorem getCommentLine_at {s : Src} {l : Bytes} (hl : commentLineOK l = true) {p q : Nat}
    (hb : Bnd s p) (h : AtTo s p l q) {c : UInt8} (hc : s[q]? = some c) (hc128 : c < 128)
    (hend : isEol s q = true) (hcr : endsCr l = true → c ≠ 10) : getCommentLine s p = .ok ⟨p, q⟩ q := by
  unfold getCommentLine
  rw [commentLineEnd_at (commentLineOK_mem hl) h hc hend hcr]
  simp only []
  rw [slice_ok h.le hb (bnd_of_ascii hc hc128)]

/-- the line end behind a comment line `l` in the serialised text: `\n`, or `\r\n` when `l` ends with `\r` -/
theorem commentLine_end {s : Src} (l : Bytes) {q E : Nat} {rest : Bytes} (h : AtTo s q (crDbl l ++ 10 :: rest) E) :
    ∃ c q', s[q]? = some c ∧ c < 128 ∧ isEol s q = true ∧ (endsCr l = true → c ≠ 10) ∧
      skipEol s q = some q' ∧ AtTo s q' rest E := by
  unfold crDbl at h
  cases hcr : endsCr l
  · rw [hcr, if_neg Bool.false_ne_true, List.nil_append] at h
    obtain ⟨h10, h⟩ := atTo_cons.mp h
    exact ⟨10, _, h10, by decide, by simp [isEol, h10], fun h0 => absurd h0 (by decide), by simp [skipEol, h10], h⟩
  · rw [hcr, if_pos rfl] at h
    obtain ⟨h13, h⟩ := atTo_cons.mp h
    obtain ⟨h10, h⟩ := atTo_cons.mp h
    exact ⟨13, _, h13, by decide, by simp [isEol, h13, h10], fun _ => by decide, by simp [skipEol, h13, h10], h⟩

/-- `k` `#`s in `[p, m)` and another byte at `m` -/
theorem getCommentLevel_at {s : Src} {p m k : Nat} (hk : k ≤ 3) (h : AtTo s p (hashes k) m) {b : UInt8}
    (hb : s[m]? = some b) (hb35 : b ≠ 35) : m = p + k ∧ getCommentLevel s p = (k, p + k) := by
  obtain ⟨h, rfl⟩ := h
  have hlen : (hashes k).length = k := by simp [hashes]
  rw [hlen] at hb ⊢
  exact ⟨rfl, getCommentLevel_run hk (fun j hj => by
    have := at_get h j (by rw [hlen]; exact hj)
    simpa [hashes] using this) (by rw [hb]; simpa using hb35)⟩

theorem commentText_cons (pre l : Bytes) (ls : List Bytes) :
    commentText pre (l :: ls) = pre ++ ((if isBlankLine l then [] else 32 :: (l ++ (crDbl l ++ 10 :: commentText pre ls)))
      ++ (if isBlankLine l then 10 :: commentText pre ls else [])) := by
  rw [commentText]; cases isBlankLine l <;> simp

/-- `get_comment` reads a comment block of level `k` in `[p, E)` back (lines canonicalised), and stops AT the line
feed of its last line -/
theorem getCommentGo_text {s : Src} (hs : AsciiThenBoundary s) (k : Nat) (hk : 1 ≤ k ∧ k ≤ 3) {E : Nat}
    (hend : ∃ b, s[E]? = some b ∧ b ≠ 35) (c : List Bytes) (hc : ∀ l ∈ c, commentLineOK l = true) :
    ∀ (n level : Nat) (content : List Span) (p : Nat), (level = 0 ∨ level = k) → (c = [] → level = k ∧ 1 ≤ p) →
      AtTo s p (commentText (hashes k) c) E → c.length + 1 ≤ n →
      ∃ lines, getCommentGo s n level content p = .ok (content ++ lines, k) (E - 1) ∧
        lines.map (spanBytes s) = c.map canonLine := by
  induction c with
  | nil =>
    intro n level content p _ hnil h hn
    obtain ⟨m, rfl⟩ : ∃ m, n = m + 1 := ⟨n - 1, by omega⟩
    obtain ⟨rfl, hp1⟩ := hnil rfl
    obtain ⟨b, hb, hb35⟩ := hend
    obtain rfl := atTo_nil.mp h
    refine ⟨[], ?_, rfl⟩
    rw [getCommentGo_unfold, commentStep_noHash (get_lt hb) (by rw [hb]; simpa using hb35) hp1, List.append_nil]
  | cons l ls ih =>
    intro n level content p hlev _ h hn
    obtain ⟨m, rfl⟩ : ∃ m, n = m + 1 := ⟨n - 1, by omega⟩
    have hl := hc l (List.mem_cons_self)
    have hk0 : k ≠ 0 := by omega
    have ih' := ih (fun x hx => hc x (List.mem_cons_of_mem _ hx)) m k
    have hlt : p < s.size :=
      get_lt (h.head (commentText_head k hk.1 (l :: ls) (List.cons_ne_nil _ _)))
    -- the `#`s in `[p, p + k)`; then the line feed, or a space and the line in `[p + k + 1, m₁)` with its line end up to `q'`
    rw [commentText_cons] at h
    obtain ⟨m₀, hH, h⟩ := atTo_append.mp h
    cases hbl : isBlankLine l
    · -- `# text`
      simp only [hbl, Bool.false_eq_true, if_false, List.append_nil] at h
      obtain ⟨h32, h⟩ := atTo_cons.mp h
      obtain ⟨rfl, hlvl⟩ := getCommentLevel_at hk.2 hH h32 (by decide)
      obtain ⟨m₁, hL, h⟩ := atTo_append.mp h
      obtain ⟨c0, q', hc0, hc128, hceol, hccr, hsk, hR⟩ := commentLine_end l h
      have hline := getCommentLine_at hl (bnd_succ hs h32 (by decide)) hL hc0 hc128 hceol hccr
      obtain ⟨lines, hgo, hmap⟩ := ih' (content ++ [⟨p + k + 1, m₁⟩]) q' (Or.inr rfl)
        (fun _ => ⟨rfl, by have := (skipEol_some hsk).1; omega⟩) hR (by simp at hn; omega)
      refine ⟨⟨p + k + 1, m₁⟩ :: lines, ?_, by simp [hmap, canonLine, hbl, hL.span]⟩
      rw [getCommentGo_unfold, commentStep_text hlt hlvl hk0 hlev (Or.inr ⟨by simp [isEol, h32], h32, rfl⟩) hline]
      simp only [hsk, Option.getD_some, hgo, List.append_assoc, List.singleton_append]
    · -- `#` alone
      simp only [hbl, if_true, List.nil_append] at h
      obtain ⟨h10, hR⟩ := atTo_cons.mp h
      obtain ⟨rfl, hlvl⟩ := getCommentLevel_at hk.2 hH h10 (by decide)
      have heol : isEol s (p + k) = true := by simp [isEol, h10]
      have hline := getCommentLine_at (l := []) (by decide) (bnd_of_ascii h10 (by decide)) (atTo_nil.mpr rfl) h10
        (by decide) heol (fun h0 => by cases h0)
      obtain ⟨lines, hgo, hmap⟩ := ih' (content ++ [⟨p + k, p + k⟩]) (p + k + 1) (Or.inr rfl) (fun _ => ⟨rfl, by omega⟩)
        hR (by simp at hn; omega)
      refine ⟨⟨p + k, p + k⟩ :: lines, ?_, by simp [hmap, canonLine, hbl, spanBytes]⟩
      rw [getCommentGo_unfold, commentStep_text hlt hlvl hk0 hlev (Or.inl ⟨heol, rfl⟩) hline]
      simp only [show skipEol s (p + k) = some (p + k + 1) by simp [skipEol, h10], Option.getD_some, hgo,
        List.append_assoc, List.singleton_append]

theorem EntryStart.stopper {s : Src} {q : Nat} (h : EntryStart s q) : Stopper s q := by
  rcases h with h | ⟨b, hb, hab⟩
  · exact Or.inl h
  · obtain ⟨h1, h2, h3, h4, _⟩ := entryStart_byte b hab
    exact Or.inr (Or.inl ⟨b, hb, h2, h3, fun h => absurd h h4, h1⟩)

theorem EntryStart.noSpace {s : Src} {q : Nat} (h : EntryStart s q) :
    s[q]? ≠ some 32 ∧ s[q]? ≠ some 10 ∧ s[q]? ≠ some 13 ∧ s[q]? ≠ some 46 := by
  rcases h with h | ⟨b, hb, hab⟩
  · have : s[q]? = none := by simp; omega
    simp [this]
  · obtain ⟨h1, h2, h3, h4, h5⟩ := entryStart_byte b hab
    rw [hb]; simp [h2, h3, h4, h5]

theorem blockStop_of_run {s : Src} {q k : Nat} {b : UInt8} (hsp : ∀ j, j < k → s[q + j]? = some 32)
    (hb : s[q + k]? = some b) (h32 : b ≠ 32) (h10 : b ≠ 10) (h13 : b = 13 → s[q + k + 1]? ≠ some 10) : BlockStop s q :=
  skipBlankBlockGo_line hsp hb h32 h10 h13

theorem Stopper.blockStop {s : Src} {E : Nat} (h : Stopper s E) : BlockStop s E := by
  rcases h with h | ⟨b, hb, h32, h10, h13, _⟩ | ⟨k, b, _, hsp, hb, hb4⟩
  · intro n c
    have h0 : s[E]? = none := by simp; omega
    rw [skipBlankBlockGo, skipBlankInline_of_ne (q := E) (by rw [h0]; simp)]
    simp [skipEol, h0]
  · exact blockStop_of_run (k := 0) (fun j hj => absurd hj (Nat.not_lt_zero j)) hb h32 h10 h13
  · have hb' : b ≠ 32 ∧ b ≠ 10 ∧ b ≠ 13 := by rcases hb4 with rfl | rfl | rfl | rfl <;> decide
    exact blockStop_of_run hsp hb hb'.1 hb'.2.1 fun h => absurd h hb'.2.2

theorem EntryStart.blockStop {s : Src} {E : Nat} (h : EntryStart s E) : BlockStop s E := h.stopper.blockStop

theorem BlockStop.sbb {s : Src} {E : Nat} (h : BlockStop s E) : skipBlankBlock s E = (E, 0) := by
  unfold skipBlankBlock; exact h _ 0

theorem skipBlankBlockGo_newlines (s : Src) (k : Nat) : ∀ (n q c : Nat), (∀ j, j < k → s[q + j]? = some 10) →
    BlockStop s (q + k) → k + 1 ≤ n → skipBlankBlockGo s n q c = (q + k, c + k) := by
  induction k with
  | zero =>
    intro n q c _ hstop hn
    obtain ⟨m, rfl⟩ : ∃ m, n = m + 1 := ⟨n - 1, by omega⟩
    simpa using hstop m c
  | succ k ih =>
    intro n q c h10 hstop hn
    obtain ⟨m, rfl⟩ : ∃ m, n = m + 1 := ⟨n - 1, by omega⟩
    have h0 : s[q]? = some 10 := by have := h10 0 (by omega); simpa using this
    rw [skipBlankBlockGo, skipBlankInline_of_ne (q := q) (by rw [h0]; decide)]
    have : skipEol s q = some (q + 1) := by simp [skipEol, h0]
    rw [this]
    simp only []
    rw [ih m (q + 1) (c + 1) (fun j hj => by
      have := h10 (j + 1) (by omega); rwa [show q + (j + 1) = q + 1 + j by omega] at this)
      (by rwa [show q + 1 + k = q + (k + 1) by omega]) (by omega)]
    congr 1 <;> omega

theorem skipBlankBlock_newlines' (s : Src) (k q : Nat) (h10 : ∀ j, j < k → s[q + j]? = some 10)
    (hstop : BlockStop s (q + k)) : skipBlankBlock s q = (q + k, k) := by
  unfold skipBlankBlock
  have hk : q + k ≤ s.size ∨ k = 0 := by
    cases k with
    | zero => right; rfl
    | succ k => left; have := get_lt (h10 k (by omega)); omega
  have := skipBlankBlockGo_newlines s k (s.size - q + 1) q 0 h10 hstop (by omega)
  simpa using this

theorem skipBlankBlock_newlines (s : Src) (k q : Nat) (h10 : ∀ j, j < k → s[q + j]? = some 10)
    (hstop : EntryStart s (q + k)) : skipBlankBlock s q = (q + k, k) :=
  skipBlankBlock_newlines' s k q h10 hstop.blockStop

theorem getPattern_none (s : Src) (n q : Nat) (h10 : s[q]? = some 10) (hstop : Stopper s (q + 1)) :
    getPattern s (n + 2) q = .ok none (q + 1) := by
  have hsbi : skipBlankInline s q = q := skipBlankInline_of_ne (q := q) (by rw [h10]; decide)
  have heol : skipEol s q = some (q + 1) := by simp [skipEol, h10]
  rw [getPattern]
  simp only [hsbi, heol, hstop.blockStop.sbb]
  rw [patternLoop_stop s n ⟨[], none, none, .lineStart, none⟩ (q + 1) rfl hstop]

theorem EntryStart.entryStop {s : Src} {E : Nat} (h : EntryStart s E) : EntryStop s E := by
  refine ⟨h.stopper, ?_⟩
  · intro fuel _ n acc
    obtain ⟨h1, _, _, h4⟩ := h.noSpace
    rw [getAttributesGo, skipBlankInline_of_ne (q := E) h1, takeByteIf_neg (p := E) (b := 46) h4]
    simp

theorem EntryStop.block {s : Src} {E : Nat} (h : EntryStop s E) : BlockStop s E := h.stopper.blockStop

theorem EntryFollow.pat {s : Src} {P E : Nat} (h : EntryFollow s P E) : PatFollow s P E :=
  ⟨h.1, h.2.1, h.2.2.stopper⟩

/-- `name =` in `[p, q)`: the identifier is read, the blank skipped, the `=` taken -/
theorem nameEq_at {s : Src} (hs : AsciiThenBoundary s) {id : Bytes} (hid : validIdent id = true) {p q : Nat}
    (h : AtTo s p (id ++ [32, 61]) q) :
    ∃ m, q = m + 1 + 1 ∧ getIdentifier s p = .ok ⟨p, m⟩ m ∧ skipBlankInline s m = m + 1 ∧
      expectByte s (m + 1) 61 = .ok () q ∧ spanBytes s ⟨p, m⟩ = id := by
  obtain ⟨m, hI, h⟩ := atTo_append.mp h
  obtain ⟨h32, h⟩ := atTo_cons.mp h
  obtain ⟨h61, h⟩ := atTo_cons.mp h
  obtain rfl := atTo_nil.mp h
  refine ⟨m, rfl, getIdentifier_at hs hid hI (fun c hc => by rw [h32] at hc; cases hc; decide), ?_, ?_, hI.span⟩
  · rw [skipBlankInline_space s _ h32]; exact skipBlankInline_of_ne (by rw [h61]; decide)
  · simp [expectByte, isCurrentByte, h61]

/-- an attribute line starts with four spaces and a dot: a line on which a pattern stops -/
theorem attrLines_head {s : Src} {q E : Nat} {a : Attribute Bytes} {as : List (Attribute Bytes)}
    (h : AtTo s q (attrLines (a :: as)) E) : (∀ j, j < 4 → s[q + j]? = some 32) ∧ s[q + 4]? = some 46 ∧ Stopper s q := by
  simp only [attrLines, attrLine, List.append_assoc] at h
  obtain ⟨m, hS, h⟩ := atTo_append.mp h
  obtain ⟨rfl, hsp⟩ := atTo_spaces hS
  have hd := (atTo_cons.mp h).1
  exact ⟨hsp, hd, Or.inr (Or.inr ⟨4, 46, by omega, hsp, hd, Or.inl rfl⟩)⟩

theorem skipBlankInline_idem (s : Src) (p : Nat) : skipBlankInline s (skipBlankInline s p) = skipBlankInline s p :=
  skipBlankInline_of_ne (skipBlankInline_stop s p)

theorem getPattern_skipInline (s : Src) (n p : Nat) : getPattern s n (skipBlankInline s p) = getPattern s n p := by
  cases n with
  | zero => simp [getPattern]
  | succ n => rw [getPattern, getPattern, skipBlankInline_idem]

theorem getEntry_comment {s : Src} (hs : AsciiThenBoundary s) (fuel k : Nat) (hk : 1 ≤ k ∧ k ≤ 3) (c : List Bytes)
    (hc : rtComment c = true) {p E : Nat} (hat : AtTo s p (commentText (hashes k) c) E)
    (hend : ∃ b, s[E]? = some b ∧ b ≠ 35) :
    ∃ c', getEntry s fuel p = .ok (commentCtor k c') (E - 1) ∧ c'.map (spanBytes s) = canonComment c := by
  rw [rtComment_iff] at hc
  have h35 : s[p]? = some 35 := hat.head (commentText_head k hk.1 c hc.1)
  obtain ⟨lines, hgo, hmap⟩ := getCommentGo_text hs k hk hend c hc.2 (s.size - p + 1) 0 [] p (Or.inl rfl)
    (fun h => absurd h hc.1) hat (by
      obtain ⟨b, hb, _⟩ := hend
      have := get_lt hb; have := commentText_length (hashes k) c; have := hat.len; omega)
  refine ⟨lines, ?_, hmap⟩
  simp only [getEntry, h35, getComment, hgo, List.nil_append, commentCtor]
  obtain ⟨h1, h3⟩ := hk
  rcases (by omega : k = 1 ∨ k = 2 ∨ k = 3) with rfl | rfl | rfl <;> simp

/-- a free-standing comment of level `k` in `[p, Q)`, the blank line at `Q` and `lead'` more behind it: one round -/
theorem runs_free {s : Src} (hs : AsciiThenBoundary s) (F k : Nat) (hk : 1 ≤ k ∧ k ≤ 3) (c : List Bytes)
    (hc : rtComment c = true) {p Q : Nat} (E lead' : Nat) (lc : Option (List Span)) (cnt : Nat) (hlc : lc = none ∨ 2 ≤ cnt)
    (hat : AtTo s p (commentText (hashes k) c) Q) (h10 : s[Q]? = some 10)
    (hnl : ∀ j, j < lead' → s[Q + 1 + j]? = some 10) (hE : E = Q + 1 + lead') (hstart : BlockStop s E) :
    ∃ c', c'.map (spanBytes s) = canonComment c ∧ ∀ {N t errs},
      Runs s F N (pendingAfter (commentCtor k c')) (2 + lead') E (flushC (pendingAfter (commentCtor k c')) ++ t) errs →
      Runs s F (N + 1) lc cnt p (flushC lc ++ commentCtor k c' :: t) errs := by
  have hcne : c ≠ [] := (rtComment_iff.mp hc).1
  obtain ⟨c', hge, hmc⟩ := getEntry_comment hs F k hk c hc hat ⟨10, h10, by decide⟩
  have hQ2 : p + 2 ≤ Q := by have := commentText_len2 k hk.1 c hcne; have := hat.len; omega
  have hplt : p < s.size := get_lt (hat.head (commentText_head k hk.1 c hcne))
  -- the cursor is on the line feed of the last comment line: that one, the blank line and `lead'` more
  have hsbb : skipBlankBlock s (Q - 1) = (E, 2 + lead') := by
    have := skipBlankBlock_newlines' s (2 + lead') (Q - 1) (fun j hj => by
      rcases (by omega : j = 0 ∨ j = 1 ∨ 2 ≤ j) with rfl | rfl | h2
      · exact hat.last (commentText_last _ c hcne)
      · rw [show Q - 1 + 1 = Q by omega]; exact h10
      · have := hnl (j - 2) (by omega)
        rwa [show Q + 1 + (j - 2) = Q - 1 + j by omega] at this)
      (by rw [show Q - 1 + (2 + lead') = E by omega]; exact hstart)
    rw [this]; congr 1; omega
  exact ⟨c', hmc, fun h => Runs.entry hplt hge hlc (by rw [hsbb]; exact h)⟩

/-- the `#` comment of a message or term, in `[p, Q)`: it becomes pending, one line break away from what follows -/
theorem runs_attached {s : Src} (hs : AsciiThenBoundary s) (F : Nat) (c : List Bytes) (hc : rtComment c = true)
    {p Q : Nat} (lc : Option (List Span)) (cnt : Nat)
    (hat : AtTo s p (commentText [35] c) Q) (b0 : UInt8) (hb0 : s[Q]? = some b0) (hb0s : isAlpha b0 = true ∨ b0 = 45) :
    ∃ c', c'.map (spanBytes s) = canonComment c ∧ ∀ {N out errs},
      Runs s F N (some c') 1 Q out errs → Runs s F (N + 1) lc cnt p (flushC lc ++ out) errs := by
  have hcne : c ≠ [] := (rtComment_iff.mp hc).1
  have hb35 : b0 ≠ 35 := by
    rcases hb0s with h | h
    · exact (alpha_not_hash_minus b0 h).1
    · subst h; decide
  rw [← hashes1] at hat
  obtain ⟨c', hge, hmc⟩ := getEntry_comment hs F 1 ⟨by omega, by omega⟩ c hc hat ⟨b0, hb0, hb35⟩
  have hQ2 : p + 2 ≤ Q := by have := commentText_len2 1 (by omega) c hcne; have := hat.len; omega
  have hplt : p < s.size := get_lt (hat.head (commentText_head 1 (by omega) c hcne))
  have hsbb : skipBlankBlock s (Q - 1) = (Q, 1) := by
    have := skipBlankBlock_newlines s 1 (Q - 1) (fun j hj => by
      obtain rfl : j = 0 := by omega
      exact hat.last (commentText_last _ c hcne))
      (by rw [show Q - 1 + 1 = Q by omega]; exact Or.inr ⟨b0, hb0, by rcases hb0s with h | h <;> simp [h]⟩)
    rw [this]; congr 1; omega
  simp only [commentCtor, if_true] at hge
  exact ⟨c', hmc, fun h => Runs.step hplt hge (by rw [hsbb]; exact h)⟩

end FluentProofs.Ser

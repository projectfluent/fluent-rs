import FluentProofs.ParserLinesSim
/-!
# C05, second sentence: with well-formed comment lines the two parsers agree on Junk and on all errors

`CommentsWellFormed s`: every line whose first byte is `#` matches `#{1,3}( .*)?` (decidable).

Simulation relation (the induction is `runLoop_sim`): both loop cursors are line starts (or EOF) that are not blank
lines (`Start`), and no line start that begins neither a `#` line nor a blank line (`Hard`) lies between them, whichever is
ahead (`Zone2`, which is `Sync (Hard s)`; that a single step passes none is `NoHard`).  A parser at a `#` line steps
alone (`get_comment` cannot fail on a well-formed line; `skip_comment` never fails) without recording Junk
and without passing a line that is neither a comment nor blank; when neither cursor is at a `#` line they
coincide and both dispatchers run the same `get_term`/`get_message` with the same Junk and error.
-/
namespace FluentProofs.Parser
open FluentModel.Syntax

def CommentsWellFormed (s : Src) : Prop :=
  ∀ x, x < s.size → (x = 0 ∨ s[x - 1]? = some 10) → s[x]? = some 35 → hashLineOk s x = true

instance (s : Src) : Decidable (CommentsWellFormed s) := by
  unfold CommentsWellFormed; exact inferInstance

/-- only spaces up to an end of line or up to the end of input -/
def BlankLine (s : Src) (x : Nat) : Prop :=
  (∃ q, skipEol s (skipBlankInline s x) = some q) ∨ s.size ≤ skipBlankInline s x

/-- a line start (inside the input) that begins neither a `#` line nor a blank line -/
def Hard (s : Src) (x : Nat) : Prop := x < s.size ∧ LS s x ∧ s[x]? ≠ some 35 ∧ ¬ BlankLine s x

def NoHard (s : Src) : Nat → Nat → Prop := Between fun x => ¬ Hard s x

theorem skipBlankBlockGo_noHard (s : Src) (n p c : Nat) : NoHard s p (skipBlankBlockGo s n p c).1 := by
  induction n generalizing p c with
  | zero => exact Between.refl _ _
  | succ n ih =>
    simp only [skipBlankBlockGo]
    split
    · rename_i p' h
      have h1 : NoHard s p p' := by
        intro x hx1 hx2 ⟨_, hls, _, hnb⟩
        by_cases hx : x = p
        · subst hx; exact hnb (Or.inl ⟨p', h⟩)
        · rcases hls with h0 | h10
          · omega
          · have hsp := skipBlankInline_spaces s p
            have hle := (skipBlankInline_after s p).le
            by_cases hj : x - 1 < skipBlankInline s p
            · have := hsp (x - 1) (by omega) hj
              rw [this] at h10; cases h10
            · rcases skipEol_cases h with ⟨e1, _⟩ | ⟨e1, e2, _⟩
              · omega
              · have : x - 1 = skipBlankInline s p := by omega
                rw [this, e2] at h10; cases h10
      exact h1.trans (ih p' (c + 1))
    · split
      · exact Between.refl _ _
      · rename_i hge
        intro x hx1 hx2 ⟨_, hls, _, hnb⟩
        by_cases hx : x = p
        · subst hx; exact hnb (Or.inr (by omega))
        · rcases hls with h0 | h10
          · omega
          · have := skipBlankInline_spaces s p (x - 1) (by omega) (by simp only [] at hx2; omega)
            rw [this] at h10; cases h10

theorem skipBlankBlock_noHard (s : Src) (p : Nat) : NoHard s p (skipBlankBlock s p).1 :=
  skipBlankBlockGo_noHard s _ p 0

theorem skipBlankBlockGo_notBlank (s : Src) (n p c : Nat) (hn : s.size - p + 1 ≤ n) :
    (skipBlankBlockGo s n p c).1 < s.size → ¬ BlankLine s (skipBlankBlockGo s n p c).1 := by
  induction n generalizing p c with
  | zero => omega
  | succ n ih =>
    simp only [skipBlankBlockGo]
    cases hE : skipEol s (skipBlankInline s p) with
    | none =>
      simp only []
      split
      · rename_i hlt
        intro _ hb
        simp only [] at hb
        rcases hb with ⟨q, hq⟩ | hge
        · rw [hE] at hq; cases hq
        · omega
      · intro h; simp only [] at h; omega
    | some p' =>
      simp only []
      have ⟨h1, h2, _⟩ := skipEol_some hE
      have := get_lt h2
      have := (skipBlankInline_after s p).le
      exact ih p' (c + 1) (by omega)

theorem skipBlankBlock_notBlank (s : Src) (p : Nat) :
    (skipBlankBlock s p).1 < s.size → ¬ BlankLine s (skipBlankBlock s p).1 :=
  skipBlankBlockGo_notBlank s _ p 0 (Nat.le_refl _)

theorem HashLines.noHard {s : Src} {a b : Nat} (h : HashLines s a b) : NoHard s a b :=
  fun x h1 h2 ⟨_, hls, h35, _⟩ => h35 (h x h1 h2 hls)

theorem getEntry_hash {s : Src} {fuel p : Nat} (h35 : s[p]? = some 35) (hok : hashLineOk s p = true) :
    (∀ e q, getEntry s fuel p ≠ .err e q) ∧ (∀ e q, getEntry s fuel p = .ok e q → NoHard s p q) := by
  have hc := getComment_lines h35
  rw [getEntry_unfold, if_pos h35]
  cases hr : getComment s p with
  | ok r q =>
    rw [hr] at hc
    rw [R.bind_ok]
    rcases entryOfComment_cases r q with ⟨e, he, _⟩ | ⟨_, m, hm⟩
    · rw [he]
      exact ⟨fun e q' h => (by cases h), fun e q' h => (by cases h; exact hc.2.2.noHard)⟩
    · rw [hm]
      exact ⟨fun e q h => (by cases h), fun e q h => (by cases h)⟩
  | err e q =>
    rw [hr] at hc
    have := hc.2.2.1
    rw [hok] at this
    cases this
  | panic m => exact ⟨fun e q h => (by cases h), fun e q h => (by cases h)⟩
  | fuel => exact ⟨fun e q h => (by cases h), fun e q h => (by cases h)⟩

theorem getEntryRuntime_hash {s : Src} {fuel p : Nat} (h35 : s[p]? = some 35) :
    getEntryRuntime s fuel p = .ok none (skipComment s p) ∧ NoHard s p (skipComment s p) := by
  refine ⟨?_, (skipComment_lines h35).2.2.noHard⟩
  rw [getEntryRuntime_unfold, if_pos h35]

/-- an iteration start: a line start that is not a blank line, or EOF -/
def Start (s : Src) (p : Nat) : Prop := LSE s p ∧ (p < s.size → ¬ BlankLine s p)

theorem start_of_next {s : Src} {q : Nat} (h : NextOk s q) : Start s (skipBlankBlock s q).1 :=
  ⟨skipBlankBlock_LSE h, skipBlankBlock_notBlank s q⟩

def Zone2 (s : Src) : Nat → Nat → Prop := Sync (Hard s)

theorem Start.hard {s : Src} {a : Nat} (hs : Start s a) (ha : a < s.size) (h35 : s[a]? ≠ some 35) : Hard s a :=
  ⟨ha, hs.1.ls ha, h35, hs.2 ha⟩

theorem sim_junk (s : Src) (hwf : CommentsWellFormed s) (fuel n m : Nat) (bf : List (Entry Span)) (ef : List PErr)
    (lc : Option (List Span)) (lbc pf : Nat) (br : List (Entry Span)) (er : List PErr) (pr : Nat)
    (rf rr : List (Entry Span) × List PErr) (hsf : Start s pf) (hsr : Start s pr) (hz : Zone2 s pf pr)
    (hb : junkSpans bf = junkSpans br) (he : ef = er)
    (hf : parseLoop s fuel n bf ef lc lbc pf = .done rf) (hr : parseRuntimeLoop s fuel m br er pr = .done rr) :
    junkSpans rf.1 = junkSpans rr.1 ∧ rf.2 = rr.2 := by
  rw [parseLoop_eq_run] at hf
  rw [parseRuntimeLoop_eq_run] at hr
  refine runLoop_sim
    (fun bf ef _ _ pf br er _ _ pr => Start s pf ∧ Start s pr ∧ Zone2 s pf pr ∧ junkSpans bf = junkSpans br ∧ ef = er)
    (Q := fun rf rr => junkSpans rf.1 = junkSpans rr.1 ∧ rf.2 = rr.2) ?_ _ n m (Nat.le_refl _) _ _ _ _ _ _ _ _ _ _ rf rr
    ⟨hsf, hsr, hz, hb, he⟩ hf hr
  clear hf hr he hb hz hsr hsf
  intro bf ef lc lbc pf br er lcr cr pr ⟨hsf, hsr, hz, hb, he⟩
  by_cases hA : pf < s.size ∧ s[pf]? = some 35
  · -- the full parser is at a comment line: it steps alone
    obtain ⟨hlt, h35⟩ := hA
    refine Or.inl ⟨hlt, fun ab ae lc' c' p' hs => ?_⟩
    have hel := getEntry_lines s fuel pf
    have hh := getEntry_hash (fuel := fuel) h35 (hwf pf hlt (hsf.1.ls hlt) h35)
    rcases loopStep_next hs with ⟨ent, q, hre, rfl, rfl, _, _, rfl⟩ | ⟨e, q, _, _, hre, _⟩
    · rw [hre] at hel
      refine ⟨start_of_next hel.2.1, hsr, ?_, ?_, by rw [List.append_nil]; exact he⟩
      · exact hz.step_left (by have := skipBlankBlock_le s q; have := hel.1; omega)
          ((hh.2 ent q hre).trans (skipBlankBlock_noHard s q))
      · rw [junkSpans_append, junkSpans_recorded, junkSpans_single_nonjunk _ (getEntry_not_junk s fuel pf ent q hre),
          List.append_nil]
        exact hb
    · exact absurd hre (hh.1 e q)
  by_cases hB : pr < s.size ∧ s[pr]? = some 35
  · -- the runtime parser is at a comment line: it steps alone
    obtain ⟨hlt, h35⟩ := hB
    refine Or.inr (Or.inl ⟨hlt, fun ab ae lc' c' p' hs => ?_⟩)
    have hel := getEntryRuntime_lines s fuel pr
    have hh := getEntryRuntime_hash (fuel := fuel) h35
    rw [hh.1] at hel
    rcases loopStepRt_next hs with ⟨o, q, hre, rfl, rfl, rfl⟩ | ⟨e, q, _, _, hre, _⟩ <;> rw [hh.1] at hre <;> cases hre
    refine ⟨hsf, start_of_next hel.2.1, ?_, ?_, by rw [List.append_nil]; exact he⟩
    · exact hz.step_right (by have := skipBlankBlock_le s (skipComment s pr); have := hel.1; omega)
        (hh.2.trans (skipBlankBlock_noHard s _))
    · rw [Option.toList, List.append_nil]; exact hb
  -- neither cursor is at a comment line: inside the input both are `Hard`, hence the same
  have hA' : pf < s.size → Hard s pf := fun h => hsf.hard h fun h' => hA ⟨h, h'⟩
  have hB' : pr < s.size → Hard s pr := fun h => hsr.hard h fun h' => hB ⟨h, h'⟩
  have hiff : pf < s.size ↔ pr < s.size := hz.lt_iff hA' hB'
  refine Or.inr (Or.inr ⟨hiff, fun _ => ⟨?_, he⟩, fun ab ae lc' c' p' ab₂ ae₂ lc₂' c₂' p₂' hlt hs hs₂ => ?_⟩)
  · show junkSpans (bf ++ flushC lc) = junkSpans (br ++ flushC lcr)
    rw [junkSpans_append, junkSpans_append, junkSpans_flushC, junkSpans_flushC, List.append_nil, List.append_nil]
    exact hb
  · obtain rfl : pf = pr := hz.eq (hA' hlt) (hB' (hiff.mp hlt))
    have hd := getEntryRuntime_eq_of_not_hash s fuel pf (hA' hlt).2.2.1
    have hel := getEntry_lines s fuel pf
    rcases loopStep_next hs with ⟨ent, q, hre, rfl, rfl, _, _, rfl⟩ | ⟨e, q, q1, content, hre, hq1, hsl, rfl, rfl, _, _, rfl⟩ <;>
      rw [hre] at hd hel <;>
      rcases loopStepRt_next hs₂ with ⟨o, q', hre', rfl, rfl, rfl⟩ | ⟨e', q', q1', content', hre', hq1', hsl', rfl, rfl, rfl⟩ <;>
      rw [hd] at hre' <;> cases hre'
    · refine ⟨start_of_next hel.2.1, start_of_next hel.2.1, Sync.refl _ _, ?_, by rw [he]⟩
      rw [junkSpans_append, junkSpans_append, junkSpans_recorded, hb]; rfl
    · rw [hq1] at hq1'; cases hq1'
      rw [hsl] at hsl'; cases hsl'
      have hl := start_of_next (skipToNextEntryStart_LSE hq1).next
      refine ⟨hl, hl, Sync.refl _ _, ?_, by rw [he]⟩
      rw [junkSpans_append, junkSpans_append, junkSpans_append, junkSpans_flushC, List.nil_append, hb]

theorem start_start (s : Src) : Start s (skipBlankBlock s 0).1 := start_of_next (Or.inl (LS_zero s))

/-- **C05, second sentence**: when every `#` line is a well-formed comment line, the Junk entries and the
complete error lists of the two parsers coincide -/
theorem parse_runtime_junk (s : Src) (hwf : CommentsWellFormed s) (b₁ b₂ : List (Entry Span)) (e₁ e₂ : List PErr)
    (h1 : parse s = .done (b₁, e₁)) (h2 : parseRuntime s = .done (b₂, e₂)) :
    junkSpans b₂ = junkSpans b₁ ∧ e₂ = e₁ := by
  have := sim_junk s hwf _ _ _ [] [] none 0 _ [] [] _ (b₁, e₁) (b₂, e₂) (start_start s) (start_start s)
    (Sync.refl _ _) rfl rfl h1 h2
  exact ⟨this.1.symm, this.2.symm⟩

end FluentProofs.Parser

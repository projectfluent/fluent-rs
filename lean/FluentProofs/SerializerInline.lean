import FluentProofs.SerializerTexts
/-!
# Serializer round trip: the writer writes `inlineBytes e` (C04, writer half)

For every `validInline` expression `serInline w e = some (w.writeLiteral (inlineBytes e))` — whatever the state of the
writer — by mutual structural induction; a text that is `tidy` (ends with neither `\n` nor `\r`) joins with whatever is written
next.
-/
namespace FluentProofs.Ser
open FluentModel FluentModel.Syntax FluentModel.Syntax.Ser FluentProofs.Parser

theorem join_tidy (w : Writer) (a b : Bytes) (h : tidy a = true) :
    (w.writeLiteral a).writeLiteral b = w.writeLiteral (a ++ b) := writeLiteral_join w a b (tidy_joinOK h b)

/-- the `, ` in front of every argument but the first, joined to the text written so far -/
theorem writeSep_join (w : Writer) (acc : Bytes) (written : Bool) (ha : tidy acc = true) :
    (if written = true then (w.writeLiteral acc).writeLiteral [44, 32] else w.writeLiteral acc) =
      w.writeLiteral (acc ++ if written then [44, 32] else []) := by
  cases written <;> simp [join_tidy _ _ _ ha]

theorem serInline_str (w : Writer) (v : Bytes) (h : validStrBody v = true) :
    serInline w (.str v) = some (w.writeLiteral (inlineBytes (.str v))) ∧ tidy (inlineBytes (.str v)) = true := by
  have h10 := validStrBody_no_nl v h
  constructor
  · simp only [serInline, lit_quote, inlineBytes]
    rw [join_tidy _ [34] v (by decide)]
    rw [writeLiteral_join _ ([34] ++ v) [34] ⟨by simp, ?_, by simp⟩]
    · simp
    · intro hl
      have := List.mem_of_getLast? hl
      simp at this
      exact h10 this
  · simp only [inlineBytes]
    exact tidy_concat (34 :: v) 34 (by decide) (by decide)

theorem serInline_num (w : Writer) (v : Bytes) (h : validNumber v = true) :
    serInline w (.num v) = some (w.writeLiteral (inlineBytes (.num v))) ∧ tidy (inlineBytes (.num v)) = true := by
  simp only [serInline, inlineBytes, validNumber_tidy h, and_self]

theorem serInline_literal (w : Writer) (v : Inline Bytes) (hl : isLiteral v = true) (hv : validInline v = true) :
    serInline w v = some (w.writeLiteral (inlineBytes v)) ∧ tidy (inlineBytes v) = true := by
  cases v with
  | str v => exact serInline_str w v (by simpa [validInline] using hv)
  | num v => exact serInline_num w v (by simpa [validInline] using hv)
  | _ => simp [isLiteral] at hl

theorem attr_join_some (w : Writer) (acc a : Bytes) (ha : tidy acc = true) (hv : validIdent a = true) :
    ((w.writeLiteral acc).writeLiteral [46]).writeLiteral a = w.writeLiteral (acc ++ 46 :: a) ∧
    tidy (acc ++ 46 :: a) = true := by
  rw [join_tidy _ _ _ ha, join_tidy _ _ _ (tidy_append _ _ (by decide))]
  exact ⟨by simp, tidy_append _ _ (by simpa using tidy_append [46] a (validIdent_tidy hv))⟩

theorem serArgs_cons (w : Writer) (written : Bool) (x : Inline Bytes) (xs : List (Inline Bytes))
    (named : List (Bytes × Inline Bytes)) :
    serArgs w written (x :: xs) named =
      match serInline (if written then w.writeLiteral [44, 32] else w) x with
      | none => none
      | some w2 => serArgs w2 true xs named := by
  simp only [serArgs, serPositional, lit_comma]
  cases serInline (if written = true then w.writeLiteral [44, 32] else w) x <;> rfl

/-- what `serNamed_eq` proves about the named arguments (passed to `serArgs_eq` as a hypothesis, so that the
mutual induction stays structural) -/
def NamedSerOK (w : Writer) (named : List (Bytes × Inline Bytes)) : Prop :=
  ∀ (acc : Bytes) (written : Bool), tidy acc = true →
    (serNamed (w.writeLiteral acc) written named).map (fun w2 => w2.writeLiteral [41]) =
      some (w.writeLiteral (acc ++ (if written && !named.isEmpty then [44, 32] else []) ++ namedTail named))

mutual

theorem serInline_eq_bytes (e : Inline Bytes) (hv : validInline e = true) (w : Writer) :
    serInline w e = some (w.writeLiteral (inlineBytes e)) ∧ tidy (inlineBytes e) = true := by
  cases e with
  | str v => exact serInline_str w v (by simpa [validInline] using hv)
  | num v => exact serInline_num w v (by simpa [validInline] using hv)
  | var id =>
    simp only [validInline] at hv
    simp only [serInline, lit_dollar, inlineBytes]
    rw [join_tidy _ _ _ (by decide)]
    exact ⟨rfl, tidy_append [36] id (validIdent_tidy hv)⟩
  | msg id attr =>
    simp only [validInline, Bool.and_eq_true] at hv
    cases attr with
    | none => simp [serInline, inlineBytes, attrBytes, validIdent_tidy hv.1]
    | some a =>
      have := attr_join_some w id a (validIdent_tidy hv.1) hv.2
      simp only [serInline, inlineBytes, attrBytes, lit_dot]
      exact ⟨by rw [this.1], this.2⟩
  | fn id pos named =>
    simp only [validInline, Bool.and_eq_true] at hv
    obtain ⟨⟨⟨⟨hid, _⟩, hpos⟩, hnamed⟩, _⟩ := hv
    rw [serInline_fn_call, lit_lparen, join_tidy _ _ _ (validIdent_tidy hid)]
    have := serArgs_eq pos hpos w (id ++ [40]) false named (tidy_append _ _ (by decide))
          (fun acc wr ha => serNamed_eq named hnamed w acc wr ha)
    simp only [inlineBytes]
    simpa using this
  | term id attr args =>
    cases args with
    | none =>
      simp only [validInline, Bool.and_eq_true] at hv
      have t1 : tidy ([45] ++ id) = true := tidy_append _ _ (validIdent_tidy hv.1)
      cases attr with
      | none =>
        simp only [serInline, inlineBytes, attrBytes, lit_minus, List.append_nil]
        rw [join_tidy _ [45] id (by decide)]
        exact ⟨rfl, t1⟩
      | some a =>
        have := attr_join_some w ([45] ++ id) a t1 hv.2
        simp only [serInline, inlineBytes, attrBytes, lit_minus, lit_dot]
        rw [join_tidy _ [45] id (by decide)]
        exact ⟨by rw [this.1]; rfl, this.2⟩
    | some pn =>
      obtain ⟨pos, named⟩ := pn
      simp only [validInline, Bool.and_eq_true] at hv
      obtain ⟨⟨⟨⟨hid, hattr⟩, hpos⟩, hnamed⟩, _⟩ := hv
      have t1 : tidy ([45] ++ id) = true := tidy_append _ _ (validIdent_tidy hid)
      rw [serInline_term_call]
      cases attr with
      | none =>
        simp only [refHead, lit_minus, lit_lparen, inlineBytes, attrBytes, List.append_nil]
        rw [join_tidy _ [45] id (by decide), join_tidy _ _ _ t1]
        have := serArgs_eq pos hpos w ([45] ++ id ++ [40]) false named (tidy_append _ _ (by decide))
          (fun acc wr ha => serNamed_eq named hnamed w acc wr ha)
        simpa using this
      | some a =>
        have hj := attr_join_some w ([45] ++ id) a t1 hattr
        simp only [refHead, lit_minus, lit_dot, lit_lparen, inlineBytes, attrBytes]
        rw [join_tidy _ [45] id (by decide), hj.1, join_tidy _ _ _ hj.2]
        have := serArgs_eq pos hpos w ([45] ++ id ++ 46 :: a ++ [40]) false named (tidy_append _ _ (by decide))
          (fun acc wr ha => serNamed_eq named hnamed w acc wr ha)
        simpa using this
  | placeable e =>
    cases e with
    | select sel vs => simp [validInline, validInner] at hv
    | inline i =>
      have hi : validInline i = true := validInner_inline (by simpa [validInline] using hv)
      obtain ⟨e1, t1⟩ := serInline_eq_bytes i hi (w.writeLiteral [123])
      simp only [serInline, serExpr, lit_lbrace, lit_rbrace, inlineBytes, innerBytes, e1, Option.map_some]
      rw [join_tidy _ [123] _ (by decide)]
      have t2 : tidy (123 :: inlineBytes i) = true := tidy_append [123] _ t1
      exact ⟨by simp [join_tidy _ _ [125] t2], tidy_concat (123 :: inlineBytes i) 125 (by decide) (by decide)⟩

theorem serArgs_eq (xs : List (Inline Bytes)) (hv : validInl xs = true) (w : Writer) (acc : Bytes) (written : Bool)
    (named : List (Bytes × Inline Bytes)) (ha : tidy acc = true) (hn : NamedSerOK w named) :
    serArgs (w.writeLiteral acc) written xs named =
        some (w.writeLiteral (acc ++ (if written && !(xs.isEmpty && named.isEmpty) then [44, 32] else []) ++
          posTail xs named.isEmpty (namedTail named))) ∧
      tidy (acc ++ (if written && !(xs.isEmpty && named.isEmpty) then [44, 32] else []) ++
          posTail xs named.isEmpty (namedTail named)) = true := by
  cases xs with
  | nil =>
    have := hn acc written ha
    simp only [serArgs, serPositional, posTail, List.isEmpty_nil, Bool.true_and]
    exact ⟨this, tidy_append _ _ (namedTail_tidy named)⟩
  | cons x xs =>
    simp only [validInl, Bool.and_eq_true] at hv
    have e1 := writeSep_join w acc written ha
    have t1 := tidy_app3 acc written ha
    obtain ⟨e2, t2⟩ := serInline_eq_bytes x hv.1 (w.writeLiteral (acc ++ if written then [44, 32] else []))
    rw [serArgs_cons, e1, e2]
    simp only []
    rw [join_tidy _ _ _ t1]
    obtain ⟨e3, t3⟩ := serArgs_eq xs hv.2 w ((acc ++ if written then [44, 32] else []) ++ inlineBytes x) true named
      (tidy_append _ _ t2) hn
    rw [e3]
    have e4 : (acc ++ if written then [44, 32] else []) ++ inlineBytes x ++
        (if (true && !(xs.isEmpty && named.isEmpty)) = true then [44, 32] else []) ++
        posTail xs named.isEmpty (namedTail named) =
        acc ++ (if (written && !((x :: xs).isEmpty && named.isEmpty)) = true then [44, 32] else []) ++
        posTail (x :: xs) named.isEmpty (namedTail named) := by
      rw [posTail]
      cases written <;> cases xs <;> cases named <;> simp
    rw [e4] at e3 t3
    exact ⟨by rw [← e4], t3⟩

theorem serNamed_eq (named : List (Bytes × Inline Bytes)) (hv : validNamed named = true) (w : Writer) (acc : Bytes)
    (written : Bool) (ha : tidy acc = true) :
    (serNamed (w.writeLiteral acc) written named).map (fun w2 => w2.writeLiteral [41]) =
      some (w.writeLiteral (acc ++ (if written && !named.isEmpty then [44, 32] else []) ++ namedTail named)) := by
  cases named with
  | nil => simp [serNamed, namedTail, join_tidy _ _ _ ha]
  | cons x xs =>
    obtain ⟨n, v⟩ := x
    simp only [validNamed, Bool.and_eq_true] at hv
    obtain ⟨⟨⟨hn, _⟩, hvv⟩, hxs⟩ := hv
    rw [serNamed]
    simp only [lit_comma, lit_colon]
    have e1 := writeSep_join w acc written ha
    have t1 := tidy_app3 acc written ha
    rw [e1, join_tidy _ _ _ t1, join_tidy _ _ _ (tidy_append _ _ (validIdent_tidy hn))]
    have t2 : tidy ((acc ++ if written then [44, 32] else []) ++ n ++ [58, 32]) = true :=
      tidy_append _ _ (by decide)
    obtain ⟨e3, t3⟩ := serInline_eq_bytes v hvv (w.writeLiteral ((acc ++ if written then [44, 32] else []) ++ n ++ [58, 32]))
    rw [e3]
    simp only []
    rw [join_tidy _ _ _ t2, serNamed_eq xs hxs _ _ true (tidy_append _ _ t3)]
    simp [namedTail]

end

end FluentProofs.Ser

import FluentModel.Generated
import FluentModel.Parser
import FluentModel.Serializer
/-!
# Constant tie for the parser and serializer models (C01–C05)

`tools/extract_consts.py` regenerates `FluentModel/Generated.lean` from the Rust source on every run.
The models hold the same constants as byte tests.  Each theorem here runs a model function on all 256
byte values and compares the answer with membership in the extracted list, by kernel evaluation.  The
property files of the parser and the serializer import this file, so a change of one of these constants in
the Rust source fails their build (in addition to whatever the correspondence check observes).
-/
namespace FluentProofs.ConstTie
open FluentModel FluentModel.Generated

/-- parser: `is_byte_pattern_continuation` excludes exactly the extracted bytes (all 256 byte values) -/
theorem pattern_break_bytes_from_source :
    (List.range 256).all (fun n =>
      Syntax.isBytePatternContinuation (UInt8.ofNat n) == !(patternBreakBytes.contains n)) = true := by decide +kernel

/-- parser: `skip_to_next_entry_start` stops at a line-initial ASCII letter or one of exactly the extracted
extra bytes (all 256 byte values, evaluated through the model function on a one-byte source) -/
theorem entry_start_bytes_from_source :
    (List.range 256).all (fun n =>
      (Syntax.skipToNextEntryStartGo #[UInt8.ofNat n] 1 0 == 0) ==
        (Syntax.isAlpha (UInt8.ofNat n) || entryStartBytes.contains n)) = true := by decide +kernel

/-- parser/serializer: `matches_fluent_ws` (used by `Slice::trim` and by comment serialisation) -/
theorem fluent_ws_from_source :
    (List.range 256).all (fun n =>
      Syntax.Ser.isBlankLine [UInt8.ofNat n] == fluentWs.contains n) = true := by decide +kernel

/-- parser: `Slice::trim` removes exactly the `matches_fluent_ws` characters (evaluated through `trimEnd` on
the two-byte source `x b`) -/
theorem trim_from_source :
    (List.range 256).all (fun n =>
      ((Syntax.trimEnd #[120, UInt8.ofNat n] ⟨0, 2⟩).stop == 1) == fluentWs.contains n) = true := by decide +kernel

end FluentProofs.ConstTie

import FluentProofs.SerializerResParse
import FluentProofs.SerializerResource
import FluentProofs.ParserLines
import FluentProofs.ParserLineHead
/-!
# Serializer lemmas: the entry loop on a written resource, Junk kept (C04)

The general form of the resource-level round trip: `SerializerFinal` reads the statements for resources without Junk off
it (one error per Junk; without Junk the option makes no difference).

`resTextJ` is the text the serializer writes for a resource whose entries are of the class `rtEntry` or Junk (the
Junk content verbatim, `wrote_non_junk_entry` reset after it).  `JGood prev es` collects what the round trip needs
to know about the Junk entries of `es`:

* about the bytes of a Junk `c` (decidable): not empty, ends with `\n` unless it is the last entry, its first line is
  not blank (`nonBlankStart`: a lone `\r` counts as a non-blank byte), and — behind a message or term — its first line
  is one on which `get_pattern` stops (`stopperText`).  Sources with lone `\r` are covered: a Junk may start with a
  lone `\r` and may end with one (only as the last entry, at the end of input);
* about the parser (a statement over ALL sources `s`): wherever the text `c ++ (text of the following entries)` stands at
  a line start `P` and runs to the end of `s`, `get_entry` fails at `P` and junk recovery ends exactly behind `c`
  (`JunkAt`), and — behind a message or term — `get_attributes` finds no attribute at `P` (`AttrStopAt`).
  `SerializerJunkTransfer` proves these for the Junk of every parse tree (`jgood_of_srcGood`).

The byte predicates (declared in `SerializerResTexts`) speak of the head of the Junk's first line; `firstNonSpace_iff` ties it to the `LineHead` of the line
where the text stands, in whatever source.
-/
namespace FluentProofs.Ser
open FluentModel FluentModel.Syntax FluentModel.Syntax.Ser FluentProofs.Parser

theorem firstNonSpace_iff {c : Bytes} {s : Src} {P k : Nat} {b : UInt8} (hat : At s P c) :
    firstNonSpace c = some (k, b) ↔ k < c.length ∧ LineHead s P k (some b) := by
  induction c generalizing k P with
  | nil => simp [firstNonSpace]
  | cons x xs ih =>
    rw [at_cons] at hat
    simp only [firstNonSpace]
    by_cases hx : x = 32
    · -- a space: the head is that of the rest, one further
      subst hx
      simp only [beq_self_eq_true, if_true, Option.map_eq_some_iff, Prod.mk.injEq, Prod.exists]
      constructor
      · rintro ⟨k', b', hf, rfl, rfl⟩
        obtain ⟨h1, H⟩ := (ih hat.2).mp hf
        refine ⟨by simp; omega, .of_run (fun j hj => ?_) (by rw [← H.byte]; congr 1; omega) H.ne32⟩
        cases j with
        | zero => exact hat.1
        | succ j => rw [show P + (j + 1) = P + 1 + j by omega]; exact H.space (by omega)
      · rintro ⟨hk, H⟩
        obtain ⟨k', rfl⟩ : ∃ k', k = k' + 1 := by
          cases k with
          | zero => exact absurd (by rw [← H.byte, Nat.add_zero, hat.1]) H.ne32
          | succ k' => exact ⟨k', rfl⟩
        refine ⟨k', b, (ih hat.2).mpr ⟨by simp at hk; omega, .of_run (fun j hj => ?_) (by rw [← H.byte]; congr 1; omega)
          H.ne32⟩, rfl, rfl⟩
        rw [show P + 1 + j = P + (j + 1) by omega]; exact H.space (by omega)
    · have hx' : (x == 32) = false := by simpa using hx
      have H0 : LineHead s P 0 (some x) := .of_run (fun j hj => by omega) hat.1 (by simpa using hx)
      simp only [hx', Bool.false_eq_true, if_false, Option.some.injEq, Prod.mk.injEq]
      constructor
      · rintro ⟨rfl, rfl⟩
        exact ⟨by simp, H0⟩
      · rintro ⟨_, H⟩
        obtain ⟨rfl, h2⟩ := H.unique H0
        exact ⟨rfl, Option.some.inj h2⟩

theorem crOK_at {c : Bytes} {s : Src} {P Q k : Nat} {b : UInt8} (hat : AtTo s P c Q)
    (hend : c.getLast? = some 10 ∨ Q = s.size) (hk : k < c.length) (hb : s[P + k]? = some b)
    (h : crOK c k b = true) : b = 13 → s[P + k + 1]? ≠ some 10 := by
  intro h13
  subst h13
  simp only [crOK, bne_self_eq_false, Bool.false_or, bne_iff_ne, ne_eq] at h
  by_cases hk1 : k + 1 < c.length
  · have hg := at_get hat.txt (k + 1) hk1
    rw [show P + k + 1 = P + (k + 1) by omega, hg]
    rw [List.getElem?_eq_getElem hk1] at h
    exact h
  · have hlen : c.length = k + 1 := by omega
    rcases hend with h10 | hsz
    · exfalso
      rw [List.getLast?_eq_getElem?, hlen, Nat.add_sub_cancel, List.getElem?_eq_getElem hk] at h10
      have hg := at_get hat.txt k hk
      rw [hb] at hg
      injection hg with hg
      injection h10 with h10
      rw [← hg] at h10
      exact absurd h10 (by decide)
    · have : s[P + k + 1]? = none := by have := hat.len; simp; omega
      rw [this]; nofun

theorem blockStop_of_text {c : Bytes} (h : nonBlankStart c = true) {s : Src} {P Q : Nat} (hat : AtTo s P c Q)
    (hend : c.getLast? = some 10 ∨ Q = s.size) : BlockStop s P := by
  unfold nonBlankStart at h
  cases hf : firstNonSpace c with
  | none => rw [hf] at h; cases h
  | some kb =>
    obtain ⟨k, b⟩ := kb
    rw [hf] at h
    simp only [Bool.and_eq_true, bne_iff_ne, ne_eq] at h
    obtain ⟨h4, H⟩ := (firstNonSpace_iff hat.txt).mp hf
    exact blockStop_of_run (fun _ => H.space) H.byte (fun h0 => H.ne32 (by rw [h0])) h.1 (crOK_at hat hend h4 H.byte h.2)

theorem stopper_of_text {c : Bytes} (h : stopperText c = true) {s : Src} {P Q : Nat} (hat : AtTo s P c Q)
    (hend : c.getLast? = some 10 ∨ Q = s.size) : Stopper s P := by
  unfold stopperText at h
  cases hf : firstNonSpace c with
  | none => rw [hf] at h; cases h
  | some kb =>
    obtain ⟨k, b⟩ := kb
    rw [hf] at h
    obtain ⟨h4, H⟩ := (firstNonSpace_iff hat.txt).mp hf
    have h3 : b ≠ 32 := fun h0 => H.ne32 (by rw [h0])
    cases k with
    | zero =>
      simp only [Bool.and_eq_true, bne_iff_ne, ne_eq] at h
      exact Or.inr (Or.inl ⟨b, by simpa using H.byte, h3, h.1.1, crOK_at hat hend h4 H.byte h.1.2, h.2⟩)
    | succ k =>
      simp only [Bool.or_eq_true, beq_iff_eq] at h
      exact Or.inr (Or.inr ⟨k + 1, b, by omega, fun _ => H.space, H.byte, by
        rcases h with ((h | h) | h) | h
        · exact Or.inl h
        · exact Or.inr (Or.inl h)
        · exact Or.inr (Or.inr (Or.inl h))
        · exact Or.inr (Or.inr (Or.inr h))⟩)

/-- `get_entry` fails at `P` and junk recovery ends behind the text `c` -/
def JunkAt (s : Src) (P : Nat) (c : Bytes) : Prop :=
  ∃ e q, getEntry s (exprFuel s) P = .err e q ∧ skipToNextEntryStart s P q = some (P + c.length)

/-- what the round trip needs to know about the Junk entries of a resource (`prev`: the entry in front is a message or
term); the other entries are of the class `rtEntry` -/
def JGood : Bool → List (Entry Bytes) → Prop
  | _, [] => True
  | prev, e :: es =>
    match e with
    | .junk c =>
      c ≠ [] ∧ (c.getLast? = some 10 ∨ es = []) ∧ nonBlankStart c = true ∧
        (prev = true → stopperText c = true) ∧
        (∀ (s : Src) (P : Nat), AsciiThenBoundary s → LS s P → At s P (c ++ resTextJ false es) →
          P + (c ++ resTextJ false es).length = s.size → JunkAt s P c ∧ (prev = true → AttrStopAt s P)) ∧
        JGood false es
    | e => rtEntry e = true ∧ JGood (isMT e) es

theorem JGood.junk {prev : Bool} {c : Bytes} {es : List (Entry Bytes)} (h : JGood prev (.junk c :: es)) :
    c ≠ [] ∧ (c.getLast? = some 10 ∨ es = []) ∧ nonBlankStart c = true ∧
      (prev = true → stopperText c = true) ∧
      (∀ (s : Src) (P : Nat), AsciiThenBoundary s → LS s P → At s P (c ++ resTextJ false es) →
        P + (c ++ resTextJ false es).length = s.size → JunkAt s P c ∧ (prev = true → AttrStopAt s P)) ∧
      JGood false es := h

theorem JGood.cons_iff {prev : Bool} {e : Entry Bytes} {es : List (Entry Bytes)} (he : isJunk e = false) :
    JGood prev (e :: es) ↔ rtEntry e = true ∧ JGood (isMT e) es := by
  cases e <;> first | exact Iff.rfl | cases he

theorem JGood.entry {prev : Bool} {e : Entry Bytes} {es : List (Entry Bytes)} (h : JGood prev (e :: es))
    (he : isJunk e = false) : rtEntry e = true ∧ JGood (isMT e) es := (JGood.cons_iff he).mp h

theorem JGood.of_rt (prev : Bool) (es : List (Entry Bytes)) (h : ∀ e ∈ es, rtEntry e = true) : JGood prev es := by
  induction es generalizing prev with
  | nil => trivial
  | cons e es ih =>
    have he := h e List.mem_cons_self
    have hj : isJunk e = false := by cases e <;> first | rfl | cases he
    exact (JGood.cons_iff hj).mpr ⟨he, ih (isMT e) (fun x hx => h x (List.mem_cons_of_mem _ hx))⟩

theorem junk_hend {c : Bytes} {es : List (Entry Bytes)} {s : Src} {Q : Nat} (h : c.getLast? = some 10 ∨ es = [])
    (hR : AtTo s Q (resTextJ false es) s.size) : c.getLast? = some 10 ∨ Q = s.size := by
  rcases h with h | h
  · exact Or.inl h
  · subst h; exact Or.inr (atTo_nil.mp hR)

theorem serResourceGo_textJ (r : List (Entry Bytes)) : ∀ (prev : Bool), JGood prev r →
    ∀ (w : Writer) (nl b : Bool), WS w 0 nl →
      ∃ w', serResourceGo true w b r = some w' ∧ w'.buffer = w.buffer ++ (resTextJ b r).toArray := by
  induction r with
  | nil => intro _ _ w nl b _; exact ⟨w, rfl, by simp [resTextJ]⟩
  | cons e es ih =>
    intro prev hg w nl b hw
    by_cases hj : isJunk e = true
    · obtain ⟨c, rfl⟩ := eq_junk_of_isJunk hj
      obtain ⟨hne, hlast, _, _, _, hrest⟩ := hg.junk
      rcases hlast with h10 | hnil
      · have h13 : c.getLast? ≠ some 13 := by rw [h10]; decide
        obtain ⟨hb1, hw1⟩ := ws0_writeLiteral hw c hne h13
        obtain ⟨w2, hs2, hb2⟩ := ih false hrest (w.writeLiteral c) (endsNl c) false hw1
        refine ⟨w2, ?_, ?_⟩
        · simp only [serResourceGo, Bool.not_true, Bool.false_eq_true, if_false]; exact hs2
        · rw [hb2, hb1, resTextJ_junk]; apply Array.ext'; simp
      · -- the last entry: the writer state behind it does not matter
        subst hnil
        obtain ⟨hb1, _, _⟩ := wsc_writeLiteral hw.toC c hne
        rw [hw.2.1] at hb1
        refine ⟨w.writeLiteral c, ?_, ?_⟩
        · simp only [serResourceGo, Bool.not_true, Bool.false_eq_true, if_false]
        · rw [hb1, resTextJ_junk]; apply Array.ext'; cases nl <;> simp [spacesL, resTextJ]
    · have hj' : isJunk e = false := by simpa using hj
      obtain ⟨he, hrest⟩ := hg.entry hj'
      obtain ⟨w1, hb1, hw1, hs1⟩ := serEntry_text true e he es w nl b hw
      obtain ⟨w2, hs2, hb2⟩ := ih (isMT e) hrest w1 true true hw1
      exact ⟨w2, by rw [hs1, hs2], by rw [hb2, hb1, resTextJ_entry b e es he]; apply Array.ext'; simp⟩

theorem serialize_textJ (r : List (Entry Bytes)) (hg : JGood false r) : serialize true r = some (resTextJ false r) := by
  obtain ⟨w', hs, hb⟩ := serResourceGo_textJ r false hg {} false false ⟨rfl, rfl, rfl⟩
  simp [serialize, hs, hb]

theorem LS_after {s : Src} {p q : Nat} {bs : Bytes} (h : AtTo s p bs q) (hl : bs.getLast? = some 10) : LS s q :=
  Or.inr (h.last hl)

/-- where the text of `es`, which stands in `[Q, size)`, starts (`wrote_non_junk_entry = b`): empty lines, then a line that is not
blank; behind a message or term also a line at which that entry ends -/
theorem head_resJ {s : Src} (hs : AsciiThenBoundary s) (prev b : Bool) {Q : Nat} (es : List (Entry Bytes))
    (hg : JGood prev es) (hls : es ≠ [] → LS s Q) (hat : AtTo s Q (resTextJ b es) s.size) :
    (∀ j, Q ≤ j → j < Q + leadRes b es → s[j]? = some 10) ∧ (prev = true → EntryStop s (Q + leadRes b es)) ∧
      BlockStop s (Q + leadRes b es) ∧ Q + leadRes b es ≤ s.size := by
  cases es with
  | nil =>
    obtain rfl := atTo_nil.mp hat
    simp only [leadRes, Nat.add_zero]
    have hst : EntryStart s s.size := Or.inl (Nat.le_refl _)
    exact ⟨fun j h1 h2 => by omega, fun _ => hst.entryStop, hst.blockStop, Nat.le_refl _⟩
  | cons e es =>
    by_cases hj : isJunk e = true
    · obtain ⟨c, rfl⟩ := eq_junk_of_isJunk hj
      obtain ⟨hne, hlast, hnb, hstop, hsem, _⟩ := hg.junk
      rw [resTextJ_junk] at hat
      obtain ⟨Q', hatc, hR⟩ := atTo_append.mp hat
      have hend := junk_hend hlast hR
      simp only [leadRes, lead, Nat.add_zero]
      refine ⟨fun j h1 h2 => by omega, fun hp => ?_, blockStop_of_text hnb hatc hend, hat.le⟩
      exact ⟨stopper_of_text (hstop hp) hatc hend, (hsem s Q hs (hls (List.cons_ne_nil _ _)) hat.txt hat.len).2 hp⟩
    · have hj' : isJunk e = false := by simpa using hj
      obtain ⟨he, _⟩ := hg.entry hj'
      rw [resTextJ_entry b e es he] at hat
      obtain ⟨c, rest, htxt, hc⟩ := entryText_start b e he
      -- the line feeds in front of the entry's first byte `c`
      rw [htxt, List.append_assoc] at hat
      obtain ⟨m, hNl, h⟩ := atTo_append.mp hat
      obtain ⟨hc0, h⟩ := atTo_cons.mp h
      obtain ⟨hNl, rfl⟩ := hNl
      rw [List.length_replicate] at hc0 h
      simp only [leadRes]
      have hst : EntryStart s (Q + lead b e) := Or.inr ⟨c, hc0, hc⟩
      refine ⟨fun j h1 h2 => ?_, fun _ => hst.entryStop, hst.blockStop, Nat.le_of_lt (get_lt hc0)⟩
      have := at_get hNl (j - Q) (by simp; omega)
      rw [show Q + (j - Q) = j by omega] at this
      simpa using this

/-- **the entry loop on the text of a resource with Junk**, which stands in `[P, size)`: the entries come back, and there is one
error per Junk -/
theorem runs_textJ {s : Src} (hs : AsciiThenBoundary s) (es : List (Entry Bytes)) :
    ∀ (prev b : Bool) (P n : Nat) (lc : Option (List Span)) (cnt : Nat),
      JGood prev es → AtTo s P (resTextJ b es) s.size → (es ≠ [] → LS s P) →
      (lc = none ∨ 2 ≤ cnt) → s.size - P + 1 ≤ n →
      ∃ t errs, Runs s (exprFuel s) n lc cnt (P + leadRes b es) (flushC lc ++ t) errs ∧
        t.map (Entry.mapS (spanBytes s)) = es.map canonEntry ∧ errs.length = (es.filter isJunk).length := by
  induction es with
  | nil =>
    intro prev b P n lc cnt _ hat _ _ hn
    obtain ⟨m, rfl⟩ : ∃ m, n = m + 1 := ⟨n - 1, by omega⟩
    obtain rfl := atTo_nil.mp hat
    exact ⟨[], [], by rw [List.append_nil]; exact Runs.stop (by simp only [leadRes]; omega), rfl, rfl⟩
  | cons e es ih =>
    intro prev b P n lc cnt hg hat hls hlc hn
    by_cases hj : isJunk e = true
    · -- a Junk entry, in `[P, Q)`
      obtain ⟨c, rfl⟩ := eq_junk_of_isJunk hj
      obtain ⟨hne, hlast, _, _, hsem, hrest⟩ := hg.junk
      rw [resTextJ_junk] at hat
      obtain ⟨⟨e0, q, hge, hsk⟩, _⟩ := hsem s P hs (hls (by simp)) hat.txt hat.len
      obtain ⟨Q, hatc, hatR⟩ := atTo_append.mp hat
      have hPQ : P < Q := by have := hatc.len; have := List.length_pos_iff.mpr hne; omega
      have hQ := hatR.le
      rw [hatc.len] at hsk
      obtain ⟨m, rfl⟩ : ∃ m, n = m + 1 := ⟨n - 1, by omega⟩
      -- the Junk slice
      have hbnd2 : Bnd s Q := by
        rcases junk_hend hlast hatR with h10 | rfl
        · exact bnd_of_LS hs (LS_after hatc h10)
        · exact bnd_size s
      have hsl : slice s P Q = some ⟨P, Q⟩ := slice_ok (Nat.le_of_lt hPQ) (bnd_of_LS hs (hls (by simp))) hbnd2
      have hls' : es ≠ [] → LS s Q := fun hne' => hlast.elim (LS_after hatc) (fun hnil => absurd hnil hne')
      -- no blank lines behind the Junk
      have hblock := (head_resJ hs false false es hrest hls' hatR).2.2.1
      rw [leadRes_false, Nat.add_zero] at hblock
      obtain ⟨t, errs, hrun, hmt, hel⟩ := ih false false Q m none 0 hrest hatR hls' (Or.inl rfl) (by omega)
      rw [leadRes_false, Nat.add_zero] at hrun
      rw [show leadRes b (Entry.junk c :: es) = 0 from rfl, Nat.add_zero]
      refine ⟨.junk ⟨P, Q⟩ :: t, _ :: errs,
        Runs.junk (by omega) hge hsk hsl (by rw [hblock.sbb]; exact hrun), ?_, ?_⟩
      · simp [Entry.mapS, canonEntry, hmt, hatc.span]
      · simp [List.filter, isJunk, hel]
    · -- an entry of the class, in `[P, Q)`
      have hj' : isJunk e = false := by simpa using hj
      obtain ⟨he, hrest⟩ := hg.entry hj'
      rw [resTextJ_entry b e es he] at hat
      obtain ⟨Q, hatE, hatR⟩ := atTo_append.mp hat
      have hlsQ : LS s Q := LS_after hatE (entryText_last b e he)
      obtain ⟨hnl, hstop, hblock, _⟩ := head_resJ hs (isMT e) true es hrest (fun _ => hlsQ) hatR
      obtain ⟨e', lc', cnt', k, hme, hlc', hk1, hk, step⟩ := runs_entry hs (exprFuel s) (by simp [exprFuel]) e he b lc cnt
        hatE (Nat.le_add_right _ _) hnl hstop hblock hlc
      have hQ := hatR.le
      obtain ⟨m, rfl⟩ : ∃ m, n = m + k := ⟨n - k, by omega⟩
      obtain ⟨t, errs, hrun, hmt, hel⟩ := ih (isMT e) true Q m lc' cnt' hrest hatR (fun _ => hlsQ) hlc' (by omega)
      exact ⟨e' :: t, errs, step hrun, by simp [hme, hmt], by simpa [hj'] using hel⟩

theorem JGood.canon {prev : Bool} {es : List (Entry Bytes)} (h : JGood prev es) : JGood prev (es.map canonEntry) := by
  induction es generalizing prev with
  | nil => trivial
  | cons e es ih =>
    by_cases hj : isJunk e = true
    · obtain ⟨c, rfl⟩ := eq_junk_of_isJunk hj
      obtain ⟨h1, h3, h4, h5, h6, h7⟩ := h.junk
      refine ⟨h1, ?_, h4, h5, ?_, ih h7⟩
      · rcases h3 with h3 | h3
        · exact Or.inl h3
        · exact Or.inr (by rw [h3]; rfl)
      · intro s P hs hls hat hsz
        rw [resTextJ_canon] at hat hsz
        exact h6 s P hs hls hat hsz
    · have hj' : isJunk e = false := by simpa using hj
      obtain ⟨he, hrest⟩ := h.entry hj'
      have := ih hrest
      rw [← isMT_canon] at this
      exact (JGood.cons_iff (by rw [isJunk_canon]; exact hj')).mpr ⟨rtEntry_canon e he, this⟩

/-- **round trip for resources with Junk, on trees**: a `JGood` resource is serialised (with Junk) to `resTextJ`; if
that text has the `&str` invariant, `parse` returns a tree that resolves to the resource (whitespace-only comment
lines emptied), and serialising that tree gives the same text -/
theorem roundtrip_junk_tree (r : Resource Bytes) (hg : JGood false r) :
    ∃ out, serialize true r = some out ∧
      (AsciiThenBoundary out.toArray →
        ∃ t' errs', parse out.toArray = .done (t', errs') ∧ resolve out.toArray t' = r.map canonEntry ∧
          serialize true (resolve out.toArray t') = some out ∧ errs'.length = (r.filter isJunk).length) := by
  refine ⟨resTextJ false r, serialize_textJ r hg, fun hs => ?_⟩
  have hat : AtTo (resTextJ false r).toArray 0 (resTextJ false r) (resTextJ false r).toArray.size :=
    ⟨at_self _, by simp⟩
  have hsbb := (head_resJ hs false false r hg (fun _ => LS_zero _) hat).2.2.1.sbb
  rw [leadRes_false] at hsbb
  obtain ⟨t', errs', hrun, hmap, hcount⟩ := runs_textJ hs r false false 0 ((resTextJ false r).toArray.size + 1) none 0
    hg hat (fun _ => LS_zero _) (Or.inl rfl) (by omega)
  rw [leadRes_false] at hrun
  refine ⟨t', errs', ?_, hmap, ?_, hcount⟩
  · unfold parse
    simp only [hsbb]
    exact hrun [] []
  · have : resolve (resTextJ false r).toArray t' = r.map canonEntry := hmap
    rw [this, serialize_textJ _ hg.canon, resTextJ_canon]

end FluentProofs.Ser

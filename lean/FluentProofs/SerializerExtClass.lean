import FluentProofs.SerializerExtArgs
/-!
# Serializer round trip: every member of the class round-trips at every level (C04)

`rtInline` / `rtExpr` / `rtPattern` (defined in `SerializerTextsPattern`): inline expressions, expressions inside braces and
patterns, with select expressions allowed wherever the parser accepts them — as a pattern element, inside nested placeables
(`{{ $x -> … }}`, `{ { { $x -> … } } }`), inside call arguments (`{ F({ $x -> … }, k: G({ … })) }`) and inside
selectors (`{ F({ $x -> … }) -> … }`).  Every member round-trips at every indent level, by mutual structural induction.
-/
namespace FluentProofs.Ser
open FluentModel FluentModel.Syntax FluentModel.Syntax.Ser FluentProofs.Parser

theorem olFree_of_named (L : Nat) (v : Inline Bytes) (hnv : isNamedValue v = true) (hv : rtInline v = true) :
    OLFree L v := by
  apply olFree_of_head
  cases v with
  | str b => exact Or.inl ⟨b ++ [34], by simp [inlineText]⟩
  | num b =>
    simp only [rtInline] at hv
    rcases validNumber_head hv with ⟨d, rest, rfl, hd⟩ | ⟨d, rest, rfl, hd⟩
    · exact Or.inr (Or.inl ⟨d, rest, by simp [inlineText], hd⟩)
    · exact Or.inr (Or.inr (Or.inl ⟨d, rest, by simp [inlineText], hd⟩))
  | msg id attr =>
    simp only [rtInline, Bool.and_eq_true] at hv
    obtain ⟨c, rest, hidc, hc, _⟩ := validIdent_head hv.1
    exact Or.inr (Or.inr (Or.inr ⟨c, rest ++ attrBytes attr, by simp [inlineText, hidc], hc⟩))
  | fn id pos nm =>
    simp only [rtInline, Bool.and_eq_true] at hv
    obtain ⟨c, rest, hidc, hc, _⟩ := validIdent_head hv.1.1.1.1
    exact Or.inr (Or.inr (Or.inr ⟨c, _, by simp only [inlineText, hidc, List.cons_append]; rfl, hc⟩))
  | var id => simp [isNamedValue] at hnv
  | term a b c => simp [isNamedValue] at hnv
  | placeable e => simp [isNamedValue] at hnv

mutual
theorem rtInline_inlRT (i : Inline Bytes) (h : rtInline i = true) (L : Nat) : InlRT L i := by
  cases i with
  | str v => exact inlRT_of_valid L _ (by simpa [rtInline, validInline] using h)
  | num v => exact inlRT_of_valid L _ (by simpa [rtInline, validInline] using h)
  | var v => exact inlRT_of_valid L _ (by simpa [rtInline, validInline] using h)
  | msg a b => exact inlRT_of_valid L _ (by simpa [rtInline, validInline] using h)
  | term id attr args =>
    cases args with
    | none => exact inlRT_of_valid L _ (by simpa [rtInline, validInline] using h)
    | some pn =>
      obtain ⟨pos, named⟩ := pn
      simp only [rtInline, Bool.and_eq_true] at h
      obtain ⟨⟨⟨⟨hid, hattr⟩, hpos⟩, hnamed⟩, hnd⟩ := h
      exact inlRT_term_args L id attr pos named hid hattr (rtInl_ok pos hpos L) (rtNamed_ok named hnamed L)
        (by simpa [namesNodup] using hnd)
  | fn id pos named =>
    simp only [rtInline, Bool.and_eq_true] at h
    obtain ⟨⟨⟨⟨hid, hcallee⟩, hpos⟩, hnamed⟩, hnd⟩ := h
    exact inlRT_fn L id pos named hid hcallee (rtInl_ok pos hpos L) (rtNamed_ok named hnamed L)
      (by simpa [namesNodup] using hnd)
  | placeable e =>
    simp only [rtInline] at h
    exact inlRT_placeable L e (rtExpr_exprRT e h L)
theorem rtInl_ok (xs : List (Inline Bytes)) (h : rtInl xs = true) (L : Nat) : ∀ x ∈ xs, InlRT L x := by
  cases xs with
  | nil => intro x hx; simp at hx
  | cons x0 xs =>
    simp only [rtInl, Bool.and_eq_true] at h
    intro x hx
    simp only [List.mem_cons] at hx
    rcases hx with hx | hx
    · rw [hx]; exact rtInline_inlRT x0 h.1 L
    · exact rtInl_ok xs h.2 L x hx
theorem rtNamed_ok (named : List (Bytes × Inline Bytes)) (h : rtNamed named = true) (L : Nat) : NamedOK L named := by
  cases named with
  | nil => intro x hx; simp at hx
  | cons x0 xs =>
    obtain ⟨n, v⟩ := x0
    simp only [rtNamed, Bool.and_eq_true] at h
    intro x hx
    simp only [List.mem_cons] at hx
    rcases hx with hx | hx
    · rw [hx]; exact ⟨h.1.1.1, rtInline_inlRT v h.1.2 L, olFree_of_named L v h.1.1.2 h.1.2⟩
    · exact rtNamed_ok xs h.2 L x hx
theorem rtExpr_exprRT (e : Expr Bytes) (h : rtExpr e = true) (L : Nat) : ExprRT L e := by
  cases e with
  | inline i =>
    obtain ⟨hi, hnt⟩ := rtExpr_inline h
    exact exprRT_inline L i (rtInline_inlRT i hi L) hnt
  | select sel vs =>
    simp only [rtExpr, Bool.and_eq_true, decide_eq_true_eq] at h
    exact exprRT_select L sel vs (rtInline_inlRT sel h.1.1.1 L) h.1.1.2 (rtVariants_ok vs h.1.2 L) h.2
theorem rtExpr_plRT (x : Expr Bytes) (h : rtExpr x = true) (L : Nat) : PlRT L x := by
  cases x with
  | inline i =>
    obtain ⟨hi, hnt⟩ := rtExpr_inline h
    cases i with
    | placeable e =>
      simp only [rtInline] at hi
      exact plRT_double L e (rtExpr_exprRT e hi L)
    | str v => exact plRT_of_inlRT L _ (rtInline_inlRT _ hi L) (by intro e he; cases he) hnt
    | num v => exact plRT_of_inlRT L _ (rtInline_inlRT _ hi L) (by intro e he; cases he) hnt
    | var v => exact plRT_of_inlRT L _ (rtInline_inlRT _ hi L) (by intro e he; cases he) hnt
    | msg a b => exact plRT_of_inlRT L _ (rtInline_inlRT _ hi L) (by intro e he; cases he) hnt
    | term a b c => exact plRT_of_inlRT L _ (rtInline_inlRT _ hi L) (by intro e he; cases he) hnt
    | fn a b c => exact plRT_of_inlRT L _ (rtInline_inlRT _ hi L) (by intro e he; cases he) hnt
  | select sel vs =>
    simp only [rtExpr, Bool.and_eq_true, decide_eq_true_eq] at h
    exact plRT_of_select L sel vs
      (exprRT_select L sel vs (rtInline_inlRT sel h.1.1.1 L) h.1.1.2 (rtVariants_ok vs h.1.2 L) h.2)
theorem rtVariants_ok (vs : List (Variant Bytes)) (h : rtVariants vs = true) (L : Nat) :
    ∀ v ∈ vs, validKey (variantKey' v) = true ∧ PatRT (L + 1) (variantValue v) := by
  cases vs with
  | nil => intro v hv; simp at hv
  | cons v0 vs =>
    simp only [rtVariants, Bool.and_eq_true] at h
    intro v hv
    simp only [List.mem_cons] at hv
    rcases hv with hv | hv
    · rw [hv]; exact rtVariant_ok v0 h.1 L
    · exact rtVariants_ok vs h.2 L v hv
theorem rtVariant_ok (v : Variant Bytes) (h : rtVariant v = true) (L : Nat) :
    validKey (variantKey' v) = true ∧ PatRT (L + 1) (variantValue v) := by
  cases v with
  | mk key value d =>
    simp only [rtVariant, Bool.and_eq_true] at h
    exact ⟨h.1.1, patRT_of_ml (L + 1) value h.1.2 (fun x hx => rtElems_ok value h.2 _ x hx)⟩
theorem rtElems_ok (es : List (PatElem Bytes)) (h : rtElems es = true) (L : Nat) :
    ∀ x, PatElem.placeable x ∈ es → PlRT L x := by
  cases es with
  | nil => intro x hx; simp at hx
  | cons e es =>
    intro x hx
    cases e with
    | text v =>
      simp only [rtElems] at h
      simp only [List.mem_cons, reduceCtorEq, false_or] at hx
      exact rtElems_ok es h L x hx
    | placeable y =>
      simp only [rtElems, Bool.and_eq_true] at h
      simp only [List.mem_cons, PatElem.placeable.injEq] at hx
      rcases hx with hx | hx
      · rw [hx]; exact rtExpr_plRT y h.1 L
      · exact rtElems_ok es h.2 L x hx
end

theorem rtPattern_patRT (p : List (PatElem Bytes)) (h : rtPattern p = true) (L : Nat) : PatRT L p := by
  simp only [rtPattern, Bool.and_eq_true] at h
  exact patRT_of_ml L p h.1 (fun x hx => rtElems_ok p h.2 _ x hx)

theorem plRT_select (L : Nat) (sel : Inline Bytes) (vs : List (Variant Bytes)) (hsel : validSelector sel = true)
    (hv : ∀ v ∈ vs, validKey (variantKey' v) = true ∧ PatRT (L + 1) (variantValue v))
    (hdef : (vs.filter isDefault).length = 1) : PlRT L (.select sel vs) :=
  plRT_of_select L sel vs (exprRT_select L sel vs
    (inlRT_of_valid L sel (by simp only [validSelector, Bool.and_eq_true] at hsel; exact hsel.1))
    (selShapeB_of_validSelector hsel) hv hdef)
end FluentProofs.Ser

import FluentProofs.SerializerCongr
import FluentProofs.SerializerResTexts
/-!
# Serializer lemmas: the normaliser and the class, on trees (C04)

No parser and no writer state here.  The class `RoundTrippable`; `norm` does not see `canonEntry`, the Junk that is not
written (`dropJunk`, `written`), nor `normSafe` (`nEntry_all_n` and the lemmas before it, `norm_normSafe`).  The file stands under both the round trip of the
class (`SerializerFinal`) and the way from the parser's output into the class (`SerializerOutShape4`, `SerializerOutCrValid`), so
that neither depends on the other.

`joinTop` joins, at the top level of one pattern, every text that does not end with `\n` with a directly
following text, unless the first ends with `\r` and the second starts with `\n`: exactly what `nPat okSafe` does at the top
level (`nPat_safe_eq_joinTop`), followed by `nElem okSafe` on the elements; and `mlPattern` does not look inside placeables
beyond `isSelectExpr` (`mlPattern_map_nElem`), nor do the other predicates of the class that the normaliser meets.
-/
namespace FluentProofs.Ser
open FluentModel FluentModel.Syntax FluentModel.Syntax.Ser FluentProofs.Parser

/-- **`RoundTrippable`** (decidable): every entry is of the class `rtEntry`; Junk is allowed when
serialising without junk -/
def RoundTrippable (withJunk : Bool) (r : Resource Bytes) : Bool :=
  r.all fun e => rtEntry e || (!withJunk && isJunk e)

theorem canonComment_eq_nComment (c : List Bytes) : canonComment c = nComment c := rfl

theorem nComment_idem (c : List Bytes) : nComment (nComment c) = nComment c := by
  simp only [nComment, List.map_map]
  apply List.map_congr_left
  intro l _
  simp only [Function.comp]
  split <;> simp_all [isBlankLine]

theorem nEntry_canon (ok : Bytes → Bytes → Bool) (e : Entry Bytes) : nEntry ok (canonEntry e) = nEntry ok e := by
  cases e with
  | message m => cases hc : m.comment <;> simp [canonEntry, nEntry, hc, canonComment_eq_nComment, nComment_idem]
  | term t => cases hc : t.comment <;> simp [canonEntry, nEntry, hc, canonComment_eq_nComment, nComment_idem]
  | comment c => simp [canonEntry, nEntry, canonComment_eq_nComment, nComment_idem]
  | groupComment c => simp [canonEntry, nEntry, canonComment_eq_nComment, nComment_idem]
  | resourceComment c => simp [canonEntry, nEntry, canonComment_eq_nComment, nComment_idem]
  | junk c => rfl

theorem norm_canon (withJunk : Bool) (r : Resource Bytes) : norm withJunk (r.map canonEntry) = norm withJunk r := by
  simp only [norm, nRes, List.filter_map, List.map_map]
  have : (fun e => withJunk || !isJunk e) ∘ canonEntry = fun e => withJunk || !isJunk e := by
    funext e; simp [isJunk_canon]
  rw [this]
  apply List.map_congr_left
  intro e _
  simp [nEntry_canon]

def dropJunk (r : Resource Bytes) : Resource Bytes := r.filter fun e => !isJunk e

theorem serResourceGo_dropJunk (r : Resource Bytes) (w : Writer) (b : Bool) :
    serResourceGo false w b (dropJunk r) = serResourceGo false w b r := by
  induction r generalizing w b with
  | nil => rfl
  | cons e es ih =>
    cases e with
    | junk c => simp only [dropJunk, List.filter_cons, isJunk, Bool.not_true, Bool.false_eq_true, if_false, serResourceGo,
        Bool.not_false, if_true]; exact ih w b
    | message m =>
      simp only [dropJunk, List.filter_cons, isJunk, Bool.not_false, if_true, serResourceGo]
      split
      · rfl
      · exact ih _ _
    | term t =>
      simp only [dropJunk, List.filter_cons, isJunk, Bool.not_false, if_true, serResourceGo]
      split
      · rfl
      · exact ih _ _
    | comment c => simp only [dropJunk, List.filter_cons, isJunk, Bool.not_false, if_true, serResourceGo]; exact ih _ _
    | groupComment c => simp only [dropJunk, List.filter_cons, isJunk, Bool.not_false, if_true, serResourceGo]; exact ih _ _
    | resourceComment c =>
      simp only [dropJunk, List.filter_cons, isJunk, Bool.not_false, if_true, serResourceGo]; exact ih _ _

theorem serialize_dropJunk (r : Resource Bytes) : serialize false (dropJunk r) = serialize false r := by
  simp [serialize, serResourceGo_dropJunk]

theorem norm_dropJunk (r : Resource Bytes) : norm false (dropJunk r) = norm false r := by
  simp [norm, nRes, dropJunk, List.filter_filter]

def written (withJunk : Bool) (r : Resource Bytes) : Resource Bytes := if withJunk then r else dropJunk r

theorem written_rt (withJunk : Bool) (r : Resource Bytes) (h : RoundTrippable withJunk r = true) :
    ∀ e ∈ written withJunk r, rtEntry e = true := by
  simp only [RoundTrippable, List.all_eq_true, Bool.or_eq_true, Bool.and_eq_true, Bool.not_eq_true'] at h
  intro e he
  cases withJunk with
  | true =>
    simp only [written, if_true] at he
    rcases h e he with h1 | ⟨h1, _⟩
    · exact h1
    · cases h1
  | false =>
    simp only [written, Bool.false_eq_true, if_false, dropJunk, List.mem_filter, Bool.not_eq_true'] at he
    rcases h e he.1 with h1 | ⟨_, h2⟩
    · exact h1
    · rw [he.2] at h2; cases h2

def joinTop : List (PatElem Bytes) → List (PatElem Bytes)
  | [] => []
  | e :: es => joinHead okSafe e (joinTop es)

theorem joinTop_pl (x : Expr Bytes) (es : List (PatElem Bytes)) :
    joinTop (.placeable x :: es) = .placeable x :: joinTop es := by
  simp [joinTop, joinHead]

theorem okSafe_nl {v : Bytes} (h : endsNl v = true) (w : Bytes) : okSafe v w = false := by
  have : ¬ JoinOK v w := by
    intro h0
    simp only [endsNl, beq_iff_eq] at h
    exact h0.2.1 h
  simp [okSafe, this]

theorem okSafe_pend {v : Bytes} (hv : mlTextOK v = true) (h : endsNl v = false) (h13 : endsCr v = false)
    (w : Bytes) : okSafe v w = true := by
  have : JoinOK v w := by
    refine ⟨mlTextOK_ne hv, by simpa [endsNl] using h, ?_⟩
    intro h0
    simp [endsCr, h0.1] at h13
  simp [okSafe, this]

theorem okSafe_cr {v : Bytes} (h13 : endsCr v = true) : okSafe v [10] = false := by
  have : ¬ JoinOK v [10] := by
    intro h0
    simp only [endsCr, beq_iff_eq] at h13
    exact h0.2.2 ⟨h13, rfl⟩
  simp [okSafe, this]

theorem joinTop_text_nojoin (v : Bytes) (es : List (PatElem Bytes))
    (h : ∀ w R, joinTop es = .text w :: R → okSafe v w = false) :
    joinTop (.text v :: es) = .text v :: joinTop es := by
  simp only [joinTop]
  cases hj : joinTop es with
  | nil => rfl
  | cons x R =>
    cases x with
    | placeable y => rfl
    | text w => simp [joinHead, h w R hj]

theorem joinTop_text_join (v w : Bytes) (es R : List (PatElem Bytes)) (hj : joinTop es = .text w :: R)
    (h : okSafe v w = true) : joinTop (.text v :: es) = .text (v ++ w) :: R := by
  simp [joinTop, hj, joinHead, h]

theorem joinTop_single (v : Bytes) : joinTop [.text v] = [.text v] := by simp [joinTop, joinHead]

theorem nPat_all_joinHead (ok : Bytes → Bytes → Bool) (x : PatElem Bytes) (R : List (PatElem Bytes)) :
    nPat okAll (joinHead ok x R) = nPat okAll (x :: R) := by
  unfold joinHead
  split
  · rename_i a b rest
    split
    · simp only [nPat, nElem]
      cases hR : nPat okAll rest with
      | nil => simp [joinHead]
      | cons y ys =>
        cases y with
        | text c => simp [joinHead, List.append_assoc]
        | placeable e => simp [joinHead]
    · rfl
  · rfl

section idem
variable (ok : Bytes → Bytes → Bool)

mutual
theorem nInline_all_n (i : Inline Bytes) : nInline okAll (nInline ok i) = nInline okAll i := by
  cases i with
  | placeable e => simp only [nInline]; rw [nExpr_all_n e]
  | fn id pos named => simp only [nInline]; rw [nInl_all_n pos, nNamed_all_n named]
  | term a b c =>
    cases c with
    | none => simp [nInline]
    | some pn => obtain ⟨p, n⟩ := pn; simp only [nInline]; rw [nInl_all_n p, nNamed_all_n n]
  | _ => simp [nInline]
theorem nInl_all_n (xs : List (Inline Bytes)) : nInl okAll (nInl ok xs) = nInl okAll xs := by
  cases xs with
  | nil => simp [nInl]
  | cons x xs => simp only [nInl]; rw [nInline_all_n x, nInl_all_n xs]
theorem nNamed_all_n (xs : List (Bytes × Inline Bytes)) : nNamed okAll (nNamed ok xs) = nNamed okAll xs := by
  cases xs with
  | nil => simp [nNamed]
  | cons x xs => obtain ⟨n, v⟩ := x; simp only [nNamed]; rw [nInline_all_n v, nNamed_all_n xs]
theorem nExpr_all_n (e : Expr Bytes) : nExpr okAll (nExpr ok e) = nExpr okAll e := by
  cases e with
  | inline i => simp only [nExpr]; rw [nInline_all_n i]
  | select sel vs => simp only [nExpr]; rw [nInline_all_n sel, nVariants_all_n vs]
theorem nVariants_all_n (vs : List (Variant Bytes)) : nVariants okAll (nVariants ok vs) = nVariants okAll vs := by
  cases vs with
  | nil => simp [nVariants]
  | cons v vs => simp only [nVariants]; rw [nVariant_all_n v, nVariants_all_n vs]
theorem nVariant_all_n (v : Variant Bytes) : nVariant okAll (nVariant ok v) = nVariant okAll v := by
  cases v with
  | mk k val d => simp only [nVariant]; rw [nPat_all_n val]
theorem nPat_all_n (es : List (PatElem Bytes)) : nPat okAll (nPat ok es) = nPat okAll es := by
  cases es with
  | nil => simp [nPat]
  | cons e es =>
    rw [nPat, nPat_all_joinHead, nPat, nPat_all_n es, nElem_all_n e, ← nPat]
theorem nElem_all_n (e : PatElem Bytes) : nElem okAll (nElem ok e) = nElem okAll e := by
  cases e with
  | text v => simp [nElem]
  | placeable x => simp only [nElem]; rw [nExpr_all_n x]
end

theorem nAttr_all_n (a : Attribute Bytes) : nAttr okAll (nAttr ok a) = nAttr okAll a := by
  simp [nAttr, nPat_all_n]

theorem nEntry_all_n (e : Entry Bytes) : nEntry okAll (nEntry ok e) = nEntry okAll e := by
  cases e with
  | message m =>
    cases hv : m.value <;> cases hc : m.comment <;>
      simp [nEntry, hv, hc, nPat_all_n, nComment_idem, nAttr_all_n, Function.comp_def]
  | term t => cases hc : t.comment <;> simp [nEntry, hc, nPat_all_n, nComment_idem, nAttr_all_n, Function.comp_def]
  | comment c => simp [nEntry, nComment_idem]
  | groupComment c => simp [nEntry, nComment_idem]
  | resourceComment c => simp [nEntry, nComment_idem]
  | junk c => rfl

theorem isJunk_nEntry (e : Entry Bytes) : isJunk (nEntry ok e) = isJunk e := by
  cases e <;> rfl

end idem

theorem norm_normSafe (withJunk : Bool) (r : Resource Bytes) : norm withJunk (normSafe withJunk r) = norm withJunk r := by
  simp only [norm, normSafe, nRes]
  induction r with
  | nil => rfl
  | cons e es ih =>
    simp only [List.filter_cons]
    split
    · rename_i hk
      simp only [List.map_cons, List.filter_cons, isJunk_nEntry, hk, if_true, nEntry_all_n]
      rw [ih]
    · exact ih

section top
variable (ok ok' : Bytes → Bytes → Bool)

theorem map_nElem_joinHead (e : PatElem Bytes) (R : List (PatElem Bytes)) :
    (joinHead ok e R).map (nElem ok') = joinHead ok (nElem ok' e) (R.map (nElem ok')) := by
  cases e with
  | placeable x => simp [joinHead, nElem]
  | text a =>
    cases R with
    | nil => simp [joinHead, nElem]
    | cons y ys =>
      cases y with
      | placeable x => simp [joinHead, nElem]
      | text b =>
        simp only [joinHead, nElem, List.map_cons]
        split <;> simp [nElem]

end top

theorem nPat_safe_eq_joinTop (B : List (PatElem Bytes)) : nPat okSafe B = (joinTop B).map (nElem okSafe) := by
  induction B with
  | nil => simp [nPat, joinTop]
  | cons e es ih =>
    rw [nPat, joinTop, map_nElem_joinHead, ih]

section mlmap
variable (ok : Bytes → Bytes → Bool)

theorem isMultiline_map_nElem (X : List (PatElem Bytes)) : isMultiline (X.map (nElem ok)) = isMultiline X := by
  induction X with
  | nil => rfl
  | cons e es ih =>
    cases e with
    | text v => simp [nElem, isMultiline, ih]
    | placeable x => simp [nElem, isMultiline, ih, isSelectExpr_nExpr]

theorem hasLeadingTextDot_map_nElem (X : List (PatElem Bytes)) :
    hasLeadingTextDot (X.map (nElem ok)) = hasLeadingTextDot X := by
  cases X with
  | nil => rfl
  | cons e es =>
    cases e with
    | text v => cases v <;> simp [nElem, hasLeadingTextDot]
    | placeable x => simp [nElem, hasLeadingTextDot]

theorem startsOnNewLine_map_nElem (X : List (PatElem Bytes)) :
    startsOnNewLine (X.map (nElem ok)) = startsOnNewLine X := by
  simp [startsOnNewLine, isMultiline_map_nElem, hasLeadingTextDot_map_nElem]

theorem lineStartOK_map_nElem (v : Bytes) (es : List (PatElem Bytes)) :
    lineStartOK v (es.map (nElem ok)) = lineStartOK v es := by
  unfold lineStartOK
  cases es with
  | nil => rfl
  | cons e es => cases e <;> simp [nElem]

theorem mlElems_map_nElem (nl : Bool) (X : List (PatElem Bytes)) : mlElems nl (X.map (nElem ok)) = mlElems nl X := by
  induction X generalizing nl with
  | nil => rfl
  | cons e es ih =>
    cases e with
    | placeable x => simp [nElem, mlElems, ih]
    | text v =>
      simp only [List.map_cons, nElem, mlElems, ih, lineStartOK_map_nElem]
      cases es with
      | nil => rfl
      | cons e' es' => cases e' <;> simp [nElem]

theorem excesses_map_nElem (nl : Bool) (X : List (PatElem Bytes)) : excesses nl (X.map (nElem ok)) = excesses nl X := by
  induction X generalizing nl with
  | nil => rfl
  | cons e es ih => cases e <;> simp [nElem, excesses, ih]

theorem mlLastOK_map_nElem (X : List (PatElem Bytes)) : mlLastOK (X.map (nElem ok)) = mlLastOK X := by
  induction X with
  | nil => rfl
  | cons e es ih =>
    cases es with
    | nil => cases e <;> simp [nElem, mlLastOK]
    | cons e' es' =>
      have h1 : ∀ a b : PatElem Bytes, ∀ l, mlLastOK (a :: b :: l) = mlLastOK (b :: l) := by
        intro a b l; cases a <;> simp [mlLastOK]
      simp only [List.map_cons] at ih ⊢
      rw [h1, h1, ih]

theorem mlFirstOK_map_nElem (X : List (PatElem Bytes)) : mlFirstOK (X.map (nElem ok)) = mlFirstOK X := by
  have hs := startsOnNewLine_map_nElem ok X
  cases X with
  | nil => rfl
  | cons e es =>
    cases e with
    | placeable x => simp [nElem, mlFirstOK]
    | text v =>
      simp only [List.map_cons, nElem] at hs
      simp only [List.map_cons, nElem, mlFirstOK, hs]

theorem mlPattern_map_nElem (X : List (PatElem Bytes)) : mlPattern (X.map (nElem ok)) = mlPattern X := by
  simp only [mlPattern, startsOnNewLine_map_nElem, mlElems_map_nElem, mlLastOK_map_nElem, mlFirstOK_map_nElem,
    isMultiline_map_nElem, excesses_map_nElem, List.isEmpty_map]

end mlmap

theorem mlPattern_nPat_safe (B : List (PatElem Bytes)) : mlPattern (nPat okSafe B) = mlPattern (joinTop B) := by
  rw [nPat_safe_eq_joinTop, mlPattern_map_nElem]

theorem rtElems_joinHead (ok : Bytes → Bytes → Bool) (e : PatElem Bytes) (R : List (PatElem Bytes)) :
    rtElems (joinHead ok e R) = rtElems (e :: R) := by
  unfold joinHead
  split
  · split
    · simp [rtElems]
    · rfl
  · rfl

theorem placeable_mem_joinTop (x : Expr Bytes) (B : List (PatElem Bytes)) :
    PatElem.placeable x ∈ joinTop B ↔ PatElem.placeable x ∈ B := by
  induction B with
  | nil => simp [joinTop]
  | cons e es ih =>
    have hj : ∀ (e : PatElem Bytes) (R : List (PatElem Bytes)),
        PatElem.placeable x ∈ joinHead okSafe e R ↔ PatElem.placeable x ∈ e :: R := by
      intro e R
      unfold joinHead
      split
      · split
        · simp
        · rfl
      · rfl
    rw [joinTop, hj]
    simp only [List.mem_cons, ih]

theorem rtElems_map_nElem (X : List (PatElem Bytes)) (h : ∀ x, PatElem.placeable x ∈ X → rtExpr (nExpr okSafe x) = true) :
    rtElems (X.map (nElem okSafe)) = true := by
  induction X with
  | nil => rfl
  | cons e es ih =>
    have hes := ih (fun x hx => h x (List.mem_cons_of_mem _ hx))
    cases e with
    | text v => simpa [nElem, rtElems] using hes
    | placeable x =>
      simp only [List.map_cons, nElem, rtElems, Bool.and_eq_true]
      exact ⟨h x List.mem_cons_self, hes⟩

theorem isNamedValue_nInline (ok : Bytes → Bytes → Bool) (v : Inline Bytes) :
    isNamedValue (nInline ok v) = isNamedValue v := by
  cases v with
  | term a b c =>
    cases c with
    | none => rfl
    | some pn => obtain ⟨p, n⟩ := pn; rfl
  | _ => rfl

theorem selShapeB_nInline (ok : Bytes → Bytes → Bool) (v : Inline Bytes) : selShapeB (nInline ok v) = selShapeB v := by
  cases v with
  | term a b c =>
    cases c with
    | none => cases b <;> rfl
    | some pn => obtain ⟨p, n⟩ := pn; cases b <;> rfl
  | _ => rfl

theorem nNamed_fst (ok : Bytes → Bytes → Bool) (xs : List (Bytes × Inline Bytes)) :
    (nNamed ok xs).map Prod.fst = xs.map Prod.fst := by
  induction xs with
  | nil => rfl
  | cons x xs ih => obtain ⟨n, v⟩ := x; simp [nNamed, ih]

theorem namesNodup_nNamed (ok : Bytes → Bytes → Bool) (xs : List (Bytes × Inline Bytes)) :
    namesNodup (nNamed ok xs) = namesNodup xs := by
  simp [namesNodup, nNamed_fst]

theorem filter_default_nVariants (ok : Bytes → Bytes → Bool) (vs : List (Variant Bytes)) :
    ((nVariants ok vs).filter isDefault).length = (vs.filter isDefault).length := by
  induction vs with
  | nil => rfl
  | cons v vs ih =>
    obtain ⟨k, val, d⟩ := v
    cases d <;> simp [nVariants, nVariant, isDefault, List.filter_cons, ih]

end FluentProofs.Ser

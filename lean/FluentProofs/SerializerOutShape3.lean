import FluentProofs.SerializerOutShape1
import FluentProofs.SerializerTextsPattern
/-!
# Serializer lemmas: the text elements `finishElements` cuts out of the source (C04)

Byte-level facts about `spanBytes s ⟨a, b⟩` for the kinds of text placeholders of `okPh`, and about `spacesL k`, the
indentation in front of a placeable that stays a text element: they are `mlTextOK`, their leading spaces / first content byte /
last byte are what the class asks for.
-/
namespace FluentProofs.Ser
open FluentModel FluentModel.Syntax FluentModel.Syntax.Ser FluentProofs.Parser

theorem spanBytes_spaces {s : Src} {a m : Nat} (h : ∀ j, a ≤ j → j < m → s[j]? = some 32) :
    spanBytes s ⟨a, m⟩ = spacesL (m - a) := by
  rcases Nat.le_total m a with hle | hle
  · rw [spanBytes_nil hle, Nat.sub_eq_zero_of_le hle]; rfl
  · have := SpecLex.seg_spaces s a (m - a) (fun j h1 h2 => h j h1 (by omega))
    rwa [Nat.add_sub_cancel' hle, ← SpecLex.spanBytes_eq_seg] at this

theorem mlTextOK_span {s : Src} {a b a' t : Nat} (hT : TextBytes s a b) (h1 : a ≤ a') (h2 : a' < t) (h3 : t ≤ b) :
    mlTextOK (spanBytes s ⟨a', t⟩) = true := by
  obtain ⟨hb, hc, hn, hcr⟩ := hT
  have ht : t ≤ s.size := by omega
  simp only [mlTextOK, Bool.and_eq_true, Bool.not_eq_true', List.isEmpty_eq_false_iff]
  refine ⟨⟨⟨spanBytes_ne_nil h2 ht, ?_⟩, ?_⟩, ?_⟩
  · apply spanBytes_all
    intro j j1 j2 x hx
    have := hc j (by omega) (by omega)
    rw [hx] at this
    simp only [ne_eq, Option.some.injEq] at this
    simp [this.1, this.2]
  · rw [spanBytes_dropLast ht]
    apply spanBytes_all
    intro j j1 j2 x hx
    have := hn j (by omega) (by omega)
    rw [hx] at this
    simp only [ne_eq, Option.some.injEq] at this
    simp [this]
  · cases hce : crlfEnd (spanBytes s ⟨a', t⟩) with
    | false => rfl
    | true =>
      exfalso
      simp only [crlfEnd, Bool.and_eq_true, beq_iff_eq] at hce
      obtain ⟨e1, e2⟩ := hce
      rw [spanBytes_getLast h2 ht] at e1
      rw [spanBytes_dropLast ht] at e2
      by_cases h4 : a' < t - 1
      · rw [spanBytes_getLast h4 (by omega)] at e2
        have := hcr (t - 1 - 1) (by omega) (by omega) e2
        rw [show t - 1 - 1 + 1 = t - 1 by omega] at this
        exact this e1
      · rw [spanBytes_nil (by omega)] at e2
        simp at e2

theorem mlTextOK_spaces (k : Nat) (hk : 0 < k) : mlTextOK (spacesL k) = true := by
  simp only [mlTextOK, Bool.and_eq_true, Bool.not_eq_true', List.isEmpty_eq_false_iff, List.all_eq_true]
  refine ⟨⟨⟨?_, ?_⟩, ?_⟩, ?_⟩
  · intro h; have : (spacesL k).length = 0 := by rw [h]; rfl
    simp [spacesL] at this; omega
  · intro x hx; simp [spacesL] at hx; rw [hx.2]; decide
  · intro x hx
    have := List.dropLast_subset _ hx
    simp [spacesL] at this; rw [this.2]; decide
  · cases hcr : crlfEnd (spacesL k) with
    | false => rfl
    | true =>
      obtain ⟨pre, hpre⟩ := (crlfEnd_iff _).mp hcr
      have : (13 : UInt8) ∈ spacesL k := by rw [hpre]; simp
      simp [spacesL] at this

theorem endsNl_span {s : Src} {a b : Nat} (hab : a < b) (hb : b ≤ s.size) :
    endsNl (spanBytes s ⟨a, b⟩) = endsLF s b := by
  simp [endsNl, endsLF, spanBytes_getLast hab hb]

theorem endsNl_spaces (k : Nat) : endsNl (spacesL k) = false := by
  simp only [endsNl, beq_eq_false_iff_ne, ne_eq]
  intro h
  have := List.mem_of_getLast? h
  simp [spacesL] at this

theorem span_split {s : Src} {a m t : Nat} {c : UInt8} (hsp : ∀ j, a ≤ j → j < m → s[j]? = some 32)
    (hc : s[m]? = some c) (ham : a ≤ m) (hmt : m < t) (ht : t ≤ s.size) :
    spanBytes s ⟨a, t⟩ = spacesL (m - a) ++ c :: spanBytes s ⟨m + 1, t⟩ := by
  rw [spanBytes_append ham (Nat.le_of_lt hmt) (by omega), spanBytes_spaces hsp, spanBytes_cons hc hmt]

theorem dropWhile_spaces_cons (k : Nat) (c : UInt8) (X : Bytes) (hc : c ≠ 32) :
    (spacesL k ++ c :: X).dropWhile (fun b => b == 32) = c :: X := by
  rw [List.dropWhile_append_of_pos (by intro a ha; simp [spacesL] at ha; simp [ha.2])]
  simp [hc]

theorem leadSpaces_spaces_cons (k : Nat) (c : UInt8) (X : Bytes) (hc : c ≠ 32) :
    leadSpaces (spacesL k ++ c :: X) = k := by
  unfold leadSpaces
  rw [List.takeWhile_append_of_pos (by intro a ha; simp [spacesL] at ha; simp [ha.2])]
  simp [hc, spacesL]

theorem takeWhile_spacesL (k : Nat) : (spacesL k).takeWhile (fun b => b == 32) = spacesL k := by
  induction k with
  | zero => rfl
  | succ k ih => simp only [spacesL, List.replicate_succ] at ih ⊢; simp [ih]

theorem leadSpaces_spaces (k : Nat) : leadSpaces (spacesL k) = k := by
  unfold leadSpaces
  rw [takeWhile_spacesL]; simp [spacesL]

theorem dropWhile_spaces (k : Nat) : (spacesL k).dropWhile (fun b => b == 32) = [] := by
  induction k with
  | zero => rfl
  | succ k ih => simp only [spacesL, List.replicate_succ] at ih ⊢; simp [ih]

theorem trimEndGo_last (s : Src) (start n e : Nat) (hse : start ≤ e) (hn : e - start ≤ n) (he : e ≤ s.size)
    (h : start < trimEndGo s start n e) :
    ∃ x, s[trimEndGo s start n e - 1]? = some x ∧ x ≠ 32 ∧ x ≠ 10 ∧ x ≠ 13 := by
  obtain ⟨_, r2, _, r4⟩ := trimEndGo_result s start n e hse
  generalize trimEndGo s start n e = R at *
  have hnt := r4 (by omega) h
  have hx : s[R - 1]? = some s[R - 1] := Array.getElem?_eq_getElem (by omega)
  exact ⟨_, hx, fun h0 => hnt (Or.inl (by rw [hx, h0])), fun h0 => hnt (Or.inr (Or.inr (by rw [hx, h0]))),
    fun h0 => hnt (Or.inr (Or.inl (by rw [hx, h0])))⟩

end FluentProofs.Ser

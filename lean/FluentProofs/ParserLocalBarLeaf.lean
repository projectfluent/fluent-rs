import FluentProofs.ParserLocalWin
/-!
# Barrier family (C03 locality), part 1: leaf scanners

`Bar s n E`: position `n` is a line start holding an entry head whose `=` is at `E`.  No leaf scanner started at
or before `E` gets past `E` (the `=` stops it: `First.le_of_stop`); `n` is an edge (`Bar.edge`), so scanners that stop at a
line feed, started before `n`, stay before `n` (`Edge.*` of `ParserLocalWin`).
-/
namespace FluentProofs.Parser
open FluentModel.Syntax

namespace Bar
variable {s : Src} {n E : Nat}

theorem lt_size (hb : Bar s n E) : E < s.size := get_lt hb.eq

theorem nl (hb : Bar s n E) {p : Nat} (hp : p < n) : s[n - 1]? = some 10 := by
  rcases hb.ls with h | h
  · omega
  · exact h

theorem byte (hb : Bar s n E) {x : Nat} {b : UInt8} (h1 : n ≤ x) (h2 : x ≤ E) (h : s[x]? = some b) :
    isIdentByte b = true ∨ b = 32 ∨ b = 61 := by
  by_cases hx : x = E
  · subst hx; rw [hb.eq] at h; cases h; exact Or.inr (Or.inr rfl)
  · obtain ⟨b', hb', hc⟩ := hb.head x h1 (by omega)
    rw [h] at hb'; cases hb'
    rcases hc with hc | hc
    · exact Or.inl hc
    · exact Or.inr (Or.inl hc)

/-- a byte that cannot stand in an entry head (checked by `decide` at the call, where `b` is a literal), found at or before
`E`, lies before `n`; `stop2`: and if it is no line feed, so does the byte behind it -/
theorem stop (hb : Bar s n E) {x : Nat} {b : UInt8} (hx : x ≤ E) (h : s[x]? = some b)
    (hs : (!isIdentByte b && b != 32 && b != 61) = true := by decide) : x < n := by
  apply Classical.byContradiction
  intro hn
  rcases hb.byte (by omega) hx h with h1 | h1 | h1
  · simp [h1] at hs
  · subst h1; exact absurd hs (by decide)
  · subst h1; exact absurd hs (by decide)

theorem stop2 (hb : Bar s n E) {x : Nat} {b : UInt8} (hx : x ≤ E) (h : s[x]? = some b)
    (hs : (!isIdentByte b && b != 32 && b != 61 && b != 10) = true := by decide) : x + 1 < n := by
  have hs' : (!isIdentByte b && b != 32 && b != 61) = true ∧ b ≠ 10 := by
    simp only [Bool.and_eq_true, bne_iff_ne, ne_eq] at hs ⊢
    exact ⟨⟨hs.1.1, hs.1.2⟩, hs.2⟩
  exact hb.ls.step (hb.stop hx h hs'.1) h hs'.2

theorem succ_le_E (hb : Bar s n E) {p : Nat} {b : UInt8} (hp : p ≤ E) (h : s[p]? = some b) (hne : b ≠ 61) :
    p + 1 ≤ E := by
  have : p ≠ E := by
    intro hpe; subst hpe; rw [hb.eq] at h; cases h; exact hne rfl
  omega

theorem le_E (hb : Bar s n E) {p : Nat} (hp : p ≤ n) : p ≤ E := by have := hb.lt; omega

theorem at_n (hb : Bar s n E) {b : UInt8} (h : s[n]? = some b) : isReal b = true := by
  obtain ⟨b', hb1, hb2⟩ := hb.real
  rw [h] at hb1; cases hb1; exact hb2

end Bar

variable {s : Src} {n E : Nat}

theorem Bar.skipBlankInline_le_E (hb : Bar s n E) {p : Nat} (hp : p ≤ E) : skipBlankInline s p ≤ E :=
  (skipBlankInline_first s p).le_of_stop hp (by rw [hb.eq]; decide)

theorem Bar.skipBlank_le_E (hb : Bar s n E) {p : Nat} (hp : p ≤ E) : skipBlank s p ≤ E :=
  (skipBlank_first s p).le_of_stop hp fun h => by
    unfold BlankAt at h
    rw [hb.eq] at h
    rcases h with h | h | ⟨h, _⟩ <;> exact absurd h (by decide)

theorem Bar.scanWhile_le_E (hb : Bar s n E) {pred : UInt8 → Bool} (h61 : pred 61 = false) {p : Nat} (hp : p ≤ E) :
    scanWhile s pred p ≤ E :=
  (scanWhile_first s pred p).le_of_stop hp (noPredAt_of_byte hb.eq h61)

theorem Bar.expectByte_bind (hb : Bar s n E) {β : Type} {m p : Nat} {b : UInt8} {k : Unit → Nat → R β} (hp : p ≤ E)
    (hk : ∀ q, q < n → UN m E (k () q))
    (hs : (!isIdentByte b && b != 32 && b != 61 && b != 10) = true := by decide) : UN m E ((expectByte s p b).bind k) := by
  rcases expectByte_cases s p b with ⟨hx, hx'⟩ | ⟨hx, _⟩ <;> rw [hx]
  · exact hk _ (hb.stop2 hp hx' hs)
  · exact .err hp

theorem Bar.getIdentifierUnchecked_E (hb : Bar s n E) {p : Nat} (hp : p ≤ E) : UE E (getIdentifierUnchecked s p) :=
  getIdentifierUnchecked_ub s p E (hb.scanWhile_le_E (by decide) hp)

theorem Bar.getIdentifier_E (hb : Bar s n E) {p : Nat} (hp : p ≤ E) : UE E (getIdentifier s p) := by
  unfold getIdentifier
  split
  · exact .err hp
  · rename_i h
    have h : isIdentifierStart s p = true := by simpa using h
    obtain ⟨b, hb1, hb2⟩ := (isIdentifierStart_iff s p).mp h
    exact hb.getIdentifierUnchecked_E (hb.succ_le_E hp hb1 (by rintro rfl; exact absurd hb2 (by decide)))

theorem Bar.getIdentifier_lt (hb : Bar s n E) {p : Nat} (hp : p < n) : UN (n - 1) E (getIdentifier s p) :=
  (hb.edge.getIdentifier_lt hp).weaken (Nat.le_refl _) (by have := hb.lt; omega)

theorem Bar.skipDigits_E (hb : Bar s n E) {p : Nat} (hp : p ≤ E) : UE E (skipDigits s p) :=
  skipDigits_ub s hp (hb.scanWhile_le_E (by decide) hp)

theorem Bar.takeByteIf_le_E (hb : Bar s n E) {p : Nat} {b : UInt8} (hp : p ≤ E) (hne : b ≠ 61) :
    (takeByteIf s p b).1 ≤ E := by
  rcases takeByteIf_cases s p b with ⟨h, h'⟩ | ⟨h, _⟩ <;> rw [h]
  · exact hb.succ_le_E hp h' hne
  · exact hp

theorem Bar.getNumberLiteral_E (hb : Bar s n E) {p : Nat} (hp : p ≤ E) : UE E (getNumberLiteral s p) := by
  rw [getNumberLiteral_eq]
  refine (hb.skipDigits_E (hb.takeByteIf_le_E (b := 45) hp (by decide))).bind fun _ p2 _ h1 => ?_
  by_cases h46 : s[p2]? = some 46
  · rw [if_pos h46]
    refine (hb.skipDigits_E (hb.succ_le_E h1 h46 (by decide))).bind fun _ p4 _ h3 => ?_
    split
    · exact .ok h3
    · trivial
  · rw [if_neg h46]
    split
    · exact .ok h1
    · trivial

theorem Bar.getAttributeAccessor_E (hb : Bar s n E) {p : Nat} (hp : p ≤ E) : UE E (getAttributeAccessor s p) := by
  rw [getAttributeAccessor_eq]
  by_cases h46 : s[p]? = some 46
  · rw [if_pos h46]
    exact (hb.getIdentifier_E (hb.succ_le_E hp h46 (by decide))).bind fun id q _ h1 => .ok h1
  · rw [if_neg h46]
    exact .ok hp

/-- at `n` itself stands a letter or `-`, no `#` -/
theorem Bar.getCommentLevel_lt (hb : Bar s n E) {p : Nat} (hp : p ≤ n) :
    ∃ l, getCommentLevel s p = (l, p + l) ∧ (l = 0 ∨ p + l < n) := by
  by_cases hpn : p = n
  · obtain ⟨l, hl, _, hbytes, _⟩ := getCommentLevel_spec s p
    refine ⟨l, hl, Or.inl (Nat.eq_zero_of_not_pos fun hpos => ?_)⟩
    have h35 := hbytes 0 hpos
    rw [Nat.add_zero, hpn] at h35
    exact absurd (hb.at_n h35) (by decide)
  · obtain ⟨l, hl, hlt⟩ := hb.edge.getCommentLevel_lt (p := p) (by omega)
    exact ⟨l, hl, Or.inr hlt⟩

end FluentProofs.Parser

import FluentProofs.Serializer
import FluentProofs.ParserHoareAst
/-!
# Serializer lemmas: the serializer's output keeps the `&str` invariant (C04)

If every string of a tree satisfies `GoodB` (does not start with a UTF-8 continuation byte, and no
ASCII byte in it is followed by a continuation byte — true for every slice of a `&str` taken at
char boundaries), then the serializer's output satisfies `AsciiThenBoundary`, the one UTF-8 fact the
parser model relies on.  Mutual structural induction along the serializer with the writer invariant
`ATBl buffer`.  The last section is general: the `all…` predicates of `ParserHoareAst` pass through `mapS`
(`allEntry_mapS`), which `SerializerSources` uses to get `GoodB` of the strings of a parse tree.
-/
namespace FluentProofs.Ser
open FluentModel FluentModel.Syntax FluentModel.Syntax.Ser FluentProofs.Parser

def notCont (b : UInt8) : Bool := (b &&& 0xC0) != 0x80

def ATBl (l : Bytes) : Prop := ∀ (i : Nat) (b c : UInt8), l[i]? = some b → b < 128 → l[i + 1]? = some c → notCont c = true

def NCH (l : Bytes) : Prop := ∀ b : UInt8, l.head? = some b → notCont b = true

def GoodB (l : Bytes) : Prop := ATBl l ∧ NCH l

theorem atb_append {a b : Bytes} (ha : ATBl a) (hb : ATBl b) (hh : NCH b) : ATBl (a ++ b) := by
  intro i x c hx hx128 hc
  by_cases h1 : i + 1 < a.length
  · rw [List.getElem?_append_left (by omega)] at hx
    rw [List.getElem?_append_left h1] at hc
    exact ha i x c hx hx128 hc
  · by_cases h2 : i < a.length
    · have : i + 1 = a.length := by omega
      rw [List.getElem?_append_right (by omega), this, Nat.sub_self] at hc
      apply hh c
      cases b with
      | nil => simp at hc
      | cons y ys => simpa using hc
    · rw [List.getElem?_append_right (by omega)] at hx
      rw [List.getElem?_append_right (by omega)] at hc
      rw [show i + 1 - a.length = (i - a.length) + 1 by omega] at hc
      exact hb _ x c hx hx128 hc

theorem atb_prefix {a b : Bytes} (h : ATBl (a ++ b)) : ATBl a := by
  intro i x c hx hx128 hc
  have h1 : i + 1 < a.length := by
    rcases Nat.lt_or_ge (i + 1) a.length with h | h
    · exact h
    · rw [List.getElem?_eq_none h] at hc; cases hc
  exact h i x c (by rw [List.getElem?_append_left (by omega)]; exact hx) hx128
    (by rw [List.getElem?_append_left h1]; exact hc)

theorem nch_append {a b : Bytes} (ha : NCH a) (hb : NCH b) : NCH (a ++ b) := by
  cases a with
  | nil => simpa using hb
  | cons x xs => intro c hc; exact ha c (by simpa using hc)

theorem goodB_append {a b : Bytes} (ha : GoodB a) (hb : GoodB b) : GoodB (a ++ b) :=
  ⟨atb_append ha.1 hb.1 hb.2, nch_append ha.2 hb.2⟩

theorem goodB_ascii {l : Bytes} (h : ∀ b ∈ l, b < 128) : GoodB l := by
  constructor
  · intro i b c _ _ hc
    have := h c (List.mem_of_getElem? hc)
    exact ascii_not_cont c this
  · intro b hb
    have : b ∈ l := by cases l <;> simp_all
    exact ascii_not_cont b (h b this)

theorem goodB_nil : GoodB [] := goodB_ascii (by simp)

theorem goodB_span {s : Src} (hs : AsciiThenBoundary s) (hs0 : NCH s.toList) {sp : Span} (h : VSpan s sp) :
    GoodB (spanBytes s sp) := by
  obtain ⟨hle, hba, hbb⟩ := h
  have hsz := hbb.le
  have hget : ∀ j, j < sp.stop - sp.start → (spanBytes s sp)[j]? = s[sp.start + j]? := fun j hj =>
    spanBytes_get' hsz hj
  have hlen : (spanBytes s sp).length = sp.stop - sp.start := spanBytes_length s sp.start sp.stop hsz
  constructor
  · intro i b c hb hb128 hc
    have hi : i + 1 < sp.stop - sp.start := by
      rcases Nat.lt_or_ge (i + 1) (spanBytes s sp).length with h | h
      · omega
      · rw [List.getElem?_eq_none h] at hc; cases hc
    rw [hget i (by omega)] at hb
    rw [hget (i + 1) hi] at hc
    have := hs (sp.start + i) b hb hb128
    simp only [isBoundary] at this
    rw [show sp.start + i + 1 = sp.start + (i + 1) by omega, hc] at this
    have h1 : ¬ (sp.start + (i + 1) = 0) := by omega
    have h2 : ¬ (sp.start + (i + 1) = s.size) := by omega
    simpa [h1, h2, notCont] using this
  · intro b hb
    have h0 : 0 < sp.stop - sp.start := by
      cases hsb : spanBytes s sp with
      | nil => rw [hsb] at hb; simp at hb
      | cons x xs => rw [hsb] at hlen; simp at hlen; omega
    have : (spanBytes s sp)[0]? = some b := by
      cases hsb : spanBytes s sp with
      | nil => rw [hsb] at hb; simp at hb
      | cons x xs => rw [hsb] at hb; simpa using hb
    rw [hget 0 h0, Nat.add_zero] at this
    have hb' : isBoundary s sp.start = true := hba
    simp only [isBoundary] at hb'
    rw [this] at hb'
    by_cases h1 : sp.start = 0
    · -- position 0 of a `&str`: use the byte itself
      simp only [h1] at this
      apply hs0 b
      cases hl : s.toList with
      | nil => simp [← Array.getElem?_toList, hl] at this
      | cons x xs => simp [← Array.getElem?_toList, hl] at this; simp [this]
    · have h2 : ¬ (sp.start = s.size) := by omega
      simpa [h1, h2, notCont] using hb'

theorem nch_of_string (str : String) : NCH str.toUTF8.data.toList := by
  intro b hb
  have h0 : str.toUTF8.data[0]? = some b := by
    cases hl : str.toUTF8.data.toList with
    | nil => rw [hl] at hb; simp at hb
    | cons x xs =>
      rw [hl] at hb; simp at hb; subst hb
      rw [← Array.getElem?_toList, hl]; rfl
  have hv : (0 : String.Pos.Raw).IsValid str := String.Pos.Raw.isValid_zero
  have := isBoundary_of_isValid str 0 hv
  rcases String.Pos.Raw.isValid_iff_isUTF8FirstByte.mp hv with h | ⟨hlt, hfb⟩
  · have : str.toUTF8.data.size = 0 := by
      have e : str.rawEndPos.byteIdx = str.toUTF8.data.size := rfl
      rw [← e, ← h]; rfl
    have := get_lt h0; omega
  · have hlt' : (0 : Nat) < str.toUTF8.data.size := get_lt h0
    have hget : str.toUTF8.data[0]? = some (str.getUTF8Byte 0 hlt) := by
      rw [Array.getElem?_eq_getElem hlt']; rfl
    rw [hget] at h0
    cases h0
    exact firstByte_not_cont _ hfb

def WB (w : Writer) : Prop := ATBl w.buffer.toList

theorem spaces_ascii (n : Nat) : ∀ b ∈ (spaces n).toList, b < 128 := by
  intro b hb
  simp [spaces] at hb
  rw [hb.2]; decide

theorem wb_writeLiteral {w : Writer} {item : Bytes} (hw : WB w) (hi : GoodB item) : WB (w.writeLiteral item) := by
  unfold WB
  cases h : endsWith w 10
  · rw [writeLiteral_mid_line w item h]
    simp only [Array.toList_append, List.append_assoc]
    refine atb_append hw ?_ ?_
    · split
      · exact (goodB_append (goodB_ascii (l := [13]) (by decide)) (by simpa using hi)).1
      · simpa using hi.1
    · split
      · exact (goodB_append (goodB_ascii (l := [13]) (by decide)) (by simpa using hi)).2
      · simpa using hi.2
  · rw [writeLiteral_after_newline w item h]
    simp only [Array.toList_append, List.append_assoc]
    have hg := goodB_append (goodB_ascii (spaces_ascii (4 * w.indentLevel))) (by simpa using hi : GoodB item)
    exact atb_append hw (by simpa using hg.1) (by simpa using hg.2)

theorem wb_newline {w : Writer} (hw : WB w) : WB w.newline := by
  unfold WB
  rw [newline_buffer]
  simp only [Array.toList_append]
  split
  · exact atb_append hw (goodB_ascii (l := [13, 10]) (by decide)).1 (goodB_ascii (l := [13, 10]) (by decide)).2
  · exact atb_append hw (goodB_ascii (l := [10]) (by decide)).1 (goodB_ascii (l := [10]) (by decide)).2

theorem popCharGo_prefix (n : Nat) (b : Array UInt8) : ∃ t, b.toList = (popCharGo n b).toList ++ t := by
  induction n generalizing b with
  | zero => exact ⟨[], by simp [popCharGo]⟩
  | succ n ih =>
    rw [popCharGo]
    cases hb : b.back? with
    | none => exact ⟨[], by simp⟩
    | some x =>
      simp only []
      have hpop : b.toList = b.pop.toList ++ [x] := by
        rw [← Array.getLast?_toList] at hb
        rw [Array.toList_pop]
        exact dropLast_snoc _ _ hb
      split
      · obtain ⟨t, ht⟩ := ih b.pop
        exact ⟨t ++ [x], by rw [hpop, ht]; simp⟩
      · exact ⟨[x], hpop⟩

theorem wb_writeCharIntoIndent {w : Writer} (ch : UInt8) (hw : WB w) (hc : ch < 128) : WB (w.writeCharIntoIndent ch) := by
  unfold WB Writer.writeCharIntoIndent
  simp only []
  have key : ∀ b : Array UInt8, ATBl b.toList → ATBl ((popChar b).push ch).toList := by
    intro b hb
    obtain ⟨t, ht⟩ := popCharGo_prefix b.size b
    rw [ht] at hb
    simp only [Array.toList_push]
    exact atb_append (atb_prefix hb) (goodB_ascii (l := [ch]) (by simpa using hc)).1
      (goodB_ascii (l := [ch]) (by simpa using hc)).2
  split
  · apply key
    rw [writeIndent_buffer]
    simp only [Array.toList_append]
    exact atb_append hw (goodB_ascii (spaces_ascii _)).1 (goodB_ascii (spaces_ascii _)).2
  · exact key _ hw

theorem wb_indent {w : Writer} (hw : WB w) : WB w.indent := hw

theorem wb_dedent {w w' : Writer} (hw : WB w) (h : w.dedent = some w') : WB w' := by
  unfold WB; rw [(dedent_eq_some h).2]; exact hw

theorem goodB_lit (x : String) (h : ∀ b ∈ lit x, b < 128) : GoodB (lit x) := goodB_ascii h

abbrev GI := allInline GoodB
abbrev GE := allExpr GoodB

theorem gl_quote : GoodB (lit "\"") := goodB_ascii (by decide)
theorem gl_dollar : GoodB (lit "$") := goodB_ascii (by decide)
theorem gl_lparen : GoodB (lit "(") := goodB_ascii (by decide)
theorem gl_rparen : GoodB (lit ")") := goodB_ascii (by decide)
theorem gl_dot : GoodB (lit ".") := goodB_ascii (by decide)
theorem gl_minus : GoodB (lit "-") := goodB_ascii (by decide)
theorem gl_lbrace : GoodB (lit "{") := goodB_ascii (by decide)
theorem gl_rbrace : GoodB (lit "}") := goodB_ascii (by decide)
theorem gl_comma : GoodB (lit ", ") := goodB_ascii (by decide)
theorem gl_colon : GoodB (lit ": ") := goodB_ascii (by decide)
theorem gl_arrow : GoodB (lit " ->") := goodB_ascii (by decide)
theorem gl_lbracket : GoodB (lit "[") := goodB_ascii (by decide)
theorem gl_rbracket : GoodB (lit "]") := goodB_ascii (by decide)
theorem gl_sp : GoodB (lit " ") := goodB_ascii (by decide)
theorem gl_lbrace_sp : GoodB (lit "{ ") := goodB_ascii (by decide)
theorem gl_sp_rbrace : GoodB (lit " }") := goodB_ascii (by decide)
theorem gl_dbl_l : GoodB (lit "{{ ") := goodB_ascii (by decide)
theorem gl_dbl_r : GoodB (lit " }}") := goodB_ascii (by decide)
theorem gl_eq : GoodB (lit " =") := goodB_ascii (by decide)
theorem gl_hash : GoodB (lit "#") := goodB_ascii (by decide)
theorem gl_hash2 : GoodB (lit "##") := goodB_ascii (by decide)
theorem gl_hash3 : GoodB (lit "###") := goodB_ascii (by decide)

theorem patternPre_wb {w : Writer} (p : List (PatElem Bytes)) (hw : WB w) : WB (patternPre w p) := by
  have h1 : WB (if startsOnNewLine p then w.newline else w.writeLiteral (lit " ")) := by
    split
    · exact wb_newline hw
    · exact wb_writeLiteral hw gl_sp
  unfold patternPre
  simp only []
  generalize (if startsOnNewLine p then w.newline else w.writeLiteral (lit " ")) = w1 at h1
  split
  · exact wb_indent h1
  · exact h1

theorem patternPost_wb {p : List (PatElem Bytes)} {w w' : Writer} (hw : WB w) (h : patternPost p w = some w') : WB w' := by
  unfold patternPost at h
  split at h
  · exact wb_dedent hw h
  · cases h; exact hw

theorem vkey_good (key : VKey Bytes) (h : allVKey GoodB key) :
    GoodB (match key with
      | .ident n => n
      | .num v => v) := by
  cases key <;> exact h

theorem WB.of_wrap {r : Option Writer} {l : Bytes} {w' : Writer} (h : (r.map fun w => w.writeLiteral l) = some w')
    (hr : ∀ w1, r = some w1 → WB w1) (hl : GoodB l) : WB w' := by
  obtain ⟨w1, h1, rfl⟩ := Option.map_eq_some_iff.mp h
  exact wb_writeLiteral (hr w1 h1) hl

theorem wb_refHead {w : Writer} {attr : Option Bytes} (hw : WB w) (ha : OptAll GoodB attr) : WB (refHead w attr) := by
  cases attr with
  | none => exact hw
  | some a => exact wb_writeLiteral (wb_writeLiteral hw gl_dot) ha

theorem wb_ite_comma {w : Writer} (b : Bool) (hw : WB w) : WB (if b then w.writeLiteral (lit ", ") else w) := by
  cases b
  · exact hw
  · exact wb_writeLiteral hw gl_comma

theorem serArgs_wb {pos : List (Inline Bytes)} {named : List (Bytes × Inline Bytes)}
    (hp : ∀ w b w' wr, WB w → serPositional w b pos = some (w', wr) → WB w')
    (hn : ∀ w b w', WB w → serNamed w b named = some w' → WB w') {w w' : Writer} {b : Bool} (hw : WB w)
    (h : serArgs w b pos named = some w') : WB w' := by
  unfold serArgs at h
  cases h1 : serPositional w b pos with
  | none => rw [h1] at h; cases h
  | some r =>
    rw [h1] at h
    exact WB.of_wrap h (fun w2 h3 => hn _ _ _ (hp _ _ r.1 r.2 hw h1) h3) gl_rparen

mutual

theorem serInline_wb (e : Inline Bytes) (he : allInline GoodB e) (w w' : Writer) (hw : WB w)
    (h : serInline w e = some w') : WB w' := by
  cases e with
  | str v =>
    simp only [serInline, Option.some.injEq] at h; subst h
    exact wb_writeLiteral (wb_writeLiteral (wb_writeLiteral hw gl_quote) he) gl_quote
  | num v => simp only [serInline, Option.some.injEq] at h; subst h; exact wb_writeLiteral hw he
  | var id =>
    simp only [serInline, Option.some.injEq] at h; subst h
    exact wb_writeLiteral (wb_writeLiteral hw gl_dollar) he
  | msg id attr =>
    simp only [allInline] at he
    rw [serInline_msg] at h; cases h
    exact wb_refHead (wb_writeLiteral hw he.1) he.2
  | fn id pos named =>
    simp only [allInline] at he
    rw [serInline_fn_call] at h
    exact serArgs_wb (fun w b w' wr => serPositional_wb pos he.2.1 w b w' wr)
      (fun w b w' => serNamed_wb named he.2.2 w b w') (wb_writeLiteral (wb_writeLiteral hw he.1) gl_lparen) h
  | term id attr args =>
    cases args with
    | none =>
      simp only [allInline] at he
      rw [serInline_term_none] at h; cases h
      exact wb_refHead (wb_writeLiteral (wb_writeLiteral hw gl_minus) he.1) he.2
    | some pn =>
      obtain ⟨pos, named⟩ := pn
      simp only [allInline] at he
      rw [serInline_term_call] at h
      exact serArgs_wb (fun w b w' wr => serPositional_wb pos he.2.2.1 w b w' wr)
        (fun w b w' => serNamed_wb named he.2.2.2 w b w')
        (wb_writeLiteral (wb_refHead (wb_writeLiteral (wb_writeLiteral hw gl_minus) he.1) he.2.1) gl_lparen) h
  | placeable e =>
    simp only [allInline] at he
    rw [serInline_placeable] at h
    exact WB.of_wrap h (fun w1 h1 => serExpr_wb e he _ _ (wb_writeLiteral hw gl_lbrace) h1) gl_rbrace

theorem serPositional_wb (xs : List (Inline Bytes)) (he : allInl GoodB xs) (w : Writer) (written : Bool)
    (w' : Writer) (wr : Bool) (hw : WB w) (h : serPositional w written xs = some (w', wr)) : WB w' := by
  cases xs with
  | nil => simp only [serPositional, Option.some.injEq, Prod.mk.injEq] at h; rw [← h.1]; exact hw
  | cons x xs =>
    simp only [allInl] at he
    rw [serPositional_cons] at h
    obtain ⟨w2, h1, h2⟩ := Option.bind_eq_some_iff.mp h
    exact serPositional_wb xs he.2 _ _ _ _ (serInline_wb x he.1 _ _ (wb_ite_comma written hw) h1) h2

theorem serNamed_wb (xs : List (Bytes × Inline Bytes)) (he : allNamed GoodB xs) (w : Writer) (written : Bool)
    (w' : Writer) (hw : WB w) (h : serNamed w written xs = some w') : WB w' := by
  cases xs with
  | nil => simp only [serNamed, Option.some.injEq] at h; subst h; exact hw
  | cons x xs =>
    obtain ⟨n, v⟩ := x
    simp only [allNamed] at he
    rw [serNamed_cons] at h
    obtain ⟨w3, h1, h2⟩ := Option.bind_eq_some_iff.mp h
    exact serNamed_wb xs he.2.2 _ _ _
      (serInline_wb v he.2.1 _ _ (wb_writeLiteral (wb_writeLiteral (wb_ite_comma written hw) he.1) gl_colon) h1) h2

theorem serExpr_wb (e : Expr Bytes) (he : allExpr GoodB e) (w w' : Writer) (hw : WB w)
    (h : serExpr w e = some w') : WB w' := by
  cases e with
  | inline i => simp only [allExpr] at he; simp only [serExpr] at h; exact serInline_wb i he _ _ hw h
  | select sel vs =>
    simp only [allExpr] at he
    rw [serExpr_select] at h
    obtain ⟨w1, h1, h2⟩ := Option.bind_eq_some_iff.mp h
    obtain ⟨w3, h3, h4⟩ := Option.bind_eq_some_iff.mp h2
    have hw2 : WB ((w1.writeLiteral (lit " ->")).newline).indent :=
      wb_indent (wb_newline (wb_writeLiteral (serInline_wb sel he.1 _ _ hw h1) gl_arrow))
    exact wb_dedent (serVariants_wb vs he.2 _ _ hw2 h3) h4

theorem serVariants_wb (vs : List (Variant Bytes)) (he : allVariants GoodB vs) (w w' : Writer) (hw : WB w)
    (h : serVariants w vs = some w') : WB w' := by
  cases vs with
  | nil => simp only [serVariants, Option.some.injEq] at h; subst h; exact hw
  | cons v vs =>
    simp only [allVariants] at he
    rw [serVariants_cons] at h
    obtain ⟨w1, h1, h2⟩ := Option.bind_eq_some_iff.mp h
    exact serVariants_wb vs he.2 _ _ (wb_newline (serVariant_wb v he.1 _ _ hw h1)) h2

theorem serVariant_wb (v : Variant Bytes) (he : allVariant GoodB v) (w w' : Writer) (hw : WB w)
    (h : serVariant w v = some w') : WB w' := by
  cases v with
  | mk key value dflt =>
    simp only [allVariant] at he
    rw [serVariant_mk] at h
    obtain ⟨w3, h1, h2⟩ := Option.bind_eq_some_iff.mp h
    have hw1 : WB (if dflt = true then w.writeCharIntoIndent 42 else w) := by
      split
      · exact wb_writeCharIntoIndent 42 hw (by decide)
      · exact hw
    have hw4 : WB w3 := by
      cases key <;>
        exact serElements_wb value he.2 _ _
          (patternPre_wb _ (wb_writeLiteral (wb_writeLiteral (wb_writeLiteral hw1 gl_lbracket) he.1) gl_rbracket)) h1
    exact patternPost_wb hw4 h2

theorem serElements_wb (es : List (PatElem Bytes)) (he : allPat GoodB es) (w w' : Writer) (hw : WB w)
    (h : serElements w es = some w') : WB w' := by
  cases es with
  | nil => simp only [serElements, Option.some.injEq] at h; subst h; exact hw
  | cons e es =>
    simp only [allPat] at he
    rw [serElements_cons] at h
    obtain ⟨w1, h1, h2⟩ := Option.bind_eq_some_iff.mp h
    exact serElements_wb es he.2 _ _ (serElement_wb e he.1 _ _ hw h1) h2

theorem serElement_wb (e : PatElem Bytes) (he : allPatElem GoodB e) (w w' : Writer) (hw : WB w)
    (h : serElement w e = some w') : WB w' := by
  cases e with
  | text v => simp only [serElement, Option.some.injEq] at h; subst h; exact wb_writeLiteral hw he
  | placeable x =>
    simp only [allPatElem] at he
    cases x with
    | select sel vs =>
      exact WB.of_wrap h (fun w1 h1 => serExpr_wb (.select sel vs) he _ _ (wb_writeLiteral hw gl_lbrace_sp) h1) gl_rbrace
    | inline i =>
      simp only [allExpr] at he
      cases i with
      | placeable e2 =>
        simp only [allInline] at he
        exact WB.of_wrap h (fun w1 h1 => serExpr_wb e2 he _ _ (wb_writeLiteral hw gl_dbl_l) h1) gl_dbl_r
      | _ =>
        rw [serElement_inline w _ (by intro x hx; cases hx)] at h
        exact WB.of_wrap h (fun w1 h1 => serInline_wb _ he _ _ (wb_writeLiteral hw gl_lbrace_sp) h1) gl_sp_rbrace

end

theorem serPattern_wb (p : List (PatElem Bytes)) (he : allPat GoodB p) (w w' : Writer) (hw : WB w)
    (h : serPattern w p = some w') : WB w' := by
  rw [serPattern_bind] at h
  obtain ⟨w3, h1, h2⟩ := Option.bind_eq_some_iff.mp h
  exact patternPost_wb (serElements_wb p he _ _ (patternPre_wb _ hw) h1) h2

theorem serComment_wb (pre : Bytes) (hp : GoodB pre) (c : List Bytes) (hc : ∀ l ∈ c, GoodB l) (w : Writer) (hw : WB w) :
    WB (serComment w pre c) := by
  induction c generalizing w with
  | nil => exact hw
  | cons l ls ih =>
    simp only [serComment]
    apply ih (fun x hx => hc x (List.mem_cons_of_mem _ hx))
    apply wb_newline
    split
    · exact wb_writeLiteral (wb_writeLiteral (wb_writeLiteral hw hp) gl_sp) (hc l (List.mem_cons_self))
    · exact wb_writeLiteral hw hp

theorem serAttributesGo_wb (as : List (Attribute Bytes)) (he : ∀ a ∈ as, allAttr GoodB a) (w w' : Writer) (hw : WB w)
    (h : serAttributesGo w as = some w') : WB w' := by
  induction as generalizing w with
  | nil => simp only [serAttributesGo, Option.some.injEq] at h; subst h; exact hw
  | cons a as ih =>
    have ha := he a (List.mem_cons_self)
    simp only [serAttributesGo] at h
    split at h
    · cases h
    · rename_i w2 hp
      refine ih (fun x hx => he x (List.mem_cons_of_mem _ hx)) _ ?_ h
      exact serPattern_wb a.value ha.2 _ _
        (wb_writeLiteral (wb_writeLiteral (wb_writeLiteral (wb_newline hw) gl_dot) ha.1) gl_eq) hp

theorem serAttributes_wb (as : List (Attribute Bytes)) (he : ∀ a ∈ as, allAttr GoodB a) (w w' : Writer) (hw : WB w)
    (h : serAttributes w as = some w') : WB w' := by
  simp only [serAttributes] at h
  split at h
  · cases h; exact hw
  · split at h
    · cases h
    · rename_i w1 h1
      exact wb_dedent (serAttributesGo_wb as he _ _ (wb_indent hw) h1) h

theorem serResourceGo_wb (withJunk : Bool) (r : List (Entry Bytes)) (he : ∀ e ∈ r, allEntry GoodB e) (w w' : Writer)
    (b : Bool) (hw : WB w) (h : serResourceGo withJunk w b r = some w') : WB w' := by
  induction r generalizing w b with
  | nil => simp only [serResourceGo, Option.some.injEq] at h; subst h; exact hw
  | cons e es ih =>
    have hee := he e (List.mem_cons_self)
    have ih' := ih (fun x hx => he x (List.mem_cons_of_mem _ hx))
    have hfc : ∀ (pre : Bytes), GoodB pre → ∀ c : List Bytes, (∀ l ∈ c, GoodB l) →
        WB (serFreeComment w b pre c) := by
      intro pre hp c hc
      simp only [serFreeComment]
      apply wb_newline
      apply serComment_wb pre hp c hc
      split
      · exact wb_newline hw
      · exact hw
    cases e with
    | message m =>
      simp only [allEntry] at hee
      simp only [serResourceGo] at h
      split at h
      · cases h
      · rename_i w1 hm
        refine ih' _ _ ?_ h
        simp only [serMessage] at hm
        have hw1 : WB (match m.comment with
            | some c => serComment w (lit "#") c
            | none => w) := by
          cases hcm : m.comment with
          | none => exact hw
          | some c => exact serComment_wb _ gl_hash c (hee.2.2.2 c hcm) w hw
        have hw2 := wb_writeLiteral (wb_writeLiteral hw1 hee.1) gl_eq
        split at hm
        · cases hm
        · rename_i w3 hv
          simp only [Option.map_eq_some_iff] at hm
          obtain ⟨w4, ha, rfl⟩ := hm
          apply wb_newline
          refine serAttributes_wb m.attributes hee.2.2.1 _ _ ?_ ha
          cases hval : m.value with
          | none => rw [hval] at hv; simp only [Option.some.injEq] at hv; subst hv; exact hw2
          | some v => rw [hval] at hv; exact serPattern_wb v (hee.2.1 v hval) _ _ hw2 hv
    | term t =>
      simp only [allEntry] at hee
      simp only [serResourceGo] at h
      split at h
      · cases h
      · rename_i w1 hm
        refine ih' _ _ ?_ h
        simp only [serTerm] at hm
        have hw1 : WB (match t.comment with
            | some c => serComment w (lit "#") c
            | none => w) := by
          cases hcm : t.comment with
          | none => exact hw
          | some c => exact serComment_wb _ gl_hash c (hee.2.2.2 c hcm) w hw
        have hw2 := wb_writeLiteral (wb_writeLiteral (wb_writeLiteral hw1 gl_minus) hee.1) gl_eq
        split at hm
        · cases hm
        · rename_i w3 hv
          simp only [Option.map_eq_some_iff] at hm
          obtain ⟨w4, ha, rfl⟩ := hm
          apply wb_newline
          exact serAttributes_wb t.attributes hee.2.2.1 _ _ (serPattern_wb t.value hee.2.1 _ _ hw2 hv) ha
    | comment c => simp only [serResourceGo] at h; exact ih' _ _ (hfc _ gl_hash c hee) h
    | groupComment c => simp only [serResourceGo] at h; exact ih' _ _ (hfc _ gl_hash2 c hee) h
    | resourceComment c => simp only [serResourceGo] at h; exact ih' _ _ (hfc _ gl_hash3 c hee) h
    | junk c =>
      simp only [serResourceGo] at h
      split at h
      · exact ih' _ _ hw h
      · exact ih' _ _ (wb_writeLiteral hw hee) h

theorem atb_array {l : Bytes} (h : ATBl l) : AsciiThenBoundary l.toArray := by
  intro i b hb hb128
  have hlt := get_lt hb
  simp only [isBoundary]
  by_cases h1 : i + 1 = l.toArray.size
  · simp [h1]
  · cases hc : l.toArray[i + 1]? with
    | none => have : i + 1 < l.toArray.size := by omega
              simp at hc; simp at this; omega
    | some c =>
      have := h i b c (by simpa using hb) hb128 (by simpa using hc)
      simp [notCont] at this
      simp [this]

theorem serialize_atb (withJunk : Bool) (r : Resource Bytes) (he : ∀ e ∈ r, allEntry GoodB e) (out : Bytes)
    (h : serialize withJunk r = some out) : AsciiThenBoundary out.toArray := by
  simp only [serialize, Option.map_eq_some_iff] at h
  obtain ⟨w, hw, rfl⟩ := h
  have := serResourceGo_wb withJunk r he {} w false (by intro i b c hb; simp at hb) hw
  simpa using atb_array this

section transfer
set_option linter.unusedSectionVars false
variable {S T : Type} (P : S → Prop) (Q : T → Prop) (f : S → T) (hf : ∀ x, P x → Q (f x))
include hf

theorem optAll_map (o : Option S) (h : OptAll P o) : OptAll Q (o.map f) := by
  cases o with
  | none => trivial
  | some a => exact hf a h

mutual
theorem allInline_mapS (e : Inline S) (h : allInline P e) : allInline Q (e.mapS f) := by
  cases e with
  | str v => simp only [allInline, Inline.mapS] at h ⊢; exact hf v h
  | num v => simp only [allInline, Inline.mapS] at h ⊢; exact hf v h
  | var v => simp only [allInline, Inline.mapS] at h ⊢; exact hf v h
  | msg id attr =>
    simp only [allInline, Inline.mapS] at h ⊢
    exact ⟨hf id h.1, optAll_map P Q f hf attr h.2⟩
  | fn id pos named =>
    simp only [allInline, Inline.mapS] at h ⊢
    exact ⟨hf id h.1, allInl_mapS pos h.2.1, allNamed_mapS named h.2.2⟩
  | term id attr args =>
    cases args with
    | none =>
      simp only [allInline, Inline.mapS] at h ⊢
      exact ⟨hf id h.1, optAll_map P Q f hf attr h.2⟩
    | some pn =>
      obtain ⟨pos, named⟩ := pn
      simp only [allInline, Inline.mapS] at h ⊢
      exact ⟨hf id h.1, optAll_map P Q f hf attr h.2.1, allInl_mapS pos h.2.2.1, allNamed_mapS named h.2.2.2⟩
  | placeable e => simp only [allInline, Inline.mapS] at h ⊢; exact allExpr_mapS e h
theorem allInl_mapS (xs : List (Inline S)) (h : allInl P xs) : allInl Q (mapInl f xs) := by
  cases xs with
  | nil => simp [mapInl, allInl]
  | cons x xs => simp only [allInl, mapInl] at h ⊢; exact ⟨allInline_mapS x h.1, allInl_mapS xs h.2⟩
theorem allNamed_mapS (xs : List (S × Inline S)) (h : allNamed P xs) : allNamed Q (mapNamed f xs) := by
  cases xs with
  | nil => simp [mapNamed, allNamed]
  | cons x xs =>
    obtain ⟨n, v⟩ := x
    simp only [allNamed, mapNamed] at h ⊢
    exact ⟨hf n h.1, allInline_mapS v h.2.1, allNamed_mapS xs h.2.2⟩
theorem allExpr_mapS (e : Expr S) (h : allExpr P e) : allExpr Q (e.mapS f) := by
  cases e with
  | inline i => simp only [allExpr, Expr.mapS] at h ⊢; exact allInline_mapS i h
  | select sel vs =>
    simp only [allExpr, Expr.mapS] at h ⊢
    exact ⟨allInline_mapS sel h.1, allVariants_mapS vs h.2⟩
theorem allVariants_mapS (vs : List (Variant S)) (h : allVariants P vs) : allVariants Q (mapVariants f vs) := by
  cases vs with
  | nil => simp [mapVariants, allVariants]
  | cons v vs => simp only [allVariants, mapVariants] at h ⊢; exact ⟨allVariant_mapS v h.1, allVariants_mapS vs h.2⟩
theorem allVariant_mapS (v : Variant S) (h : allVariant P v) : allVariant Q (v.mapS f) := by
  cases v with
  | mk k val d =>
    simp only [allVariant, Variant.mapS] at h ⊢
    refine ⟨?_, allPat_mapS val h.2⟩
    cases k <;> simp only [allVKey, VKey.mapS] at h ⊢ <;> exact hf _ h.1
theorem allPat_mapS (es : List (PatElem S)) (h : allPat P es) : allPat Q (mapPat f es) := by
  cases es with
  | nil => simp [mapPat, allPat]
  | cons e es => simp only [allPat, mapPat] at h ⊢; exact ⟨allPatElem_mapS e h.1, allPat_mapS es h.2⟩
theorem allPatElem_mapS (e : PatElem S) (h : allPatElem P e) : allPatElem Q (e.mapS f) := by
  cases e with
  | text v => simp only [allPatElem, PatElem.mapS] at h ⊢; exact hf v h
  | placeable x => simp only [allPatElem, PatElem.mapS] at h ⊢; exact allExpr_mapS x h
end

theorem allEntry_mapS (e : Entry S) (h : allEntry P e) : allEntry Q (e.mapS f) := by
  have hattr : ∀ as : List (Attribute S), (∀ a ∈ as, allAttr P a) → ∀ a ∈ as.map (Attribute.mapS f), allAttr Q a := by
    intro as has a ha
    simp only [List.mem_map] at ha
    obtain ⟨a', ha', rfl⟩ := ha
    exact ⟨hf _ (has a' ha').1, allPat_mapS P Q f hf _ (has a' ha').2⟩
  have hcom : ∀ c : List S, (∀ l ∈ c, P l) → ∀ l ∈ c.map f, Q l := by
    intro c hc l hl
    simp only [List.mem_map] at hl
    obtain ⟨l', hl', rfl⟩ := hl
    exact hf _ (hc l' hl')
  cases e with
  | message m =>
    simp only [allEntry, Entry.mapS] at h ⊢
    refine ⟨hf _ h.1, ?_, hattr _ h.2.2.1, ?_⟩
    · intro v hv
      cases hm : m.value with
      | none => simp [hm] at hv
      | some v' => simp [hm] at hv; subst hv; exact allPat_mapS P Q f hf _ (h.2.1 v' hm)
    · intro c hc
      cases hm : m.comment with
      | none => simp [hm] at hc
      | some c' => simp [hm] at hc; subst hc; exact hcom _ (h.2.2.2 c' hm)
  | term t =>
    simp only [allEntry, Entry.mapS] at h ⊢
    refine ⟨hf _ h.1, allPat_mapS P Q f hf _ h.2.1, hattr _ h.2.2.1, ?_⟩
    intro c hc
    cases hm : t.comment with
    | none => simp [hm] at hc
    | some c' => simp [hm] at hc; subst hc; exact hcom _ (h.2.2.2 c' hm)
  | comment c => simp only [allEntry, Entry.mapS] at h ⊢; exact hcom c h
  | groupComment c => simp only [allEntry, Entry.mapS] at h ⊢; exact hcom c h
  | resourceComment c => simp only [allEntry, Entry.mapS] at h ⊢; exact hcom c h
  | junk c => simp only [allEntry, Entry.mapS] at h ⊢; exact hf c h

end transfer

end FluentProofs.Ser

import FluentProofs.ParserForward
import FluentProofs.SpecBlank
/-!
# Lexical layer: the parser model's scanners versus the grammar's lexical rules (C02, T1)

The parser model works on `s : Src` with a cursor `p`; the grammar (`SpecGrammar`) on the remaining
input.  `rest s p` (`ParserBytes`) is the bridge: the bytes of `s` from `p` on.  One lemma per lexical rule says that the scanner and
the rule do the same, for both outcomes of the scanner (`R.Cases` where the scanner can fail; `digits_eq_skipDigits`,
`skipUnicode_hexRun` and `textRun_eq_getTextSlice` spell the outcomes out as a disjunction or a `match` instead);
`SpecRefine` takes the successful case out of them (`R.Cases.ok`).  What concerns the parser alone is in `ParserForward`, what concerns blank
lines on the grammar's side alone in `SpecBlank`.
-/
namespace FluentModel.Syntax

/-- a statement by cases on a parser result that can be neither a panic nor out of fuel: `P` of an `ok` result, `E` in
case of an error -/
abbrev R.Cases {α : Type} (r : R α) (P : α → Nat → Prop) (E : Prop) : Prop :=
  match r with
  | .ok a q => P a q
  | .err _ _ => E
  | .panic _ => False
  | .fuel => False

theorem R.Cases.ok {α : Type} {r : R α} {P : α → Nat → Prop} {E : Prop} (h : r.Cases P E) (hE : ¬ E) :
    ∃ a q, r = .ok a q ∧ P a q := by
  cases r with
  | ok a q => exact ⟨a, q, rfl, h⟩
  | err e q => exact absurd h hE
  | panic m => exact h.elim
  | fuel => exact h.elim

theorem R.Cases.imp {α : Type} {r : R α} {P P' : α → Nat → Prop} {E E' : Prop} (h : r.Cases P E)
    (hP : ∀ a q, P a q → P' a q) (hE : E → E') : r.Cases P' E' := by
  cases r with
  | ok a q => exact hP a q h
  | err e q => exact hE h
  | panic m => exact h
  | fuel => exact h

end FluentModel.Syntax

namespace FluentProofs.SpecLex
open FluentModel FluentModel.Syntax FluentModel.SpecGrammar FluentProofs.Parser

theorem NoBreak.at_cursor {s : Src} {p : Nat} {b : UInt8} (h10 : b ≠ 10) (hcr : ¬ (b = 13 ∧ s[p + 1]? = some 10)) :
    NoBreak b (rest s (p + 1)) :=
  ⟨h10, fun e _ ht => hcr ⟨e, rest_head ht⟩⟩

theorem eol_cases (s : Src) (p : Nat) :
    (s.size ≤ p ∧ rest s p = [] ∧ skipEol s p = none ∧ isEol s p = true) ∨
    (s[p]? = some 10 ∧ rest s p = 10 :: rest s (p + 1) ∧ skipEol s p = some (p + 1) ∧ isEol s p = true) ∨
    (s[p]? = some 13 ∧ s[p + 1]? = some 10 ∧ rest s p = 13 :: 10 :: rest s (p + 2) ∧
      skipEol s p = some (p + 2) ∧ isEol s p = true) ∨
    (∃ b, s[p]? = some b ∧ rest s p = b :: rest s (p + 1) ∧ NoBreak b (rest s (p + 1)) ∧
      skipEol s p = none ∧ isEol s p = false) := by
  rcases rest_cases s p with ⟨h, hr⟩ | ⟨b, h, hr⟩ <;> rw [skipEol, isEol, h]
  · exact .inl ⟨Array.getElem?_eq_none_iff.mp h, hr, rfl, rfl⟩
  · by_cases h10 : b = 10
    · subst h10
      exact .inr (.inl ⟨rfl, hr, rfl, rfl⟩)
    · have hb := isCurrentByte_iff s (p + 1) 10
      by_cases hcr : b = 13 ∧ s[p + 1]? = some 10
      · obtain ⟨rfl, g⟩ := hcr
        exact .inr (.inr (.inl ⟨rfl, g, by rw [hr, rest_cons g], if_pos (hb.mpr g), hb.mpr g⟩))
      · have hg (e : b = 13) : ¬ (s[p + 1]? == some 10) = true := fun e' => hcr ⟨e, hb.mp e'⟩
        refine .inr (.inr (.inr ⟨b, rfl, hr, .at_cursor h10 hcr, ?_, ?_⟩))
        · split
          · rename_i e; cases e; exact absurd rfl h10
          · rename_i e; cases e; exact if_neg (hg rfl)
          · rfl
        · split
          · rename_i e; cases e; exact absurd rfl h10
          · rename_i e; cases e; exact Bool.eq_false_iff.mpr (hg rfl)
          · rename_i e; cases e
          · rfl

theorem left_zero {a p : Nat} (h : a - p ≤ 0) : a ≤ p := Nat.le_of_sub_eq_zero (Nat.le_zero.mp h)

theorem left_succ {a p n : Nat} (h : a - p ≤ n + 1) : a - (p + 1) ≤ n := Nat.pred_le_pred h

theorem left_lt {a p q n : Nat} (h : a - p ≤ n + 1) (hq : p < q) : a - q ≤ n :=
  Nat.le_trans (Nat.sub_le_sub_left hq a) (left_succ h)

theorem takeWhile_scanWhile (s : Src) (pred : UInt8 → Bool) (p : Nat) :
    (rest s p).takeWhile pred = seg s p (scanWhile s pred p) ∧
    (rest s p).dropWhile pred = rest s (scanWhile s pred p) := by
  have hF := scanWhile_first s pred p
  refine hF.induction (motive := fun j => (rest s j).takeWhile pred = seg s j (scanWhile s pred p) ∧
    (rest s j).dropWhile pred = rest s (scanWhile s pred p)) ?_ fun j _ hlt hj ih => ?_
  · rw [seg_self]
    rcases rest_cases s (scanWhile s pred p) with ⟨_, hr⟩ | ⟨b, h, hr⟩
    · rw [hr]; exact ⟨rfl, rfl⟩
    · have hb : ¬ pred b = true := Bool.eq_false_iff.mp (hF.stops b h)
      rw [hr, List.takeWhile_cons_of_neg hb, List.dropWhile_cons_of_neg hb]; exact ⟨rfl, rfl⟩
  · obtain ⟨b, h, hb⟩ := not_noPredAt hj
    rw [rest_cons h, List.takeWhile_cons_of_pos hb, List.dropWhile_cons_of_pos hb, ih.1, ih.2, seg_cons h hlt]
    exact ⟨rfl, rfl⟩

theorem spaces_eq_dropWhile (i : List UInt8) : spaces i = i.dropWhile (· == 32) := by
  induction i with
  | nil => rfl
  | cons b r ih =>
    by_cases hb : b = 32
    · subst hb; exact ih
    · rw [spaces_cons_ne r hb, List.dropWhile_cons_of_neg (p := (· == 32)) (Bool.eq_false_iff.mp (u8_beq_false.mpr hb))]

/-- T1: `blank_inline?` is `skip_blank_inline` -/
theorem spaces_eq_skipBlankInline (s : Src) (p : Nat) :
    spaces (rest s p) = rest s (skipBlankInline s p) := by
  rw [spaces_eq_dropWhile, skipBlankInline_eq]
  exact (takeWhile_scanWhile s _ p).2

/-- T1: `line_end` is `skip_eol`, except that the grammar also accepts `EOF` -/
theorem lineEnd_eq_skipEol (s : Src) (p : Nat) :
    lineEnd (rest s p) =
      (match skipEol s p with
       | some q => some (rest s q)
       | none => if s.size ≤ p then some [] else none) := by
  rcases eol_cases s p with ⟨h, hr, he, _⟩ | ⟨_, hr, he, _⟩ | ⟨_, _, hr, he, _⟩ | ⟨b, h, hr, nb, he, _⟩
  · rw [he, hr]; exact (if_pos h).symm
  · rw [he, hr]; rfl
  · rw [he, hr]; rfl
  · rw [he, hr, lineEnd_nonbreak nb]; exact (if_neg (Nat.not_le.mpr (get_lt h))).symm

/-- T1: `blank?` is `skip_blank` -/
theorem blankOpt_eq_skipBlank (s : Src) (p : Nat) : blankOpt (rest s p) = rest s (skipBlank s p) := by
  have hF := skipBlank_first s p
  refine hF.induction (motive := fun j => blankOpt (rest s j) = rest s (skipBlank s p)) ?_ fun j _ _ hj ih => ?_
  · rcases rest_cases s (skipBlank s p) with ⟨_, hr⟩ | ⟨b, h, hr⟩
    · rw [hr]; rfl
    · rw [hr]
      exact blankOpt_nonbreak (fun e => hF.stops (.inl (e ▸ h)))
        (.at_cursor (fun e => hF.stops (.inr (.inl (e ▸ h)))) fun c => hF.stops (.inr (.inr ⟨c.1 ▸ h, c.2⟩)))
  · rcases Classical.not_not.mp hj with h | h | ⟨h13, h10⟩
    · rw [rest_cons h]; exact ih
    · rw [rest_cons h]; exact ih
    · rw [rest_cons h13]; rw [rest_cons h10] at ih ⊢; exact ih

theorem scan_line (s : Src) (ls : List UInt8) (c p : Nat) (hp : s[p]? ≠ some 32) :
    blankBlockScan (rest s p) ls c =
      (match skipEol s p with
       | some q => blankBlockScan (rest s q) (rest s q) (c + 1)
       | none => if s.size ≤ p then some (c, []) else if c == 0 then none else some (c, ls)) := by
  rcases eol_cases s p with ⟨h, hr, he, _⟩ | ⟨_, hr, he, _⟩ | ⟨_, _, hr, he, _⟩ | ⟨b, h, hr, nb, he, _⟩
  · rw [he, hr]; exact (if_pos h).symm
  · rw [he, hr]; rfl
  · rw [he, hr]; rfl
  · rw [he, hr, scan_nonbreak ls c (fun e => hp (e ▸ h)) nb]
    exact (if_neg (Nat.not_le.mpr (get_lt h))).symm

/-- `skip_blank_block`'s loop from a line start, with count `c` so far, is the grammar's scan: same count and same
rest, the grammar failing exactly when the loop counted nothing and stopped before the end.  The count only grows,
and where no line was counted and input remains the cursor is back at `p` (the loop returns the start of the first
line that is not blank, not the place behind its leading spaces). -/
theorem skipBlankBlockGo_spec (s : Src) (n p c : Nat) (hn : s.size - p + 1 ≤ n) (hp : p ≤ s.size) :
    blankBlockScan (rest s p) (rest s p) c =
      (let qc := skipBlankBlockGo s n p c
       if qc.2 = 0 ∧ qc.1 < s.size then none else some (qc.2, rest s qc.1)) ∧
    c ≤ (skipBlankBlockGo s n p c).2 ∧
    ((skipBlankBlockGo s n p c).2 = c → (skipBlankBlockGo s n p c).1 < s.size → (skipBlankBlockGo s n p c).1 = p) := by
  induction n generalizing p c with
  | zero => exact absurd hn (Nat.not_succ_le_zero _)
  | succ n ih =>
    have hle := (skipBlankInline_after s p).le
    rw [blankBlockScan_spaces, spaces_eq_skipBlankInline, scan_line s _ c _ (skipBlankInline_stop s p),
      skipBlankBlockGo]
    cases h : skipEol s (skipBlankInline s p) with
    | none =>
      dsimp only
      by_cases hq : skipBlankInline s p < s.size
      · rw [if_neg (Nat.not_le.mpr hq), if_pos hq]
        refine ⟨?_, Nat.le_refl c, fun _ _ => rfl⟩
        cases c with
        | zero => exact (if_pos ⟨rfl, Nat.lt_of_le_of_lt hle hq⟩).symm
        | succ c => exact (if_neg fun h => nomatch h.1).symm
      · rw [if_pos (Nat.le_of_not_lt hq), if_neg hq, if_neg fun h => hq h.2,
          rest_eq_nil_iff.mpr (Nat.le_of_not_lt hq)]
        exact ⟨rfl, Nat.le_refl c, fun _ hlt => absurd hlt hq⟩
    | some q =>
      have hpq : p < q := Nat.lt_of_le_of_lt hle (skipEol_some h).1
      have hq : q ≤ s.size := ((skipBlankInline_after s p).trans (skipEol_after h)).le_size hp
      obtain ⟨i1, i2, _⟩ := ih q (c + 1) (Nat.le_trans (Nat.sub_lt_sub_left (Nat.lt_of_lt_of_le hpq hq) hpq)
        (Nat.le_of_succ_le_succ hn)) hq
      dsimp only
      exact ⟨i1, Nat.le_of_succ_le i2, fun e => absurd (Nat.le_trans i2 (Nat.le_of_eq e)) (Nat.not_succ_le_self c)⟩

/-- T1: `blank_block ::= (blank_inline? line_end)+` is `skip_blank_block`: with `(q, c) = skip_blank_block p`
the grammar's blank block takes the same `c` line breaks and ends at the same position `q` (spaces that
run to `EOF` included: `blank_inline? EOF`); it fails exactly when nothing was skipped (`c = 0`) and the
input has not ended. -/
theorem blankBlock_eq_skipBlankBlock (s : Src) (p : Nat) (hp : p ≤ s.size) :
    blankBlock (rest s p) =
      (let qc := skipBlankBlock s p
       if qc.2 = 0 ∧ qc.1 < s.size then none else some (qc.2, rest s qc.1)) :=
  (skipBlankBlockGo_spec s _ p 0 (Nat.le_refl _) hp).1

section
open FluentProofs.SpecBlank FluentProofs.SpecRefine FluentProofs.SpecResource
variable {s : Src} {p : Nat}

theorem skipBlankBlock_of_blankBlock {k : Nat} {x : List UInt8} (hp : p ≤ s.size)
    (h : blankBlock (rest s p) = some (k, x)) : (skipBlankBlock s p).2 = k ∧ rest s (skipBlankBlock s p).1 = x := by
  rw [blankBlock_eq_skipBlankBlock s p hp] at h
  simp only at h
  split at h
  · cases h
  · cases h; exact ⟨rfl, rfl⟩

theorem skipBlankBlock_stay (hp : p ≤ s.size) (h : Canon (rest s p)) : skipBlankBlock s p = (p, 0) := by
  have h1 := blankBlock_eq_skipBlankBlock s p hp
  have h3 : (skipBlankBlock s p).2 = 0 → (skipBlankBlock s p).1 < s.size → (skipBlankBlock s p).1 = p :=
    (skipBlankBlockGo_spec s (s.size - p + 1) p 0 (Nat.le_refl _) hp).2.2
  have hA := skipBlankBlock_after s p
  rcases h with h | h
  · obtain ⟨hc, -⟩ := skipBlankBlock_of_blankBlock (k := 0) (x := []) hp (by rw [h]; rfl)
    exact Prod.ext (Nat.le_antisymm (Nat.le_trans (hA.le_size hp) (rest_eq_nil_iff.mp h)) hA.le) hc
  · rw [blankBlock_none_iff.mpr h] at h1
    have hc : (skipBlankBlock s p).2 = 0 ∧ (skipBlankBlock s p).1 < s.size := Classical.byContradiction fun hc => by
      dsimp only at h1; rw [if_neg hc] at h1; cases h1
    exact Prod.ext (h3 hc.1 hc.2) hc.1

theorem rest_skipBlankBlock (s : Src) (p : Nat) (hp : p ≤ s.size) :
    rest s (skipBlankBlock s p).1 = afterBlank (rest s p) := by
  cases hR : blankBlock (rest s p) with
  | none => rw [skipBlankBlock_stay hp (Or.inr (blankBlock_none_iff.mp hR)), afterBlank_of_none hR]
  | some v => rw [(skipBlankBlock_of_blankBlock hp hR).2, afterBlank_of_some hR]

theorem skipBlankBlock_canon (hp : p ≤ s.size) : Canon (rest s (skipBlankBlock s p).1) :=
  rest_skipBlankBlock s p hp ▸ afterBlank_canon _

theorem skipBlankBlock_scan (hp : p ≤ s.size) (c : Nat) :
    blankBlockScan (rest s p) (rest s p) c =
      blankBlockScan (rest s (skipBlankBlock s p).1) (rest s (skipBlankBlock s p).1) (c + (skipBlankBlock s p).2) := by
  rcases scans (rest s p) (rest s p) with ⟨h, -⟩ | ⟨-, n, x, hx, h0, -, -, e⟩
  · rw [skipBlankBlock_stay hp (Or.inr h)]; rfl
  · obtain ⟨hc, hr⟩ := skipBlankBlock_of_blankBlock hp (e 0)
    rw [hc, hr, e c, Nat.zero_add]
    rcases hx with rfl | hx
    · rfl
    · rcases scans x x with ⟨-, e'⟩ | ⟨h', -⟩
      · rw [e', if_neg]
        rw [beq_iff_eq]
        exact fun h => absurd (h0 (Nat.eq_zero_of_add_eq_zero_left h)) fun h => by rw [h] at hx; obtain ⟨_, _, e, _⟩ := hx; cases e
      · exact absurd hx h'

end

theorem isAlphaC_eq : ∀ b : UInt8, isAlphaC b = isAlpha b := fun _ => rfl
theorem isHexC_eq : ∀ b : UInt8, isHexC b = isHexDigit b := fun _ => rfl
theorem isIdentC_fun : isIdentC = isIdentByte := funext fun _ => Bool.or_right_comm ..
theorem isDigitC_fun : isDigitC = isDigit := rfl

/-- T1: `get_identifier` succeeds exactly when the grammar's `Identifier` rule matches, on exactly the
same bytes `s[p..q)`, leaving the same rest; it never panics. -/
theorem identifier_eq_getIdentifier {s : Src} (hs : AsciiThenBoundary s) (p : Nat) :
    (getIdentifier s p).Cases
      (fun sp q => sp = ⟨p, q⟩ ∧ p < q ∧ identifier (rest s p) = some (spanBytes s sp, rest s q))
      (identifier (rest s p) = none) := by
  rcases rest_cases s p with ⟨h, hr⟩ | ⟨b, h, hr⟩
  · rw [getIdentifier, isIdentifierStart, h, hr]; rfl
  · have hst : isIdentifierStart s p = isAlpha b := by rw [isIdentifierStart, h]
    rw [getIdentifier, hst, hr, identifier, isAlphaC_eq]
    cases hb : isAlpha b with
    | false => rfl
    | true =>
      have hafter := scanWhile_after s isIdentByte isIdentByte_lt (p + 1)
      have hasc : Asc s p := ⟨b, h, isAlpha_lt b hb⟩
      have hlt : p < scanWhile s isIdentByte (p + 1) := hafter.le
      have ⟨t1, t2⟩ := takeWhile_scanWhile s isIdentByte (p + 1)
      rw [getIdentifierUnchecked, show usub (p + 1) 1 = some p from rfl]
      dsimp only
      rw [slice_ok (Nat.le_of_lt hlt) hasc.bnd (hafter.bnd hs (hasc.bnd_succ hs))]
      refine ⟨rfl, hlt, ?_⟩
      rw [spanBytes_eq_seg, seg_cons h hlt, ← t1, ← t2, isIdentC_fun]
      rfl

theorem identifier_head {i : List UInt8} {a : Bytes} {r : List UInt8} (h : identifier i = some (a, r)) :
    ∃ b t, i = b :: t ∧ isAlpha b = true := by
  cases i with
  | nil => cases h
  | cons b t =>
    refine ⟨b, t, rfl, ?_⟩
    cases hb : isAlphaC b with
    | true => exact hb
    | false => rw [identifier, hb] at h; cases h

theorem digits_eq_skipDigits (s : Src) (p : Nat) (hp : p ≤ s.size) :
    (∃ q, skipDigits s p = .ok () q ∧ p < q ∧ After s p q ∧ digits (rest s p) = some (seg s p q, rest s q)) ∨
    (∃ e, skipDigits s p = .err e p ∧ digits (rest s p) = none) := by
  have ⟨t1, t2⟩ := takeWhile_scanWhile s isDigit p
  have haft := scanWhile_after s isDigit isDigit_lt p
  rw [skipDigits, digits, isDigitC_fun, t1, t2]
  by_cases h : scanWhile s isDigit p = p
  · rw [h, seg_self]
    exact .inr ⟨_, if_pos (decide_eq_true rfl), rfl⟩
  · have hlt : p < scanWhile s isDigit p := Nat.lt_of_le_of_ne haft.le (Ne.symm h)
    have hb := Array.getElem?_eq_getElem (Nat.lt_of_lt_of_le hlt (haft.le_size hp))
    refine .inl ⟨_, if_neg (fun e => h (eq_of_beq e)), hlt, haft, ?_⟩
    rw [seg_cons hb hlt]; rfl

/-- the part of `get_number_literal` after the optional sign (`start` = where the literal began) -/
def numRest (s : Src) (start p1 : Nat) : R Span :=
  (skipDigits s p1).bind fun _ p2 =>
    if s[p2]? = some 46 then
      (skipDigits s (p2 + 1)).bind fun _ p4 =>
        match slice s start p4 with
        | some sp => .ok sp p4
        | none => .panic "get_number_literal slice"
    else
      match slice s start p2 with
      | some sp => .ok sp p2
      | none => .panic "get_number_literal slice"

theorem getNumberLiteral_eq_numRest (s : Src) (p : Nat) :
    getNumberLiteral s p = numRest s p (takeByteIf s p 45).1 :=
  getNumberLiteral_eq s p

theorem numberAfterSign_no_dot (sign d : List UInt8) (i2 : List UInt8) (i1 : List UInt8)
    (hd : digits i1 = some (d, i2)) (h : ∀ r, i2 ≠ 46 :: r) :
    numberAfterSign sign i1 = some (sign ++ d, i2) := by
  rw [numberAfterSign, hd]
  cases i2 with
  | nil => rfl
  | cons b r =>
    by_cases hb : b = 46
    · subst hb; exact absurd rfl (h r)
    · simp only

theorem numberAfterSign_dot (sign d r i1 : List UInt8) (hd : digits i1 = some (d, 46 :: r)) :
    numberAfterSign sign i1 =
      match digits r with
      | some (f, i3) => some (sign ++ d ++ 46 :: f, i3)
      | none => some (sign ++ d, 46 :: r) := by
  rw [numberAfterSign, hd]
  rfl

theorem numRest_spec {s : Src} (hs : AsciiThenBoundary s) {start p1 : Nat} {sign : List UInt8} (hst : Bnd s start)
    (haft : After s start p1) (hsign : seg s start p1 = sign) :
    (numRest s start p1).Cases
      (fun sp q => sp = ⟨start, q⟩ ∧ start < q ∧ numberAfterSign sign (rest s p1) = some (spanBytes s sp, rest s q))
      (numberAfterSign sign (rest s p1) = none ∨
        ∃ q, start < q ∧ s[q]? = some 46 ∧ numberAfterSign sign (rest s p1) = some (seg s start q, rest s q)) := by
  rcases digits_eq_skipDigits s p1 (haft.le_size hst.le) with ⟨p2, h1, hlt, haft2, hd⟩ | ⟨e, h1, hd⟩
  · have hb2 : Bnd s p2 := (haft.trans haft2).bnd hs hst
    have hlt2 : start < p2 := Nat.lt_of_le_of_lt haft.le hlt
    have hseg2 : sign ++ seg s p1 p2 = seg s start p2 := hsign ▸ (seg_append haft.le (Nat.le_of_lt hlt)).symm
    rw [numRest, h1, R.bind_ok]
    by_cases hdot : s[p2]? = some 46
    · rw [if_pos hdot]
      rcases digits_eq_skipDigits s (p2 + 1) (get_lt hdot) with ⟨p4, h3, hlt3, haft3, hd3⟩ | ⟨_, h3, hd3⟩
      · have hb4 : Bnd s p4 := ((After.step ⟨46, hdot, by decide⟩).trans haft3).bnd hs hb2
        have h24 : p2 < p4 := Nat.lt_trans (Nat.lt_succ_self _) hlt3
        have h04 : start < p4 := Nat.lt_trans hlt2 h24
        rw [h3, R.bind_ok, slice_ok (Nat.le_of_lt h04) hst hb4]
        refine ⟨rfl, h04, ?_⟩
        rw [numberAfterSign_dot _ _ _ _ (rest_cons hdot ▸ hd), hd3, hseg2, spanBytes_eq_seg,
          seg_append (Nat.le_of_lt hlt2) (Nat.le_of_lt h24), seg_cons hdot h24]
      · rw [h3]
        refine .inr ⟨p2, hlt2, hdot, ?_⟩
        rw [numberAfterSign_dot _ _ _ _ (rest_cons hdot ▸ hd), hd3, hseg2, rest_cons hdot]
    · rw [if_neg hdot, slice_ok (Nat.le_of_lt hlt2) hst hb2]
      refine ⟨rfl, hlt2, ?_⟩
      rw [numberAfterSign_no_dot _ _ _ _ hd fun r hr => hdot (rest_head hr), hseg2, spanBytes_eq_seg]
  · rw [numRest, h1]
    exact .inl (by rw [numberAfterSign, hd])

theorem numberLiteral_no_sign (i : List UInt8) (h : ∀ r, i ≠ 45 :: r) : numberLiteral i = numberAfterSign [] i :=
  numberLiteral.eq_2 i h

/-- T1/T2: `get_number_literal` versus the grammar's `NumberLiteral`.  Success = the PEG rule matches
exactly `s[p..q)`.  The one asymmetry: on `digits "."` not followed by a digit the Rust scanner reports
an error where the PEG rule matches the digits and stops before the dot (every context of the grammar
then fails on that dot, so both reject the enclosing entry). -/
theorem numberLiteral_eq_getNumberLiteral {s : Src} (hs : AsciiThenBoundary s) (p : Nat) (hp : Bnd s p) :
    (getNumberLiteral s p).Cases
      (fun sp q => sp = ⟨p, q⟩ ∧ p < q ∧ numberLiteral (rest s p) = some (spanBytes s sp, rest s q))
      (numberLiteral (rest s p) = none ∨
        ∃ q, p < q ∧ s[q]? = some 46 ∧ numberLiteral (rest s p) = some (seg s p q, rest s q)) := by
  rw [getNumberLiteral_eq_numRest]
  refine (takeByteIf_cases s p 45).elim (fun h => ?_) fun h => ?_
  · rw [h.1, rest_cons h.2]
    exact numRest_spec hs hp (After.step ⟨45, h.2, by decide⟩) (seg_one h.2)
  · rw [h.1, numberLiteral_no_sign _ fun r hr => h.2 (rest_head hr)]
    exact numRest_spec hs hp (After.refl s p) (seg_self s p)

theorem commentChars_nonbreak {b : UInt8} {r : List UInt8} (h : NoBreak b r) :
    commentChars (b :: r) = (b :: (commentChars r).1, (commentChars r).2) :=
  commentChars.eq_3 b r (fun t e => h.2 e t) h.1

theorem commentChars_of_isEol {s : Src} {p : Nat} (h : isEol s p = true) :
    commentChars (rest s p) = ([], rest s p) := by
  rcases isEol_cases h with h0 | h0 | ⟨h0, h1⟩
  · rw [rest_nil h0]; simp [commentChars]
  · rw [rest_cons h0]; simp [commentChars]
  · rw [rest_cons h0, rest_cons h1]; simp [commentChars]

theorem commentChars_first {s : Src} {p e : Nat} (h : First (fun j => isEol s j = true) p e) :
    commentChars (rest s p) = (seg s p e, rest s e) := by
  refine h.induction (motive := fun j => commentChars (rest s j) = (seg s j e, rest s e)) ?_ fun j _ hlt hj ih => ?_
  · rw [seg_self]; exact commentChars_of_isEol h.stops
  · rcases eol_cases s j with ⟨_, _, _, hi⟩ | ⟨_, _, _, hi⟩ | ⟨_, _, _, _, hi⟩ | ⟨b, hb, hr, nb, _⟩
    · exact absurd hi hj
    · exact absurd hi hj
    · exact absurd hi hj
    · rw [hr, commentChars_nonbreak nb, ih, seg_cons hb hlt]

/-- T1: `get_comment_line` reads exactly the grammar's `comment_char*` -/
theorem commentChars_eq_getCommentLine {s : Src} (p : Nat) (hp : Bnd s p) :
    ∃ e, getCommentLine s p = .ok ⟨p, e⟩ e ∧ commentChars (rest s p) = (spanBytes s ⟨p, e⟩, rest s e) := by
  have hn := Nat.add_sub_cancel' hp.le
  have h := commentLineEndGo_spec s (s.size - p) p hn
  refine ⟨commentLineEndGo s (s.size - p) p, ?_, ?_⟩
  · rw [getCommentLine, slice_ok h.1 hp (isEol_bnd h.2.2 h.2.1)]
  · rw [spanBytes_eq_seg]
    exact commentChars_first (commentLineEnd_first s p)

/-- T1: `get_comment_level` is the grammar's ordered choice `"###" | "##" | "#"` -/
theorem commentMarker_eq_getCommentLevel (s : Src) (p : Nat) :
    commentMarker (rest s p) =
      (if (getCommentLevel s p).1 = 0 then none
       else some ((getCommentLevel s p).1, rest s (getCommentLevel s p).2)) := by
  simp only [getCommentLevel, isCurrentByte_iff]
  rcases byte_cases s p 35 with ⟨h1, r1⟩ | ⟨h1, r1⟩
  · rw [if_pos h1, r1]
    rcases byte_cases s (p + 1) 35 with ⟨h2, r2⟩ | ⟨h2, r2⟩
    · rw [if_pos h2, r2]
      rcases byte_cases s (p + 2) 35 with ⟨h3, r3⟩ | ⟨h3, r3⟩
      · rw [if_pos h3, r3]; rfl
      · rw [if_neg h3]; exact commentMarker.eq_2 _ r3
    · rw [if_neg h2]; exact commentMarker.eq_3 _ (fun t e => r2 _ e) r2
  · rw [if_neg h1]
    exact commentMarker.eq_4 _ (fun t e => r1 _ e) (fun t e => r1 _ e) r1

theorem hexRun_nil (n : Nat) : hexRun (n + 1) [] = false := rfl
theorem hexRun_cons (n : Nat) (b : UInt8) (r : List UInt8) :
    hexRun (n + 1) (b :: r) = (isHexC b && hexRun n r) := by
  simp [hexRun, Bool.and_comm, Bool.and_assoc, Bool.and_left_comm]

theorem hexRun_iff_skipHexGo (s : Src) (n p : Nat) : hexRun n (rest s p) = true ↔ skipHexGo s n p = p + n := by
  induction n generalizing p with
  | zero => exact ⟨fun _ => rfl, fun _ => rfl⟩
  | succ n ih =>
    have hne : ¬ p = p + (n + 1) := Nat.ne_of_lt (Nat.lt_add_of_pos_right (Nat.succ_pos n))
    rw [skipHexGo]
    rcases rest_cases s p with ⟨h, hr⟩ | ⟨b, h, hr⟩
    · rw [h, hr, hexRun_nil]
      exact ⟨(nomatch ·), fun e => absurd e hne⟩
    · rw [h, hr, hexRun_cons, isHexC_eq]
      dsimp only
      by_cases hb : isHexDigit b = true
      · rw [if_pos hb, hb, Bool.true_and, ih (p + 1), Nat.add_right_comm]; rfl
      · rw [if_neg hb, Bool.eq_false_iff.mpr hb, Bool.false_and]
        exact ⟨(nomatch ·), fun e => absurd e hne⟩

theorem skipUnicode_hexRun {s : Src} (hs : AsciiThenBoundary s) (p len : Nat) (hp : Bnd s p) :
    (skipUnicodeEscapeSequence s p len = .ok () (p + len) ∧ hexRun len (rest s p) = true) ∨
    (∃ e q, skipUnicodeEscapeSequence s p len = .err e q ∧ hexRun len (rest s p) = false) := by
  have hgood := skipUnicodeEscapeSequence_good hs p len hp
  have hle := (skipHexGo_after s len p).le
  have hrun := hexRun_iff_skipHexGo s len p
  rw [skipUnicodeEscapeSequence] at hgood ⊢
  dsimp only at hgood ⊢
  by_cases hc : skipHexGo s len p - p = len
  · have e : skipHexGo s len p = p + len := (Nat.add_sub_cancel' hle).symm.trans (congrArg (p + ·) hc)
    rw [if_neg (by rw [hc, bne_self_eq_false]; exact Bool.false_ne_true), e]
    exact .inl ⟨rfl, hrun.mpr e⟩
  · have e : ¬ skipHexGo s len p = p + len := fun e => hc (by rw [e, Nat.add_sub_cancel_left])
    rw [if_pos (bne_iff_ne.mpr hc)] at hgood ⊢
    cases hsl : slice s p (if skipHexGo s len p ≥ s.size then skipHexGo s len p
        else nextBoundary s (skipHexGo s len p + 1)) with
    | none => rw [hsl] at hgood; exact hgood.elim
    | some seq => exact .inr ⟨_, _, rfl, Bool.eq_false_iff.mpr (mt hrun.mp e)⟩

/-- lock-step invariant between the string scanner and `quoted_char*` -/
def Lock (s : Src) (n p : Nat) (r : R Unit) : Prop :=
  r.Cases (fun _ q => p ≤ q ∧ (s[q]? = none ∨ s[q]? = some 34) ∧ quotedChars n (rest s p) = (seg s p q, rest s q))
    (∀ r', (quotedChars n (rest s p)).2 ≠ 34 :: r')

theorem Lock.step {s : Src} {n p k : Nat} {r : R Unit} (h : Lock s n (p + k) r)
    (hq : quotedChar (rest s p) = some ((rest s p).take k, (rest s p).drop k)) : Lock s (n + 1) p r := by
  rw [seg_take, rest_drop] at hq
  refine h.imp (fun _ q ⟨a1, a3, a4⟩ => ⟨Nat.le_trans (Nat.le_add_right p k) a1, a3, ?_⟩) fun h r' => ?_
  · rw [quotedChars, hq]
    dsimp only
    rw [a4, seg_append (Nat.le_add_right p k) a1]
  · rw [quotedChars, hq]
    exact h r'

theorem Lock.stop_ok {s : Src} {n p : Nat} (hq : quotedChar (rest s p) = none)
    (h : s[p]? = none ∨ s[p]? = some 34) : Lock s (n + 1) p (.ok () p) := by
  refine ⟨Nat.le_refl _, h, ?_⟩
  rw [quotedChars, hq, seg_self]

theorem Lock.stop_err {s : Src} {n p : Nat} {e : PErr} {q : Nat} (hq : quotedChar (rest s p) = none)
    (h : s[p]? ≠ some 34) : Lock s (n + 1) p (.err e q) := by
  intro r'
  rw [quotedChars, hq]
  exact fun hr => h (rest_head hr)

theorem quotedChar_plain {b : UInt8} {r : List UInt8} (h92 : b ≠ 92) (h34 : b ≠ 34) (h : NoBreak b r) :
    quotedChar (b :: r) = some ([b], r) :=
  quotedChar.eq_9 b r (fun _ e => absurd e h92) (fun _ e => absurd e h92) (fun _ e => absurd e h92)
    (fun _ e => absurd e h92) h92 h34 h.1 fun t e => h.2 e t

theorem scanStringGo_lf {s : Src} {n p : Nat} (h : s[p]? = some 10) (hn : s.size - p ≤ n) :
    ∃ e q, scanStringGo s n p = .err e q := by
  cases n with
  | zero => exact absurd (get_lt h) (Nat.not_lt.mpr (left_zero hn))
  | succ n => exact ⟨_, _, by rw [scanStringGo, h]; rfl⟩

theorem Lock.unicode {s : Src} (hs : AsciiThenBoundary s) {n p k : Nat} {c : UInt8} (h : s[p]? = some 92)
    (g : s[p + 1]? = some c) (hc : c < 128)
    (hq : ∀ r, quotedChar (92 :: c :: r) = if hexRun k r then some (92 :: c :: r.take k, r.drop k) else none)
    (ih : ∀ q, p < q → Lock s n q (scanStringGo s n q)) :
    Lock s (n + 1) p ((skipUnicodeEscapeSequence s (p + 2) k).bind fun _ q => scanStringGo s n q) := by
  have hr : rest s p = 92 :: c :: rest s (p + 2) := by rw [rest_cons h, rest_cons g]
  rcases skipUnicode_hexRun hs (p + 2) k (bnd_succ hs g hc) with ⟨e, hx⟩ | ⟨_, _, e, hx⟩ <;> rw [e]
  · have e2 : p + 2 + k = p + (k + 2) := Nat.add_right_comm p 2 k
    have hi := ih (p + 2 + k) (e2 ▸ Nat.lt_add_of_pos_right (Nat.succ_pos _))
    rw [R.bind_ok]
    rw [e2] at hi ⊢
    refine hi.step ?_
    rw [hr, hq, if_pos hx]
    rfl
  · exact Lock.stop_err (by rw [hr, hq, if_neg (Bool.eq_false_iff.mp hx)]) (h ▸ by decide)

theorem scanStringGo_lock {s : Src} (hs : AsciiThenBoundary s) (n p : Nat) (hn : s.size - p ≤ n) :
    Lock s n p (scanStringGo s n p) := by
  induction n generalizing p with
  | zero =>
    have he : s.size ≤ p := left_zero hn
    exact ⟨Nat.le_refl _, .inl (Array.getElem?_eq_none he),
      by rw [rest_eq_nil_iff.mpr he, seg_self]; rfl⟩
  | succ n ih =>
    have ih' : ∀ q, p < q → Lock s n q (scanStringGo s n q) := fun q h1 => ih q (left_lt hn h1)
    refine scanStringGo_cases₂ (motive := fun r _ => Lock s (n + 1) p r) s s n n p p rfl (fun _ => rfl) ?_ ?_ ?_ ?_ ?_ ?_
    · rintro (h | h)
      · exact Lock.stop_ok (by rw [rest_nil h]; rfl) (.inl h)
      · exact Lock.stop_ok (by rw [rest_cons h]; rfl) (.inr h)
    · intro c h g hc
      refine (ih' (p + 2) (Nat.lt_add_of_pos_right (by decide))).step ?_
      rw [rest_cons h, rest_cons g]
      rcases hc with rfl | rfl <;> rfl
    · intro c len h g hc
      rcases hc with ⟨rfl, rfl⟩ | ⟨rfl, rfl⟩ <;> exact Lock.unicode hs h g (by decide) (fun _ => rfl) ih'
    · intro h g92 g34 g117 g85
      refine Lock.stop_err ?_ (h ▸ by decide)
      rw [rest_cons h]
      exact quotedChar.eq_5 _ (fun _ e => g92 (rest_head e)) (fun _ e => g34 (rest_head e))
        (fun _ e => g117 (rest_head e)) (fun _ e => g85 (rest_head e))
    · intro h
      exact Lock.stop_err (by rw [rest_cons h]; rfl) (h ▸ by decide)
    · intro b h h92 h34 h10
      by_cases hcrlf : b = 13 ∧ s[p + 1]? = some 10
      · -- the parser takes a `\r` like any other byte and reports the `\n` at the next step
        obtain ⟨_, _, e⟩ := scanStringGo_lf hcrlf.2 (left_succ hn)
        rw [e]
        exact Lock.stop_err (by rw [rest_cons h, rest_cons hcrlf.2, hcrlf.1]; rfl)
          fun e => h34 (Option.some.inj (h.symm.trans e))
      · exact (ih' (p + 1) (Nat.lt_succ_self p)).step
          (by rw [rest_cons h]; exact quotedChar_plain h92 h34 (.at_cursor h10 hcrlf))

/-- T1/T2: the string-literal scanner of `get_inline_expression` (`scan` from after the opening
quote, then `expect_byte('"')`) accepts exactly the grammar's `StringLiteral` — the same escape set
`\\ \" \uXXXX \UXXXXXX`, no raw line end — with the same raw value `s[p+1..q)`. -/
theorem stringLiteral_eq_scanString {s : Src} (hs : AsciiThenBoundary s) (p : Nat) (h : s[p]? = some 34) :
    (scanString s (p + 1)).Cases
      (fun _ q => (s[q]? = some 34 ∧ stringLiteral (rest s p) = some (seg s (p + 1) q, rest s (q + 1))) ∨
        (s[q]? = none ∧ stringLiteral (rest s p) = none))
      (stringLiteral (rest s p) = none) := by
  have hl := scanStringGo_lock hs (s.size - (p + 1)) (p + 1) (Nat.le_refl _)
  have hlen : (rest s (p + 1)).length = s.size - (p + 1) := by rw [rest, List.length_drop, Array.length_toList]
  rw [scanString, rest_cons h, stringLiteral, hlen]
  refine hl.imp (fun _ q ⟨_, a3, a4⟩ => ?_) fun hl => ?_
  · rcases a3 with a3 | a3
    · exact .inr ⟨a3, by rw [a4, rest_nil a3]⟩
    · exact .inl ⟨a3, by rw [a4, rest_cons a3]; rfl⟩
  · show (match (quotedChars _ _).2 with | 34 :: r'' => some ((quotedChars _ _).1, r'') | _ => none) = none
    split
    · rename_i r'' heq; exact absurd heq (hl r'')
    · rfl

theorem numStart_not_alpha (b : UInt8) (hb : (isDigit b || b == 45) = true) : isAlpha b = false := by
  cases ha : isAlpha b with
  | false => rfl
  | true =>
    obtain ⟨hd, _, _, h45, _⟩ := (byte_classes b).1 ha
    rw [hd, h45] at hb
    cases hb

theorem digits_none {b : UInt8} (r : List UInt8) (h : isDigit b = false) : digits (b :: r) = none := by
  rw [digits, isDigitC_fun, List.takeWhile_cons_of_neg (Bool.eq_false_iff.mp h)]
  rfl

/-- T1: `get_variant_key` looks at one byte (`is_number_start`) to choose between a number and an
identifier key; the grammar tries `NumberLiteral` first and `Identifier` second.  The two agree because
the rules exclude each other on the first byte. -/
theorem variantKey_choice (s : Src) (p : Nat) :
    (isNumberStart s p = true → identifier (rest s p) = none) ∧
    (isNumberStart s p = false → numberLiteral (rest s p) = none) := by
  rw [isNumberStart]
  rcases rest_cases s p with ⟨h, hr⟩ | ⟨b, h, hr⟩
  · rw [h, hr]
    exact ⟨fun _ => rfl, fun _ => rfl⟩
  · rw [h, hr]
    constructor
    · intro hb
      rw [identifier, isAlphaC_eq, numStart_not_alpha b hb]
      rfl
    · intro hb
      have ⟨hd, h45⟩ := Bool.or_eq_false_iff.mp hb
      rw [numberLiteral_no_sign _ fun r e => u8_beq_false.mp h45 (List.cons.inj e).1, numberAfterSign,
        digits_none _ hd]

theorem textRun_char {b : UInt8} {r : List UInt8} (h123 : b ≠ 123) (h125 : b ≠ 125) (h : NoBreak b r) :
    textRun (b :: r) = (b :: (textRun r).1, (textRun r).2) := by
  rw [textRun.eq_2 b r fun t e => h.2 e t, if_neg (by rw [u8_beq_false.mpr h123, u8_beq_false.mpr h125, u8_beq_false.mpr h.1]; decide)]

theorem textRun_special {b : UInt8} (r : List UInt8) (h : b = 10 ∨ b = 123 ∨ b = 125) :
    textRun (b :: r) = ([], b :: r) := by
  rcases h with rfl | rfl | rfl <;> rfl

theorem textRun_crlf (r : List UInt8) : textRun (13 :: 10 :: r) = ([], 13 :: 10 :: r) := rfl

theorem textRun_cr_other {c : UInt8} (r : List UInt8) (h : c ≠ 10) :
    textRun (13 :: c :: r) = (13 :: (textRun (c :: r)).1, (textRun (c :: r)).2) :=
  textRun_char (by decide) (by decide) (.cr_other h)

theorem textRun_plain {b : UInt8} (r : List UInt8) (h1 : b ≠ 10) (h2 : b ≠ 123) (h3 : b ≠ 125) (h4 : b ≠ 13) :
    textRun (b :: r) = (b :: (textRun r).1, (textRun r).2) :=
  textRun_char h2 h3 (.of_ne h1 h4)

/-- where the run of text chars ends, given the first special byte `e` found by `memchr3`: a `\r` directly
before a `\n` is not a text char -/
def textEnd (s : Src) (p e : Nat) : Nat :=
  if s[e]? = some 10 ∧ p < e ∧ s[e - 1]? = some 13 then e - 1 else e

theorem textEnd_self (s : Src) (p : Nat) : textEnd s p p = p :=
  if_neg fun h => Nat.lt_irrefl _ h.2.1

theorem textEnd_succ {s : Src} {p e : Nat} {b : UInt8} (hb : s[p]? = some b) (he : p < e)
    (h : ¬ (b = 13 ∧ s[p + 1]? = some 10)) :
    textEnd s p e = textEnd s (p + 1) e ∧ p < textEnd s (p + 1) e := by
  rw [textEnd, textEnd]
  by_cases hc : s[e]? = some 10 ∧ p + 1 < e ∧ s[e - 1]? = some 13
  · rw [if_pos hc, if_pos ⟨hc.1, he, hc.2.2⟩]
    exact ⟨rfl, Nat.lt_sub_of_add_lt hc.2.1⟩
  · rw [if_neg hc, if_neg]
    · exact ⟨rfl, he⟩
    · intro hc'
      have : e = p + 1 := Nat.le_antisymm (Nat.le_of_not_lt fun hlt => hc ⟨hc'.1, hlt, hc'.2.2⟩) he
      subst this
      exact h ⟨Option.some.inj (hb.symm.trans hc'.2.2), hc'.1⟩

theorem textRun_eof {s : Src} {p : Nat} (hr : rest s p = []) : textRun (rest s p) = (seg s p s.size, []) := by
  rw [seg, hr, List.take_nil]; rfl

theorem textRun_step {s : Src} {p : Nat} {b : UInt8} (h : s[p]? = some b) (hbr : ¬ BreakAt s p)
    (hcrlf : ¬ (b = 13 ∧ s[p + 1]? = some 10)) :
    textRun (rest s p) = (b :: (textRun (rest s (p + 1))).1, (textRun (rest s (p + 1))).2) := by
  rw [rest_cons h]
  exact textRun_char (fun e => hbr (.inr (.inl (e ▸ h)))) (fun e => hbr (.inr (.inr (e ▸ h))))
    (.at_cursor (fun e => hbr (.inl (e ▸ h))) hcrlf)

theorem textRun_first {s : Src} {p e : Nat} (hF : First (BreakAt s) p e) :
    textRun (rest s p) = (seg s p (textEnd s p e), rest s (textEnd s p e)) := by
  have he : e < s.size := by rcases hF.stops with h | h | h <;> exact get_lt h
  refine hF.induction (motive := fun j => textRun (rest s j) = (seg s j (textEnd s j e), rest s (textEnd s j e))) ?_
    fun j hpj hlt hj ih => ?_
  · rw [textEnd_self, seg_self]
    rcases hF.stops with h | h | h <;> rw [rest_cons h]
    · exact textRun_special _ (.inl rfl)
    · exact textRun_special _ (.inr (.inl rfl))
    · exact textRun_special _ (.inr (.inr rfl))
  · obtain ⟨b, hb⟩ : ∃ b, s[j]? = some b := ⟨_, Array.getElem?_eq_getElem (Nat.lt_trans hlt he)⟩
    by_cases hcrlf : b = 13 ∧ s[j + 1]? = some 10
    · -- `\r\n`: the first of the three bytes is the `\n`, the text run ends before the `\r`
      obtain rfl : e = j + 1 := Nat.le_antisymm (hF.le_of_stop (Nat.le_succ_of_le hpj) (.inl hcrlf.2)) hlt
      have h13 : s[j]? = some 13 := hcrlf.1 ▸ hb
      rw [show textEnd s j (j + 1) = j from if_pos ⟨hcrlf.2, Nat.lt_succ_self j, h13⟩, seg_self,
        rest_cons h13, rest_cons hcrlf.2]
      rfl
    · obtain ⟨hte, hlt'⟩ := textEnd_succ hb hlt hcrlf
      rw [textRun_step hb hj hcrlf, ih, hte, seg_cons hb hlt']

theorem textRun_noBreak {s : Src} {p : Nat} (hp : p ≤ s.size) (h : ∀ j, p ≤ j → ¬ BreakAt s j) :
    textRun (rest s p) = (seg s p s.size, []) := by
  have hF : First (fun j => s.size ≤ j) p s.size := ⟨hp, fun j _ h2 => Nat.not_le.mpr h2, Nat.le_refl _⟩
  refine hF.induction (motive := fun j => textRun (rest s j) = (seg s j s.size, []))
    (textRun_eof (rest_eq_nil_iff.mpr (Nat.le_refl _))) fun j hpj hlt _ ih => ?_
  obtain ⟨b, hb⟩ : ∃ b, s[j]? = some b := ⟨_, Array.getElem?_eq_getElem hlt⟩
  rw [textRun_step hb (h j hpj) fun c => h (j + 1) (Nat.le_succ_of_le hpj) (.inl c.2), ih, seg_cons hb hlt]

/-- the end of the grammar's text run inside the slice `get_text_slice` returns: a line-feed slice carries
its `\n` -/
def textStop (term : Termination) (stop : Nat) : Nat :=
  match term with
  | .lineFeed => stop - 1
  | _ => stop

/-- T1: `get_text_slice` versus `inline_text ::= text_char+`: the slice starts at the cursor and covers
exactly the grammar's run of text chars (plus the `\n` itself for a line-feed termination); the four
terminations are the four things that can follow a run: `\n`, `\r\n`, `{`, end of input; `}` is the error. -/
theorem textRun_eq_getTextSlice (s : Src) (p : Nat) (hp : p ≤ s.size) :
    match getTextSlice s p with
    | .ok (start, stop, _, term) q => start = p ∧
        textRun (rest s p) = (seg s p (textStop term stop), rest s (textStop term stop)) ∧
        (match term with
         | .lineFeed => s[stop - 1]? = some 10 ∧ q = stop ∧ p < stop
         | .crlf => s[stop]? = some 13 ∧ s[stop + 1]? = some 10 ∧ q = stop + 1
         | .placeableStart => s[stop]? = some 123 ∧ q = stop
         | .eof => stop = s.size ∧ q = s.size)
    | .err _ q => s[q]? = some 125 ∧ textRun (rest s p) = (seg s p q, rest s q)
    | .panic _ => False
    | .fuel => False := by
  rw [getTextSlice, if_neg (Nat.not_lt.mpr hp)]
  cases hme : memchr3 s p with
  | none =>
    exact ⟨rfl, (textRun_noBreak hp (memchr3_eq_none.mp hme)).trans
      (Prod.ext rfl (rest_eq_nil_iff.mpr (Nat.le_refl _)).symm), rfl, rfl⟩
  | some e =>
    have hF := memchr3_eq_some.mp hme
    have hm := textRun_first hF
    dsimp only
    have hte (hc : ¬ (s[e]? = some 10 ∧ p < e ∧ s[e - 1]? = some 13)) :
        textRun (rest s p) = (seg s p e, rest s e) := by rw [hm, textEnd, if_neg hc]
    rcases hF.stops with a | a | a <;> rw [a]
    · have hb := isCurrentByte_iff s (e - 1) 13
      by_cases hcr : e > p ∧ s[e - 1]? = some 13
      · rw [if_pos ⟨hcr.1, hb.mpr hcr.2⟩]
        have he : e - 1 + 1 = e := Nat.sub_add_cancel (Nat.lt_of_le_of_lt (Nat.zero_le p) hcr.1)
        exact ⟨rfl, by rw [hm, textEnd, if_pos ⟨a, hcr⟩]; rfl, hcr.2, he.symm ▸ a, he.symm⟩
      · rw [if_neg fun h => hcr ⟨h.1, hb.mp h.2⟩]
        exact ⟨rfl, hte (fun h => hcr h.2), a, rfl, Nat.lt_succ_of_le hF.le⟩
    · exact ⟨rfl, hte (fun h => nomatch a.symm.trans h.1), a, rfl⟩
    · exact ⟨a, hte (fun h => nomatch a.symm.trans h.1)⟩

theorem alpha_callee (b : UInt8) (hb : isAlpha b = true) :
    (isUpper b || isDigit b || b == 95 || b == 45) = isUpperC b := by
  obtain ⟨hd, _, _, h45, h95, _⟩ := (byte_classes b).1 hb
  rw [hd, h95, h45, Bool.or_false, Bool.or_false, Bool.or_false]
  rfl

/-- T2: on an identifier (first byte a letter) Rust's `is_callee` (every byte in `[A-Z0-9_-]`) is the
grammar's callee rule `[A-Z][A-Z0-9_-]*` -/
theorem calleeOk_eq_isCallee (s : Src) (sp : Span) (b : UInt8) (r : List UInt8)
    (h : spanBytes s sp = b :: r) (hb : isAlpha b = true) :
    calleeOk (spanBytes s sp) = isCallee s sp := by
  rw [isCallee, h, calleeOk, List.all_cons, alpha_callee b hb]
  rfl

end FluentProofs.SpecLex

import FluentProofs.ParserSteps
import FluentProofs.ParserScan
import FluentProofs.ParserBytes
/-!
# The leaf functions of the parser: cursors stay in range and on char boundaries (C01)

`Good s lo r Q`: the outcome `r` is `ok`/`err` with its cursor in `[lo, size]`, never a panic.  Boundaries come from one
fact about UTF-8 (`AsciiThenBoundary`): every cursor the parser stops at is the start, the end, or just behind an ASCII
byte (`After`).  What the position scanners return is taken from `ParserScan`; the structured loops (`skip_blank_block`,
string literals, comments) are walked here.  The last section proves the UTF-8 fact for the bytes of every `String`.
-/
namespace FluentProofs.Parser
open FluentModel.Syntax

theorem forall_uint8 (P : UInt8 → Prop) (h : ∀ n : Fin 256, P (UInt8.ofNat n.val)) : ∀ b, P b := by
  intro b
  have := h ⟨b.toNat, b.toNat_lt⟩
  simpa using this

theorem ascii_not_cont : ∀ b : UInt8, b < 128 → ((b &&& 0xC0) != 0x80) = true := by
  intro b h
  have h1 : (b &&& 0xC0).toNat ≤ b.toNat := by rw [UInt8.toNat_and]; exact Nat.and_le_left
  have h2 : b.toNat < 128 := UInt8.lt_iff_toNat_lt.mp h
  simp only [bne_iff_ne, ne_eq, ← UInt8.toNat_inj, UInt8.toNat_ofNat]
  omega

theorem getElem?_append_one_left {α : Type} {l : List α} {x ph : α} {i : Nat} (h : l[i]? = some ph) :
    (l ++ [x])[i]? = some ph := by
  rw [List.getElem?_append_left (List.getElem?_eq_some_iff.mp h).1]; exact h

/-! ### the byte classes as ranges of `toNat`

Every fact of the form "a letter is not a digit, not `"`, below 128 …" is `omega` after rewriting with these. -/

theorem isAlpha_iff (b : UInt8) :
    isAlpha b = true ↔ (65 ≤ b.toNat ∧ b.toNat ≤ 90) ∨ (97 ≤ b.toNat ∧ b.toNat ≤ 122) := by
  simp only [isAlpha, Bool.or_eq_true, Bool.and_eq_true, decide_eq_true_eq, UInt8.le_iff_toNat_le, UInt8.toNat_ofNat]

theorem isDigit_iff (b : UInt8) : isDigit b = true ↔ 48 ≤ b.toNat ∧ b.toNat ≤ 57 := by
  simp only [isDigit, Bool.and_eq_true, decide_eq_true_eq, UInt8.le_iff_toNat_le, UInt8.toNat_ofNat]

theorem isUpper_iff (b : UInt8) : isUpper b = true ↔ 65 ≤ b.toNat ∧ b.toNat ≤ 90 := by
  simp only [isUpper, Bool.and_eq_true, decide_eq_true_eq, UInt8.le_iff_toNat_le, UInt8.toNat_ofNat]

theorem isHexDigit_iff (b : UInt8) :
    isHexDigit b = true ↔ (48 ≤ b.toNat ∧ b.toNat ≤ 57) ∨ (65 ≤ b.toNat ∧ b.toNat ≤ 70) ∨ (97 ≤ b.toNat ∧ b.toNat ≤ 102) := by
  simp only [isHexDigit, isDigit, Bool.or_eq_true, Bool.and_eq_true, decide_eq_true_eq, UInt8.le_iff_toNat_le,
    UInt8.toNat_ofNat, or_assoc]

theorem isIdentByte_iff (b : UInt8) :
    isIdentByte b = true ↔ isAlpha b = true ∨ isDigit b = true ∨ b.toNat = 45 ∨ b.toNat = 95 := by
  simp only [isIdentByte, Bool.or_eq_true, beq_iff_eq, ← UInt8.toNat_inj, UInt8.toNat_ofNat, or_assoc]

/-- with `UInt8.toNat_ofNat` this turns `b = 45`, `b ≠ 34` into arithmetic -/
theorem byte_eq_iff (b c : UInt8) : b = c ↔ b.toNat = c.toNat := UInt8.toNat_inj.symm

theorem ne_of_toNat_ne {b c : UInt8} (h : b.toNat ≠ c.toNat) : b ≠ c := fun e => h (e ▸ rfl)

theorem byte_lt_128 {b : UInt8} (h : b.toNat < 128) : b < 128 := UInt8.lt_iff_toNat_lt.mpr h

theorem isAlpha_lt : ∀ b : UInt8, isAlpha b = true → b < 128 := fun b h =>
  byte_lt_128 (by have := (isAlpha_iff b).mp h; omega)
theorem isDigit_lt : ∀ b : UInt8, isDigit b = true → b < 128 := fun b h =>
  byte_lt_128 (by have := (isDigit_iff b).mp h; omega)
theorem isIdentByte_lt : ∀ b : UInt8, isIdentByte b = true → b < 128 := fun b h =>
  byte_lt_128 (by
    rcases (isIdentByte_iff b).mp h with h | h | h | h
    · have := (isAlpha_iff b).mp h; omega
    · have := (isDigit_iff b).mp h; omega
    · omega
    · omega)
theorem isHexDigit_lt : ∀ b : UInt8, isHexDigit b = true → b < 128 := fun b h =>
  byte_lt_128 (by have := (isHexDigit_iff b).mp h; omega)

/-- `i` is a char boundary of `s` (this implies `i ≤ s.size`) -/
def Bnd (s : Src) (i : Nat) : Prop := isBoundary s i = true

/-- The one UTF-8 fact the parser relies on: the position after an ASCII byte is a char boundary.
It holds for the bytes of every `String` / Rust `&str`. -/
def AsciiThenBoundary (s : Src) : Prop :=
  ∀ i b, s[i]? = some b → b < 128 → isBoundary s (i + 1) = true

theorem Bnd.le {s : Src} {i : Nat} (h : Bnd s i) : i ≤ s.size := by
  unfold Bnd isBoundary at h
  by_cases h1 : i < s.size
  · omega
  · have : s[i]? = none := by simp; omega
    simp [this] at h; omega

theorem bnd_zero (s : Src) : Bnd s 0 := by simp [Bnd, isBoundary]
theorem bnd_size (s : Src) : Bnd s s.size := by simp [Bnd, isBoundary]

theorem bnd_of_ascii {s : Src} {i : Nat} {b : UInt8} (h : s[i]? = some b) (hb : b < 128) : Bnd s i := by
  have := ascii_not_cont b hb
  simp [Bnd, isBoundary, h, this]

theorem bnd_succ {s : Src} (hs : AsciiThenBoundary s) {i : Nat} {b : UInt8} (h : s[i]? = some b) (hb : b < 128) :
    Bnd s (i + 1) := hs i b h hb

def Asc (s : Src) (i : Nat) : Prop := ∃ b, s[i]? = some b ∧ b < 128

theorem Asc.bnd {s : Src} {i : Nat} (h : Asc s i) : Bnd s i := by
  obtain ⟨b, h1, h2⟩ := h; exact bnd_of_ascii h1 h2
theorem Asc.bnd_succ {s : Src} (hs : AsciiThenBoundary s) {i : Nat} (h : Asc s i) : Bnd s (i + 1) := by
  obtain ⟨b, h1, h2⟩ := h; exact hs i b h1 h2
theorem Asc.lt {s : Src} {i : Nat} (h : Asc s i) : i < s.size := by
  obtain ⟨b, h1, _⟩ := h; exact get_lt h1

def After (s : Src) (p q : Nat) : Prop := q = p ∨ (p < q ∧ Asc s (q - 1))

theorem After.bnd {s : Src} (hs : AsciiThenBoundary s) {p q : Nat} (h : After s p q) (hp : Bnd s p) : Bnd s q := by
  rcases h with rfl | ⟨h1, h2⟩
  · exact hp
  · have := h2.bnd_succ hs
    have e : q - 1 + 1 = q := by omega
    rwa [e] at this

theorem After.le {s : Src} {p q : Nat} (h : After s p q) : p ≤ q := by
  rcases h with rfl | ⟨h1, _⟩ <;> omega
theorem After.le_size {s : Src} {p q : Nat} (h : After s p q) (hp : p ≤ s.size) : q ≤ s.size := by
  rcases h with rfl | ⟨h1, h2⟩
  · exact hp
  · have := h2.lt; omega
theorem After.refl (s : Src) (p : Nat) : After s p p := Or.inl rfl
theorem After.trans {s : Src} {p q r : Nat} (h1 : After s p q) (h2 : After s q r) : After s p r := by
  rcases h2 with rfl | ⟨h3, h4⟩
  · exact h1
  · have := h1.le; exact Or.inr ⟨by omega, h4⟩
theorem After.step {s : Src} {p : Nat} (h : Asc s p) : After s p (p + 1) := Or.inr ⟨by omega, by simpa using h⟩

theorem After.of_passed {s : Src} {p q : Nat} (hle : p ≤ q) (h : ∀ j, p ≤ j → j < q → Asc s j) : After s p q := by
  by_cases he : q = p
  · exact Or.inl he
  · exact Or.inr ⟨by omega, h (q - 1) (by omega) (by omega)⟩

theorem skipBlankInline_spaces (s : Src) (p : Nat) : ∀ j, p ≤ j → j < skipBlankInline s p → s[j]? = some 32 :=
  fun j h1 h2 => Decidable.of_not_not ((skipBlankInline_first s p).skips j h1 h2)

theorem skipBlankInline_after (s : Src) (p : Nat) : After s p (skipBlankInline s p) :=
  .of_passed (skipBlankInline_first s p).le fun j h1 h2 => ⟨32, skipBlankInline_spaces s p j h1 h2, by decide⟩

/-- a byte range on which Rust's `&str[a..b]` is defined -/
def VSpan (s : Src) (sp : Span) : Prop := sp.start ≤ sp.stop ∧ Bnd s sp.start ∧ Bnd s sp.stop

theorem slice_ok {s : Src} {a b : Nat} (h : a ≤ b) (ha : Bnd s a) (hb : Bnd s b) : slice s a b = some ⟨a, b⟩ := by
  have := hb.le
  unfold Bnd at ha hb
  simp [slice, ha, hb, h, this]

theorem slice_eq_some {s : Src} {a b : Nat} {sp : Span} (h : slice s a b = some sp) : sp = ⟨a, b⟩ ∧ VSpan s sp := by
  unfold slice at h
  split at h
  · rename_i hc
    simp at h; subst h
    exact ⟨rfl, hc.1, hc.2.2.1, hc.2.2.2⟩
  · simp at h

theorem VSpan.slice {s : Src} {sp : Span} (h : VSpan s sp) : slice s sp.start sp.stop = some sp :=
  slice_ok h.1 h.2.1 h.2.2

/-- the outcome is `ok`/`err` with the cursor in `[lo, size]`, never `panic`, never `fuel` -/
def Good {α : Type} (s : Src) (lo : Nat) (r : R α) (Q : α → Nat → Prop) : Prop :=
  match r with
  | .ok a q => lo ≤ q ∧ q ≤ s.size ∧ Q a q
  | .err _ q => lo ≤ q ∧ q ≤ s.size
  | .panic _ => False
  | .fuel => False

@[simp] theorem good_ok {α : Type} (s : Src) (lo : Nat) (a : α) (q : Nat) (Q : α → Nat → Prop) :
    Good s lo (.ok a q) Q ↔ (lo ≤ q ∧ q ≤ s.size ∧ Q a q) := Iff.rfl
@[simp] theorem good_err {α : Type} (s : Src) (lo : Nat) (e : PErr) (q : Nat) (Q : α → Nat → Prop) :
    Good s lo (.err e q : R α) Q ↔ (lo ≤ q ∧ q ≤ s.size) := Iff.rfl
@[simp] theorem good_panic {α : Type} (s : Src) (lo : Nat) (m : String) (Q : α → Nat → Prop) :
    Good s lo (.panic m : R α) Q ↔ False := Iff.rfl
@[simp] theorem good_fuel {α : Type} (s : Src) (lo : Nat) (Q : α → Nat → Prop) :
    Good s lo (.fuel : R α) Q ↔ False := Iff.rfl

theorem Good.mono {α : Type} {s : Src} {lo lo' : Nat} {r : R α} {Q Q' : α → Nat → Prop}
    (h : Good s lo r Q) (hlo : lo' ≤ lo) (hQ : ∀ a q, lo ≤ q → q ≤ s.size → Q a q → Q' a q) : Good s lo' r Q' := by
  cases r with
  | ok a q => simp only [good_ok] at h ⊢; exact ⟨by omega, h.2.1, hQ _ _ h.1 h.2.1 h.2.2⟩
  | err e q => simp only [good_err] at h ⊢; omega
  | panic m => exact h
  | fuel => exact h

theorem Good.ok {α : Type} {s : Src} {lo q : Nat} {a : α} {Q : α → Nat → Prop} (h1 : lo ≤ q) (h2 : q ≤ s.size)
    (h : Q a q) : Good s lo (.ok a q) Q := ⟨h1, h2, h⟩

theorem Good.err {α : Type} {s : Src} {lo q : Nat} {e : PErr} {Q : α → Nat → Prop} (h1 : lo ≤ q) (h2 : q ≤ s.size) :
    Good s lo (.err e q : R α) Q := ⟨h1, h2⟩

theorem Good.of_ok {α : Type} {s : Src} {lo q : Nat} {r : R α} {a : α} {Q : α → Nat → Prop} (h : Good s lo r Q)
    (e : r = .ok a q) : lo ≤ q ∧ q ≤ s.size ∧ Q a q := by
  rw [e] at h; exact h

theorem Good.cases {α : Type} {s : Src} {lo : Nat} {r : R α} {Q : α → Nat → Prop} (h : Good s lo r Q) :
    (∃ a q, r = .ok a q ∧ lo ≤ q ∧ q ≤ s.size ∧ Q a q) ∨ (∃ e q, r = .err e q ∧ lo ≤ q ∧ q ≤ s.size) := by
  cases r with
  | ok a q => exact Or.inl ⟨a, q, rfl, h⟩
  | err e q => exact Or.inr ⟨e, q, rfl, h⟩
  | panic m => exact h.elim
  | fuel => exact h.elim

theorem Good.bind {α β : Type} {s : Src} {lo lo' : Nat} {r : R α} {f : α → Nat → R β} {Q : α → Nat → Prop}
    {Q' : β → Nat → Prop} (h : Good s lo r Q) (hlo : lo' ≤ lo)
    (hf : ∀ a q, lo ≤ q → q ≤ s.size → Q a q → Good s lo' (f a q) Q') : Good s lo' (r.bind f) Q' := by
  cases r with
  | ok a q => exact hf a q h.1 h.2.1 h.2.2
  | err e q => exact ⟨Nat.le_trans hlo h.1, h.2⟩
  | panic m => exact h
  | fuel => exact h

theorem skipEol_eq (s : Src) (p : Nat) :
    skipEol s p = if s[p]? = some 10 then some (p + 1)
      else if s[p]? = some 13 ∧ s[p + 1]? = some 10 then some (p + 2) else none := by
  unfold skipEol
  by_cases h10 : s[p]? = some 10
  · simp only [h10, if_true]
  by_cases h13 : s[p]? = some 13
  · simp only [h13, beq_iff_eq, true_and, if_neg (by decide : ¬ (some (13 : UInt8) = some 10))]
  · have hc : ¬ (s[p]? = some 13 ∧ s[p + 1]? = some 10) := fun c => h13 c.1
    simp only [if_neg h10, if_neg hc]

theorem skipEol_none_of {s : Src} {p : Nat} (h1 : s[p]? ≠ some 10) (h2 : s[p]? ≠ some 13) : skipEol s p = none := by
  rw [skipEol_eq, if_neg h1, if_neg fun c => h2 c.1]

theorem skipEol_cases {s : Src} {p q : Nat} (h : skipEol s p = some q) :
    (q = p + 1 ∧ s[p]? = some 10) ∨ (q = p + 2 ∧ s[p]? = some 13 ∧ s[p + 1]? = some 10) := by
  unfold skipEol at h
  split at h
  · rename_i h0; simp at h; exact Or.inl ⟨h.symm, h0⟩
  · rename_i h0
    split at h <;> simp at h
    rename_i h1
    exact Or.inr ⟨h.symm, h0, by simpa using h1⟩
  · simp at h

theorem skipEol_some {s : Src} {p q : Nat} (h : skipEol s p = some q) :
    p < q ∧ s[q - 1]? = some 10 ∧ (q = p + 1 ∨ q = p + 2) := by
  rcases skipEol_cases h with ⟨rfl, h10⟩ | ⟨rfl, _, h10⟩
  · exact ⟨by omega, h10, Or.inl rfl⟩
  · exact ⟨by omega, h10, Or.inr rfl⟩

theorem skipEol_after {s : Src} {p q : Nat} (h : skipEol s p = some q) : After s p q := by
  have ⟨h1, h2, _⟩ := skipEol_some h
  exact Or.inr ⟨h1, 10, h2, by decide⟩

theorem skipBlankBlockGo_after (s : Src) (n p c : Nat) : After s p (skipBlankBlockGo s n p c).1 := by
  induction n generalizing p c with
  | zero => exact After.refl _ _
  | succ n ih =>
    simp only [skipBlankBlockGo]
    split
    · rename_i p' h
      exact ((skipBlankInline_after s p).trans (skipEol_after h)).trans (ih p' (c + 1))
    · split
      · exact After.refl _ _
      · exact skipBlankInline_after s p

theorem skipBlankBlock_after (s : Src) (p : Nat) : After s p (skipBlankBlock s p).1 :=
  skipBlankBlockGo_after s _ p 0

theorem skipBlankBlockGo_unfold (s : Src) (k p c : Nat) :
    skipBlankBlockGo s (k + 1) p c =
      match skipEol s (skipBlankInline s p) with
      | some p' => skipBlankBlockGo s k p' (c + 1)
      | none => (if skipBlankInline s p < s.size then p else skipBlankInline s p, c) := by
  simp only [skipBlankBlockGo]
  cases skipEol s (skipBlankInline s p) with
  | some p' => rfl
  | none => simp only []; split <;> rfl

theorem skipBlankBlockGo_fuel (s : Src) : ∀ (k k' p c : Nat), 0 < k → s.size < p + k → 0 < k' → s.size < p + k' →
    skipBlankBlockGo s k p c = skipBlankBlockGo s k' p c := by
  intro k
  induction k with
  | zero => intro k' p c h; exact absurd h (Nat.lt_irrefl 0)
  | succ k ih =>
    intro k' p c _ h1 hk' h2
    obtain ⟨k', rfl⟩ : ∃ j, k' = j + 1 := ⟨k' - 1, by omega⟩
    rw [skipBlankBlockGo_unfold, skipBlankBlockGo_unfold]
    cases hE : skipEol s (skipBlankInline s p) with
    | none => rfl
    | some p' =>
      have h3 := skipEol_some hE
      have hp' : p < p' := Nat.lt_of_le_of_lt (skipBlankInline_after s p).le h3.1
      have h5 : p' ≤ s.size := by have := get_lt h3.2.1; omega
      show skipBlankBlockGo s k p' (c + 1) = skipBlankBlockGo s k' p' (c + 1)
      exact ih k' p' (c + 1) (by omega) (by omega) (by omega) (by omega)

theorem skipBlankBlock_eq (s : Src) {k p : Nat} (hk : 0 < k) (h : s.size < p + k) :
    skipBlankBlock s p = skipBlankBlockGo s k p 0 :=
  skipBlankBlockGo_fuel s _ k p 0 (Nat.succ_pos _) (by omega) hk h

theorem BlankAt.asc {s : Src} {j : Nat} (h : BlankAt s j) : Asc s j := by
  rcases h with h | h | ⟨h, _⟩ <;> exact ⟨_, h, by decide⟩

theorem skipBlank_after (s : Src) (p : Nat) : After s p (skipBlank s p) :=
  .of_passed (skipBlank_first s p).le fun j h1 h2 => (Classical.not_not.mp ((skipBlank_first s p).skips j h1 h2)).asc

theorem isCurrentByte_iff (s : Src) (p : Nat) (b : UInt8) : isCurrentByte s p b = true ↔ s[p]? = some b := by
  simp [isCurrentByte]

theorem expectByte_good (s : Src) (p : Nat) (b : UInt8) (hp : p ≤ s.size) :
    Good s p (expectByte s p b) (fun _ q => q = p + 1 ∧ s[p]? = some b) := by
  rcases expectByte_cases s p b with ⟨h, hb⟩ | ⟨h, _⟩ <;> rw [h]
  · exact .ok (Nat.le_succ p) (get_lt hb) ⟨rfl, hb⟩
  · exact .err (Nat.le_refl p) hp

theorem takeByteIf_cases (s : Src) (p : Nat) (b : UInt8) :
    (takeByteIf s p b = (p + 1, true) ∧ s[p]? = some b) ∨ (takeByteIf s p b = (p, false) ∧ s[p]? ≠ some b) := by
  unfold takeByteIf
  split
  · rename_i h; exact Or.inl ⟨rfl, (isCurrentByte_iff s p b).mp h⟩
  · rename_i h; exact Or.inr ⟨rfl, fun h' => h ((isCurrentByte_iff s p b).mpr h')⟩

theorem takeByteIf_pos {s : Src} {p : Nat} {b : UInt8} (h : s[p]? = some b) : takeByteIf s p b = (p + 1, true) :=
  (takeByteIf_cases s p b).elim And.left fun h' => absurd h h'.2

theorem takeByteIf_neg {s : Src} {p : Nat} {b : UInt8} (h : s[p]? ≠ some b) : takeByteIf s p b = (p, false) :=
  (takeByteIf_cases s p b).elim (fun h' => absurd h'.2 h) And.left

theorem scanWhileGo_spec (s : Src) (pred : UInt8 → Bool) (n p : Nat) :
    p ≤ scanWhileGo s pred n p ∧ scanWhileGo s pred n p ≤ p + n ∧
      ∀ j, p ≤ j → j < scanWhileGo s pred n p → ∃ b, s[j]? = some b ∧ pred b = true :=
  have h := scanWhileGo_first s pred n p
  ⟨h.le, h.le_of_stop (Nat.le_add_right p n) (Or.inr (Nat.le_refl _)),
    fun j h1 h2 => not_noPredAt fun hj => h.skips j h1 h2 (Or.inl hj)⟩

theorem scanWhile_le (s : Src) (pred : UInt8 → Bool) (p : Nat) : p ≤ scanWhile s pred p := (scanWhile_first s pred p).le

theorem scanWhile_all (s : Src) (pred : UInt8 → Bool) (p : Nat) : (spanBytes s ⟨p, scanWhile s pred p⟩).all pred = true :=
  spanBytes_all fun j h1 h2 b hb => by
    obtain ⟨c, hc, hp⟩ := scanWhile_bytes s pred p h1 h2
    rw [hc] at hb; cases hb; exact hp

theorem scanWhileGo_after (s : Src) (pred : UInt8 → Bool) (hpred : ∀ b, pred b = true → b < 128) (n p : Nat) :
    After s p (scanWhileGo s pred n p) :=
  have h := scanWhileGo_spec s pred n p
  .of_passed h.1 fun j h1 h2 => (h.2.2 j h1 h2).imp fun b hb => ⟨hb.1, hpred b hb.2⟩

theorem scanWhile_after (s : Src) (pred : UInt8 → Bool) (hpred : ∀ b, pred b = true → b < 128) (p : Nat) :
    After s p (scanWhile s pred p) := scanWhileGo_after s pred hpred _ p

theorem skipDigits_good (s : Src) (p : Nat) (hp : p ≤ s.size) :
    Good s p (skipDigits s p) (fun _ q => p < q ∧ After s p q) := by
  unfold skipDigits
  have h := scanWhile_after s isDigit isDigit_lt p
  have h1 := h.le
  have h2 := h.le_size hp
  simp only []
  split
  · simp [hp]
  · rename_i hne
    have : scanWhile s isDigit p ≠ p := by simpa using hne
    simp [h, h2]; omega

theorem vspan_mk {s : Src} {a b : Nat} (h : a ≤ b) (ha : Bnd s a) (hb : Bnd s b) : VSpan s ⟨a, b⟩ := ⟨h, ha, hb⟩

theorem takeByteIf_after (s : Src) (p : Nat) (b : UInt8) (hb : b < 128) : After s p (takeByteIf s p b).1 := by
  rcases takeByteIf_cases s p b with ⟨h, h'⟩ | ⟨h, _⟩ <;> rw [h]
  · exact After.step ⟨b, h', hb⟩
  · exact After.refl _ _

theorem getNumberLiteral_good {s : Src} (hs : AsciiThenBoundary s) (p : Nat) (hp : Asc s p) :
    Good s p (getNumberLiteral s p) (fun sp q => p < q ∧ sp = ⟨p, q⟩ ∧ VSpan s sp) := by
  have hps := hp.lt
  have hb := hp.bnd
  have fin : ∀ q, After s p q → p < q →
      Good s p (match slice s p q with
        | some sp => R.ok sp q
        | none => .panic "get_number_literal slice") (fun sp q => p < q ∧ sp = ⟨p, q⟩ ∧ VSpan s sp) := by
    intro q hA hlt
    rw [slice_ok (by omega) hb (hA.bnd hs hb)]
    exact .ok (by omega) (hA.le_size (by omega)) ⟨hlt, rfl, vspan_mk (by omega) hb (hA.bnd hs hb)⟩
  rw [getNumberLiteral_eq]
  have hA1 := takeByteIf_after s p 45 (by decide)
  have h0 := hA1.le
  refine (skipDigits_good s _ (hA1.le_size (by omega))).bind h0 fun _ p2 _ h2 ⟨h3, h4⟩ => ?_
  have hA2 := hA1.trans h4
  split
  · rename_i h46
    have hA3 := hA2.trans (After.step ⟨46, h46, by decide⟩)
    exact (skipDigits_good s _ (hA3.le_size (by omega))).bind (by omega) fun _ p4 _ _ ⟨_, h4'⟩ =>
      fin p4 (hA3.trans h4') (by omega)
  · exact fin p2 hA2 (by omega)

theorem isIdentifierStart_iff (s : Src) (p : Nat) : isIdentifierStart s p = true ↔ ∃ b, s[p]? = some b ∧ isAlpha b = true := by
  unfold isIdentifierStart
  split <;> simp_all

/-- `get_identifier_unchecked`: the cursor is one past an ASCII letter -/
theorem getIdentifierUnchecked_good {s : Src} (hs : AsciiThenBoundary s) (p : Nat) (b : UInt8)
    (hb : s[p]? = some b) (ha : isAlpha b = true) :
    Good s (p + 1) (getIdentifierUnchecked s (p + 1)) (fun sp q => sp = ⟨p, q⟩ ∧ VSpan s sp ∧ After s (p + 1) q) := by
  have hasc : Asc s p := ⟨b, hb, isAlpha_lt b ha⟩
  have hA := (After.step hasc).trans (scanWhile_after s isIdentByte isIdentByte_lt (p + 1))
  have hA' := scanWhile_after s isIdentByte isIdentByte_lt (p + 1)
  have h1 := hA'.le
  have h2 := hA.le_size (by have := hasc.lt; omega)
  unfold getIdentifierUnchecked
  simp only [usub, show 1 ≤ p + 1 by omega, if_true, Nat.add_sub_cancel]
  rw [slice_ok (by omega) hasc.bnd (hA.bnd hs hasc.bnd)]
  exact (good_ok _ _ _ _ _).mpr ⟨h1, h2, rfl, vspan_mk (by omega) hasc.bnd (hA.bnd hs hasc.bnd), hA'⟩

theorem getIdentifierUnchecked_stop {s : Src} {p : Nat} {sp : Span} {q : Nat} (h : getIdentifierUnchecked s p = .ok sp q) :
    sp.stop = q := by
  unfold getIdentifierUnchecked at h
  simp only [] at h
  split at h
  · cases h
  · split at h
    · rename_i sp' hsl
      obtain ⟨rfl, _⟩ := slice_eq_some hsl
      injection h with h1 h2
      subst h1; exact h2
    · cases h

theorem getIdentifier_good {s : Src} (hs : AsciiThenBoundary s) (p : Nat) (hp : p ≤ s.size) :
    Good s p (getIdentifier s p) (fun sp q => p < q ∧ sp = ⟨p, q⟩ ∧ VSpan s sp ∧ After s p q ∧ isIdentifierStart s p = true) := by
  unfold getIdentifier
  split
  · simp [hp]
  · rename_i h
    have h : isIdentifierStart s p = true := by simpa using h
    obtain ⟨b, hb, ha⟩ := (isIdentifierStart_iff s p).mp h
    refine (getIdentifierUnchecked_good hs p b hb ha).mono (by omega) ?_
    intro sp q h1 h2 ⟨h3, h4, h5⟩
    exact ⟨by omega, h3, h4, (After.step ⟨b, hb, isAlpha_lt b ha⟩).trans h5, h⟩

theorem getIdentifier_err_start {s : Src} {p : Nat} {e : PErr} {q : Nat} (h : getIdentifier s p = .err e q) :
    q = p ∧ isIdentifierStart s p = false := by
  unfold getIdentifier at h
  split at h
  · rename_i h1; simp at h; exact ⟨h.2.symm, by simpa using h1⟩
  · unfold getIdentifierUnchecked at h
    simp only [] at h
    split at h
    · simp at h
    · split at h <;> simp at h

theorem getAttributeAccessor_good {s : Src} (hs : AsciiThenBoundary s) (p : Nat) (hp : p ≤ s.size) :
    Good s p (getAttributeAccessor s p) (fun o _ => ∀ sp, o = some sp → VSpan s sp) := by
  rw [getAttributeAccessor_eq]
  split
  · rename_i h'
    have := get_lt h'
    exact (getIdentifier_good hs (p + 1) (by omega)).bind (by omega) fun sp q _ h2 ⟨_, _, h5, _⟩ =>
      .ok (by omega) h2 fun sp' he => by cases he; exact h5
  · exact .ok (Nat.le_refl _) hp fun sp he => by cases he

theorem skipHexGo_after (s : Src) (n p : Nat) : After s p (skipHexGo s n p) := by
  rw [skipHexGo_eq]; exact scanWhileGo_after s isHexDigit isHexDigit_lt n p

theorem skipUnicodeEscapeSequence_good {s : Src} (hs : AsciiThenBoundary s) (p len : Nat) (hp : Bnd s p) :
    Good s p (skipUnicodeEscapeSequence s p len) (fun _ _ => True) := by
  have hA := skipHexGo_after s len p
  have h1 := hA.le
  have h2 := hA.le_size hp.le
  unfold skipUnicodeEscapeSequence
  simp only []
  split
  · have hstop : Bnd s (if skipHexGo s len p ≥ s.size then skipHexGo s len p else nextBoundary s (skipHexGo s len p + 1)) ∧
        p ≤ (if skipHexGo s len p ≥ s.size then skipHexGo s len p else nextBoundary s (skipHexGo s len p + 1)) := by
      split
      · exact ⟨hA.bnd hs hp, h1⟩
      · have hf := nextBoundary_first s (i := skipHexGo s len p + 1) (by omega)
        exact ⟨hf.stops, by have := hf.le; omega⟩
    rw [slice_ok hstop.2 hp hstop.1]
    simp [h1, h2]
  · simp [h1, h2]

theorem scanStringGo_good {s : Src} (hs : AsciiThenBoundary s) (n p : Nat) (hp : p ≤ s.size) :
    Good s p (scanStringGo s n p) (fun _ _ => True) := by
  induction n generalizing p with
  | zero => exact .ok (Nat.le_refl p) hp trivial
  | succ n ih =>
    have next : ∀ q, p ≤ q → q ≤ s.size → Good s p (scanStringGo s n q) (fun _ _ => True) :=
      fun q h1 h2 => (ih q h2).mono h1 fun _ _ _ _ h => h
    refine scanStringGo_cases₂ (motive := fun r _ => Good s p r (fun _ _ => True)) s s n n p p rfl (fun _ => rfl)
      ?_ ?_ ?_ ?_ ?_ ?_
    · exact fun _ => .ok (Nat.le_refl p) hp trivial
    · intro c _ h1 _
      exact next (p + 2) (by omega) (by have := get_lt h1; omega)
    · intro c len _ h1 hc
      have hb : Bnd s (p + 2) := bnd_succ hs h1 (by rcases hc with ⟨rfl, _⟩ | ⟨rfl, _⟩ <;> decide)
      exact (skipUnicodeEscapeSequence_good hs (p + 2) len hb).bind (by omega) fun _ q h3 h4 _ => next q (by omega) h4
    · exact fun _ _ _ _ _ => .err (Nat.le_refl p) hp
    · exact fun _ => .err (Nat.le_refl p) hp
    · intro b h0 _ _ _
      exact next (p + 1) (by omega) (by have := get_lt h0; omega)

theorem scanString_good {s : Src} (hs : AsciiThenBoundary s) (p : Nat) (hp : p ≤ s.size) :
    Good s p (scanString s p) (fun _ _ => True) := scanStringGo_good hs _ p hp

/-- no line feed and no brace in `[a, b)` -/
def _root_.FluentProofs.Ser.Clean (s : Src) (a b : Nat) : Prop :=
  ∀ j, a ≤ j → j < b → s[j]? ≠ some 10 ∧ s[j]? ≠ some 123 ∧ s[j]? ≠ some 125

open FluentProofs.Ser (Clean)

theorem _root_.FluentProofs.Ser.clean_iff {s : Src} {a b : Nat} : Clean s a b ↔ ∀ j, a ≤ j → j < b → ¬ BreakAt s j :=
  forall_congr' fun _ => forall_congr' fun _ => forall_congr' fun _ => by
    simp only [BreakAt, not_or, ne_eq]

/-- what `get_text_slice` returns for the cursor `p` (`stop`, `nb`, `term`, new cursor `q`): `e` is the first `\n`,
`{` or `}` at or behind `p`, or the end of input; a `\r` in front of the `\n` is cut off and the cursor stays at the `\n` -/
def _root_.FluentProofs.Ser.Slice (s : Src) (p stop : Nat) (nb : Bool) (term : Termination) (q : Nat) : Prop :=
  ∃ e, p ≤ e ∧ e ≤ s.size ∧ Clean s p e ∧
    ((term = .eof ∧ e = s.size ∧ stop = e ∧ q = e ∧ nb = nonBlank s p e) ∨
     (term = .placeableStart ∧ s[e]? = some 123 ∧ stop = e ∧ q = e ∧ nb = nonBlank s p e) ∨
     (term = .lineFeed ∧ s[e]? = some 10 ∧ (p < e → s[e - 1]? ≠ some 13) ∧ stop = e + 1 ∧ q = e + 1 ∧
       nb = nonBlank s p e) ∨
     (term = .crlf ∧ s[e]? = some 10 ∧ p < e ∧ s[e - 1]? = some 13 ∧ stop = e - 1 ∧ q = e ∧
       nb = nonBlank s p (e - 1)))

open FluentProofs.Ser (Slice)

theorem getTextSlice_cases (s : Src) (p : Nat) (hp : p ≤ s.size) :
    (∃ e, p ≤ e ∧ e < s.size ∧ s[e]? = some 125 ∧ getTextSlice s p = .err (mkErr .unbalancedClosingBrace e) e) ∨
    ∃ stop nb term q, getTextSlice s p = .ok (p, stop, nb, term) q ∧ Slice s p stop nb term q := by
  unfold getTextSlice
  rw [if_neg (by omega)]
  cases hme : memchr3 s p with
  | none =>
    have hm : Clean s p s.size := FluentProofs.Ser.clean_iff.mpr fun j h1 _ => memchr3_eq_none.mp hme j h1
    exact Or.inr ⟨_, _, _, _, rfl, s.size, hp, Nat.le_refl _, hm, Or.inl ⟨rfl, rfl, rfl, rfl, rfl⟩⟩
  | some e =>
    have hf := memchr3_eq_some.mp hme
    have hpe := hf.le
    have hstop := hf.stops
    have hcl : Clean s p e := FluentProofs.Ser.clean_iff.mpr hf.skips
    simp only []
    rcases hstop with h10 | h123 | h125
    · have hlt := get_lt h10
      simp only [h10]
      by_cases hc : e > p ∧ (s[e - 1]? == some 13) = true
      · rw [if_pos hc]
        exact Or.inr ⟨_, _, _, _, rfl, e, hpe, by omega, hcl,
          Or.inr (Or.inr (Or.inr ⟨rfl, h10, hc.1, by simpa using hc.2, rfl, rfl, rfl⟩))⟩
      · rw [if_neg hc]
        exact Or.inr ⟨_, _, _, _, rfl, e, hpe, by omega, hcl,
          Or.inr (Or.inr (Or.inl ⟨rfl, h10, fun h0 h13 => hc ⟨h0, by simp [h13]⟩, rfl, rfl, rfl⟩))⟩
    · have hlt := get_lt h123
      simp only [h123]
      exact Or.inr ⟨_, _, _, _, rfl, e, hpe, by omega, hcl, Or.inr (Or.inl ⟨rfl, h123, rfl, rfl, rfl⟩)⟩
    · have hlt := get_lt h125
      simp only [h125]
      exact Or.inl ⟨e, hpe, hlt, h125, rfl⟩

theorem _root_.FluentProofs.Ser.getTextSlice_slice {s : Src} {p start stop : Nat} {nb : Bool} {term : Termination}
    {q : Nat} (hp : p ≤ s.size) (h : getTextSlice s p = .ok (start, stop, nb, term) q) :
    start = p ∧ Slice s p stop nb term q := by
  rcases getTextSlice_cases s p hp with ⟨e, _, _, _, he⟩ | ⟨stop', nb', term', q', he, hS⟩ <;> rw [he] at h <;> cases h
  exact ⟨rfl, hS⟩

theorem getTextSlice_le {s : Src} {p start stop : Nat} {nb : Bool} {term : Termination} {q : Nat}
    (h : getTextSlice s p = .ok (start, stop, nb, term) q) : start ≤ stop := by
  by_cases hs : p > s.size
  · unfold getTextSlice at h
    rw [if_pos hs] at h
    cases h
    exact Nat.le_refl _
  · obtain ⟨rfl, e, hpe, _, _, hc⟩ := FluentProofs.Ser.getTextSlice_slice (Nat.le_of_not_lt hs) h
    rcases hc with ⟨_, _, rfl, _⟩ | ⟨_, _, rfl, _⟩ | ⟨_, _, _, rfl, _⟩ | ⟨_, _, hlt, _, rfl, _⟩ <;> omega

def TextSliceOk (s : Src) (p : Nat) (v : Nat × Nat × Bool × Termination) (q : Nat) : Prop :=
  v.1 = p ∧ p ≤ v.2.1 ∧ Bnd s v.2.1 ∧ Bnd s q ∧ (p < q ∨ s[p]? = some 123) ∧
    (v.2.2.2 = .lineFeed → 1 ≤ v.2.1 ∧ s[v.2.1 - 1]? = some 10)

theorem getTextSlice_good {s : Src} (hs : AsciiThenBoundary s) (p : Nat) (hp : p < s.size) :
    Good s p (getTextSlice s p) (TextSliceOk s p) := by
  have hple := Nat.le_of_lt hp
  rcases getTextSlice_cases s p hple with ⟨e, h1, h2, _, he⟩ | ⟨stop, nb, term, q, he, e, h1, h2, _, hS⟩ <;> rw [he]
  · exact .err h1 (Nat.le_of_lt h2)
  · rcases hS with ⟨rfl, hsz, hst, hq, _⟩ | ⟨rfl, h123, hst, hq, _⟩ | ⟨rfl, h10, _, hst, hq, _⟩ |
      ⟨rfl, h10, hlt, h13, hst, hq, _⟩ <;> subst stop q
    · subst hsz
      exact .ok hple (Nat.le_refl _) ⟨rfl, hple, bnd_size s, bnd_size s, Or.inl hp, nofun⟩
    · have hasc : Asc s e := ⟨123, h123, by decide⟩
      refine .ok h1 h2 ⟨rfl, h1, hasc.bnd, hasc.bnd, ?_, nofun⟩
      by_cases hpe : p < e
      · exact Or.inl hpe
      · exact Or.inr ((show e = p by omega) ▸ h123)
    · have hasc : Asc s e := ⟨10, h10, by decide⟩
      have := hasc.lt
      exact .ok (by omega) (by omega) ⟨rfl, by simp only []; omega, hasc.bnd_succ hs, hasc.bnd_succ hs, Or.inl (by omega),
        fun _ => ⟨by simp only []; omega, by simpa using h10⟩⟩
    · have hasc : Asc s e := ⟨10, h10, by decide⟩
      exact .ok h1 h2 ⟨rfl, by simp only []; omega, bnd_of_ascii h13 (by decide), hasc.bnd, Or.inl hlt, nofun⟩

theorem trimEndGo_spec (s : Src) (start n e : Nat) (he : start ≤ e) (hb : Bnd s e) :
    start ≤ trimEndGo s start n e ∧ trimEndGo s start n e ≤ e ∧ Bnd s (trimEndGo s start n e) := by
  obtain ⟨h1, h2, h3, _⟩ := trimEndGo_result s start n e he
  refine ⟨h1, h2, ?_⟩
  by_cases heq : trimEndGo s start n e = e
  · rw [heq]; exact hb
  · -- the result is in front of a trimmed byte, which is ASCII
    rcases h3 _ (Nat.le_refl _) (by omega) with h | h | h <;> exact bnd_of_ascii h (by decide)

theorem trimEnd_vspan {s : Src} {sp : Span} (h : VSpan s sp) : VSpan s (trimEnd s sp) := by
  have := trimEndGo_spec s sp.start (sp.stop - sp.start) sp.stop h.1 h.2.2
  exact ⟨this.1, h.2.1, this.2.2⟩

theorem rposNewlineGo_some {s : Src} {a n b nl : Nat} (h : rposNewlineGo s a n b = some nl) :
    a ≤ nl ∧ nl < b ∧ s[nl]? = some 10 := by
  have := rposNewlineGo_result s a n b
  rw [h] at this
  exact ⟨this.1, this.2.1, this.2.2.1⟩

def isEntryByte (b : UInt8) : Bool := isAlpha b || b == 45 || b == 35

theorem isEntryByte_iff (b : UInt8) : isEntryByte b = true ↔ isAlpha b = true ∨ b.toNat = 45 ∨ b.toNat = 35 := by
  simp only [isEntryByte, Bool.or_eq_true, beq_iff_eq, ← UInt8.toNat_inj, UInt8.toNat_ofNat, or_assoc]

theorem isEntryByte_lt : ∀ b : UInt8, isEntryByte b = true → b < 128 := fun b h =>
  byte_lt_128 (by
    rcases (isEntryByte_iff b).mp h with h | h | h
    · have := (isAlpha_iff b).mp h; omega
    · omega
    · omega)

theorem _root_.FluentModel.Syntax.EndsAtEntryStart.bnd {s : Src} {b : Nat} (h : EndsAtEntryStart s b) (hb : b ≤ s.size) :
    Bnd s b := by
  rcases h with h | ⟨c, hc, he, _⟩
  · rw [show b = s.size by omega]; exact bnd_size s
  · exact bnd_of_ascii hc (isEntryByte_lt c he)

theorem skipToNextEntryStartGo_bnd (s : Src) (p : Nat) (hp : p ≤ s.size) :
    Bnd s (skipToNextEntryStartGo s (s.size - p) p) :=
  have h := skipToNextEntryStartGo_first s p
  h.stops.bnd (h.le_of_stop hp (Or.inl (Nat.le_refl _)))

theorem skipToNextEntryStart_spec (s : Src) (entryStart q : Nat) (h1 : entryStart ≤ q) (h2 : q ≤ s.size)
    (h3 : entryStart < s.size)
    (h4 : q = entryStart → ∀ b, s[entryStart]? = some b → isEntryByte b = false) :
    ∃ q1, skipToNextEntryStart s entryStart q = some q1 ∧ entryStart < q1 ∧ Bnd s q1 := by
  unfold skipToNextEntryStart
  have hmin : min q s.size = q := by omega
  simp only [hmin, h1, if_true]
  refine ⟨_, rfl, ?_⟩
  split
  · rename_i nl hnl
    have := rposNewlineGo_some hnl
    have := (skipToNextEntryStartGo_first s (nl + 1)).le
    exact ⟨by omega, skipToNextEntryStartGo_bnd s (nl + 1) (by omega)⟩
  · have hf := skipToNextEntryStartGo_first s q
    refine ⟨?_, skipToNextEntryStartGo_bnd s q h2⟩
    by_cases hq : q = entryStart
    · -- the scan does not stop at the entry's first byte
      subst hq
      refine Nat.lt_of_le_of_ne hf.le fun he => ?_
      have hs := hf.stops
      rw [← he] at hs
      rcases hs with h | ⟨c, hc, hce, _⟩
      · omega
      · exact absurd (show isEntryByte c = true from hce) (by rw [h4 rfl c hc]; decide)
    · have := hf.le; omega

theorem isEol_cases {s : Src} {p : Nat} (h : isEol s p = true) :
    s[p]? = none ∨ s[p]? = some 10 ∨ (s[p]? = some 13 ∧ s[p + 1]? = some 10) := by
  unfold isEol at h
  split at h
  · rename_i h0; exact Or.inr (Or.inl h0)
  · rename_i h0; exact Or.inr (Or.inr ⟨h0, by simpa using h⟩)
  · rename_i h0; exact Or.inl h0
  · simp at h

theorem isEol_bnd {s : Src} {p : Nat} (h : isEol s p = true) (hp : p ≤ s.size) : Bnd s p := by
  rcases isEol_cases h with h | h | ⟨h, _⟩
  · have : s.size ≤ p := by simpa using h
    have : p = s.size := by omega
    subst this; exact bnd_size s
  · exact bnd_of_ascii h (by decide)
  · exact bnd_of_ascii h (by decide)

theorem isEol_skipEol {s : Src} {p : Nat} (h : isEol s p = true) :
    (∃ q, skipEol s p = some q) ∨ (skipEol s p = none ∧ s.size ≤ p) := by
  rcases isEol_cases h with h | h | ⟨h, h'⟩
  · right; simp [skipEol, h]; simpa using h
  · left; simp [skipEol, h]
  · left; simp [skipEol, h, h']

theorem commentLineEndGo_spec (s : Src) (n p : Nat) (h : p + n = s.size) :
    p ≤ commentLineEndGo s n p ∧ commentLineEndGo s n p ≤ s.size ∧ isEol s (commentLineEndGo s n p) = true := by
  obtain rfl : n = s.size - p := by omega
  have hf := commentLineEnd_first s p
  exact ⟨hf.le, hf.le_of_stop (by omega) (isEol_of_size (Nat.le_refl _)), hf.stops⟩

theorem getCommentLine_good {s : Src} (p : Nat) (hp : Bnd s p) :
    Good s p (getCommentLine s p) (fun sp q => VSpan s sp ∧ isEol s q = true) := by
  have h := commentLineEndGo_spec s (s.size - p) p (by have := hp.le; omega)
  unfold getCommentLine
  simp only []
  rw [slice_ok h.1 hp (isEol_bnd h.2.2 h.2.1)]
  exact (good_ok _ _ _ _ _).mpr ⟨h.1, h.2.1, vspan_mk h.1 hp (isEol_bnd h.2.2 h.2.1), h.2.2⟩

/-- `get_comment_level` counts the `#`s at the cursor, up to three -/
theorem getCommentLevel_count (s : Src) (p : Nat) :
    ∃ l, getCommentLevel s p = (l, p + l) ∧ l ≤ 3 ∧ (∀ j, j < l → s[p + j]? = some 35) ∧ (l < 3 → s[p + l]? ≠ some 35) := by
  unfold getCommentLevel
  simp only [isCurrentByte_iff]
  by_cases h0 : s[p]? = some 35
  · rw [if_pos h0]
    by_cases h1 : s[p + 1]? = some 35
    · rw [if_pos h1]
      by_cases h2 : s[p + 2]? = some 35
      · rw [if_pos h2]
        exact ⟨3, rfl, Nat.le_refl _, fun j hj => by
          rcases (by omega : j = 0 ∨ j = 1 ∨ j = 2) with rfl | rfl | rfl <;> assumption, fun h => absurd h (Nat.lt_irrefl _)⟩
      · rw [if_neg h2]
        exact ⟨2, rfl, by omega, fun j hj => by rcases (by omega : j = 0 ∨ j = 1) with rfl | rfl <;> assumption, fun _ => h2⟩
    · rw [if_neg h1]
      exact ⟨1, rfl, by omega, fun j hj => (show j = 0 by omega) ▸ h0, fun _ => h1⟩
  · rw [if_neg h0]
    exact ⟨0, rfl, by omega, fun j hj => absurd hj (Nat.not_lt_zero _), fun _ => h0⟩

theorem getCommentLevel_spec (s : Src) (p : Nat) :
    ∃ l, getCommentLevel s p = (l, p + l) ∧ l ≤ 3 ∧ (∀ j, j < l → s[p + j]? = some 35) ∧ (l = 0 → s[p]? ≠ some 35) := by
  obtain ⟨l, hl, hl3, hbytes, hstop⟩ := getCommentLevel_count s p
  exact ⟨l, hl, hl3, hbytes, fun h0 => by subst h0; exact hstop (by decide)⟩

/-- the level is the number of `#`s that stand at the cursor, when a byte other than `#` (or nothing) follows them -/
theorem getCommentLevel_run {s : Src} {p k : Nat} (hk : k ≤ 3) (h : ∀ j, j < k → s[p + j]? = some 35)
    (hend : s[p + k]? ≠ some 35) : getCommentLevel s p = (k, p + k) := by
  obtain ⟨l, hl, hl3, hbytes, hstop⟩ := getCommentLevel_count s p
  obtain rfl : l = k := by
    rcases Nat.lt_trichotomy l k with hlt | heq | hgt
    · exact absurd (h l hlt) (hstop (by omega))
    · exact heq
    · exact absurd (hbytes k hgt) hend
  exact hl

theorem getCommentLevel_cases (s : Src) (p : Nat) :
    (getCommentLevel s p = (0, p) ∧ s[p]? ≠ some 35) ∨
    (∃ l, 1 ≤ l ∧ l ≤ 3 ∧ getCommentLevel s p = (l, p + l) ∧ s[p]? = some 35 ∧ s[p + l - 1]? = some 35) := by
  obtain ⟨l, hl, hl3, hbytes, hl0⟩ := getCommentLevel_spec s p
  by_cases h0 : l = 0
  · subst h0; exact Or.inl ⟨hl, hl0 rfl⟩
  · refine Or.inr ⟨l, by omega, hl3, hl, hbytes 0 (by omega), ?_⟩
    have := hbytes (l - 1) (by omega)
    rwa [show p + (l - 1) = p + l - 1 by omega] at this

/-! ### one round of `get_comment`

`commentStep` (`ParserSteps`) is what one round of the loop does; here is what each of its outcomes says about the source
(`commentStep_spec`), so that a walk of the loop speaks of its own invariant only. -/

/-- a line of a comment at `p`: `l` `#`s, then the end of the line or a space, the text `sp` up to the end of the line; the
next line starts at `p'` -/
structure CommentLine (s : Src) (p l : Nat) (sp : Span) (p' : Nat) : Prop where
  level : getCommentLevel s p = (l, p + l)
  pos : 1 ≤ l
  le3 : l ≤ 3
  hashes : ∀ j, j < l → s[p + j]? = some 35
  start : (isEol s (p + l) = true ∧ sp.start = p + l) ∨ (s[p + l]? = some 32 ∧ sp.start = p + l + 1)
  ends : First (fun j => isEol s j = true) sp.start sp.stop
  vspan : VSpan s sp
  next : p' = (skipEol s sp.stop).getD sp.stop

/-- what an outcome of `commentStep s level first p` says about the source.  `stop`: the cursor stays, or steps back over the
byte before a line that is no comment line; the level is the one so far, unless lines have been read and this one starts
with `#`s followed by neither a space nor the end of the line.  `panic`: only at position 0 on a byte that is no `#`, or, on
a source that is no `&str`, where the text of a line cannot be sliced. -/
def CStep.Spec (s : Src) (level : Nat) (first : Bool) (p : Nat) : CStep → Prop
  | .line l sp p' => (level = 0 ∨ l = level) ∧ CommentLine s p l sp p'
  | .stop lv q => (q = p ∨ (q + 1 = p ∧ p < s.size ∧ s[p]? ≠ some 35)) ∧
      (lv = level ∨ (first = false ∧ 1 ≤ lv ∧ lv ≤ 3 ∧ (level = 0 ∨ lv = level))) ∧
      (s[p]? = some 35 → first = true → level ≠ 0)
  | .bad q => first = true ∧ isEol s q = false ∧ s[q]? ≠ some 32 ∧
      ∃ l, 1 ≤ l ∧ l ≤ 3 ∧ q = p + l ∧ getCommentLevel s p = (l, q) ∧ ∀ j, j < l → s[p + j]? = some 35
  | .panic _ => AsciiThenBoundary s → p = 0 ∧ s[p]? ≠ some 35

/-- the text of a line that starts at a char boundary can be sliced -/
theorem commentTextStep_spec {s : Src} {level : Nat} {first : Bool} {p l p2 : Nat} (hlv : level = 0 ∨ l = level)
    (hl : getCommentLevel s p = (l, p + l)) (h1 : 1 ≤ l) (h3 : l ≤ 3) (hbytes : ∀ j, j < l → s[p + j]? = some 35)
    (hst : (isEol s (p + l) = true ∧ p2 = p + l) ∨ (s[p + l]? = some 32 ∧ p2 = p + l + 1)) :
    (commentTextStep s l p2).Spec s level first p := by
  unfold commentTextStep
  cases hsl : slice s p2 (commentLineEndGo s (s.size - p2) p2) with
  | some sp =>
    obtain ⟨rfl, hv⟩ := slice_eq_some hsl
    exact ⟨hlv, hl, h1, h3, hbytes, hst, commentLineEnd_first s p2, hv, rfl⟩
  | none =>
    intro hs
    have hb : Bnd s p2 := by
      have hb := bnd_succ hs (hbytes (l - 1) (by omega)) (by decide)
      rw [show p + (l - 1) + 1 = p + l by omega] at hb
      rcases hst with ⟨_, rfl⟩ | ⟨h32, rfl⟩
      · exact hb
      · exact bnd_succ hs h32 (by decide)
    have hE := commentLineEndGo_spec s (s.size - p2) p2 (by have := hb.le; omega)
    rw [slice_ok hE.1 hb (isEol_bnd hE.2.2 hE.2.1)] at hsl
    cases hsl

theorem commentStep_spec (s : Src) (level : Nat) (first : Bool) (p : Nat) :
    (commentStep s level first p).Spec s level first p := by
  obtain ⟨l, hl, hl3, hbytes, hl0⟩ := getCommentLevel_spec s p
  unfold commentStep
  rw [hl]
  by_cases hlt : p < s.size
  · rw [if_pos hlt]
    by_cases h0 : l = 0
    · rw [if_pos h0]
      unfold usub
      by_cases hp : 1 ≤ p
      · rw [if_pos hp]
        exact ⟨Or.inr ⟨by omega, hlt, hl0 h0⟩, Or.inl rfl, fun h35 => absurd h35 (hl0 h0)⟩
      · rw [if_neg hp]
        exact fun _ => ⟨by omega, hl0 h0⟩
    · rw [if_neg h0]
      by_cases hd : level ≠ 0 ∧ l ≠ level
      · rw [if_pos hd]; exact ⟨Or.inl rfl, Or.inl rfl, fun _ _ => hd.1⟩
      · rw [if_neg hd]
        have hlev : level = 0 ∨ l = level :=
          Decidable.or_iff_not_imp_left.mpr fun hz => Decidable.of_not_not fun hne => hd ⟨hz, hne⟩
        by_cases he : isEol s (p + l) = true
        · rw [if_pos he]; exact commentTextStep_spec hlev hl (by omega) hl3 hbytes (Or.inl ⟨he, rfl⟩)
        · rw [if_neg he]
          by_cases h32 : s[p + l]? = some 32
          · rw [if_pos h32]; exact commentTextStep_spec hlev hl (by omega) hl3 hbytes (Or.inr ⟨h32, rfl⟩)
          · rw [if_neg h32]
            cases first with
            | true => exact ⟨rfl, Bool.eq_false_iff.mpr he, h32, l, by omega, hl3, rfl, hl, hbytes⟩
            | false => exact ⟨Or.inl rfl, Or.inr ⟨rfl, by omega, hl3, hlev⟩, fun _ hf => nomatch hf⟩
  · rw [if_neg hlt]
    exact ⟨Or.inl rfl, Or.inl rfl, fun h35 => absurd (get_lt h35) hlt⟩

section
variable {s : Src} {level : Nat} {first : Bool} {p : Nat}

theorem commentStep_line {l : Nat} {sp : Span} {p' : Nat} (h : commentStep s level first p = .line l sp p') :
    CStep.Spec s level first p (.line l sp p') :=
  h ▸ commentStep_spec s level first p

theorem commentStep_stop {lv q : Nat} (h : commentStep s level first p = .stop lv q) :
    CStep.Spec s level first p (.stop lv q) :=
  h ▸ commentStep_spec s level first p

theorem commentStep_bad {q : Nat} (h : commentStep s level first p = .bad q) : CStep.Spec s level first p (.bad q) :=
  h ▸ commentStep_spec s level first p

theorem commentStep_panic (hs : AsciiThenBoundary s) {m : String} (h : commentStep s level first p = .panic m) :
    p = 0 ∧ s[p]? ≠ some 35 := by
  have := commentStep_spec s level first p; rw [h] at this; exact this hs

end

theorem commentStep_end {s : Src} {p : Nat} (h : ¬ p < s.size) (level : Nat) (first : Bool) :
    commentStep s level first p = .stop level p := by
  rw [commentStep, if_neg h]

theorem commentStep_noHash {s : Src} {p : Nat} (hlt : p < s.size) (h : s[p]? ≠ some 35) (hp : 0 < p) (level : Nat)
    (first : Bool) : commentStep s level first p = .stop level (p - 1) := by
  have h0 : (getCommentLevel s p).1 = 0 := by
    rcases getCommentLevel_cases s p with ⟨e, _⟩ | ⟨_, _, _, _, h35, _⟩
    · rw [e]
    · exact absurd h35 h
  rw [commentStep, if_pos hlt, if_pos h0, usub, if_pos (show 1 ≤ p from hp)]

theorem commentStep_other {s : Src} {p l lv : Nat} (hlt : p < s.size) (hlev : getCommentLevel s p = (l, p + l)) (hl : l ≠ 0)
    (hlv : lv ≠ 0) (hne : l ≠ lv) (first : Bool) : commentStep s lv first p = .stop lv p := by
  rw [commentStep, hlev, if_pos hlt, if_neg hl, if_pos ⟨hlv, hne⟩]

theorem commentStep_text {s : Src} {p l lv p2 e : Nat} {sp : Span} (hlt : p < s.size) (hlev : getCommentLevel s p = (l, p + l))
    (hl : l ≠ 0) (hlv : lv = 0 ∨ lv = l)
    (hp2 : (isEol s (p + l) = true ∧ p2 = p + l) ∨ (isEol s (p + l) = false ∧ s[p + l]? = some 32 ∧ p2 = p + l + 1))
    (hline : getCommentLine s p2 = .ok sp e) (first : Bool) :
    commentStep s lv first p = .line l sp ((skipEol s e).getD e) := by
  have ht : commentTextStep s l p2 = .line l sp ((skipEol s e).getD e) := by
    unfold getCommentLine at hline
    unfold commentTextStep
    simp only [] at hline
    cases hsl : slice s p2 (commentLineEndGo s (s.size - p2) p2) with
    | none => rw [hsl] at hline; cases hline
    | some sp0 => rw [hsl] at hline; cases hline; rfl
  rw [commentStep, hlev, if_pos hlt, if_neg hl, if_neg fun h => hlv.elim h.1 fun e => h.2 e.symm]
  rcases hp2 with ⟨heol, rfl⟩ | ⟨heol, h32, rfl⟩
  · rw [if_pos heol, ht]
  · rw [if_neg (Bool.eq_false_iff.mp heol), if_pos h32, ht]

theorem commentStep_first_bad {s : Src} {p l lv : Nat} (hlt : p < s.size) (hlev : getCommentLevel s p = (l, p + l)) (hl : l ≠ 0)
    (hlv : lv = 0 ∨ lv = l) (he : isEol s (p + l) = false) (h32 : s[p + l]? ≠ some 32) :
    commentStep s lv true p = .bad (p + l) := by
  rw [commentStep, hlev, if_pos hlt, if_neg hl, if_neg fun h => hlv.elim h.1 fun e => h.2 e.symm,
    if_neg (Bool.eq_false_iff.mp he), if_neg h32, if_pos rfl]

namespace CommentLine
variable {s : Src} {p l : Nat} {sp : Span} {p' : Nat}

theorem start_le (h : CommentLine s p l sp p') : p + l ≤ sp.start ∧ sp.start ≤ p + l + 1 := by
  rcases h.start with ⟨_, e⟩ | ⟨_, e⟩ <;> omega

theorem stop_le (h : CommentLine s p l sp p') : sp.stop ≤ s.size := h.vspan.2.2.le

theorem stop_eq (h : CommentLine s p l sp p') : sp.stop = commentLineEndGo s (s.size - sp.start) sp.start :=
  h.ends.unique (commentLineEnd_first s sp.start)

theorem noLF (h : CommentLine s p l sp p') : ∀ j, p ≤ j → j < sp.stop → s[j]? ≠ some 10 := by
  intro j h1 h2 h10
  by_cases hj : j < p + l
  · have := h.hashes (j - p) (by omega)
    rw [show p + (j - p) = j by omega, h10] at this
    cases this
  · by_cases hs : j < sp.start
    · rcases h.start with ⟨_, e⟩ | ⟨h32, e⟩
      · omega
      · rw [show j = p + l by omega, h32] at h10; cases h10
    · have := h.ends.skips j (by omega) h2
      simp [isEol, h10] at this

theorem next_cases (h : CommentLine s p l sp p') :
    (skipEol s sp.stop = some p' ∧ sp.stop < p' ∧ p' ≤ s.size ∧ s[p' - 1]? = some 10) ∨ (p' = sp.stop ∧ sp.stop = s.size) := by
  rcases isEol_skipEol h.ends.stops with ⟨q, hq⟩ | ⟨hq, hsz⟩
  · left
    have e : p' = q := by rw [h.next, hq]; rfl
    subst e
    obtain ⟨e1, e2, _⟩ := skipEol_some hq
    exact ⟨hq, e1, (skipEol_after hq).le_size h.stop_le, e2⟩
  · right
    have := h.stop_le
    exact ⟨by rw [h.next, hq]; rfl, by omega⟩

theorem lt_next (h : CommentLine s p l sp p') : p < p' ∧ p' ≤ s.size := by
  have := h.start_le
  have := h.ends.le
  have := h.pos
  have := h.stop_le
  rcases h.next_cases with ⟨_, _, _, _⟩ | ⟨_, _⟩ <;> omega

theorem bnd_next (hs : AsciiThenBoundary s) (h : CommentLine s p l sp p') : Bnd s p' := by
  rcases h.next_cases with ⟨_, h1, _, h10⟩ | ⟨e, _⟩
  · have := bnd_succ hs h10 (by decide)
    rwa [show p' - 1 + 1 = p' by omega] at this
  · rw [e]; exact h.vspan.2.2

end CommentLine

/-- loop invariant of `get_comment` (`start` = where the comment began) -/
def CommentInv (s : Src) (start level : Nat) (content : List Span) (p : Nat) : Prop :=
  (level = 0 ∧ content = [] ∧ p = start ∧ s[p]? = some 35) ∨
  (1 ≤ level ∧ level ≤ 3 ∧ ((start + 2 ≤ p ∧ s[p - 1]? = some 10) ∨ (p = s.size ∧ start < p)))

theorem getCommentGo_good {s : Src} (hs : AsciiThenBoundary s) (start n level : Nat) (content : List Span) (p : Nat)
    (hp : p ≤ s.size) (hn : s.size + 1 ≤ n + p) (hb : Bnd s p) (hc : ∀ sp ∈ content, VSpan s sp)
    (hinv : CommentInv s start level content p) :
    Good s (start + 1) (getCommentGo s n level content p)
      (fun r q => Bnd s q ∧ 1 ≤ r.2 ∧ r.2 ≤ 3 ∧ ∀ sp ∈ r.1, VSpan s sp) := by
  induction n generalizing level content p with
  | zero => omega
  | succ n ih =>
    have hsp : start ≤ p := by rcases hinv with ⟨_, _, e, _⟩ | ⟨_, _, h | h⟩ <;> omega
    rw [getCommentGo_unfold]
    cases hst : commentStep s level content.isEmpty p with
    | line l sp p' =>
      obtain ⟨_, hL⟩ := commentStep_line hst
      have h1 := hL.lt_next
      refine ih l _ p' h1.2 (by omega) (hL.bnd_next hs) ?_ (Or.inr ⟨hL.pos, hL.le3, ?_⟩)
      · intro x hx
        rcases List.mem_append.mp hx with h | h
        · exact hc x h
        · rw [List.mem_singleton.mp h]; exact hL.vspan
      · rcases hL.next_cases with ⟨_, h2, _, h10⟩ | ⟨e1, e2⟩
        · exact Or.inl ⟨by have := hL.start_le; have := hL.ends.le; have := hL.pos; omega, h10⟩
        · exact Or.inr ⟨by omega, by omega⟩
    | stop lv q =>
      obtain ⟨hq, hlv, h35⟩ := commentStep_stop hst
      rcases hinv with ⟨i0, ic, _, i35⟩ | ⟨i1, i2, i3⟩
      · -- the first round stands at a `#`: it reads a line or fails
        subst ic; exact absurd i0 (h35 i35 rfl)
      · have hlv' : 1 ≤ lv ∧ lv ≤ 3 := by rcases hlv with rfl | ⟨_, a, b, _⟩ <;> omega
        rcases hq with rfl | ⟨e, hlt, _⟩
        · exact .ok (by omega) hp ⟨hb, hlv'.1, hlv'.2, hc⟩
        · rcases i3 with ⟨i3, i4⟩ | ⟨i3, _⟩
          · obtain rfl : q = p - 1 := by omega
            exact .ok (by omega) (by omega) ⟨bnd_of_ascii i4 (by decide), hlv'.1, hlv'.2, hc⟩
          · omega
    | bad q =>
      obtain ⟨_, _, _, l, h1, _, rfl, _, hbytes⟩ := commentStep_bad hst
      have := get_lt (hbytes (l - 1) (by omega))
      exact .err (by omega) (by omega)
    | panic m =>
      obtain ⟨rfl, h35⟩ := commentStep_panic hs hst
      rcases hinv with ⟨_, _, _, i35⟩ | ⟨_, _, ⟨i3, _⟩ | ⟨i3, i4⟩⟩
      · exact absurd i35 h35
      · omega
      · omega

theorem getComment_good {s : Src} (hs : AsciiThenBoundary s) (p : Nat) (h : s[p]? = some 35) :
    Good s (p + 1) (getComment s p) (fun r q => Bnd s q ∧ 1 ≤ r.2 ∧ r.2 ≤ 3 ∧ ∀ sp ∈ r.1, VSpan s sp) := by
  have := get_lt h
  exact getCommentGo_good hs p _ 0 [] p (by omega) (by omega) (bnd_of_ascii h (by decide)) (by simp)
    (Or.inl ⟨rfl, rfl, rfl, h⟩)

theorem skipComment_spec {s : Src} (hs : AsciiThenBoundary s) (p : Nat) (hp : p ≤ s.size) :
    p < skipComment s p ∧ skipComment s p ≤ s.size + 1 ∧ (skipComment s p ≤ s.size → Bnd s (skipComment s p)) := by
  obtain ⟨q, hq, hf⟩ := skipComment_first s p
  rw [hq]
  have hle := hf.le
  have hsz := hf.le_of_stop hp (commentEnd_of_size (Nat.le_refl _))
  refine ⟨by omega, by omega, fun h => ?_⟩
  rcases isEol_cases hf.stops.1 with h0 | h0 | ⟨h0, _⟩
  · have := Array.getElem?_eq_none_iff.mp h0; omega
  · exact bnd_succ hs h0 (by decide)
  · exact bnd_succ hs h0 (by decide)

theorem firstByte_not_cont : ∀ b : UInt8, b.IsUTF8FirstByte → ((b &&& 0xC0) != 0x80) = true := by
  intro b h
  -- the two top bits of `b`, read off a mask `m` that contains them
  have top : ∀ m v : UInt8, m &&& 0xC0 = 0xC0 → b &&& m = v → b &&& 0xC0 = v &&& 0xC0 := by
    intro m v hm hv
    rw [← hv, UInt8.and_assoc, hm]
  simp only [bne_iff_ne, ne_eq]
  intro hc
  rcases h with h | h | h | h
  · have : (b &&& 0xC0) &&& 0x80 = 0 := by rw [UInt8.and_assoc]; exact h
    rw [hc] at this; revert this; decide
  · rw [top 0xe0 _ (by decide) h] at hc; revert hc; decide
  · rw [top 0xf0 _ (by decide) h] at hc; revert hc; decide
  · rw [top 0xf8 _ (by decide) h] at hc; revert hc; decide

theorem ascii_and_eq_zero : ∀ b : UInt8, b < 128 → b &&& 0x80 = 0 := by
  intro b h
  have h2 : b.toNat < 128 := UInt8.lt_iff_toNat_lt.mp h
  -- quotient and remainder of `b &&& 128` by 128 are both 0
  have d : (b.toNat &&& 128) / 2 ^ 7 = 0 := by rw [Nat.and_div_two_pow, Nat.div_eq_of_lt h2]; exact Nat.zero_and _
  have m : (b.toNat &&& 128) % 2 ^ 7 = 0 := by rw [Nat.and_mod_two_pow]; exact Nat.and_zero _
  rw [← UInt8.toNat_inj, UInt8.toNat_and]
  show b.toNat &&& 128 = 0
  omega

theorem pos_byte_eq (str : String) (pos : str.Pos) (h : pos ≠ str.endPos) :
    pos.byte h = str.toByteArray[pos.offset.byteIdx]'(String.Pos.byteIdx_lt_utf8ByteSize pos h) := by
  simp [String.Pos.byte, String.Slice.Pos.byte, String.Slice.getUTF8Byte, String.getUTF8Byte, -String.Pos.byte_toSlice]

theorem isBoundary_of_isValid (str : String) (r : String.Pos.Raw) (h : r.IsValid str) :
    isBoundary str.toUTF8.data r.byteIdx = true := by
  rcases String.Pos.Raw.isValid_iff_isUTF8FirstByte.mp h with rfl | ⟨hlt, hfb⟩
  · have : str.rawEndPos.byteIdx = str.toUTF8.data.size := rfl
    rw [this]; exact bnd_size _
  · have hlt' : r.byteIdx < str.toUTF8.data.size := String.Pos.Raw.lt_iff.mp hlt
    have hget : str.toUTF8.data[r.byteIdx]? = some (str.getUTF8Byte r hlt) := by
      rw [Array.getElem?_eq_getElem hlt']; rfl
    unfold isBoundary
    rw [hget]
    simp only [firstByte_not_cont _ hfb, Bool.or_true]

theorem asciiThenBoundary_of_string (str : String) : AsciiThenBoundary str.toUTF8.data := by
  intro i b hb hlt
  have hi : i < str.toUTF8.data.size := get_lt hb
  have hbe : str.toUTF8.data[i] = b := by
    have := Array.getElem?_eq_getElem hi
    rw [this] at hb; exact Option.some.inj hb
  -- position `i` is valid, because its byte is a first byte
  have hrlt : (⟨i⟩ : String.Pos.Raw) < str.rawEndPos := String.Pos.Raw.lt_iff.mpr hi
  have hgb : str.getUTF8Byte ⟨i⟩ hrlt = b := hbe
  have hv : (⟨i⟩ : String.Pos.Raw).IsValid str :=
    String.Pos.Raw.isValid_iff_isUTF8FirstByte.mpr (Or.inr ⟨hrlt, by rw [hgb]; exact Or.inl (ascii_and_eq_zero b hlt)⟩)
  let pos : str.Pos := ⟨⟨i⟩, hv⟩
  have hne : pos ≠ str.endPos := by
    intro h
    have := congrArg (fun p => p.offset.byteIdx) h
    simp only [pos, String.offset_endPos, String.byteIdx_rawEndPos] at this
    have e : str.utf8ByteSize = str.toUTF8.data.size := rfl
    omega
  have hbyte : pos.byte hne = b := by rw [pos_byte_eq]; exact hbe
  have hsz : (pos.get hne).utf8Size = 1 := by
    rw [← String.Pos.utf8ByteSize_byte (h := hne)]
    simp only [UInt8.utf8ByteSize, hbyte, ascii_and_eq_zero b hlt, if_true]
  have hnext : (pos.next hne).offset.byteIdx = i + 1 := by
    rw [String.Pos.byteIdx_offset_next, hsz]
  have := isBoundary_of_isValid str (pos.next hne).offset (pos.next hne).isValid
  rwa [hnext] at this

end FluentProofs.Parser

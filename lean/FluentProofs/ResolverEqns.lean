import FluentModel.Resolver
/-!
# One-step equations of the resolver model

Every function of the mutual block of `FluentModel.Resolver` is unfolded here once, per constructor of its
argument, into a form in which the result of a sub-call is passed on by `RR.bind`.  The inductions over the
block rewrite with these equations and use one sequencing lemma for `RR.bind` per predicate; none of them unfolds the model.
The bundle lookups a reference goes through get a name (`msgTarget`, `termTarget`, `Reach`), and so do the pieces of the
placeable step (`openMark`, `closeMark`, `fallback`, `trackScope`) and the choice of a variant (`chosen`, `selectTail`);
`termTail` and `viaWrite` name what `writeInline` and `resolveInline` do after a term's arguments are resolved and for an
expression in value position that is written into a fresh string.  The last sections give the entry points
`format_pattern` / `write_pattern` in terms of `resolvePattern` (with the case rule `resolvePattern_cases` and the
single-text shortcut) and `withIso`, an environment with isolation switched, for C09.

The definitions stand in the namespace of the property file whose statements mention them (`FluentProofs.ResolverRefine` for
C07, `FluentProofs.Bidi` for C09, `FluentProofs.Resolver` otherwise); `RR.bind` stands beside `RR` in `FluentModel.Resolver`.
-/

namespace FluentModel.Resolver

/-- pass the value of an `.ok` result on; `.panic` and `.fuel` end the computation -/
def RR.bind {α β : Type} (r : RR α) (k : α → RR β) : RR β :=
  match r with
  | .ok a => k a
  | .panic m => .panic m
  | .fuel => .fuel

@[simp] theorem RR.bind_ok {α β : Type} (a : α) (k : α → RR β) : (RR.ok a).bind k = k a := rfl
@[simp] theorem RR.bind_panic {α β : Type} (m : String) (k : α → RR β) : (RR.panic m : RR α).bind k = .panic m := rfl
@[simp] theorem RR.bind_fuel {α β : Type} (k : α → RR β) : (RR.fuel : RR α).bind k = .fuel := rfl

theorem RR.bind_eq_ok {α β : Type} {r : RR α} {k : α → RR β} {b : β} (h : r.bind k = .ok b) :
    ∃ a, r = .ok a ∧ k a = .ok b := by
  cases r with
  | ok a => exact ⟨a, rfl, h⟩
  | panic m => cases h
  | fuel => cases h

theorem RR.bind_ne_fuel {α β : Type} {r : RR α} {k : α → RR β} (hr : r ≠ .fuel) (hk : ∀ a, r = .ok a → k a ≠ .fuel) :
    r.bind k ≠ .fuel := by
  cases r with
  | ok a => exact hk a rfl
  | panic m => intro h; cases h
  | fuel => exact absurd rfl hr

theorem RR.bind_ne_panic {α β : Type} {r : RR α} {k : α → RR β} {m : String} (hr : r ≠ .panic m)
    (hk : ∀ a, k a ≠ .panic m) : r.bind k ≠ .panic m := by
  cases r with
  | ok a => exact hk a
  | panic m' => exact fun h => hr (by cases h; rfl)
  | fuel => exact nofun

theorem RR.ne_fuel_of_bind {α β : Type} {r : RR α} {k : α → RR β} (h : r.bind k ≠ .fuel) : r ≠ .fuel := by
  intro e; rw [e] at h; exact h rfl

end FluentModel.Resolver

namespace FluentProofs.ResolverRefine
open FluentModel FluentModel.Syntax FluentModel.Resolver

/-- the bundle's text transform -/
def tr (env : Env) (v : Bytes) : Bytes := match env.transform with | some f => f v | .none => v

/-- the resolution stack the reference semantics (`FluentModel.ResolverSpec`) has for the elements of `whole` when the
code's `travelled` is `t`: `maybe_track` pushes the pattern itself the first time a placeable is met with an empty `travelled` -/
def effStack (t : List (Pattern Bytes)) (whole : Pattern Bytes) : List (Pattern Bytes) :=
  if t.isEmpty then [whole] else t

/-- the value a variant key is compared as (`Expression::write`: identifier keys as strings, number keys through
`FluentValue::try_number`) -/
def keyValue (env : Env) : VKey Bytes → Value
  | .ident n => .str n
  | .num v => env.tryNumber v

/-- the variant chosen by a select expression: the first whose key matches a string or number selector -/
def chosen (env : Env) (vs : List (Variant Bytes)) : Value → RR (Option (Pattern Bytes))
  | .str b => selectVariant env vs (.str b)
  | .num n => selectVariant env vs (.num n)
  | _ => .ok .none

/-- the pattern a term reference points at -/
def termTarget (env : Env) (id : Bytes) (attr : Option Bytes) : Option (Pattern Bytes) :=
  match env.term id with
  | some t => (match attr with
    | some a => findAttr t.attributes a
    | .none => some t.value)
  | .none => .none

end FluentProofs.ResolverRefine

namespace FluentProofs.Bidi
open FluentModel FluentModel.Syntax FluentModel.Resolver

/-- what is written before the value of a placeable -/
def openMark (env : Env) (len : Nat) (e : Expr Bytes) : Bytes :=
  if env.useIsolating && decide (len > 1) && isolatable e then fsi else []
/-- what is written after the value of a placeable (and after its `{error}` fallback) -/
def closeMark (env : Env) (len : Nat) (e : Expr Bytes) : Bytes :=
  if env.useIsolating && decide (len > 1) && isolatable e then pdi else []
/-- the `{…}` fallback written when the expression tripped the placeable limit -/
def fallback (e : Expr Bytes) (sc3 : Scope) : Bytes := if sc3.dirty then braced (exprWriteError e) else []
/-- the scope handed to the expression: counter bumped, `maybe_track` -/
def trackScope (whole : Pattern Bytes) (sc : Scope) : Scope :=
  if ({ sc with placeables := sc.placeables + 1 } : Scope).travelled.isEmpty = true
  then { sc with placeables := sc.placeables + 1, travelled := [whole] }
  else { sc with placeables := sc.placeables + 1 }

end FluentProofs.Bidi

namespace FluentProofs.Resolver
open FluentModel FluentModel.Syntax FluentModel.Resolver
open FluentProofs.ResolverRefine FluentProofs.Bidi

/-- a pattern the resolver can reach through a reference: value or attribute of a message or term -/
def Reach (env : Env) (p : Pattern Bytes) : Prop :=
  (∃ id m, env.msg id = some m ∧ (m.value = some p ∨ ∃ a, findAttr m.attributes a = some p)) ∨
  (∃ id t, env.term id = some t ∧ (t.value = p ∨ ∃ a, findAttr t.attributes a = some p))

/-- what a message reference `id` / `id.attr` finds in the bundle -/
inductive MsgRef where
  /-- no such message, or no such attribute -/
  | missing
  /-- the message has attributes only -/
  | noValue
  | pattern (p : Pattern Bytes)

def msgTarget (env : Env) (id : Bytes) (attr : Option Bytes) : MsgRef :=
  match env.msg id with
  | some m =>
    (match attr with
     | some a => (match findAttr m.attributes a with | some p => .pattern p | .none => .missing)
     | .none => (match m.value with | some p => .pattern p | .none => .noValue))
  | .none => .missing

theorem reach_msgTarget {env : Env} {id : Bytes} {attr : Option Bytes} {p : Pattern Bytes}
    (h : msgTarget env id attr = .pattern p) : Reach env p := by
  unfold msgTarget at h
  cases hm : env.msg id with
  | none => rw [hm] at h; cases h
  | some m =>
    rw [hm] at h
    cases attr with
    | some a =>
      cases hf : findAttr m.attributes a with
      | none => simp only [hf] at h; cases h
      | some q => simp only [hf] at h; cases h; exact .inl ⟨id, m, hm, .inr ⟨a, hf⟩⟩
    | none =>
      cases hv : m.value with
      | none => simp only [hv] at h; cases h
      | some q => simp only [hv] at h; cases h; exact .inl ⟨id, m, hm, .inl hv⟩

theorem reach_termTarget {env : Env} {id : Bytes} {attr : Option Bytes} {p : Pattern Bytes}
    (h : termTarget env id attr = some p) : Reach env p := by
  unfold termTarget at h
  cases ht : env.term id with
  | none => rw [ht] at h; cases h
  | some t =>
    rw [ht] at h
    cases attr with
    | some a => exact .inr ⟨id, t, ht, .inr ⟨a, h⟩⟩
    | none => cases h; exact .inr ⟨id, t, ht, .inl rfl⟩

/-- the rest of a select expression once the selector is resolved -/
def selectTail (env : Env) (n : Nat) (vs : List (Variant Bytes)) (w : Bytes) (sc : Scope) (selector : Value) :
    RR (Bytes × Scope) :=
  match chosen env vs selector with
  | .ok (some v) => writePattern env n v w sc
  | .ok .none => writeDefault env n vs w sc
  | .panic m => .panic m
  | .fuel => .fuel

/-- what is printed for the result of a function call -/
def fnText (env : Env) (e : Inline Bytes) : Value → Bytes
  | .error => inlineWriteError e
  | r => valueString env r

/-- the rest of a term reference once the call arguments are resolved: the term's pattern is written with
`named` as `local_args`, and the caller's are put back -/
def termTail (env : Env) (n : Nat) (id : Bytes) (attr : Option Bytes)
    (args : Option (List (Inline Bytes) × List (Bytes × Inline Bytes))) (w : Bytes) (named : ArgList) (sc : Scope) :
    RR (Bytes × Scope) :=
  (match termTarget env id attr with
   | some p => track env n p (.term id attr args) w { sc with localArgs := some named }
   | .none => .ok (w ++ braced (inlineWriteError (.term id attr args)),
       ({ sc with localArgs := some named } : Scope).addError (.reference (.term id attr)))).bind
    fun (w1, sc3) => .ok (w1, { sc3 with localArgs := sc.localArgs })

theorem selectVariant_cons (env : Env) (k : VKey Bytes) (val : Pattern Bytes) (d : Bool) (rest : List (Variant Bytes))
    (s : Value) :
    selectVariant env (.mk k val d :: rest) s =
      match valueMatches env (keyValue env k) s with
      | .none => .panic "plural rules unwrap"
      | some true => .ok (some val)
      | some false => selectVariant env rest s := by
  cases k <;> rfl

theorem valueMatches_none {env : Env} {k s : Value} (h : valueMatches env k s = none) :
    ∃ n, env.category n = none := by
  unfold valueMatches at h
  split at h <;> try (simp at h)
  split at h
  · simp at h
  · rename_i b _ _ _
    refine ⟨b, ?_⟩
    cases hc : env.category b with
    | none => rfl
    | some c => simp [hc] at h

theorem selectVariant_cases (env : Env) (vs : List (Variant Bytes)) (s : Value) :
    selectVariant env vs s = .ok .none ∨ (∃ k v d, Variant.mk k v d ∈ vs ∧ selectVariant env vs s = .ok (some v)) ∨
      ∃ m n, selectVariant env vs s = .panic m ∧ env.category n = none := by
  induction vs with
  | nil => exact .inl rfl
  | cons x rest ih =>
    obtain ⟨k, val, d⟩ := x
    rw [selectVariant_cons]
    cases hm : valueMatches env (keyValue env k) s with
    | none => obtain ⟨n, hn⟩ := valueMatches_none hm; exact .inr (.inr ⟨_, n, rfl, hn⟩)
    | some b =>
      cases b with
      | true => exact .inr (.inl ⟨k, val, d, List.mem_cons_self, rfl⟩)
      | false =>
        rcases ih with h | ⟨k', v, d', hmem, h⟩ | h
        · exact .inl h
        · exact .inr (.inl ⟨k', v, d', List.mem_cons_of_mem _ hmem, h⟩)
        · exact .inr (.inr h)

theorem chosen_cases (env : Env) (vs : List (Variant Bytes)) (s : Value) :
    chosen env vs s = .ok .none ∨ (∃ k v d, Variant.mk k v d ∈ vs ∧ chosen env vs s = .ok (some v)) ∨
      ∃ m n, chosen env vs s = .panic m ∧ env.category n = none := by
  cases s <;> first | exact selectVariant_cases env vs _ | exact .inl rfl

theorem defaultVariant_mem {vs : List (Variant Bytes)} {v : Pattern Bytes} (h : defaultVariant vs = some v) :
    ∃ k, Variant.mk k v true ∈ vs := by
  induction vs with
  | nil => cases h
  | cons x rest ih =>
    obtain ⟨k, val, d⟩ := x
    rw [defaultVariant] at h
    cases d with
    | true => cases h; exact ⟨k, List.mem_cons_self⟩
    | false => obtain ⟨k', hk⟩ := ih h; exact ⟨k', List.mem_cons_of_mem _ hk⟩

theorem selectTail_none {env : Env} {vs : List (Variant Bytes)} {s : Value} (h : chosen env vs s = .ok .none)
    (n : Nat) (w : Bytes) (sc : Scope) : selectTail env n vs w sc s = writeDefault env n vs w sc := by
  unfold selectTail; rw [h]

theorem selectTail_some {env : Env} {vs : List (Variant Bytes)} {s : Value} {v : Pattern Bytes}
    (h : chosen env vs s = .ok (some v)) (n : Nat) (w : Bytes) (sc : Scope) :
    selectTail env n vs w sc s = writePattern env n v w sc := by
  unfold selectTail; rw [h]

theorem selectTail_panic {env : Env} {vs : List (Variant Bytes)} {s : Value} {m : String}
    (h : chosen env vs s = .panic m) (n : Nat) (w : Bytes) (sc : Scope) : selectTail env n vs w sc s = .panic m := by
  unfold selectTail; rw [h]

theorem getL_mem {κ V : Type} (lt : κ → κ → Bool) : ∀ (l : List (κ × V)) (k : κ) (v : V),
    Args.getL lt l k = some v → ∃ k', (k', v) ∈ l
  | [], _, _, h => by cases h
  | (k', v') :: rest, k, v, h => by
    rw [Args.getL] at h
    split at h
    · obtain ⟨k'', hk⟩ := getL_mem lt rest k v h
      exact ⟨k'', List.mem_cons_of_mem _ hk⟩
    · split at h
      · cases h
      · cases h; exact ⟨k', List.mem_cons_self⟩

theorem mem_setL {κ V : Type} (lt : κ → κ → Bool) : ∀ (l : List (κ × V)) (k : κ) (v : V) (x : κ × V),
    x ∈ Args.setL lt l k v → x = (k, v) ∨ x ∈ l
  | [], k, v, x, h => .inl (List.mem_singleton.1 h)
  | (k', v') :: rest, k, v, x, h => by
    rw [Args.setL] at h
    split at h
    · rcases List.mem_cons.1 h with h | h
      · exact .inr (h ▸ List.mem_cons_self)
      · exact (mem_setL lt rest k v x h).imp_right (List.mem_cons_of_mem _)
    · split at h
      · exact (List.mem_cons.1 h).imp_right id
      · exact (List.mem_cons.1 h).imp_right (List.mem_cons_of_mem _)

theorem get_mem {l : ArgList} {k : Bytes} {v : Value} (h : l.get k = some v) : ∃ k', (k', v) ∈ l :=
  getL_mem bytesLt l k v h

theorem mem_ofPairs {ns : List (Bytes × Value)} {x : Bytes × Value} (h : x ∈ ArgList.ofPairs ns) : x ∈ ns := by
  have : ∀ (ps a : List (Bytes × Value)), x ∈ ps.foldl (fun a kv => Args.setL bytesLt a kv.1 kv.2) a → x ∈ a ∨ x ∈ ps := by
    intro ps
    induction ps with
    | nil => exact fun a h => .inl h
    | cons p ps ih =>
      intro a h
      rcases ih _ h with h | h
      · rcases mem_setL bytesLt a p.1 p.2 x h with h | h
        · exact .inr (h ▸ List.mem_cons_self)
        · exact .inl h
      · exact .inr (List.mem_cons_of_mem _ h)
  exact (this ns [] h).elim (fun h => nomatch h) id

theorem findAttr_mem {attrs : List (Attribute Bytes)} {name : Bytes} {p : Pattern Bytes}
    (h : findAttr attrs name = some p) : ∃ a ∈ attrs, a.value = p := by
  unfold findAttr at h
  cases hf : attrs.find? (fun a => a.id == name) with
  | none => rw [hf] at h; cases h
  | some a => rw [hf] at h; cases h; exact ⟨a, List.mem_of_find?_eq_some hf, rfl⟩

theorem Reach.elim {env : Env} {X : Pattern Bytes → Prop}
    (msgValue : ∀ id m p, env.msg id = some m → m.value = some p → X p)
    (msgAttr : ∀ id m a, env.msg id = some m → a ∈ m.attributes → X a.value)
    (termValue : ∀ id t, env.term id = some t → X t.value)
    (termAttr : ∀ id t a, env.term id = some t → a ∈ t.attributes → X a.value)
    {p : Pattern Bytes} (h : Reach env p) : X p := by
  rcases h with ⟨id, m, hm, hv | ⟨a, ha⟩⟩ | ⟨id, t, ht, hv | ⟨a, ha⟩⟩
  · exact msgValue id m p hm hv
  · obtain ⟨x, hx, rfl⟩ := findAttr_mem ha; exact msgAttr id m x hm hx
  · exact hv ▸ termValue id t ht
  · obtain ⟨x, hx, rfl⟩ := findAttr_mem ha; exact termAttr id t x ht hx

theorem effStack_ne_nil (t : List (Pattern Bytes)) (whole : Pattern Bytes) : effStack t whole ≠ [] := by
  unfold effStack; split <;> simp_all

theorem effStack_of_ne_nil {t : List (Pattern Bytes)} (whole : Pattern Bytes) (h : t ≠ []) : effStack t whole = t := by
  unfold effStack; split <;> simp_all

theorem effStack_idem (t : List (Pattern Bytes)) (whole : Pattern Bytes) :
    effStack (effStack t whole) whole = effStack t whole := effStack_of_ne_nil _ (effStack_ne_nil _ _)

theorem trackScope_eq (whole : Pattern Bytes) (sc : Scope) :
    trackScope whole sc = ⟨sc.localArgs, sc.placeables + 1, effStack sc.travelled whole, sc.errors, sc.dirty⟩ := by
  unfold trackScope effStack
  cases sc.travelled.isEmpty <;> rfl

/-- this and the next two fold the `if`s as they stand in the model's `writeElems` into the names above; only
`writeElems_placeable` rewrites with them -/
theorem trackScope_def (whole : Pattern Bytes) (sc : Scope) :
    (if sc.travelled.isEmpty = true then
      ({ localArgs := sc.localArgs, placeables := sc.placeables + 1, travelled := [whole], errors := sc.errors,
         dirty := sc.dirty } : Scope)
     else { localArgs := sc.localArgs, placeables := sc.placeables + 1, travelled := sc.travelled, errors := sc.errors,
            dirty := sc.dirty }) = trackScope whole sc := rfl

theorem openMark_append (env : Env) (len : Nat) (e : Expr Bytes) (w : Bytes) :
    (if (env.useIsolating && decide (len > 1) && isolatable e) = true then w ++ fsi else w) = w ++ openMark env len e := by
  unfold openMark; cases env.useIsolating && decide (len > 1) && isolatable e <;> simp

theorem closeMark_append (env : Env) (len : Nat) (e : Expr Bytes) (w2 : Bytes) (sc3 : Scope) :
    (if (env.useIsolating && decide (len > 1) && isolatable e) = true then
      (if sc3.dirty = true then w2 ++ braced (exprWriteError e) else w2) ++ pdi
     else (if sc3.dirty = true then w2 ++ braced (exprWriteError e) else w2)) =
      w2 ++ fallback e sc3 ++ closeMark env len e := by
  unfold closeMark fallback
  cases env.useIsolating && decide (len > 1) && isolatable e <;> cases sc3.dirty <;> simp

section eqns
variable {env : Env} {n : Nat}

@[simp] theorem writeElems_zero {whole : Pattern Bytes} {len : Nat} {els : List (PatElem Bytes)} {w : Bytes} {sc : Scope} :
    writeElems env 0 whole len els w sc = .fuel := by rw [writeElems]
@[simp] theorem writePattern_zero {p : Pattern Bytes} {w : Bytes} {sc : Scope} : writePattern env 0 p w sc = .fuel := by
  rw [writePattern]
@[simp] theorem track_zero {p : Pattern Bytes} {e : Inline Bytes} {w : Bytes} {sc : Scope} : track env 0 p e w sc = .fuel := by
  rw [track]
@[simp] theorem writeExpr_zero {e : Expr Bytes} {w : Bytes} {sc : Scope} : writeExpr env 0 e w sc = .fuel := by
  rw [writeExpr]
@[simp] theorem writeDefault_zero {vs : List (Variant Bytes)} {w : Bytes} {sc : Scope} :
    writeDefault env 0 vs w sc = .fuel := by rw [writeDefault]
@[simp] theorem writeInline_zero {e : Inline Bytes} {w : Bytes} {sc : Scope} : writeInline env 0 e w sc = .fuel := by
  rw [writeInline]
@[simp] theorem resolveInline_zero {e : Inline Bytes} {sc : Scope} : resolveInline env 0 e sc = .fuel := by
  rw [resolveInline]
@[simp] theorem getArguments_zero {a : Option (List (Inline Bytes) × List (Bytes × Inline Bytes))} {sc : Scope} :
    getArguments env 0 a sc = .fuel := by rw [getArguments]
@[simp] theorem resolveList_zero {es : List (Inline Bytes)} {sc : Scope} : resolveList env 0 es sc = .fuel := by
  rw [resolveList]
@[simp] theorem resolveNamed_zero {es : List (Bytes × Inline Bytes)} {sc : Scope} : resolveNamed env 0 es sc = .fuel := by
  rw [resolveNamed]

/-! ## `Pattern::write` -/

theorem writeElems_nil {whole : Pattern Bytes} {len : Nat} {w : Bytes} {sc : Scope} :
    writeElems env (n + 1) whole len [] w sc = .ok (w, sc) := by rw [writeElems]

theorem writeElems_text {whole : Pattern Bytes} {len : Nat} {v : Bytes} {rest : List (PatElem Bytes)} {w : Bytes}
    {sc : Scope} :
    writeElems env (n + 1) whole len (.text v :: rest) w sc =
      if sc.dirty = true then .ok (w, sc) else writeElems env n whole len rest (w ++ tr env v) sc := by
  rw [writeElems]; rfl

/-- the step on a placeable: three early returns (scope dirty, `u8` overflow, limit tripped), else the expression
is written between the marks and the loop goes on -/
theorem writeElems_placeable {whole : Pattern Bytes} {len : Nat} {e : Expr Bytes} {rest : List (PatElem Bytes)}
    {w : Bytes} {sc : Scope} :
    writeElems env (n + 1) whole len (.placeable e :: rest) w sc =
      if sc.dirty = true then .ok (w, sc)
      else if sc.placeables + 1 > 255 then .panic "placeables u8 overflow"
      else if sc.placeables + 1 > Generated.maxPlaceables then
        .ok (w, ({ sc with placeables := sc.placeables + 1, dirty := true } : Scope).addError .tooManyPlaceables)
      else (writeExpr env n e (w ++ openMark env len e) (trackScope whole sc)).bind fun (w2, sc3) =>
        writeElems env n whole len rest (w2 ++ fallback e sc3 ++ closeMark env len e) sc3 := by
  rw [writeElems]
  conv => lhs; simp only [openMark_append, closeMark_append, trackScope_def]
  cases writeExpr env n e (w ++ openMark env len e) (trackScope whole sc) <;> rfl

theorem writePattern_succ {p : Pattern Bytes} {w : Bytes} {sc : Scope} :
    writePattern env (n + 1) p w sc = writeElems env n p p.length p w sc := by rw [writePattern]

theorem track_succ {p : Pattern Bytes} {e : Inline Bytes} {w : Bytes} {sc : Scope} :
    track env (n + 1) p e w sc =
      if travelledContains sc.travelled p = true then .ok (w ++ braced (inlineWriteError e), sc.addError .cyclic)
      else (writePattern env n p w { sc with travelled := sc.travelled ++ [p] }).bind fun (w1, sc1) =>
        .ok (w1, { sc1 with travelled := sc1.travelled.dropLast }) := by
  rw [track]
  cases writePattern env n p w { sc with travelled := sc.travelled ++ [p] } <;> rfl

/-! ## `Expression::write` -/

theorem writeExpr_inline {e : Inline Bytes} {w : Bytes} {sc : Scope} :
    writeExpr env (n + 1) (.inline e) w sc = writeInline env n e w sc := by rw [writeExpr]

theorem writeExpr_select {sel : Inline Bytes} {vs : List (Variant Bytes)} {w : Bytes} {sc : Scope} :
    writeExpr env (n + 1) (.select sel vs) w sc =
      (resolveInline env n sel sc).bind fun (selector, sc1) => selectTail env n vs w sc1 selector := by
  rw [writeExpr]
  cases resolveInline env n sel sc with
  | ok p => obtain ⟨selector, sc1⟩ := p; cases selector <;> rfl
  | panic m => rfl
  | fuel => rfl

theorem writeDefault_succ {vs : List (Variant Bytes)} {w : Bytes} {sc : Scope} :
    writeDefault env (n + 1) vs w sc =
      match defaultVariant vs with
      | some v => writePattern env n v w sc
      | .none => .ok (w, sc.addError .missingDefault) := by
  rw [writeDefault]; cases defaultVariant vs <;> rfl

/-- `write_ref_error` is only ever called on a message, term or function reference, where it does not panic -/
theorem writeRefError_of {w : Bytes} {sc : Scope} {e : Inline Bytes} {k : RefKind} (hk : refKindOf e = some k) :
    writeRefError w sc e = .ok (w ++ braced (inlineWriteError e), sc.addError (.reference k)) := by
  unfold writeRefError; rw [hk]

/-! ## `InlineExpression::write` -/

theorem writeInline_str {v w : Bytes} {sc : Scope} :
    writeInline env (n + 1) (.str v) w sc = .ok (w ++ env.unescape v, sc) := by rw [writeInline]

theorem writeInline_num {v w : Bytes} {sc : Scope} :
    writeInline env (n + 1) (.num v) w sc = .ok (w ++ valueString env (env.tryNumber v), sc) := by rw [writeInline]

theorem writeInline_msg {id : Bytes} {attr : Option Bytes} {w : Bytes} {sc : Scope} :
    writeInline env (n + 1) (.msg id attr) w sc =
      match msgTarget env id attr with
      | .pattern p => track env n p (.msg id attr) w sc
      | .noValue => .ok (w ++ braced (inlineWriteError (.msg id attr)), sc.addError (.noValue id))
      | .missing => .ok (w ++ braced (inlineWriteError (.msg id attr)), sc.addError (.reference (.message id attr))) := by
  rw [writeInline]
  unfold msgTarget
  cases env.msg id with
  | none => rfl
  | some m =>
    cases attr with
    | some a => simp only []; cases findAttr m.attributes a <;> rfl
    | none => simp only []; cases m.value <;> rfl

theorem writeInline_term {id : Bytes} {attr : Option Bytes}
    {args : Option (List (Inline Bytes) × List (Bytes × Inline Bytes))} {w : Bytes} {sc : Scope} :
    writeInline env (n + 1) (.term id attr args) w sc =
      (getArguments env n args sc).bind fun ((_, named), sc1) => termTail env n id attr args w named sc1 := by
  rw [writeInline]
  unfold termTail termTarget
  cases getArguments env n args sc with
  | ok p =>
    obtain ⟨⟨rp, named⟩, sc1⟩ := p
    simp only [RR.bind_ok]
    cases env.term id with
    | none => rfl
    | some t =>
      cases attr with
      | none => simp only []; cases track env n t.value _ w _ <;> rfl
      | some a =>
        simp only []
        cases findAttr t.attributes a with
        | none => rfl
        | some p => simp only []; cases track env n p _ w _ <;> rfl
  | panic m => rfl
  | fuel => rfl

theorem writeInline_fn {id : Bytes} {pos : List (Inline Bytes)} {named : List (Bytes × Inline Bytes)} {w : Bytes}
    {sc : Scope} :
    writeInline env (n + 1) (.fn id pos named) w sc =
      (getArguments env n (some (pos, named)) sc).bind fun ((rp, rn), sc1) =>
        match env.fn id with
        | some f => .ok (w ++ fnText env (.fn id pos named) (f rp rn), sc1)
        | .none => .ok (w ++ braced (inlineWriteError (.fn id pos named)), sc1.addError (.reference (.function id))) := by
  rw [writeInline]
  cases getArguments env n (some (pos, named)) sc with
  | ok p =>
    obtain ⟨⟨rp, rn⟩, sc1⟩ := p
    simp only [RR.bind_ok]
    cases env.fn id with
    | none => rfl
    | some f => simp only [fnText]; cases f rp rn <;> rfl
  | panic m => rfl
  | fuel => rfl

theorem writeInline_var {id w : Bytes} {sc : Scope} :
    writeInline env (n + 1) (.var id) w sc =
      match sc.localArgs with
      | some l =>
        (match l.get id with
         | some v => .ok (w ++ valueString env v, sc)
         | .none => .ok (w ++ braced (inlineWriteError (.var id)), sc))
      | .none =>
        (match env.args.bind (·.get id) with
         | some v => .ok (w ++ valueString env v, sc)
         | .none => .ok (w ++ braced (inlineWriteError (.var id)), sc.addError (.reference (.variable id)))) := by
  rw [writeInline]
  cases sc.localArgs with
  | some l => simp only [Option.bind]; cases l.get id <;> rfl
  | none => simp only []; cases env.args.bind (·.get id) <;> rfl

theorem writeInline_placeable {e : Expr Bytes} {w : Bytes} {sc : Scope} :
    writeInline env (n + 1) (.placeable e) w sc = writeExpr env n e w sc := by rw [writeInline]

/-! ## `InlineExpression::resolve` -/

theorem resolveInline_str {v : Bytes} {sc : Scope} :
    resolveInline env (n + 1) (.str v) sc = .ok (.str (env.unescape v), sc) := by rw [resolveInline]

theorem resolveInline_num {v : Bytes} {sc : Scope} :
    resolveInline env (n + 1) (.num v) sc = .ok (env.tryNumber v, sc) := by rw [resolveInline]

theorem resolveInline_var {id : Bytes} {sc : Scope} :
    resolveInline env (n + 1) (.var id) sc =
      match sc.localArgs with
      | some l => .ok ((l.get id).getD .error, sc)
      | .none =>
        (match env.args.bind (·.get id) with
         | some v => .ok (v, sc)
         | .none => .ok (.error, sc.addError (.reference (.variable id)))) := by
  rw [resolveInline]
  cases sc.localArgs with
  | none => simp only []; cases env.args.bind (·.get id) <;> rfl
  | some l => simp only []; cases l.get id <;> rfl

theorem resolveInline_fn {id : Bytes} {pos : List (Inline Bytes)} {named : List (Bytes × Inline Bytes)} {sc : Scope} :
    resolveInline env (n + 1) (.fn id pos named) sc =
      (getArguments env n (some (pos, named)) sc).bind fun ((rp, rn), sc1) =>
        match env.fn id with
        | some f => .ok (f rp rn, sc1)
        | .none => .ok (.error, sc1.addError (.reference (.function id))) := by
  rw [resolveInline]
  cases getArguments env n (some (pos, named)) sc with
  | ok p => obtain ⟨⟨rp, rn⟩, sc1⟩ := p; simp only [RR.bind_ok]; cases env.fn id <;> rfl
  | panic m => rfl
  | fuel => rfl

/-- an expression that is not a literal, variable or function call is written into a fresh string -/
def viaWrite (env : Env) (n : Nat) (e : Inline Bytes) (sc : Scope) : RR (Value × Scope) :=
  (writeInline env n e [] sc).bind fun (w, sc1) => .ok (.str w, sc1)

theorem resolveInline_msg {id : Bytes} {attr : Option Bytes} {sc : Scope} :
    resolveInline env (n + 1) (.msg id attr) sc = viaWrite env n (.msg id attr) sc := by
  rw [resolveInline]
  · unfold viaWrite; cases writeInline env n _ [] sc <;> rfl
  all_goals (intros; contradiction)

theorem resolveInline_term {id : Bytes} {attr : Option Bytes}
    {args : Option (List (Inline Bytes) × List (Bytes × Inline Bytes))} {sc : Scope} :
    resolveInline env (n + 1) (.term id attr args) sc = viaWrite env n (.term id attr args) sc := by
  rw [resolveInline]
  · unfold viaWrite; cases writeInline env n _ [] sc <;> rfl
  all_goals (intros; contradiction)

theorem resolveInline_placeable {e : Expr Bytes} {sc : Scope} :
    resolveInline env (n + 1) (.placeable e) sc = viaWrite env n (.placeable e) sc := by
  rw [resolveInline]
  · unfold viaWrite; cases writeInline env n _ [] sc <;> rfl
  all_goals (intros; contradiction)

theorem getArguments_none {sc : Scope} : getArguments env (n + 1) .none sc = .ok (([], []), sc) := by rw [getArguments]

theorem getArguments_some {pos : List (Inline Bytes)} {named : List (Bytes × Inline Bytes)} {sc : Scope} :
    getArguments env (n + 1) (some (pos, named)) sc =
      (resolveList env n pos sc).bind fun (vs, sc1) =>
        (resolveNamed env n named sc1).bind fun (ns, sc2) => .ok ((vs, ArgList.ofPairs ns), sc2) := by
  rw [getArguments]
  cases resolveList env n pos sc with
  | ok p => obtain ⟨vs, sc1⟩ := p; simp only [RR.bind_ok]; cases resolveNamed env n named sc1 <;> rfl
  | panic m => rfl
  | fuel => rfl

theorem resolveList_nil {sc : Scope} : resolveList env (n + 1) [] sc = .ok ([], sc) := by rw [resolveList]

theorem resolveList_cons {e : Inline Bytes} {es : List (Inline Bytes)} {sc : Scope} :
    resolveList env (n + 1) (e :: es) sc =
      (resolveInline env n e sc).bind fun (v, sc1) =>
        (resolveList env n es sc1).bind fun (vs, sc2) => .ok (v :: vs, sc2) := by
  rw [resolveList]
  cases resolveInline env n e sc with
  | ok p => obtain ⟨v, sc1⟩ := p; simp only [RR.bind_ok]; cases resolveList env n es sc1 <;> rfl
  | panic m => rfl
  | fuel => rfl

theorem resolveNamed_nil {sc : Scope} : resolveNamed env (n + 1) [] sc = .ok ([], sc) := by rw [resolveNamed]

theorem resolveNamed_cons {k : Bytes} {e : Inline Bytes} {es : List (Bytes × Inline Bytes)} {sc : Scope} :
    resolveNamed env (n + 1) ((k, e) :: es) sc =
      (resolveInline env n e sc).bind fun (v, sc1) =>
        (resolveNamed env n es sc1).bind fun (vs, sc2) => .ok ((k, v) :: vs, sc2) := by
  rw [resolveNamed]
  cases resolveInline env n e sc with
  | ok p => obtain ⟨v, sc1⟩ := p; simp only [RR.bind_ok]; cases resolveNamed env n es sc1 <;> rfl
  | panic m => rfl
  | fuel => rfl

end eqns

/-! ## the entry points `format_pattern` / `write_pattern` -/

theorem formatPattern_eq (env : Env) (fuel : Nat) (p : Pattern Bytes) :
    formatPattern env fuel p = (resolvePattern env fuel p {}).bind fun (w, sc) => .ok (w, sc.errors) := by
  unfold formatPattern; cases resolvePattern env fuel p {} <;> rfl

theorem writePatternTop_eq (env : Env) (fuel : Nat) (p : Pattern Bytes) :
    writePatternTop env fuel p = (writePattern env fuel p [] {}).bind fun (w, sc) => .ok (w, sc.errors) := by
  unfold writePatternTop; cases writePattern env fuel p [] {} <;> rfl

theorem resolvePattern_text (env : Env) (fuel : Nat) (v : Bytes) (sc : Scope) :
    resolvePattern env fuel [.text v] sc = .ok (tr env v, sc) := rfl

theorem resolvePattern_of_not_text (env : Env) (fuel : Nat) {p : Pattern Bytes} (h : ∀ v, p ≠ [.text v]) (sc : Scope) :
    resolvePattern env fuel p sc = writePattern env fuel p [] sc := by
  unfold resolvePattern
  split
  · rename_i v; exact absurd rfl (h v)
  · rfl

theorem resolvePattern_cases {T : RR (Bytes × Scope) → Prop} (env : Env) (fuel : Nat) (p : Pattern Bytes) (sc : Scope)
    (text : ∀ v, p = [.text v] → T (.ok (tr env v, sc)))
    (write : (∀ v, p ≠ [.text v]) → T (writePattern env fuel p [] sc)) : T (resolvePattern env fuel p sc) := by
  by_cases h : ∃ v, p = [.text v]
  · obtain ⟨v, rfl⟩ := h
    rw [resolvePattern_text]; exact text v rfl
  · have hnt : ∀ v, p ≠ [.text v] := fun v hv => h ⟨v, hv⟩
    rw [resolvePattern_of_not_text env fuel hnt]; exact write hnt

theorem entry_cases {T : RR (Bytes × List RErr) → Prop} (env : Env) (fuel : Nat) (p : Pattern Bytes)
    (text : ∀ v, p = [.text v] → T (.ok (tr env v, [])))
    (write : T ((writePattern env fuel p [] {}).bind fun (w, sc) => .ok (w, sc.errors))) :
    T (formatPattern env fuel p) ∧ T (writePatternTop env fuel p) := by
  refine ⟨?_, writePatternTop_eq env fuel p ▸ write⟩
  rw [formatPattern_eq]
  exact resolvePattern_cases (T := fun r => T (r.bind fun (w, sc) => .ok (w, sc.errors))) env fuel p {} text fun _ => write

theorem entry_ok {env : Env} {fuel : Nat} {p : Pattern Bytes} {X : Bytes → List RErr → Prop}
    (text : ∀ v, p = [.text v] → X (tr env v) [])
    (write : ∀ w sc, writePattern env fuel p [] {} = .ok (w, sc) → X w sc.errors) {w : Bytes} {errs : List RErr}
    (h : formatPattern env fuel p = .ok (w, errs) ∨ writePatternTop env fuel p = .ok (w, errs)) : X w errs := by
  have := entry_cases (T := fun r => r = .ok (w, errs) → X w errs) env fuel p
    (fun v hv h => by cases h; exact text v hv)
    (fun h => by obtain ⟨⟨w1, sc⟩, hr, h⟩ := RR.bind_eq_ok h; cases h; exact write _ _ hr)
  exact h.elim this.1 this.2

/-- three units of fuel: `writePattern`, the element, the end -/
theorem writePatternTop_text (env : Env) (k : Nat) (v : Bytes) :
    writePatternTop env (k + 3) [.text v] = .ok (tr env v, []) := by
  unfold writePatternTop
  rw [writePattern_succ, writeElems_text, if_neg Bool.false_ne_true, writeElems_nil]
  rfl

theorem formatPattern_text (env : Env) (fuel : Nat) (v : Bytes) :
    formatPattern env fuel [.text v] = .ok (tr env v, []) := by
  unfold formatPattern; rw [resolvePattern_text]

theorem formatPattern_eq_of_not_text (env : Env) (fuel : Nat) (p : Pattern Bytes) (h : ∀ v, p ≠ [.text v]) :
    formatPattern env fuel p = writePatternTop env fuel p := by
  unfold formatPattern writePatternTop
  rw [resolvePattern_of_not_text env fuel h]

/-- `format_pattern` = `write_pattern` (text and errors) for every bundle, pattern and fuel ≥ 3 -/
theorem formatPattern_eq_writePatternTop (env : Env) (fuel : Nat) (p : Pattern Bytes) (hf : 3 ≤ fuel) :
    formatPattern env fuel p = writePatternTop env fuel p := by
  by_cases h : ∃ v, p = [.text v]
  · obtain ⟨v, rfl⟩ := h
    obtain ⟨k, rfl⟩ : ∃ k, fuel = k + 3 := ⟨fuel - 3, by omega⟩
    rw [formatPattern_text, writePatternTop_text]
  · exact formatPattern_eq_of_not_text env fuel p (fun v hv => h ⟨v, hv⟩)

/-- without a fuel bound: whatever the writer API returns, the string API returns -/
theorem formatPattern_of_writePatternTop (env : Env) (fuel : Nat) (p : Pattern Bytes) (r : Bytes × List RErr)
    (h : writePatternTop env fuel p = .ok r) : formatPattern env fuel p = .ok r := by
  by_cases hp : ∃ v, p = [.text v]
  · obtain ⟨v, rfl⟩ := hp
    -- with less than three units of fuel the writer loop does not get to the end of the pattern
    match fuel with
    | 0 => unfold writePatternTop at h; rw [writePattern_zero] at h; cases h
    | 1 => unfold writePatternTop at h; rw [writePattern_succ, writeElems_zero] at h; cases h
    | 2 =>
      unfold writePatternTop at h
      rw [writePattern_succ, writeElems_text, if_neg Bool.false_ne_true, writeElems_zero] at h
      cases h
    | k + 3 => rw [writePatternTop_text] at h; rw [formatPattern_text]; exact h
  · rw [formatPattern_eq_of_not_text env fuel p (fun v hv => hp ⟨v, hv⟩)]; exact h

end FluentProofs.Resolver

namespace FluentProofs.Bidi
open FluentModel FluentModel.Syntax FluentModel.Resolver

theorem openMark_off {env : Env} (h : env.useIsolating = false) (len : Nat) (e : Expr Bytes) : openMark env len e = [] := by
  simp [openMark, h]
theorem closeMark_off {env : Env} (h : env.useIsolating = false) (len : Nat) (e : Expr Bytes) : closeMark env len e = [] := by
  simp [closeMark, h]
theorem openMark_single (env : Env) {len : Nat} (h : len ≤ 1) (e : Expr Bytes) : openMark env len e = [] := by
  have : ¬ len > 1 := by omega
  simp [openMark, this]
theorem closeMark_single (env : Env) {len : Nat} (h : len ≤ 1) (e : Expr Bytes) : closeMark env len e = [] := by
  have : ¬ len > 1 := by omega
  simp [closeMark, this]
theorem openMark_not_isolatable (env : Env) (len : Nat) {e : Expr Bytes} (h : isolatable e = false) : openMark env len e = [] := by
  simp [openMark, h]
theorem closeMark_not_isolatable (env : Env) (len : Nat) {e : Expr Bytes} (h : isolatable e = false) : closeMark env len e = [] := by
  simp [closeMark, h]
theorem openMark_site {env : Env} {len : Nat} {e : Expr Bytes} (h1 : env.useIsolating = true) (h2 : len > 1)
    (h3 : isolatable e = true) : openMark env len e = fsi := by
  simp [openMark, h1, h2, h3]
theorem closeMark_site {env : Env} {len : Nat} {e : Expr Bytes} (h1 : env.useIsolating = true) (h2 : len > 1)
    (h3 : isolatable e = true) : closeMark env len e = pdi := by
  simp [closeMark, h1, h2, h3]

/-- `bundle.set_use_isolating(b)` -/
def withIso (env : Env) (b : Bool) : Env := { env with useIsolating := b }

@[simp] theorem withIso_useIsolating (env : Env) (b : Bool) : (withIso env b).useIsolating = b := rfl
@[simp] theorem withIso_msg (env : Env) (b : Bool) : (withIso env b).msg = env.msg := rfl
@[simp] theorem withIso_term (env : Env) (b : Bool) : (withIso env b).term = env.term := rfl
@[simp] theorem withIso_fn (env : Env) (b : Bool) : (withIso env b).fn = env.fn := rfl
@[simp] theorem withIso_transform (env : Env) (b : Bool) : (withIso env b).transform = env.transform := rfl
@[simp] theorem withIso_formatter (env : Env) (b : Bool) : (withIso env b).formatter = env.formatter := rfl
@[simp] theorem withIso_category (env : Env) (b : Bool) : (withIso env b).category = env.category := rfl
@[simp] theorem withIso_tryNumber (env : Env) (b : Bool) : (withIso env b).tryNumber = env.tryNumber := rfl
@[simp] theorem withIso_unescape (env : Env) (b : Bool) : (withIso env b).unescape = env.unescape := rfl
@[simp] theorem withIso_customStr (env : Env) (b : Bool) : (withIso env b).customStr = env.customStr := rfl
@[simp] theorem withIso_args (env : Env) (b : Bool) : (withIso env b).args = env.args := rfl
@[simp] theorem valueString_withIso (env : Env) (b : Bool) (v : Value) : valueString (withIso env b) v = valueString env v := rfl

end FluentProofs.Bidi

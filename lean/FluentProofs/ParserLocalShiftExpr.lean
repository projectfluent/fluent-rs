import FluentProofs.ParserLocalShiftLeaf
/-!
# Locality of the parser, SHIFT family, part 2: the expression functions

`ShSpecs d s₁ s₂ n`: the joint statement for the eight mutually recursive functions at fuel `n` — a run on `s₁` that
does not end in `fuel` is reproduced on `s₂` (moved by `d`) with any fuel `m ≥ n`.  This file has the step lemmas of
the six expression functions; `ParserLocalShiftPat.lean` has the pattern loop and the induction.
-/
namespace FluentProofs.Parser
open FluentModel.Syntax

theorem mapInl_snoc' {S T : Type} (f : S → T) (a : List (Inline S)) (x : Inline S) :
    mapInl f (a ++ [x]) = mapInl f a ++ [x.mapS f] := by
  induction a with
  | nil => rfl
  | cons y ys ih => exact congrArg (y.mapS f :: ·) ih

theorem mapNamed_snoc' {S T : Type} (f : S → T) (a : List (S × Inline S)) (n : S) (x : Inline S) :
    mapNamed f (a ++ [(n, x)]) = mapNamed f a ++ [(f n, x.mapS f)] := by
  induction a with
  | nil => rfl
  | cons y ys ih => exact congrArg ((f y.1, y.2.mapS f) :: ·) ih

theorem mapVariants_snoc' {S T : Type} (f : S → T) (a : List (Variant S)) (x : Variant S) :
    mapVariants f (a ++ [x]) = mapVariants f a ++ [x.mapS f] := by
  induction a with
  | nil => rfl
  | cons y ys ih => exact congrArg (y.mapS f :: ·) ih

theorem mapNamed_isEmpty {S T : Type} (f : S → T) (a : List (S × Inline S)) : (mapNamed f a).isEmpty = a.isEmpty := by
  cases a <;> rfl

def shArgs (d : Nat) (pn : List (Inline Span) × List (Span × Inline Span)) :
    List (Inline Span) × List (Span × Inline Span) := (mapInl (shSpan d) pn.1, mapNamed (shSpan d) pn.2)

theorem Inline.mapS_term {S T : Type} (f : S → T) (id : S) (attr : Option S)
    (args : Option (List (Inline S) × List (S × Inline S))) :
    (Inline.term id attr args).mapS f = .term (f id) (attr.map f) (args.map fun pn => (mapInl f pn.1, mapNamed f pn.2)) := by
  cases args <;> rfl

section
variable {S T : Type} (f : S → T)
theorem Inline.mapS_str (v : S) : (Inline.str v).mapS f = .str (f v) := rfl
theorem Inline.mapS_num (v : S) : (Inline.num v).mapS f = .num (f v) := rfl
theorem Inline.mapS_fn (id : S) (pos : List (Inline S)) (named : List (S × Inline S)) :
    (Inline.fn id pos named).mapS f = .fn (f id) (mapInl f pos) (mapNamed f named) := rfl
theorem Inline.mapS_msg (id : S) (attr : Option S) : (Inline.msg id attr).mapS f = .msg (f id) (attr.map f) := rfl
theorem Inline.mapS_var (v : S) : (Inline.var v).mapS f = .var (f v) := rfl
theorem Inline.mapS_placeable (e : Expr S) : (Inline.placeable e).mapS f = .placeable (e.mapS f) := rfl
theorem Expr.mapS_inline (e : Inline S) : (Expr.inline e).mapS f = .inline (e.mapS f) := rfl
theorem Expr.mapS_select (e : Inline S) (vs : List (Variant S)) :
    (Expr.select e vs).mapS f = .select (e.mapS f) (mapVariants f vs) := rfl
end

section
variable {d : Nat} {s₁ s₂ : Src}

theorem named_any_shift_aux (h : Shift d s₁ s₂) (named : List (Span × Inline Span)) (B : FluentModel.Bytes) :
    (mapNamed (shSpan d) named).any (fun na => spanBytes s₂ na.1 == B) =
      named.any (fun na => spanBytes s₁ na.1 == B) := by
  induction named with
  | nil => simp [mapNamed]
  | cons y ys ih => obtain ⟨n', y⟩ := y; simp only [mapNamed, List.any_cons, ih, spanBytes_shift h]

theorem named_any_shift (h : Shift d s₁ s₂) (named : List (Span × Inline Span)) (id : Span) :
    (mapNamed (shSpan d) named).any (fun na => spanBytes s₂ na.1 == spanBytes s₂ (shSpan d id)) =
      named.any (fun na => spanBytes s₁ na.1 == spanBytes s₁ id) := by
  rw [spanBytes_shift h, named_any_shift_aux h]

structure ShSpecs (d : Nat) (s₁ s₂ : Src) (n : Nat) : Prop where
  patternLoop : ∀ st p r, getPatternLoop s₁ n st p = r → r ≠ .fuel → ∀ m, n ≤ m →
    getPatternLoop s₂ m (shSt d st) (p + d) = shR (shSt d) d r
  pattern : ∀ p r, getPattern s₁ n p = r → r ≠ .fuel → ∀ m, n ≤ m →
    getPattern s₂ m (p + d) = shR (Option.map (mapPat (shSpan d))) d r
  placeable : ∀ p r, getPlaceable s₁ n p = r → r ≠ .fuel → ∀ m, n ≤ m →
    getPlaceable s₂ m (p + d) = shR (Expr.mapS (shSpan d)) d r
  expression : ∀ p r, getExpression s₁ n p = r → r ≠ .fuel → ∀ m, n ≤ m →
    getExpression s₂ m (p + d) = shR (Expr.mapS (shSpan d)) d r
  inline : ∀ ol p r, getInline s₁ n ol p = r → r ≠ .fuel → ∀ m, n ≤ m →
    getInline s₂ m ol (p + d) = shR (Inline.mapS (shSpan d)) d r
  callArguments : ∀ p r, getCallArguments s₁ n p = r → r ≠ .fuel → ∀ m, n ≤ m →
    getCallArguments s₂ m (p + d) = shR (Option.map (shArgs d)) d r
  callArgsLoop : ∀ pos named p r, getCallArgsLoop s₁ n pos named p = r → r ≠ .fuel → ∀ m, n ≤ m →
    getCallArgsLoop s₂ m (mapInl (shSpan d) pos) (mapNamed (shSpan d) named) (p + d) = shR (shArgs d) d r
  variants : ∀ hd acc p r, getVariants s₁ n hd acc p = r → r ≠ .fuel → ∀ m, n ≤ m →
    getVariants s₂ m hd (mapVariants (shSpan d) acc) (p + d) = shR (mapVariants (shSpan d)) d r

section
variable {n m : Nat}

theorem ShSpecs.patternLoopR (IH : ShSpecs d s₁ s₂ n) (hm : n ≤ m) (st : PatState) (p : Nat) :
    ShR (shSt d) d (getPatternLoop s₁ n st p) (getPatternLoop s₂ m (shSt d st) (p + d)) :=
  fun hne => IH.patternLoop st p _ rfl hne m hm
theorem ShSpecs.patternR (IH : ShSpecs d s₁ s₂ n) (hm : n ≤ m) (p : Nat) :
    ShR (Option.map (mapPat (shSpan d))) d (getPattern s₁ n p) (getPattern s₂ m (p + d)) :=
  fun hne => IH.pattern p _ rfl hne m hm
theorem ShSpecs.placeableR (IH : ShSpecs d s₁ s₂ n) (hm : n ≤ m) (p : Nat) :
    ShR (Expr.mapS (shSpan d)) d (getPlaceable s₁ n p) (getPlaceable s₂ m (p + d)) :=
  fun hne => IH.placeable p _ rfl hne m hm
theorem ShSpecs.expressionR (IH : ShSpecs d s₁ s₂ n) (hm : n ≤ m) (p : Nat) :
    ShR (Expr.mapS (shSpan d)) d (getExpression s₁ n p) (getExpression s₂ m (p + d)) :=
  fun hne => IH.expression p _ rfl hne m hm
theorem ShSpecs.inlineR (IH : ShSpecs d s₁ s₂ n) (hm : n ≤ m) (ol : Bool) (p : Nat) :
    ShR (Inline.mapS (shSpan d)) d (getInline s₁ n ol p) (getInline s₂ m ol (p + d)) :=
  fun hne => IH.inline ol p _ rfl hne m hm
theorem ShSpecs.callArgumentsR (IH : ShSpecs d s₁ s₂ n) (hm : n ≤ m) (p : Nat) :
    ShR (Option.map (shArgs d)) d (getCallArguments s₁ n p) (getCallArguments s₂ m (p + d)) :=
  fun hne => IH.callArguments p _ rfl hne m hm
theorem ShSpecs.callArgsLoopR (IH : ShSpecs d s₁ s₂ n) (hm : n ≤ m) (pos : List (Inline Span))
    (named : List (Span × Inline Span)) (p : Nat) :
    ShR (shArgs d) d (getCallArgsLoop s₁ n pos named p)
      (getCallArgsLoop s₂ m (mapInl (shSpan d) pos) (mapNamed (shSpan d) named) (p + d)) :=
  fun hne => IH.callArgsLoop pos named p _ rfl hne m hm
theorem ShSpecs.variantsR (IH : ShSpecs d s₁ s₂ n) (hm : n ≤ m) (hd : Bool) (acc : List (Variant Span)) (p : Nat) :
    ShR (mapVariants (shSpan d)) d (getVariants s₁ n hd acc p) (getVariants s₂ m hd (mapVariants (shSpan d) acc) (p + d)) :=
  fun hne => IH.variants hd acc p _ rfl hne m hm

theorem placeable_sh_step (h : Shift d s₁ s₂) (IH : ShSpecs d s₁ s₂ n) (hm : n ≤ m) (p : Nat) :
    ShR (Expr.mapS (shSpan d)) d (getPlaceable s₁ (n + 1) p) (getPlaceable s₂ (m + 1) (p + d)) := by
  rw [getPlaceable_unfold, getPlaceable_unfold, skipBlank_shift h]
  refine (IH.expressionR hm _).bind fun exp q _ => ?_
  rw [skipBlankInline_shift h]
  refine (ShR.of_eq (expectByte_shift h _ _)).bind fun _ q2 _ => ?_
  rcases exp with (v | v | ⟨id, pos, named⟩ | ⟨id, attr⟩ | ⟨id, _ | a, args⟩ | id | e) | ⟨sel, vs⟩ <;>
    simp only [Inline.mapS_str, Inline.mapS_num, Inline.mapS_fn, Inline.mapS_msg, Inline.mapS_var, Inline.mapS_placeable,
      Inline.mapS_term, Expr.mapS_inline, Expr.mapS_select, Option.map_some, Option.map_none]
  case inline.term.some => exact .mkErr rfl
  case inline.term.none => exact .ok (by rw [Expr.mapS_inline, Inline.mapS_term]; rfl)
  all_goals exact .ok rfl

theorem selectorError_mapS (exp : Inline Span) : selectorError (exp.mapS (shSpan d)) = selectorError exp := by
  rcases exp with v | v | ⟨id, pos, named⟩ | ⟨id, _ | a⟩ | ⟨id, _ | a, args⟩ | id | e <;>
    simp only [Inline.mapS_str, Inline.mapS_num, Inline.mapS_fn, Inline.mapS_msg, Inline.mapS_var, Inline.mapS_placeable,
      Inline.mapS_term, Option.map_some, Option.map_none] <;> rfl

theorem shEK_selectorError {exp : Inline Span} {k : EK} (hk : selectorError exp = some k) : shEK d k = k := by
  rcases exp with v | v | ⟨id, pos, named⟩ | ⟨id, _ | a⟩ | ⟨id, _ | a, args⟩ | id | e <;> cases hk <;> rfl

theorem exprTail_shift (h : Shift d s₁ s₂) (IH : ShSpecs d s₁ s₂ n) (hm : n ≤ m) (exp : Inline Span) (q : Nat) :
    ShR (Expr.mapS (shSpan d)) d (exprTail s₁ n exp q) (exprTail s₂ m (exp.mapS (shSpan d)) (q + d)) := by
  unfold exprTail
  rw [h.get, sh1 d, h.get, selectorError_mapS]
  by_cases hc : s₁[q]? = some 45 ∧ s₁[q + 1]? = some 62
  · rw [if_pos hc, if_pos hc]
    cases hk : selectorError exp with
    | some k => exact .mkErr (shEK_selectorError hk)
    | none =>
      simp only []
      rw [sh2 d, skipBlankInline_shift h, skipEol_shift h]
      cases skipEol s₁ (skipBlankInline s₁ (q + 2)) with
      | none => exact .mkErr rfl
      | some q3 =>
        simp only [Option.map_some]
        rw [skipBlank_shift h]
        exact (IH.variantsR hm false [] _).bind fun vs q5 _ => .ok rfl
  · rw [if_neg hc, if_neg hc]
    rcases exp with v | v | ⟨id, pos, named⟩ | ⟨id, attr⟩ | ⟨id, _ | a, args⟩ | id | e <;>
      simp only [Inline.mapS_str, Inline.mapS_num, Inline.mapS_fn, Inline.mapS_msg, Inline.mapS_var, Inline.mapS_placeable,
        Inline.mapS_term, Option.map_some, Option.map_none]
    case term.some => exact .mkErr rfl
    case term.none => exact .ok (by rw [Expr.mapS_inline, Inline.mapS_term]; rfl)
    all_goals exact .ok rfl

theorem expression_sh_step (h : Shift d s₁ s₂) (IH : ShSpecs d s₁ s₂ n) (hm : n ≤ m) (p : Nat) :
    ShR (Expr.mapS (shSpan d)) d (getExpression s₁ (n + 1) p) (getExpression s₂ (m + 1) (p + d)) := by
  rw [getExpression_unfold, getExpression_unfold]
  refine (IH.inlineR hm false p).bind fun exp q _ => ?_
  rw [skipBlank_shift h]
  exact exprTail_shift h IH hm exp _

theorem callArguments_sh_step (h : Shift d s₁ s₂) (IH : ShSpecs d s₁ s₂ n) (hm : n ≤ m) (p : Nat) :
    ShR (Option.map (shArgs d)) d (getCallArguments s₁ (n + 1) p) (getCallArguments s₂ (m + 1) (p + d)) := by
  rw [getCallArguments_unfold, getCallArguments_unfold, skipBlank_shift h, h.get]
  by_cases h40 : s₁[skipBlank s₁ p]? = some 40
  · rw [if_pos h40, if_pos h40, sh1 d, skipBlank_shift h]
    refine (IH.callArgsLoopR hm [] [] _).bind fun r q _ => ?_
    exact (ShR.of_eq (expectByte_shift h q 41)).bind fun _ q1 _ => .ok rfl
  · rw [if_neg h40, if_neg h40]
    exact .ok rfl

theorem getIdentifierUnchecked_shift2 (h : Shift d s₁ s₂) (p : Nat) :
    getIdentifierUnchecked s₂ (p + 2 + d) = shR (shSpan d) d (getIdentifierUnchecked s₁ (p + 2)) :=
  getIdentifierUnchecked_shift h (p + 1)

theorem inline_sh_step (h : Shift d s₁ s₂) (IH : ShSpecs d s₁ s₂ n) (hm : n ≤ m) (ol : Bool) (p : Nat) :
    ShR (Inline.mapS (shSpan d)) d (getInline s₁ (n + 1) ol p) (getInline s₂ (m + 1) ol (p + d)) := by
  refine getInline_cases₂ (motive := fun r₁ r₂ => ShR (Inline.mapS (shSpan d)) d r₁ r₂) s₁ s₂ n m ol p (p + d) (h.get p)
    (fun _ => by rw [sh1 d, isIdentifierStart_shift h]) ?_ ?_ ?_ ?_ ?_ ?_ ?_
  · exact .mkErr (by cases ol <;> rfl)
  · intro _
    show ShR _ d (inlineStr s₁ p) (inlineStr s₂ (p + d))
    unfold inlineStr
    rw [sh1 d]
    refine (ShR.of_eq (scanString_shift h _)).bind fun _ q _ => ?_
    rw [h.get, sh1 d, slice_shift h]
    by_cases h34 : s₁[q]? = some 34
    · rw [if_pos h34, if_pos h34]
      cases slice s₁ (p + 1) q with
      | none => exact .of_eq rfl
      | some sp => exact .ok rfl
    · rw [if_neg h34, if_neg h34]
      exact .mkErr rfl
  · intro b _ _
    exact (ShR.of_eq (getNumberLiteral_shift h p)).bind fun sp q _ => .ok rfl
  · intro _ _ _
    show ShR _ d (inlineTerm s₁ n p) (inlineTerm s₂ m (p + d))
    unfold inlineTerm
    rw [sh2 d]
    refine (ShR.of_eq (getIdentifierUnchecked_shift2 h p)).bind fun id q _ => ?_
    refine (ShR.of_eq (getAttributeAccessor_shift h q)).bind fun attr q1 _ => ?_
    exact (IH.callArgumentsR hm q1).bind fun args q2 _ => .ok (Inline.mapS_term ..).symm
  · intro _ _
    show ShR _ d (inlineVar s₁ p) (inlineVar s₂ (p + d))
    unfold inlineVar
    rw [sh1 d]
    exact (ShR.of_eq (getIdentifier_shift h _)).bind fun id q _ => .ok rfl
  · intro b _ _
    show ShR _ d (inlineRef s₁ n p) (inlineRef s₂ m (p + d))
    unfold inlineRef
    rw [sh1 d]
    refine (ShR.of_eq (getIdentifierUnchecked_shift h p)).bind fun id q _ => ?_
    refine (IH.callArgumentsR hm q).bind fun args q1 _ => ?_
    cases args with
    | some pn =>
      obtain ⟨pos, named⟩ := pn
      simp only [Option.map_some, shArgs, isCallee_shift h]
      split
      · exact .mkErr rfl
      · exact .ok rfl
    | none =>
      simp only [Option.map_none]
      exact (ShR.of_eq (getAttributeAccessor_shift h q1)).bind fun attr q2 _ => .ok rfl
  · intro _ _
    show ShR _ d (inlineNested s₁ n p) (inlineNested s₂ m (p + d))
    unfold inlineNested
    rw [sh1 d]
    exact (IH.placeableR hm (p + 1)).bind fun e q _ => .ok rfl

theorem argSep_shift (h : Shift d s₁ s₂) (q : Nat) : argSep s₂ (q + d) = argSep s₁ q + d := by
  unfold argSep
  rw [skipBlank_shift h, takeByteIf_shift h, skipBlank_shift h]

theorem argTail_shift (h : Shift d s₁ s₂) (IH : ShSpecs d s₁ s₂ n) (hm : n ≤ m) (pos : List (Inline Span))
    (named : List (Span × Inline Span)) (expr : Inline Span) (q : Nat) :
    ShR (shArgs d) d (argTail s₁ n pos named expr q)
      (argTail s₂ m (mapInl (shSpan d) pos) (mapNamed (shSpan d) named) (expr.mapS (shSpan d)) (q + d)) := by
  have nextPos : ∀ q', ShR (shArgs d) d (getCallArgsLoop s₁ n (pos ++ [expr]) named (argSep s₁ q'))
      (getCallArgsLoop s₂ m (mapInl (shSpan d) pos ++ [expr.mapS (shSpan d)]) (mapNamed (shSpan d) named)
        (argSep s₂ (q' + d))) := by
    intro q'
    rw [argSep_shift h, ← mapInl_snoc']
    exact IH.callArgsLoopR hm _ _ _
  unfold argTail
  rcases expr with v | v | ⟨id, ps, nm⟩ | ⟨id, _ | a⟩ | ⟨id, attr, args⟩ | id | e
  case msg.none =>
    rw [Inline.mapS_msg, Option.map_none]
    simp only []
    rw [skipBlank_shift h, h.get, named_any_shift h, mapNamed_isEmpty]
    by_cases h58 : s₁[skipBlank s₁ q]? = some 58
    · rw [if_pos h58, if_pos h58]
      split
      · exact .mkErr rfl
      · rw [sh1 d, skipBlank_shift h]
        refine (IH.inlineR hm true _).bind fun val q3 _ => ?_
        rw [argSep_shift h, ← mapNamed_snoc']
        exact IH.callArgsLoopR hm _ _ _
    · rw [if_neg h58, if_neg h58]
      split
      · exact .mkErr rfl
      · have := nextPos (skipBlank s₁ q)
        rwa [Inline.mapS_msg, Option.map_none] at this
  all_goals
    have := nextPos q
    simp only [Inline.mapS_str, Inline.mapS_num, Inline.mapS_fn, Inline.mapS_msg, Inline.mapS_var, Inline.mapS_placeable,
      Inline.mapS_term, Option.map_some] at this ⊢
    rw [mapNamed_isEmpty]
    split
    · exact .mkErr rfl
    · exact this

theorem callArgsLoop_sh_step (h : Shift d s₁ s₂) (IH : ShSpecs d s₁ s₂ n) (hm : n ≤ m)
    (pos : List (Inline Span)) (named : List (Span × Inline Span)) (p : Nat) :
    ShR (shArgs d) d (getCallArgsLoop s₁ (n + 1) pos named p)
      (getCallArgsLoop s₂ (m + 1) (mapInl (shSpan d) pos) (mapNamed (shSpan d) named) (p + d)) := by
  rw [getCallArgsLoop_unfold, getCallArgsLoop_unfold]
  have e : (p + d < s₂.size ∧ s₂[p + d]? ≠ some 41) ↔ (p < s₁.size ∧ s₁[p]? ≠ some 41) := by rw [h.lt, h.get]
  by_cases hc : p < s₁.size ∧ s₁[p]? ≠ some 41
  · rw [if_pos hc, if_pos (e.mpr hc)]
    exact (IH.inlineR hm false p).bind fun expr q _ => argTail_shift h IH hm pos named expr q
  · rw [if_neg hc, if_neg (fun hc2 => hc (e.mp hc2))]
    exact .ok rfl

theorem variantKey_shift (h : Shift d s₁ s₂) (p : Nat) :
    variantKey s₂ (p + d) = shR (VKey.mapS (shSpan d)) d (variantKey s₁ p) := by
  unfold variantKey
  rw [isNumberStart_shift h, getNumberLiteral_shift h, getIdentifier_shift h]
  split
  · cases getNumberLiteral s₁ p <;> rfl
  · cases getIdentifier s₁ p <;> rfl

theorem variantTail_shift (h : Shift d s₁ s₂) (IH : ShSpecs d s₁ s₂ n) (hm : n ≤ m) (hd dflt : Bool)
    (acc : List (Variant Span)) (p : Nat) :
    ShR (mapVariants (shSpan d)) d (variantTail s₁ n hd dflt acc p)
      (variantTail s₂ m hd dflt (mapVariants (shSpan d) acc) (p + d)) := by
  unfold variantTail
  rw [skipBlank_shift h]
  refine (ShR.of_eq (variantKey_shift h _)).bind fun key q _ => ?_
  rw [skipBlank_shift h]
  refine (ShR.of_eq (expectByte_shift h _ _)).bind fun _ q2 _ => ?_
  refine (IH.patternR hm q2).bind fun o q3 _ => ?_
  cases o with
  | none => exact .mkErr rfl
  | some value =>
    simp only [Option.map_some]
    rw [skipBlank_shift h, show mapVariants (shSpan d) acc ++ [Variant.mk (key.mapS (shSpan d)) (mapPat (shSpan d) value) dflt] =
      mapVariants (shSpan d) (acc ++ [.mk key value dflt]) by rw [mapVariants_snoc']; simp only [Variant.mapS]]
    exact IH.variantsR hm _ _ _

theorem variants_sh_step (h : Shift d s₁ s₂) (IH : ShSpecs d s₁ s₂ n) (hm : n ≤ m) (hd : Bool) (acc : List (Variant Span))
    (p : Nat) :
    ShR (mapVariants (shSpan d)) d (getVariants s₁ (n + 1) hd acc p)
      (getVariants s₂ (m + 1) hd (mapVariants (shSpan d) acc) (p + d)) := by
  rw [getVariants_unfold, getVariants_unfold, h.get, sh1 d, h.get, sh2 d]
  by_cases h42 : s₁[p]? = some 42
  · rw [if_pos h42, if_pos h42]
    split
    · exact .mkErr rfl
    · by_cases h91 : s₁[p + 1]? = some 91
      · rw [if_pos h91, if_pos h91]
        exact variantTail_shift h IH hm _ _ _ _
      · rw [if_neg h91, if_neg h91]
        exact .mkErr rfl
  · rw [if_neg h42, if_neg h42]
    by_cases h91 : s₁[p]? = some 91
    · rw [if_pos h91, if_pos h91]
      exact variantTail_shift h IH hm _ _ _ _
    · rw [if_neg h91, if_neg h91]
      split
      · exact .ok rfl
      · exact .mkErr rfl

end

end
end FluentProofs.Parser

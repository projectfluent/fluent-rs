import FluentProofs.ParserBasics
/-!
# C01 helpers: "every string in the tree satisfies `P`", and the pattern post-processing

`allInline P`, `allExpr P`, … say that every `S` stored in a syntax tree satisfies `P`; with `P = VSpan s`
this is the slice-validity half of C01.  `finishElements_ok` is the Hoare lemma for the final
`.map(...)` of `get_pattern` (dedentation + trimming), under the invariant `PhOk` that
`get_pattern`'s loop maintains for the placeholders it collects.
-/
namespace FluentProofs.Parser
open FluentModel.Syntax

section All
variable {S : Type} (P : S → Prop)

def OptAll : Option S → Prop
  | none => True
  | some a => P a

def allVKey : VKey S → Prop
  | .ident n => P n
  | .num v => P v

mutual
def allInline : Inline S → Prop
  | .str v => P v
  | .num v => P v
  | .fn id pos named => P id ∧ allInl pos ∧ allNamed named
  | .msg id attr => P id ∧ OptAll P attr
  | .term id attr none => P id ∧ OptAll P attr
  | .term id attr (some (pos, named)) => P id ∧ OptAll P attr ∧ allInl pos ∧ allNamed named
  | .var id => P id
  | .placeable e => allExpr e
def allInl : List (Inline S) → Prop
  | [] => True
  | x :: xs => allInline x ∧ allInl xs
def allNamed : List (S × Inline S) → Prop
  | [] => True
  | (n, x) :: xs => P n ∧ allInline x ∧ allNamed xs
def allExpr : Expr S → Prop
  | .inline e => allInline e
  | .select sel vs => allInline sel ∧ allVariants vs
def allVariants : List (Variant S) → Prop
  | [] => True
  | v :: vs => allVariant v ∧ allVariants vs
def allVariant : Variant S → Prop
  | .mk k val _ => allVKey P k ∧ allPat val
def allPat : List (PatElem S) → Prop
  | [] => True
  | e :: es => allPatElem e ∧ allPat es
def allPatElem : PatElem S → Prop
  | .text v => P v
  | .placeable e => allExpr e
end

theorem allInl_append (xs : List (Inline S)) (x : Inline S) : allInl P (xs ++ [x]) ↔ allInl P xs ∧ allInline P x := by
  induction xs with
  | nil => simp [allInl]
  | cons y ys ih => simp [allInl, ih, and_assoc]

theorem allNamed_append (xs : List (S × Inline S)) (n : S) (x : Inline S) :
    allNamed P (xs ++ [(n, x)]) ↔ allNamed P xs ∧ P n ∧ allInline P x := by
  induction xs with
  | nil => simp [allNamed]
  | cons y ys ih => obtain ⟨m, y⟩ := y; simp [allNamed, ih, and_assoc]

theorem allVariants_append (xs : List (Variant S)) (x : Variant S) :
    allVariants P (xs ++ [x]) ↔ allVariants P xs ∧ allVariant P x := by
  induction xs with
  | nil => simp [allVariants]
  | cons y ys ih => simp [allVariants, ih, and_assoc]

theorem allPat_cons (x : PatElem S) (xs : List (PatElem S)) : allPat P (x :: xs) ↔ allPatElem P x ∧ allPat P xs := by
  simp [allPat]

def allAttr (a : Attribute S) : Prop := P a.id ∧ allPat P a.value

def allEntry : Entry S → Prop
  | .message m => P m.id ∧ (∀ v, m.value = some v → allPat P v) ∧ (∀ a ∈ m.attributes, allAttr P a) ∧
      (∀ c, m.comment = some c → ∀ l ∈ c, P l)
  | .term t => P t.id ∧ allPat P t.value ∧ (∀ a ∈ t.attributes, allAttr P a) ∧ (∀ c, t.comment = some c → ∀ l ∈ c, P l)
  | .comment c => ∀ l ∈ c, P l
  | .groupComment c => ∀ l ∈ c, P l
  | .resourceComment c => ∀ l ∈ c, P l
  | .junk c => P c

end All

/-- invariant of the placeholders collected by `get_pattern` -/
def PhOk (s : Src) : Placeholder → Prop
  | .placeable e => allExpr (VSpan s) e
  | .text start stop indent _ =>
    start + indent ≤ stop ∧ Bnd s stop ∧ Bnd s start ∧ ∀ j, j < indent → s[start + j]? = some 32

theorem bnd_add_spaces {s : Src} (hs : AsciiThenBoundary s) {start indent k : Nat} (hb : Bnd s start)
    (hsp : ∀ j, j < indent → s[start + j]? = some 32) (hk : k ≤ indent) : Bnd s (start + k) := by
  cases k with
  | zero => exact hb
  | succ k => exact bnd_succ hs (hsp k (by omega)) (by decide)

theorem finishElements_ok {s : Src} (hs : AsciiThenBoundary s) (ci : Option Nat) (lnb i : Nat) (els : List Placeholder)
    (h : ∀ ph ∈ els, PhOk s ph) :
    ∃ r, finishElements s ci lnb i els = some r ∧ allPat (VSpan s) r := by
  induction els generalizing i with
  | nil => exact ⟨[], rfl, trivial⟩
  | cons ph rest ih =>
    have hrest : ∀ ph ∈ rest, PhOk s ph := fun x hx => h x (List.mem_cons_of_mem _ hx)
    have hph := h ph (List.mem_cons_self)
    obtain ⟨r, hr, hv⟩ := ih (i + 1) hrest
    simp only [finishElements]
    split
    · exact ⟨[], rfl, trivial⟩
    · cases ph with
      | placeable e =>
        simp only [hr, Option.map_some]
        exact ⟨_, rfl, hph, hv⟩
      | text start stop indent role =>
        obtain ⟨h1, h2, h3, h4⟩ := hph
        have key : ∀ start', start' ≤ stop → Bnd s start' →
            ∃ r', (if (start' == stop) = true then finishElements s ci lnb (i + 1) rest
              else match slice s start' stop with
                | none => none
                | some sp => Option.map (fun x => PatElem.text (if (lnb == i) = true then trimEnd s sp else sp) :: x)
                    (finishElements s ci lnb (i + 1) rest)) = some r' ∧ allPat (VSpan s) r' := by
          intro start' hle hb'
          split
          · exact ⟨r, hr, hv⟩
          · rw [slice_ok hle hb' h2]
            simp only [hr, Option.map_some]
            refine ⟨_, rfl, ?_, hv⟩
            have hvs : VSpan s ⟨start', stop⟩ := vspan_mk hle hb' h2
            show VSpan s _
            split
            · exact trimEnd_vspan hvs
            · exact hvs
        refine key _ ?_ ?_
        · split
          · split
            · exact h1
            · have := Nat.min_le_left indent ‹Nat›; omega
          · omega
        · split
          · split
            · exact bnd_add_spaces hs h3 h4 (Nat.le_refl _)
            · exact bnd_add_spaces hs h3 h4 (Nat.min_le_left _ _)
          · exact h3

end FluentProofs.Parser

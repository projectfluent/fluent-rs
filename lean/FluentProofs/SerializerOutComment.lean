import FluentProofs.SerializerResTexts
import FluentProofs.SerializerOutDeep
import FluentProofs.ParserRuntime
import FluentProofs.ParserLoopRun
/-!
# Serializer lemmas: the comments the parser produces are of the class (C04, "parser output is in the class")

For EVERY source (`parse_comments_all`): every comment of the tree returned by `parse` (stand-alone comments
of the three levels and the comments attached to messages and terms) is non-empty and none of its
lines contains a `\n` (`rtComment`; a lone `\r` stays inside the line — a comment line ends at the first `\n` or
`\r\n`).
-/
namespace FluentProofs.Ser
open FluentModel FluentModel.Syntax FluentModel.Syntax.Ser FluentProofs.Parser

/-- no end-of-line position (`\n`, `\r\n`) in the byte range -/
def LineOK (s : Src) (sp : Span) : Prop := ∀ j, sp.start ≤ j → j < sp.stop → isEol s j = false

abbrev CrLfOnly (s : Src) : Prop := ∀ j : Nat, s[j]? = some (13 : UInt8) → s[j + 1]? = some (10 : UInt8)

theorem isEol_false_ne13 {s : Src} (hcr : CrLfOnly s) {p : Nat} (h : isEol s p = false) : s[p]? ≠ some 13 := by
  intro h13
  have := hcr p h13
  simp [isEol, h13, this] at h

theorem getCommentLine_ok {s : Src} {p : Nat} {line : Span} {q : Nat} (h : getCommentLine s p = .ok line q) :
    LineOK s line := by
  simp only [getCommentLine] at h
  split at h
  · rename_i sp hsl
    cases h
    obtain ⟨rfl, _⟩ := slice_eq_some hsl
    intro j h1 h2
    exact Bool.eq_false_iff.mpr ((commentLineEnd_first s p).skips j h1 h2)
  · cases h

theorem commentLineOK_of' {s : Src} {sp : Span} (h : LineOK s sp) :
    commentLineOK (spanBytes s sp) = true := by
  obtain ⟨a, b⟩ := sp
  unfold commentLineOK
  apply spanBytes_all
  intro j h1 h2 c hc
  have h10 := not_isEol_ne (Bool.eq_false_iff.mp (h j h1 h2))
  rw [hc] at h10
  simp only [bne_iff_ne, ne_eq]
  exact fun e => h10 (by rw [e])

theorem commentLineOK_of {s : Src} (_hcr : CrLfOnly s) {sp : Span} (h : LineOK s sp) :
    commentLineOK (spanBytes s sp) = true := commentLineOK_of' h

theorem getCommentLevel_pos {s : Src} {p : Nat} (h : s[p]? = some 35) : (getCommentLevel s p).1 ≠ 0 := by
  rcases getCommentLevel_cases s p with ⟨_, h0⟩ | ⟨l, hl, _, he, _⟩
  · exact absurd h h0
  · rw [he]; exact Nat.ne_of_gt hl

theorem getCommentGo_lineOK (s : Src) : ∀ (n level : Nat) (content : List Span) (p : Nat) (c : List Span) (l q : Nat),
    (∀ x ∈ content, LineOK s x) → getCommentGo s n level content p = .ok (c, l) q → ∀ x ∈ c, LineOK s x := by
  intro n
  induction n with
  | zero => intro level content p c l q _ h; cases h
  | succ n ih =>
    intro level content p c l q hc h
    rw [getCommentGo_unfold] at h
    cases hst : commentStep s level content.isEmpty p with
    | line l' sp p' =>
      rw [hst] at h
      refine ih _ _ _ _ _ _ (fun x hx => ?_) h
      rcases List.mem_append.mp hx with hx | hx
      · exact hc x hx
      · rw [List.mem_singleton.mp hx]
        exact fun j h1 h2 => Bool.eq_false_iff.mpr ((commentStep_line hst).2.ends.skips j h1 h2)
    | stop lv q0 => rw [hst] at h; cases h; exact hc
    | bad q0 => rw [hst] at h; cases h
    | panic m => rw [hst] at h; cases h

theorem getCommentGo_ne (s : Src) : ∀ (n level : Nat) (content : List Span) (p : Nat) (c : List Span) (l q : Nat),
    (content ≠ [] ∨ (level = 0 ∧ s[p]? = some 35)) → getCommentGo s n level content p = .ok (c, l) q → c ≠ [] := by
  intro n
  induction n with
  | zero => intro level content p c l q _ h; cases h
  | succ n ih =>
    intro level content p c l q hc h
    rw [getCommentGo_unfold] at h
    cases hst : commentStep s level content.isEmpty p with
    | line l' sp p' => rw [hst] at h; exact ih _ _ _ _ _ _ (Or.inl (by simp)) h
    | stop lv q0 =>
      rw [hst] at h; cases h
      refine hc.elim id fun ⟨h0, h35⟩ hnil => ?_
      exact (commentStep_stop hst).2.2 h35 (by rw [hnil]; rfl) h0
    | bad q0 => rw [hst] at h; cases h
    | panic m => rw [hst] at h; cases h

theorem getComment_ne {s : Src} {p : Nat} {r : List Span × Nat} {q : Nat} (h35 : s[p]? = some 35)
    (h : getComment s p = .ok r q) : r.1 ≠ [] := by
  unfold getComment at h
  exact getCommentGo_ne s _ _ _ _ _ _ _ (Or.inr ⟨rfl, h35⟩) h

def CmtOK (s : Src) (c : List Span) : Prop := rtComment (c.map (spanBytes s)) = true

theorem cmtOK_of {s : Src} {c : List Span} (hne : c ≠ [])
    (hl : ∀ x ∈ c, LineOK s x) : CmtOK s c := by
  refine rtComment_iff.mpr ⟨fun h => hne (List.map_eq_nil_iff.mp h), fun l hl' => ?_⟩
  obtain ⟨x, hx, rfl⟩ := List.mem_map.mp hl'
  exact commentLineOK_of' (hl x hx)

def OptCmtOK (s : Src) (o : Option (List Span)) : Prop := ∀ c, o = some c → CmtOK s c

def cEntry (s : Src) : Entry Span → Prop
  | .message m => OptCmtOK s m.comment
  | .term t => OptCmtOK s t.comment
  | .comment c => CmtOK s c
  | .groupComment c => CmtOK s c
  | .resourceComment c => CmtOK s c
  | .junk _ => True

theorem getEntry_c {s : Src} (fuel p : Nat) : Post (getEntry s fuel p) (cEntry s) := by
  intro a q h
  rcases getEntry_ok_inv h with ⟨h35, r, hgc, hk⟩ | ⟨_, t, rfl, ht⟩ | ⟨_, m, rfl, hm⟩
  · have hok : CmtOK s r.1 := by
      refine cmtOK_of (getComment_ne h35 hgc) ?_
      unfold getComment at hgc
      exact getCommentGo_lineOK s _ _ _ _ _ _ _ (by intro x hx; simp at hx) hgc
    rcases hk with rfl | rfl | rfl <;> exact hok
  · intro c hc
    rw [getTerm_comment_none s fuel _ _ t _ ht] at hc
    cases hc
  · intro c hc
    rw [getMessage_comment_none s fuel _ _ m _ hm] at hc
    cases hc

theorem cEntry_pending {s : Src} {lc : Option (List Span)} (hlc : OptCmtOK s lc) : ∀ x ∈ flushC lc, cEntry s x := by
  cases lc with
  | none => intro x hx; cases hx
  | some c => intro x hx; rw [List.mem_singleton.mp hx]; exact hlc c rfl

theorem cEntry_recorded {s : Src} {lc : Option (List Span)} (lbc : Nat) {e : Entry Span} (hlc : OptCmtOK s lc)
    (he : cEntry s e) : ∀ x ∈ recorded lc lbc e, cEntry s x := by
  have hp := cEntry_pending hlc
  have happ : ∀ x ∈ flushC lc ++ [e], cEntry s x := by
    intro x hx
    rcases List.mem_append.mp hx with hx | hx
    · exact hp x hx
    · rw [List.mem_singleton.mp hx]; exact he
  cases e with
  | comment c => exact hp
  | message m =>
    cases lc with
    | none => exact happ
    | some c =>
      simp only [recorded]
      split
      · intro x hx; rw [List.mem_singleton.mp hx]; intro c0 hc0; cases hc0; exact hlc c rfl
      · exact happ
  | term t =>
    cases lc with
    | none => exact happ
    | some c =>
      simp only [recorded]
      split
      · intro x hx; rw [List.mem_singleton.mp hx]; intro c0 hc0; cases hc0; exact hlc c rfl
      · exact happ
  | _ => exact happ

theorem parseLoop_c {s : Src} (fuel n : Nat) (body : List (Entry Span)) (errors : List PErr)
    (lc : Option (List Span)) (cnt p : Nat) (t : List (Entry Span)) (errs : List PErr)
    (hbody : ∀ e ∈ body, cEntry s e) (hlc : OptCmtOK s lc)
    (h : parseLoop s fuel n body errors lc cnt p = .done (t, errs)) : ∀ e ∈ t, cEntry s e := by
  rw [parseLoop_eq_run] at h
  refine runLoop_inv (fun b _ lc _ _ => (∀ e ∈ b, cEntry s e) ∧ OptCmtOK s lc) (Q := fun r => ∀ e ∈ r.1, cEntry s e)
    ?_ ?_ n _ _ _ _ _ _ ⟨hbody, hlc⟩ h
  · intro b _ lc cnt p ab _ lc' _ _ hI _ hs
    rcases loopStep_next hs with ⟨e, q, hge, rfl, _, rfl, _⟩ | ⟨_, _, _, content, _, _, _, rfl, _, rfl, _⟩
    · have he := getEntry_c fuel p e q hge
      refine ⟨List.forall_mem_append.mpr ⟨hI.1, cEntry_recorded cnt hI.2 he⟩, ?_⟩
      cases e <;> first | (intro c hc; cases hc; exact he) | (intro c hc; cases hc)
    · refine ⟨List.forall_mem_append.mpr ⟨hI.1, List.forall_mem_append.mpr ⟨cEntry_pending hI.2, ?_⟩⟩,
        fun c hc => by cases hc⟩
      intro x hx; rw [List.mem_singleton.mp hx]; trivial
  · intro b _ lc _ _ hI _
    exact List.forall_mem_append.mpr ⟨hI.1, cEntry_pending hI.2⟩

/-- **The comments the parser produces are of the class — every source**: every comment of the tree returned by `parse`
(stand-alone or attached) is non-empty and none of its lines contains a `\n` (a comment line ends at the first `\n` or
`\r\n`; a lone `\r` stays inside the line, which the class admits). -/
theorem parse_comments_all (s : Src) (t : Resource Span) (errs : List PErr) (h : parse s = .done (t, errs)) :
    ∀ e ∈ t, cEntry s e := by
  unfold parse at h
  exact parseLoop_c _ _ [] [] none 0 _ t errs (by simp) (fun c hc => by cases hc) h

theorem parse_comments' (s : Src) (hcr : ∀ j : Nat, s[j]? ≠ some (13 : UInt8))
    (t : Resource Span) (errs : List PErr) (h : parse s = .done (t, errs)) :
    (∀ c, Entry.comment c ∈ t → rtComment (c.map (spanBytes s)) = true) ∧
    (∀ c, Entry.groupComment c ∈ t → rtComment (c.map (spanBytes s)) = true) ∧
    (∀ c, Entry.resourceComment c ∈ t → rtComment (c.map (spanBytes s)) = true) ∧
    (∀ m c, Entry.message m ∈ t → m.comment = some c → rtComment (c.map (spanBytes s)) = true) ∧
    (∀ tm c, Entry.term tm ∈ t → tm.comment = some c → rtComment (c.map (spanBytes s)) = true) := by
  have H := parse_comments_all s t errs h
  exact ⟨fun c hc => H _ hc, fun c hc => H _ hc, fun c hc => H _ hc, fun m c hm hc => H _ hm c hc,
    fun tm c hm hc => H _ hm c hc⟩

end FluentProofs.Ser

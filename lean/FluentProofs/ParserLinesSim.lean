import FluentProofs.ParserLines
/-!
# C05: the runtime entry loop simulates the full entry loop on messages and terms

Simulation relation between the full loop at cursor `pf` and the runtime loop at cursor `pr`:
both are line starts (or at/after EOF) and **no position where a message or term could start**
(`RealStart`: a line start holding `[a-zA-Z]` or `-`) lies between them (`Zone`).

* If the full parser's cursor cannot start a message/term (`#`, or a byte that makes `get_message`
  fail on the spot), it steps alone: the step emits no message/term and does not pass a `RealStart`
  (`getEntry_lines`); likewise the runtime parser (`getEntryRuntime_lines`).
* Otherwise both cursors are `RealStart`s (or both are at/after EOF); the zone between them being free
  of `RealStart`s, they are equal, and the two dispatchers run the same `get_term`/`get_message` with the
  same result, junk recovery and next cursor.

The induction (on the sum of the two loops' budgets) is `runLoop_sim`.  No hypothesis on the source: the theorem is about
runs that ended in `done`.
-/
namespace FluentProofs.Parser
open FluentModel.Syntax

/-- no message/term start between the two cursors -/
def Zone (s : Src) : Nat → Nat → Prop := Sync (RealStart s)

theorem realStart_iff {s : Src} {p : Nat} (hp : LSE s p) (hlt : p < s.size) :
    RealStart s p ↔ ∃ b, s[p]? = some b ∧ isReal b = true :=
  ⟨fun h => h.2, fun h => ⟨hp.ls hlt, h⟩⟩

theorem realStart_not_hash {s : Src} {p : Nat} (h : RealStart s p) : s[p]? ≠ some 35 := by
  intro h35
  obtain ⟨_, b, hb, hr⟩ := h
  rw [h35] at hb; cases hb
  revert hr; decide

theorem realStart_lt {s : Src} {p : Nat} (h : RealStart s p) : p < s.size := by
  obtain ⟨_, b, hb, _⟩ := h
  exact get_lt hb

theorem getEntryRuntime_eq_of_not_hash (s : Src) (fuel p : Nat) (h : s[p]? ≠ some (35 : UInt8)) :
    getEntryRuntime s fuel p =
      (match getEntry s fuel p with
       | .ok e q => .ok (some e) q
       | .err e q => .err e q
       | .panic m => .panic m
       | .fuel => .fuel) := by
  rw [getEntry_of_not_hash s fuel p h, getEntryRuntime_of_not_hash s fuel p h]
  split
  · cases getTerm s fuel p p <;> rfl
  · cases getMessage s fuel p p <;> rfl

theorem sim_msgsTerms (s : Src) (fuel n m : Nat) (bf : List (Entry Span)) (ef : List PErr) (lc : Option (List Span))
    (lbc pf : Nat) (br : List (Entry Span)) (er : List PErr) (pr : Nat) (rf rr : List (Entry Span) × List PErr)
    (hlf : LSE s pf) (hlr : LSE s pr) (hz : Zone s pf pr) (hb : msgsTerms bf = msgsTerms br)
    (hf : parseLoop s fuel n bf ef lc lbc pf = .done rf) (hr : parseRuntimeLoop s fuel m br er pr = .done rr) :
    msgsTerms rf.1 = msgsTerms rr.1 := by
  rw [parseLoop_eq_run] at hf
  rw [parseRuntimeLoop_eq_run] at hr
  refine runLoop_sim
    (fun bf _ _ _ pf br _ _ _ pr => LSE s pf ∧ LSE s pr ∧ Zone s pf pr ∧ msgsTerms bf = msgsTerms br)
    (Q := fun rf rr => msgsTerms rf.1 = msgsTerms rr.1) ?_ _ n m (Nat.le_refl _) _ _ _ _ _ _ _ _ _ _ rf rr
    ⟨hlf, hlr, hz, hb⟩ hf hr
  clear hf hr hb hz hlr hlf
  intro bf ef lc lbc pf br er lcr cr pr ⟨hlf, hlr, hz, hb⟩
  by_cases hA : pf < s.size ∧ ¬ RealStart s pf
  · -- the full parser steps alone
    obtain ⟨hlt, hnr⟩ := hA
    refine Or.inl ⟨hlt, fun ab ae lc' c' p' hs => ?_⟩
    have hel := getEntry_lines s fuel pf
    have hls := hlf.ls hlt
    rcases loopStep_next hs with ⟨ent, q, hre, rfl, _, _, _, rfl⟩ | ⟨e, q, q1, content, hre, hq1, _, rfl, _, _, _, rfl⟩ <;>
      rw [hre] at hel
    · obtain ⟨h1, h2, h3⟩ := hel
      obtain ⟨h4, h5⟩ := h3 hls hnr
      refine ⟨skipBlankBlock_LSE h2, hlr, ?_, ?_⟩
      · exact hz.step_left (by have := skipBlankBlock_le s q; omega) (h5.trans (skipBlankBlock_noRS s q))
      · rw [msgsTerms_append, msgsTerms_recorded, h4, List.append_nil]; exact hb
    · have h5 := hel.2 hls hnr q1 hq1
      have hge := skipToNextEntryStart_ge hq1
      refine ⟨skipBlankBlock_LSE (skipToNextEntryStart_LSE hq1).next, hlr, ?_, ?_⟩
      · exact hz.step_left (by have := skipBlankBlock_le s q1; omega) (h5.trans (skipBlankBlock_noRS s q1))
      · rw [msgsTerms_append, msgsTerms_append, msgsTerms_flushC]; simpa [msgsTerms] using hb
  by_cases hB : pr < s.size ∧ ¬ RealStart s pr
  · -- the runtime parser steps alone
    obtain ⟨hlt, hnr⟩ := hB
    refine Or.inr (Or.inl ⟨hlt, fun ab ae lc' c' p' hs => ?_⟩)
    have hel := getEntryRuntime_lines s fuel pr
    have hls := hlr.ls hlt
    rcases loopStepRt_next hs with ⟨o, q, hre, rfl, _, rfl⟩ | ⟨e, q, q1, content, hre, hq1, _, rfl, _, rfl⟩ <;>
      rw [hre] at hel
    · obtain ⟨h1, h2, h3⟩ := hel
      obtain ⟨h4, h5⟩ := h3 hls hnr
      refine ⟨hlf, skipBlankBlock_LSE h2, ?_, ?_⟩
      · exact hz.step_right (by have := skipBlankBlock_le s q; omega) (h5.trans (skipBlankBlock_noRS s q))
      · rw [msgsTerms_append, h4]; simpa [msgsTerms] using hb
    · have h5 := hel.2 hls hnr q1 hq1
      have hge := skipToNextEntryStart_ge hq1
      refine ⟨hlf, skipBlankBlock_LSE (skipToNextEntryStart_LSE hq1).next, ?_, ?_⟩
      · exact hz.step_right (by have := skipBlankBlock_le s q1; omega) (h5.trans (skipBlankBlock_noRS s q1))
      · rw [msgsTerms_append]; simpa [msgsTerms] using hb
  -- both cursors are message/term starts, or both are at the end
  have hA' : pf < s.size → RealStart s pf := fun h => Classical.byContradiction fun hn => hA ⟨h, hn⟩
  have hB' : pr < s.size → RealStart s pr := fun h => Classical.byContradiction fun hn => hB ⟨h, hn⟩
  have hiff : pf < s.size ↔ pr < s.size := hz.lt_iff hA' hB'
  refine Or.inr (Or.inr ⟨hiff, fun _ => ?_, fun ab ae lc' c' p' ab₂ ae₂ lc₂' c₂' p₂' hlt hs hs₂ => ?_⟩)
  · show msgsTerms (bf ++ flushC lc) = msgsTerms (br ++ flushC lcr)
    rw [msgsTerms_append, msgsTerms_append, msgsTerms_flushC, msgsTerms_flushC, List.append_nil, List.append_nil]
    exact hb
  · have hrs := hA' hlt
    obtain rfl : pf = pr := hz.eq hrs (hB' (hiff.mp hlt))
    have hd := getEntryRuntime_eq_of_not_hash s fuel pf (realStart_not_hash hrs)
    have hel := getEntry_lines s fuel pf
    rcases loopStep_next hs with ⟨ent, q, hre, rfl, _, _, _, rfl⟩ | ⟨e, q, q1, content, hre, hq1, _, rfl, _, _, _, rfl⟩ <;>
      rw [hre] at hd hel <;>
      rcases loopStepRt_next hs₂ with ⟨o, q', hre', rfl, _, rfl⟩ | ⟨e', q', q1', content', hre', hq1', _, rfl, _, rfl⟩ <;>
      rw [hd] at hre' <;> cases hre'
    · exact ⟨skipBlankBlock_LSE hel.2.1, skipBlankBlock_LSE hel.2.1, Sync.refl _ _, by
        rw [msgsTerms_append, msgsTerms_append, msgsTerms_recorded, hb]; rfl⟩
    · rw [hq1] at hq1'; cases hq1'
      have hl := skipBlankBlock_LSE (skipToNextEntryStart_LSE hq1).next
      exact ⟨hl, hl, Sync.refl _ _, by
        rw [msgsTerms_append, msgsTerms_append, msgsTerms_append, msgsTerms_flushC, hb]; simp [msgsTerms]⟩

end FluentProofs.Parser

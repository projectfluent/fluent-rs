import FluentProofs.ParserHoareEntry
import FluentProofs.ParserRuntime
import FluentProofs.ParserMono
import FluentProofs.ParserLoopRun
/-!
# Line structure of the two entry loops (C03 line-start / error-position part, C05 simulation basics)

Everything here is hypothesis-free (any byte array, any fuel): the facts are about runs that
ended in `ok`/`err`/`done`.  `NextOk` is what `get_comment`/`skip_comment` may leave behind and `skip_blank_block` repairs;
`Sync K` is the relation of the two C05 simulations.
-/
namespace FluentProofs.Parser
open FluentModel.Syntax

/-- `p` is the start of a line -/
def LS (s : Src) (p : Nat) : Prop := p = 0 ∨ s[p - 1]? = some 10
/-- a line start, or at/after the end of input -/
def LSE (s : Src) (p : Nat) : Prop := LS s p ∨ s.size ≤ p
/-- a line start, the end of input, or at a `\n` byte -/
def NextOk (s : Src) (q : Nat) : Prop := LS s q ∨ s.size ≤ q ∨ s[q]? = some 10

theorem LSE.next {s : Src} {q : Nat} (h : LSE s q) : NextOk s q := by
  rcases h with h | h
  · exact Or.inl h
  · exact Or.inr (Or.inl h)

theorem LS_zero (s : Src) : LS s 0 := Or.inl rfl

theorem LS_succ {s : Src} {p : Nat} (h : s[p]? = some 10) : LS s (p + 1) := Or.inr (by simpa using h)

theorem bnd_of_LS {s : Src} (hs : AsciiThenBoundary s) {p : Nat} (h : LS s p) : Bnd s p := by
  rcases h with h | h
  · subst h; exact bnd_zero s
  · by_cases hp : p = 0
    · subst hp; exact bnd_zero s
    · have := bnd_succ hs h (by decide)
      rwa [show p - 1 + 1 = p by omega] at this

theorem skipEol_LS {s : Src} {p q : Nat} (h : skipEol s p = some q) : LS s q :=
  Or.inr (skipEol_some h).2.1

theorem skipBlankBlockGo_LS (s : Src) (n p c : Nat) :
    (skipBlankBlockGo s n p c).1 = p ∨ LS s (skipBlankBlockGo s n p c).1 ∨ s.size ≤ (skipBlankBlockGo s n p c).1 := by
  induction n generalizing p c with
  | zero => left; rfl
  | succ n ih =>
    simp only [skipBlankBlockGo]
    split
    · rename_i p' h
      right
      rcases ih p' (c + 1) with h1 | h1 | h1
      · rw [h1]; exact Or.inl (skipEol_LS h)
      · exact Or.inl h1
      · exact Or.inr h1
    · split
      · left; rfl
      · right; right; simp only []; omega

theorem skipBlankBlock_LSE {s : Src} {q : Nat} (h : NextOk s q) : LSE s (skipBlankBlock s q).1 := by
  rcases h with h | h | h
  · rcases skipBlankBlockGo_LS s (s.size - q + 1) q 0 with h1 | h1 | h1
    · unfold skipBlankBlock; rw [h1]; exact Or.inl h
    · exact Or.inl h1
    · exact Or.inr h1
  · rcases skipBlankBlockGo_LS s (s.size - q + 1) q 0 with h1 | h1 | h1
    · unfold skipBlankBlock; rw [h1]; exact Or.inr h
    · exact Or.inl h1
    · exact Or.inr h1
  · unfold skipBlankBlock
    simp only [skipBlankBlockGo]
    have h32 : s[q]? ≠ some 32 := by rw [h]; decide
    rw [skipBlankInline_of_ne h32]
    have he : skipEol s q = some (q + 1) := by simp [skipEol, h]
    simp only [he]
    rcases skipBlankBlockGo_LS s (s.size - q) (q + 1) 1 with h1 | h1 | h1
    · rw [h1]; exact Or.inl (LS_succ h)
    · exact Or.inl h1
    · exact Or.inr h1

/-- a byte a message (`[a-zA-Z]`) or a term (`-`) can begin with -/
def isReal (b : UInt8) : Bool := isAlpha b || b == 45

theorem isReal_iff (b : UInt8) : isReal b = true ↔ isAlpha b = true ∨ b.toNat = 45 := by
  simp only [isReal, Bool.or_eq_true, beq_iff_eq, ← UInt8.toNat_inj, UInt8.toNat_ofNat]

/-- a line start holding such a byte: where a message or term can begin -/
def RealStart (s : Src) (x : Nat) : Prop := LS s x ∧ ∃ b, s[x]? = some b ∧ isReal b = true

def Between (Q : Nat → Prop) (a b : Nat) : Prop := ∀ x, a ≤ x → x < b → Q x

theorem Between.refl (Q : Nat → Prop) (a : Nat) : Between Q a a := fun x h1 h2 => by omega

theorem Between.trans {Q : Nat → Prop} {a b c : Nat} (h1 : Between Q a b) (h2 : Between Q b c) : Between Q a c := by
  intro x hx1 hx2
  by_cases h : x < b
  · exact h1 x hx1 h
  · exact h2 x (by omega) hx2

theorem Between.mono {Q : Nat → Prop} {a b a' b' : Nat} (h : Between Q a b) (ha : a ≤ a') (hb : b' ≤ b) :
    Between Q a' b' :=
  fun x h1 h2 => h x (by omega) (by omega)

theorem Between.single {Q : Nat → Prop} {a : Nat} (h : Q a) : Between Q a (a + 1) := by
  intro x h1 h2
  have : x = a := by omega
  subst this; exact h

/-- no position with `K` lies between the two cursors, whichever is ahead: they have the same next such position -/
def Sync (K : Nat → Prop) (a b : Nat) : Prop := ∀ x, K x → (a ≤ x ↔ b ≤ x)

theorem Sync.refl (K : Nat → Prop) (a : Nat) : Sync K a a := fun _ _ => Iff.rfl

theorem Sync.symm {K : Nat → Prop} {a b : Nat} (h : Sync K a b) : Sync K b a := fun x hx => (h x hx).symm

theorem Sync.step_left {K : Nat → Prop} {a a' b : Nat} (h : Sync K a b) (hle : a ≤ a') (hz : Between (fun x => ¬ K x) a a') :
    Sync K a' b := fun x hx =>
  ⟨fun h' => (h x hx).mp (Nat.le_trans hle h'), fun h' =>
    Nat.le_of_not_lt fun hlt => hz x ((h x hx).mpr h') hlt hx⟩

theorem Sync.step_right {K : Nat → Prop} {a b b' : Nat} (h : Sync K a b) (hle : b ≤ b') (hz : Between (fun x => ¬ K x) b b') :
    Sync K a b' :=
  (h.symm.step_left hle hz).symm

theorem Sync.eq {K : Nat → Prop} {a b : Nat} (h : Sync K a b) (ha : K a) (hb : K b) : a = b :=
  Nat.le_antisymm ((h b hb).mpr (Nat.le_refl b)) ((h a ha).mp (Nat.le_refl a))

theorem Sync.lt_iff {K : Nat → Prop} {a b n : Nat} (h : Sync K a b) (ha : a < n → K a) (hb : b < n → K b) :
    a < n ↔ b < n :=
  ⟨fun hl => Nat.lt_of_le_of_lt ((h a (ha hl)).mp (Nat.le_refl _)) hl,
    fun hl => Nat.lt_of_le_of_lt ((h b (hb hl)).mpr (Nat.le_refl _)) hl⟩

/-- no message/term start in `[a, b)` -/
def NoRS (s : Src) : Nat → Nat → Prop := Between fun x => ¬ RealStart s x

theorem noRS_of_bytes {s : Src} {a b : Nat} (h : ∀ x, a ≤ x → x < b → ∀ c, s[x]? = some c → isReal c = false) :
    NoRS s a b := by
  intro x h1 h2 ⟨_, c, hc, hr⟩
  rw [h x h1 h2 c hc] at hr
  cases hr

theorem skipBlankInline_noRS (s : Src) (p : Nat) : NoRS s p (skipBlankInline s p) :=
  noRS_of_bytes fun x h1 h2 c hc => by
    have := skipBlankInline_spaces s p x h1 h2
    rw [this] at hc
    cases hc; decide

theorem skipEol_noRS {s : Src} {p q : Nat} (h : skipEol s p = some q) : NoRS s p q := by
  apply noRS_of_bytes
  intro x h1 h2 c hc
  rcases skipEol_cases h with ⟨rfl, h10⟩ | ⟨rfl, h13, h10⟩
  · have : x = p := by omega
    subst this; rw [h10] at hc; cases hc; decide
  · by_cases hx : x = p
    · subst hx; rw [h13] at hc; cases hc; decide
    · have : x = p + 1 := by omega
      subst this; rw [h10] at hc; cases hc; decide

theorem skipBlankBlockGo_noRS (s : Src) (n p c : Nat) : NoRS s p (skipBlankBlockGo s n p c).1 := by
  induction n generalizing p c with
  | zero => exact Between.refl _ _
  | succ n ih =>
    simp only [skipBlankBlockGo]
    split
    · rename_i p' h
      exact ((skipBlankInline_noRS s p).trans (skipEol_noRS h)).trans (ih p' (c + 1))
    · split
      · exact Between.refl _ _
      · exact skipBlankInline_noRS s p

theorem skipBlankBlock_noRS (s : Src) (p : Nat) : NoRS s p (skipBlankBlock s p).1 :=
  skipBlankBlockGo_noRS s _ p 0

theorem skipBlankBlock_le (s : Src) (p : Nat) : p ≤ (skipBlankBlock s p).1 := (skipBlankBlock_after s p).le

theorem skipToNextEntryStartGo_le (s : Src) (n p : Nat) : p ≤ skipToNextEntryStartGo s n p :=
  (skipToNextEntryStartGo_fuel s n p).le

theorem isReal_entry {b : UInt8} (h : isReal b = true) : (isAlpha b || b == 45 || b == 35) = true := by
  unfold isReal at h; simp [h]

theorem skipToNextEntryStartGo_noRS (s : Src) (n p : Nat) : NoRS s p (skipToNextEntryStartGo s n p) :=
  fun x h1 h2 ⟨hls, b, hb, hr⟩ =>
    (skipToNextEntryStartGo_fuel s n p).skips x h1 h2 (Or.inl (Or.inr ⟨b, hb, isReal_entry hr, hls⟩))

theorem skipToNextEntryStart_ge {s : Src} {entryStart q q1 : Nat} (h : skipToNextEntryStart s entryStart q = some q1) :
    entryStart ≤ q1 := by
  unfold skipToNextEntryStart at h
  simp only at h
  split at h
  · rename_i hle
    simp only [Option.some.injEq] at h
    subst h
    split
    · rename_i nl hnl
      have := rposNewlineGo_some hnl
      have := skipToNextEntryStartGo_le s (s.size - (nl + 1)) (nl + 1)
      omega
    · have := skipToNextEntryStartGo_le s (s.size - q) q
      have : min q s.size ≤ q := Nat.min_le_left _ _
      omega
  · cases h

theorem endsAtEntryStart_LSE {s : Src} {b : Nat} (h : EndsAtEntryStart s b) : LSE s b := by
  rcases h with h | ⟨c, _, _, h⟩
  · exact Or.inr h
  · exact Or.inl h

theorem skipToNextEntryStart_LSE {s : Src} {entryStart q q1 : Nat} (h : skipToNextEntryStart s entryStart q = some q1) :
    LSE s q1 := endsAtEntryStart_LSE (skipToNextEntryStart_ends s entryStart q q1 h)

theorem getTextSlice_term {s : Src} {p start stop : Nat} {nb : Bool} {term : Termination} {q : Nat}
    (h : getTextSlice s p = .ok (start, stop, nb, term) q) :
    (term = .lineFeed → LS s q) ∧ (term = .crlf → s[q]? = some 10) := by
  by_cases hp : p ≤ s.size
  · obtain ⟨_, e, _, _, _, hS⟩ := FluentProofs.Ser.getTextSlice_slice hp h
    rcases hS with ⟨rfl, _⟩ | ⟨rfl, _⟩ | ⟨rfl, h10, _, _, rfl, _⟩ | ⟨rfl, h10, _, _, _, rfl, _⟩
    · exact ⟨nofun, nofun⟩
    · exact ⟨nofun, nofun⟩
    · exact ⟨fun _ => LS_succ h10, nofun⟩
    · exact ⟨nofun, fun _ => h10⟩
  · unfold getTextSlice at h
    rw [if_pos (by omega)] at h
    cases h; exact ⟨nofun, nofun⟩

theorem patPre_none {s : Src} {st : PatState} {p : Nat} (h : patPre s st p = none) :
    st.role = .lineStart ∧ (s.size ≤ patBreak s p ∨ patBreak s p = p ∧ s[p]? ≠ some 10) := by
  by_cases hr : st.role = .lineStart
  · refine ⟨hr, ?_⟩
    obtain ⟨k, o, H⟩ := lineHead s p
    rw [patPre_lineStart hr H] at h
    rw [patBreak_eq H]
    cases o with
    | none => exact Or.inl (by simpa using H.byte)
    | some b =>
      simp only [] at h ⊢
      by_cases hk : k = 0
      · subst hk
        rw [if_pos rfl] at h ⊢
        refine Or.inr ⟨rfl, fun h10 => ?_⟩
        rw [show isEol s p = true by simp [isEol, h10]] at h
        cases h
      · rw [if_neg hk] at h ⊢
        cases hc : isBytePatternContinuation b <;> rw [hc] at h
        · -- an indented line that does not continue the pattern: the cursor goes back to `p`, which holds a space
          refine Or.inr ⟨rfl, ?_⟩
          have := H.space (j := 0) (by omega)
          rw [Nat.add_zero] at this
          rw [this]; decide
        · cases h
  · rw [patPre_other p hr] at h; cases h

theorem getPatternLoop_LSE (s : Src) (n : Nat) (st : PatState) (p : Nat)
    (h : st.role = .lineStart → NextOk s p) :
    ∀ st' q, getPatternLoop s n st p = .ok st' q → LSE s q := by
  intro st' q
  refine patLoop_inv (fun st p => st.role = .lineStart → NextOk s p) (fun _ q => LSE s q)
    (fun _ _ _ hsz => Or.inr hsz) ?_ (fun _ _ _ _ _ _ _ _ _ hr => by cases hr) ?_ n st p st' q h
  · intro st p h _ _ hpre
    obtain ⟨hrole, hb | ⟨hb, h10⟩⟩ := patPre_none hpre
    · exact Or.inr hb
    · rw [hb]
      rcases h hrole with hls | hls | hls
      · exact Or.inl hls
      · exact Or.inr hls
      · exact absurd hls h10
  · intro st p indent p1 start stop nb term q st2 _ _ _ _ hts _ hrole
    have ht := getTextSlice_term hts
    cases term with
    | lineFeed => exact Or.inl (ht.1 rfl)
    | crlf => exact Or.inr (Or.inr (ht.2 rfl))
    | placeableStart => cases hrole
    | eof => cases hrole

theorem patStart_nextOk (s : Src) (p : Nat) : (patStart s p).1 = .lineStart → NextOk s (patStart s p).2 := by
  unfold patStart
  cases hE : skipEol s (skipBlankInline s p) with
  | none => intro h; cases h
  | some q0 => exact fun _ => (skipBlankBlock_LSE (Or.inl (skipEol_LS hE))).next

theorem getPattern_LSE {s : Src} {n p : Nat} {o : Option (Pattern Span)} {q : Nat}
    (h : getPattern s n p = .ok o q) : LSE s q := by
  cases n with
  | zero => rw [(fuel_zero s).2.1] at h; cases h
  | succ n =>
    rw [getPattern_unfold] at h
    obtain ⟨st, q', hl, h⟩ := R.bind_eq_ok h
    rw [patClose_ok h]
    exact getPatternLoop_LSE s n _ _ (patStart_nextOk s p) st q' hl

theorem getAttribute_LSE {s : Src} {fuel p : Nat} {a : Attribute Span} {q : Nat}
    (h : getAttribute s fuel p = .ok a q) : LSE s q := by
  rw [getAttribute_eq] at h
  obtain ⟨id, q1, _, h⟩ := R.bind_eq_ok h
  obtain ⟨_, q2, _, h⟩ := R.bind_eq_ok h
  obtain ⟨o, q3, hp, h⟩ := R.bind_eq_ok h
  cases o with
  | none => cases h
  | some pat => cases h; exact getPattern_LSE hp

theorem getAttributesGo_lines (s : Src) (fuel n : Nat) (acc : List (Attribute Span)) (p : Nat) (hp : LSE s p) :
    match getAttributesGo s fuel n acc p with
    | .ok _ q => p ≤ q ∧ LSE s q
    | .err _ _ => False
    | .panic _ => True
    | .fuel => True := by
  induction n generalizing acc p with
  | zero => simp only [getAttributesGo]
  | succ n ih =>
    rw [getAttributesGo_unfold]
    by_cases h46 : s[skipBlankInline s p]? = some 46
    · rw [if_pos h46]
      have h1 := (skipBlankInline_after s p).le
      have h3 := getAttribute_mono s fuel (skipBlankInline s p + 1)
      cases ha : getAttribute s fuel (skipBlankInline s p + 1) with
      | ok a q' =>
        rw [ha] at h3
        have h4 : skipBlankInline s p + 1 ≤ q' := h3
        have := ih (acc ++ [a]) q' (getAttribute_LSE ha)
        simp only []
        cases hg : getAttributesGo s fuel n (acc ++ [a]) q' with
        | ok attrs q => rw [hg] at this; exact ⟨by have := this.1; omega, this.2⟩
        | err e q => rw [hg] at this; exact this
        | panic m => trivial
        | fuel => trivial
      | err e q' => exact ⟨Nat.le_refl p, hp⟩
      | panic m => trivial
      | fuel => trivial
    · rw [if_neg h46]; exact ⟨Nat.le_refl p, hp⟩

/-- postcondition of an entry parser started at `p`: on success the cursor is after `p` and satisfies
`Q`; the error position is at or after `lo` -/
def Post {α : Type} (Q : Nat → Prop) (p lo : Nat) (r : R α) : Prop :=
  match r with
  | .ok _ q => p < q ∧ Q q
  | .err e _ => lo ≤ e.posStart
  | .panic _ => True
  | .fuel => True

theorem post_ok {α : Type} (Q : Nat → Prop) (p lo : Nat) (a : α) (q : Nat) :
    Post Q p lo (.ok a q : R α) ↔ (p < q ∧ Q q) := Iff.rfl
theorem post_err {α : Type} (Q : Nat → Prop) (p lo : Nat) (e : PErr) (q : Nat) :
    Post Q p lo (.err e q : R α) ↔ lo ≤ e.posStart := Iff.rfl
theorem post_panic {α : Type} (Q : Nat → Prop) (p lo : Nat) (m : String) :
    Post Q p lo (.panic m : R α) ↔ True := Iff.rfl
theorem post_fuel {α : Type} (Q : Nat → Prop) (p lo : Nat) : Post Q p lo (.fuel : R α) ↔ True := Iff.rfl

theorem Mono.post_bind {α β : Type} {Q : Nat → Prop} {p lo p1 : Nat} {r : R α} {f : α → Nat → R β} (h : Mono p1 r)
    (hlo : lo ≤ p1) (hf : ∀ a q, r = .ok a q → p1 ≤ q → Post Q p lo (f a q)) : Post Q p lo (r.bind f) := by
  cases r with
  | ok a q => exact hf a q rfl h
  | err e q => exact Nat.le_trans hlo h
  | panic m => trivial
  | fuel => trivial

/-- the common end of `get_message` and `get_term`: the attributes after the value that ended at `q3`, then `f` -/
theorem attributes_post {α : Type} {s : Src} {fuel p lo q3 : Nat} (hq3 : p < q3) (hl : LSE s q3)
    {f : List (Attribute Span) → Nat → R α}
    (hf : ∀ attrs q5, (∃ a, f attrs q5 = .ok a q5) ∨ ∃ k a b, f attrs q5 = .err (mkErr2 k a b) q5 ∧ lo ≤ a) :
    Post (LSE s) p lo ((getAttributes s fuel (skipBlankBlock s q3).1).bind f) := by
  have h5 := skipBlankBlock_le s q3
  unfold getAttributes
  have := getAttributesGo_lines s fuel (s.size - (skipBlankBlock s q3).1 + 1) [] _ (skipBlankBlock_LSE hl.next)
  cases hr5 : getAttributesGo s fuel (s.size - (skipBlankBlock s q3).1 + 1) [] (skipBlankBlock s q3).1 with
  | ok attrs q5 =>
    rw [hr5] at this
    rcases hf attrs q5 with ⟨a, ha⟩ | ⟨k, a, b, ha, hlo⟩ <;> rw [R.bind_ok, ha]
    · exact ⟨by have := this.1; omega, this.2⟩
    · exact hlo
  | err e q5 => rw [hr5] at this; exact this.elim
  | panic m => trivial
  | fuel => trivial

theorem getMessage_post (s : Src) (fuel es p : Nat) (hes : p ≤ es) :
    Post (LSE s) p p (getMessage s fuel es p) := by
  rw [getMessage_eq]
  refine (getIdentifier_mono s p).post_bind (Nat.le_refl p) fun id q hr _ => ?_
  have h1 := getIdentifier_ok_lt hr
  have h2 := (skipBlankInline_after s q).le
  refine (expectByte_mono s _ 61).post_bind (by omega) fun _ q2 _ h3 => ?_
  refine (getPattern_mono s fuel q2).post_bind (by omega) fun o q3 hr3 h4 => ?_
  refine attributes_post (by omega) (getPattern_LSE hr3) fun attrs q5 => ?_
  split
  · exact Or.inr ⟨_, _, _, rfl, hes⟩
  · exact Or.inl ⟨_, rfl⟩

theorem getTerm_post (s : Src) (fuel es p : Nat) (hes : p ≤ es) :
    Post (LSE s) p p (getTerm s fuel es p) := by
  rw [getTerm_eq]
  refine (expectByte_mono s p 45).post_bind (Nat.le_refl p) fun _ p0 _ h0 => ?_
  refine (getIdentifier_mono s p0).post_bind h0 fun id q hr _ => ?_
  have h1 := getIdentifier_ok_lt hr
  have h2 := (skipBlankInline_after s q).le
  refine (expectByte_mono s _ 61).post_bind (by omega) fun _ q2 _ h3 => ?_
  have h3' := (skipBlankInline_after s q2).le
  refine (getPattern_mono s fuel _).post_bind (by omega) fun o q3 hr3 h4 => ?_
  refine attributes_post (by omega) (getPattern_LSE hr3) fun attrs q5 => ?_
  cases o with
  | none => exact Or.inr ⟨_, _, _, rfl, hes⟩
  | some v => exact Or.inl ⟨_, rfl⟩

/-- every line that starts in `[a, b)` starts with `#` -/
def HashLines (s : Src) : Nat → Nat → Prop := Between fun x => LS s x → s[x]? = some 35

theorem hashLines_of_noNl {s : Src} {a b : Nat} (h : ∀ j, a ≤ j → j < b → s[j]? ≠ some 10) :
    HashLines s (a + 1) (b + 1) := by
  intro x h1 h2 hls
  rcases hls with h0 | h0
  · omega
  · exact absurd h0 (h (x - 1) (by omega) (by omega))

theorem HashLines.noRS {s : Src} {a b : Nat} (h : HashLines s a b) : NoRS s a b := by
  intro x h1 h2 ⟨hls, c, hc, hr⟩
  rw [h x h1 h2 hls] at hc
  cases hc; revert hr; decide

theorem line_step {s : Src} {pc e : Nat} (hpc : s[pc]? = some 35) (hle : pc ≤ e) (heol : isEol s e = true)
    (hnl : ∀ j, pc ≤ j → j < e → s[j]? ≠ some 10) :
    e ≤ (skipEol s e).getD e ∧ LSE s ((skipEol s e).getD e) ∧ HashLines s pc ((skipEol s e).getD e) := by
  have hz : HashLines s pc (e + 1) := (Between.single fun _ => hpc).trans (hashLines_of_noNl hnl)
  rcases isEol_cases heol with h | h | ⟨h, h'⟩
  · have : s.size ≤ e := by simpa using h
    have he : skipEol s e = none := by simp [skipEol, h]
    rw [he]
    exact ⟨Nat.le_refl _, Or.inr this, hz.mono (Nat.le_refl _) (by simp)⟩
  · have he : skipEol s e = some (e + 1) := by simp [skipEol, h]
    rw [he]
    exact ⟨by simp, Or.inl (LS_succ h), hz⟩
  · have he : skipEol s e = some (e + 2) := by simp [skipEol, h, h']
    rw [he]
    refine ⟨by simp, Or.inl (LS_succ h'), ?_⟩
    simp only [Option.getD_some]
    have hnl' : ∀ j, pc ≤ j → j < e + 1 → s[j]? ≠ some 10 := by
      intro j h1 h2
      by_cases hj : j = e
      · subst hj; rw [h]; decide
      · exact hnl j h1 (by omega)
    exact (Between.single fun _ => hpc).trans (hashLines_of_noNl hnl')

/-- the line starting at `x` (first byte `#`) matches `#{1,3}( .*)?` -/
def hashLineOk (s : Src) (x : Nat) : Bool :=
  isEol s (getCommentLevel s x).2 || s[(getCommentLevel s x).2]? == some 32

/-- postcondition of the `get_comment` loop (comment started at `p0`): it ends at a line start, the end of input
or a `\n`, having passed nothing but `#` lines; it fails only at once, on a first line that is not a well-formed
comment line, with the cursor behind that line's `#`s -/
def CLines (s : Src) (p0 : Nat) (content : List Span) (r : R (List Span × Nat)) : Prop :=
  match r with
  | .ok _ q => p0 ≤ q ∧ NextOk s q ∧ HashLines s p0 q
  | .err e q => content = [] ∧ p0 ≤ e.posStart ∧ hashLineOk s p0 = false ∧
      ∃ l, 1 ≤ l ∧ l ≤ 3 ∧ q = p0 + l ∧ ∀ j, j < l → s[p0 + j]? = some 35
  | .panic _ => True
  | .fuel => True

theorem CLines.of_append {s : Src} {p0 : Nat} {content : List Span} {line : Span} {r : R (List Span × Nat)}
    (h : CLines s p0 (content ++ [line]) r) : CLines s p0 content r := by
  cases r with
  | ok a q => exact h
  | err e q => exact absurd h.1 (by simp)
  | panic m => trivial
  | fuel => trivial

theorem getCommentGo_lines (s : Src) (n level : Nat) (content : List Span) (pc p0 : Nat)
    (hinv : (level = 0 ∧ content = [] ∧ pc = p0 ∧ s[pc]? = some 35) ∨
      (content ≠ [] ∧ p0 < pc ∧ LSE s pc ∧ HashLines s p0 pc)) :
    CLines s p0 content (getCommentGo s n level content pc) := by
  induction n generalizing level content pc with
  | zero => simp only [getCommentGo]; trivial
  | succ n ih =>
    have hz0 : p0 ≤ pc ∧ HashLines s p0 pc := by
      rcases hinv with ⟨_, _, rfl, _⟩ | ⟨_, h1, _, h2⟩
      · exact ⟨Nat.le_refl _, Between.refl _ _⟩
      · exact ⟨by omega, h2⟩
    rw [getCommentGo_unfold]
    cases hst : commentStep s level content.isEmpty pc with
    | line l sp p' =>
      obtain ⟨_, hL⟩ := commentStep_line hst
      have h35 : s[pc]? = some 35 := by simpa using hL.hashes 0 hL.pos
      have hs := line_step h35 (by have := hL.start_le; have := hL.ends.le; omega) hL.ends.stops hL.noLF
      rw [← hL.next] at hs
      exact (ih l (content ++ [sp]) p'
        (Or.inr ⟨by simp, by have := hL.lt_next; omega, hs.2.1, hz0.2.trans hs.2.2⟩)).of_append
    | stop lv q =>
      obtain ⟨hq, _, h35⟩ := commentStep_stop hst
      rcases hinv with ⟨i0, ic, _, i35⟩ | ⟨hc, hlt0, hlse, hz⟩
      · subst ic; exact absurd i0 (h35 i35 rfl)
      · rcases hq with rfl | ⟨e, hlt, _⟩
        · exact ⟨by omega, hlse.next, hz⟩
        · refine ⟨by omega, ?_, hz.mono (Nat.le_refl _) (by omega)⟩
          rcases hlse with (h0 | h10) | hsz
          · omega
          · exact Or.inr (Or.inr (by rwa [show pc - 1 = q by omega] at h10))
          · omega
    | bad q =>
      obtain ⟨hf, he, h32, l, h1, h3, rfl, hl, hbytes⟩ := commentStep_bad hst
      rcases hinv with ⟨_, _, rfl, _⟩ | ⟨hc, _⟩
      · refine ⟨List.isEmpty_iff.mp hf, Nat.le_add_right _ _, ?_, l, h1, h3, rfl, hbytes⟩
        unfold hashLineOk
        rw [hl]
        simp only [Bool.or_eq_false_iff, beq_eq_false_iff_ne, ne_eq]
        exact ⟨he, h32⟩
      · exact absurd (List.isEmpty_iff.mp hf) hc
    | panic m => trivial

theorem getComment_lines {s : Src} {p : Nat} (h : s[p]? = some 35) : CLines s p [] (getComment s p) :=
  getCommentGo_lines s _ 0 [] p p (Or.inl ⟨rfl, rfl, rfl, h⟩)

theorem skipComment_lines {s : Src} {p : Nat} (h : s[p]? = some 35) :
    p < skipComment s p ∧ NextOk s (skipComment s p) ∧ HashLines s p (skipComment s p) := by
  obtain ⟨q, hq, hf⟩ := skipComment_first s p
  rw [hq]
  refine ⟨Nat.lt_succ_of_le hf.le, ?_, fun x h1 h2 hls => ?_⟩
  · rcases isEol_cases hf.stops.1 with h0 | h0 | ⟨_, h0⟩
    · exact Or.inr (Or.inl (by have := Array.getElem?_eq_none_iff.mp h0; omega))
    · exact Or.inl (LS_succ h0)
    · exact Or.inr (Or.inr h0)
  · -- a line that starts behind `p` follows a line feed at which the scan went on
    by_cases hx : x = p
    · exact hx ▸ h
    · rcases hls with h0 | h10
      · omega
      · have hgo := hf.skips (x - 1) (by omega) (by omega)
        have he : isEol s (x - 1) = true := by rw [isEol, h10]; rfl
        rw [show x = x - 1 + 1 by omega]
        exact Decidable.of_not_not fun hne => hgo ⟨he, hne⟩

theorem skipToNextEntryStart_noRS {s : Src} {p q q1 : Nat} (hp : ¬ RealStart s p)
    (hnl : ∀ j, p ≤ j → j < q → s[j]? ≠ some 10) (h : skipToNextEntryStart s p q = some q1) : NoRS s p q1 := by
  unfold skipToNextEntryStart at h
  simp only at h
  split at h
  · simp only [Option.some.injEq] at h
    subst h
    split
    · rename_i nl hnl'
      have := rposNewlineGo_some hnl'
      have hm : min q s.size ≤ q := Nat.min_le_left _ _
      exact absurd this.2.2 (hnl nl this.1 (by omega))
    · have h1 : NoRS s p (q + 1) := (Between.single hp).trans (hashLines_of_noNl hnl).noRS
      exact (h1.mono (Nat.le_refl _) (by omega)).trans (skipToNextEntryStartGo_noRS s _ q)
  · cases h

theorem msgsTerms_append (a b : List (Entry Span)) : msgsTerms (a ++ b) = msgsTerms a ++ msgsTerms b := by
  induction a with
  | nil => rfl
  | cons e rest ih => cases e <;> simp [msgsTerms, ih]

theorem not_real_of_not_realStart {s : Src} {p : Nat} (hls : LS s p) (h : ¬ RealStart s p) :
    ∀ b, s[p]? = some b → isReal b = false := by
  intro b hb
  cases hr : isReal b with
  | false => rfl
  | true => exact absurd ⟨hls, b, hb, hr⟩ h

theorem getMessage_err_of_not_alpha {s : Src} {fuel es p : Nat} (h : isIdentifierStart s p = false) :
    ∃ e, getMessage s fuel es p = .err e p ∧ e.posStart = p := by
  unfold getMessage getIdentifier
  simp [h, mkErr]

theorem isIdentifierStart_false_of_not_real {s : Src} {p : Nat} (h : ∀ b, s[p]? = some b → isReal b = false) :
    isIdentifierStart s p = false := by
  unfold isIdentifierStart
  split
  · rename_i b hb
    have := h b hb
    unfold isReal at this
    simp only [Bool.or_eq_false_iff] at this
    exact this.1
  · rfl

/-- outcome of an entry dispatcher started at `p`:
* on success the cursor is at or after `p` and is a line start, EOF, or at a `\n`;
* the error position is at or after `p`;
* if `p` is a line start that cannot start a message or term, then no message/term is produced (`noMT`) and
  neither the parsed entry nor the junk recovery passes a position where a message or term could start. -/
def ELines {α : Type} (s : Src) (p : Nat) (noMT : α → Prop) (r : R α) : Prop :=
  match r with
  | .ok e q => p ≤ q ∧ NextOk s q ∧ (LS s p → ¬ RealStart s p → noMT e ∧ NoRS s p q)
  | .err e q => p ≤ e.posStart ∧
      (LS s p → ¬ RealStart s p → ∀ q1, skipToNextEntryStart s p q = some q1 → NoRS s p q1)
  | .panic _ => True
  | .fuel => True

theorem noreal_facts {s : Src} {fuel p : Nat} (hls : LS s p) (hnr : ¬ RealStart s p) :
    (∃ e, getMessage s fuel p p = .err e p ∧ e.posStart = p) ∧ s[p]? ≠ some 45 := by
  have := not_real_of_not_realStart hls hnr
  exact ⟨getMessage_err_of_not_alpha (isIdentifierStart_false_of_not_real this), fun h45 => absurd (this 45 h45) (by decide)⟩

/-- the part of both dispatchers that is shared: a term or a message -/
theorem termOrMessage_lines {α : Type} (s : Src) (fuel p : Nat) (noMT : α → Prop) (ft : Term Span → α)
    (fm : Message Span → α) :
    ELines s p noMT
      (if s[p]? = some 45 then (getTerm s fuel p p).bind fun t q => .ok (ft t) q
      else (getMessage s fuel p p).bind fun m q => .ok (fm m) q) := by
  split
  · rename_i h45
    have hp := getTerm_post s fuel p p (Nat.le_refl _)
    cases hr : getTerm s fuel p p with
    | ok t q =>
      rw [hr] at hp
      exact ⟨by have := hp.1; omega, hp.2.next, fun hls hnr => absurd h45 (noreal_facts (fuel := fuel) hls hnr).2⟩
    | err e q =>
      rw [hr] at hp
      exact ⟨hp, fun hls hnr => absurd h45 (noreal_facts (fuel := fuel) hls hnr).2⟩
    | panic m => trivial
    | fuel => trivial
  · have hp := getMessage_post s fuel p p (Nat.le_refl _)
    cases hr : getMessage s fuel p p with
    | ok t q =>
      rw [hr] at hp
      refine ⟨by have := hp.1; omega, hp.2.next, fun hls hnr => ?_⟩
      obtain ⟨⟨e, he, _⟩, _⟩ := noreal_facts (fuel := fuel) hls hnr
      rw [he] at hr; cases hr
    | err e q =>
      rw [hr] at hp
      refine ⟨hp, fun hls hnr q1 hq1 => ?_⟩
      obtain ⟨⟨e', he, _⟩, _⟩ := noreal_facts (fuel := fuel) hls hnr
      rw [he] at hr; cases hr
      exact skipToNextEntryStart_noRS hnr (fun j h1 h2 => by omega) hq1
    | panic m => trivial
    | fuel => trivial

theorem getEntry_lines (s : Src) (fuel p : Nat) :
    ELines s p (fun e => msgsTerms [e] = []) (getEntry s fuel p) := by
  rw [getEntry_unfold]
  by_cases h35 : s[p]? = some 35
  · rw [if_pos h35]
    have hc := getComment_lines h35
    cases hr : getComment s p with
    | ok r q =>
      rw [hr] at hc
      rcases entryOfComment_cases r q with ⟨e, he, hsh⟩ | ⟨_, m, hm⟩
      · rw [R.bind_ok, he]
        refine ⟨hc.1, hc.2.1, fun _ _ => ⟨?_, hc.2.2.noRS⟩⟩
        rcases hsh with rfl | rfl | rfl <;> rfl
      · rw [R.bind_ok, hm]; trivial
    | err e q =>
      rw [hr] at hc
      obtain ⟨_, hpos, _, l, hl1, hl3, rfl, hbytes⟩ := hc
      refine ⟨hpos, fun _ hnr q1 hq1 => ?_⟩
      refine skipToNextEntryStart_noRS hnr ?_ hq1
      intro j h1 h2
      have := hbytes (j - p) (by omega)
      rw [show p + (j - p) = j by omega] at this
      rw [this]; decide
    | panic m => trivial
    | fuel => trivial
  · rw [if_neg h35]
    exact termOrMessage_lines s fuel p _ _ _

theorem getEntryRuntime_lines (s : Src) (fuel p : Nat) :
    ELines s p (fun o => o = none) (getEntryRuntime s fuel p) := by
  rw [getEntryRuntime_unfold]
  by_cases h35 : s[p]? = some 35
  · rw [if_pos h35]
    have hc := skipComment_lines h35
    exact ⟨by omega, hc.2.1, fun _ _ => ⟨rfl, hc.2.2.noRS⟩⟩
  · rw [if_neg h35]
    exact termOrMessage_lines s fuel p _ _ _

theorem msgsTerms_flushC (lc : Option (List Span)) : msgsTerms (flushC lc) = [] := by
  cases lc <;> rfl

theorem msgsTerms_recorded (lc : Option (List Span)) (lbc : Nat) (e : Entry Span) :
    msgsTerms (recorded lc lbc e) = msgsTerms [e] := by
  cases lc <;> cases e <;> simp only [recorded, flushC] <;> (try split) <;> rfl

theorem runLoop_msgsTerms {Q : Entry Span → Prop} {size : Nat} {step : Option (List Span) → Nat → Nat → StepR}
    (hstep : ∀ lc cnt p ab ae lc' cnt' p', step lc cnt p = .next ab ae lc' cnt' p' → ∀ x ∈ msgsTerms ab, Q x)
    (n : Nat) (body : List (Entry Span)) (errors : List PErr) (lc : Option (List Span)) (lbc p : Nat)
    (hb : ∀ x ∈ msgsTerms body, Q x) :
    ∀ r, runLoop size step n body errors lc lbc p = .done r → ∀ x ∈ msgsTerms r.1, Q x := by
  intro r h
  refine runLoop_inv (fun b _ _ _ _ => ∀ x ∈ msgsTerms b, Q x) (Q := fun r => ∀ x ∈ msgsTerms r.1, Q x) ?_ ?_
    n _ _ _ _ _ r hb h
  · intro b e lc cnt p ab ae lc' cnt' p' hI _ hs x hx
    rw [msgsTerms_append] at hx
    exact (List.mem_append.mp hx).elim (hI x) (hstep _ _ _ _ _ _ _ _ hs x)
  · intro b e lc cnt p hI _ x hx
    rw [msgsTerms_append, msgsTerms_flushC, List.append_nil] at hx
    exact hI x hx

theorem parseLoop_msgsTerms {Q : Entry Span → Prop} (s : Src) (fuel : Nat)
    (hQ : ∀ p e q, getEntry s fuel p = .ok e q → ∀ x ∈ msgsTerms [e], Q x) (n : Nat) (body : List (Entry Span))
    (errors : List PErr) (lc : Option (List Span)) (lbc p : Nat) (hb : ∀ x ∈ msgsTerms body, Q x) :
    ∀ r, parseLoop s fuel n body errors lc lbc p = .done r → ∀ x ∈ msgsTerms r.1, Q x := by
  intro r h
  rw [parseLoop_eq_run] at h
  refine runLoop_msgsTerms (fun lc cnt p ab ae lc' cnt' p' hs x hx => ?_) n _ _ _ _ _ hb r h
  rcases loopStep_next hs with ⟨ent, q, hr, rfl, _⟩ | ⟨_, _, _, content, _, _, _, rfl, _⟩
  · rw [msgsTerms_recorded] at hx; exact hQ p ent q hr x hx
  · rw [msgsTerms_append, msgsTerms_flushC] at hx; cases hx

theorem parseRuntimeLoop_msgsTerms {Q : Entry Span → Prop} (s : Src) (fuel : Nat)
    (hQ : ∀ p o q, getEntryRuntime s fuel p = .ok o q → ∀ x ∈ msgsTerms o.toList, Q x) (n : Nat)
    (body : List (Entry Span)) (errors : List PErr) (p : Nat) (hb : ∀ x ∈ msgsTerms body, Q x) :
    ∀ r, parseRuntimeLoop s fuel n body errors p = .done r → ∀ x ∈ msgsTerms r.1, Q x := by
  intro r h
  rw [parseRuntimeLoop_eq_run] at h
  refine runLoop_msgsTerms (fun lc cnt p ab ae lc' cnt' p' hs x hx => ?_) n _ _ _ _ _ hb r h
  rcases loopStepRt_next hs with ⟨o, q, hr, rfl, _⟩ | ⟨_, _, _, content, _, _, _, rfl, _⟩
  · exact hQ p o q hr x hx
  · cases hx

/-- the error carries a slice that starts at a line start, at or before the reported position -/
def ErrPos (s : Src) (e : PErr) : Prop :=
  ∃ a b, e.slice = some (a, b) ∧ a ≤ e.posStart ∧ (a = 0 ∨ s[a - 1]? = some 10)

theorem clampErr_ge {e : PErr} {q p : Nat} (h1 : p ≤ e.posStart) (h2 : p ≤ q) : p ≤ (clampErr e q).posStart := by
  unfold clampErr; split <;> simp_all

theorem LSE.ls {s : Src} {p : Nat} (h : LSE s p) (hp : p < s.size) : LS s p := by
  rcases h with h | h
  · exact h
  · omega

theorem errPos_junk {s : Src} {e : PErr} {p q q1 : Nat} (hls : LS s p) (hpos : p ≤ e.posStart)
    (hq1 : skipToNextEntryStart s p q = some q1) :
    ErrPos s { clampErr e q1 with slice := some (p, q1) } :=
  ⟨p, q1, rfl, clampErr_ge hpos (skipToNextEntryStart_ge hq1), hls⟩

theorem runLoop_errPos {α : Type} {s : Src} {noMT : α → Prop} {get : Nat → R α}
    {step : Option (List Span) → Nat → Nat → StepR}
    (hcase : ∀ {lc cnt p ab ae lc' cnt' p'}, step lc cnt p = .next ab ae lc' cnt' p' → StepCase s p (get p) ab ae p')
    (hlines : ∀ p, ELines s p noMT (get p)) (n : Nat) (body : List (Entry Span)) (errors : List PErr)
    (lc : Option (List Span)) (lbc p : Nat) (hp : LSE s p) (herr : ∀ e ∈ errors, ErrPos s e) :
    ∀ r, runLoop s.size step n body errors lc lbc p = .done r → ∀ e ∈ r.2, ErrPos s e := by
  intro r h
  refine runLoop_inv (fun _ e _ _ p => LSE s p ∧ ∀ x ∈ e, ErrPos s x) (Q := fun r => ∀ e ∈ r.2, ErrPos s e) ?_
    (fun _ _ _ _ _ hI _ => hI.2) n _ _ _ _ _ r ⟨hp, herr⟩ h
  intro b e lc cnt p ab ae lc' cnt' p' ⟨hl, he⟩ hlt hs
  have hel := hlines p
  rcases hcase hs with ⟨ent, q, hr, rfl, _, rfl⟩ | ⟨er, q, q1, content, hr, hq1, rfl, _, _, rfl⟩ <;> rw [hr] at hel
  · exact ⟨skipBlankBlock_LSE hel.2.1, by rw [List.append_nil]; exact he⟩
  · exact ⟨skipBlankBlock_LSE (skipToNextEntryStart_LSE hq1).next,
      forall_mem_append_singleton he (errPos_junk (hl.ls hlt) hel.1 hq1)⟩

theorem start_LSE (s : Src) : LSE s (skipBlankBlock s 0).1 := skipBlankBlock_LSE (Or.inl (LS_zero s))

/-- **C03**: every error of `parse` has a slice starting at a line start, at or before the error position -/
theorem parse_errPos (s : Src) (body : List (Entry Span)) (errs : List PErr) (h : parse s = .done (body, errs)) :
    ∀ e ∈ errs, ErrPos s e :=
  runLoop_errPos loopStep_case (getEntry_lines s _) _ [] [] none 0 _ (start_LSE s) (by simp) _
    ((parseLoop_eq_run s _ _ _ _ _ _ _).symm.trans h)

theorem parseRuntime_errPos (s : Src) (body : List (Entry Span)) (errs : List PErr)
    (h : parseRuntime s = .done (body, errs)) : ∀ e ∈ errs, ErrPos s e :=
  runLoop_errPos loopStepRt_case (getEntryRuntime_lines s _) _ [] [] none 0 _ (start_LSE s) (by simp) _
    ((parseRuntimeLoop_eq_run s _ _ _ _ _).symm.trans h)

end FluentProofs.Parser

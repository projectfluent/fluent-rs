import FluentProofs.ParserLocalDefs
/-!
# Locality of the parser: the leaf scanners on a block of lines that two sources share

`Win d n s₁ s₂`: the bytes `s₁` has below `n` stand in `s₂` at offset `d`.  `n` is an *edge* of `s₁` (`Edge s₁ n`): it
follows a line feed or lies behind the end of `s₁`, and it holds no byte at which a scanner inside an entry goes on; the
same holds of `n + d` in `s₂`.  Every leaf scanner started in the block does on `s₂` what it does on `s₁`, moved by `d`
(`*_win`), and stays in the block (`Edge.*`: a fact about one source, which the barrier family shares: `Bar.edge`).  The
two-source relations of the families are instances: `Shift d s₁ s₂` is `Win d n s₁ s₂` for every `n` behind the end of `s₁`
(`Shift.win`), `Loc n s₁ s₂` — and with it `Pre`, `Sim` — is `Win 0 n s₁ s₂` (`Loc.win`).  Scanners of the form "first
position that stops" are moved with `First.shift`; for the two other loops (`skip_blank_block`, string literals) a fuel which
reaches the end of the source is as good as any other (`skipBlankBlock_eq`, `scanString_eq`), and then one induction with the
same fuel on both sides does it.  `get_comment` is moved round by round (`commentStep_win`).  Junk recovery is a "first
position" scan from `junkFrom`: started at or before a position that holds an entry start it ends there at the latest
(`skipToNextEntryStart_le_of_start`), and it is moved like the others (`skipToNextEntryStart_win`).
-/
namespace FluentProofs.Parser
open FluentModel.Syntax

section
variable {s : Src} {n : Nat}

theorem leafByte_of_cont {c : UInt8} (hc : ((c &&& 0xC0) != 0x80) = false) : leafByte c = true := by
  have h35 : c ≠ 35 := by rintro rfl; exact absurd hc (by decide)
  simp [leafByte, stopByte, hc, h35]

theorem isBoundary_of_stop (hstop : ∀ c, leafByte c = true → s[n]? ≠ some c) : isBoundary s n = decide (n ≤ s.size) := by
  by_cases hn : n < s.size
  · have e : s[n]? = some s[n] := getElem?_pos s n hn
    cases hc : ((s[n] &&& 0xC0) != 0x80) with
    | true =>
      rw [decide_eq_true (Nat.le_of_lt hn)]
      simp only [FluentModel.Syntax.isBoundary, e, hc, Bool.or_true]
    | false => exact absurd e (hstop _ (leafByte_of_cont hc))
  · by_cases hn' : n = s.size
    · rw [hn', decide_eq_true (Nat.le_refl _)]; exact bnd_size s
    · have e : s[n]? = none := Array.getElem?_eq_none_iff.mpr (by omega)
      have e0 : (n == 0) = false := by rw [beq_eq_false_iff_ne]; omega
      have e1 : (n == s.size) = false := by rw [beq_eq_false_iff_ne]; exact hn'
      rw [decide_eq_false (by omega)]
      simp only [FluentModel.Syntax.isBoundary, e, e0, e1, Bool.or_self]

theorem getIdentifierUnchecked_ub (s : Src) (p m : Nat) (h : scanWhile s isIdentByte p ≤ m) :
    UN m m (getIdentifierUnchecked s p) := by
  unfold getIdentifierUnchecked
  simp only []
  split
  · trivial
  · split
    · exact .ok h
    · trivial

theorem skipDigits_ub (s : Src) {p m : Nat} (hp : p ≤ m) (h : scanWhile s isDigit p ≤ m) : UN m m (skipDigits s p) := by
  unfold skipDigits
  simp only []
  split
  · exact .err hp
  · exact .ok h

theorem not_breakAt_byte {j : Nat} (h : ¬ BreakAt s j) (hj : j < s.size) : ∃ b, s[j]? = some b ∧ b ≠ 10 :=
  ⟨s[j], getElem?_pos s j hj, fun e => h (Or.inl (by rw [getElem?_pos s j hj, e]))⟩

/-- stepping over a byte other than a line feed does not reach `n`, and `n` holds no `leafByte` (blank, line break, `.`, `{`
or continuation byte): `n` follows a line feed (or is `0`) and holds a `stopByte`, a `#`, or the end of input — or lies
behind the end of input -/
structure Edge (s : Src) (n : Nat) : Prop where
  step : ∀ {p : Nat} {b : UInt8}, p < n → s[p]? = some b → b ≠ 10 → p + 1 < n
  stop : ∀ c, leafByte c = true → s[n]? ≠ some c

theorem LS.step (hls : LS s n) {p : Nat} {b : UInt8} (hp : p < n) (hb : s[p]? = some b) (hne : b ≠ 10) : p + 1 < n := by
  rcases hls with h0 | h10
  · omega
  · by_cases he : p + 1 = n
    · rw [show n - 1 = p by omega, hb] at h10
      cases h10; exact absurd rfl hne
    · omega

theorem edge_of_ls (hls : LS s n) (hstop : ∀ c, leafByte c = true → s[n]? ≠ some c) : Edge s n where
  step := hls.step
  stop := hstop

theorem edge_of_size (h : s.size < n) : Edge s n where
  step {p b} _ hb _ := by have := get_lt hb; omega
  stop c _ hc := by have := get_lt hc; omega

theorem Bar.edge {E : Nat} (hb : Bar s n E) : Edge s n :=
  edge_of_ls hb.ls fun c hc hn => by
    obtain ⟨b, hb1, hb2⟩ := hb.real
    rw [hn] at hb1; cases hb1
    rw [leafByte, stopByte_of_isReal c hb2] at hc; cases hc

theorem Edge.run_lt (he : Edge s n) {p q : Nat} (hpq : p ≤ q) (hp : p < n)
    (hs : ∀ j, p ≤ j → j < q → ∃ b, s[j]? = some b ∧ b ≠ 10) : q < n := by
  have key : ∀ k, p + k ≤ q → p + k < n := by
    intro k
    induction k with
    | zero => exact fun _ => hp
    | succ k ih =>
      intro hk
      obtain ⟨b, hb, hne⟩ := hs (p + k) (Nat.le_add_right p k) (by omega)
      exact he.step (ih (by omega)) hb hne
  have := key (q - p) (by omega)
  omega

theorem Edge.first_lt (he : Edge s n) {stop : Nat → Prop} {p q : Nat} (hf : First stop p q) (hp : p < n)
    (hs : ∀ j, ¬ stop j → ∃ b, s[j]? = some b ∧ b ≠ 10) : q < n :=
  he.run_lt hf.le hp fun j h1 h2 => hs j (hf.skips j h1 h2)

theorem Edge.scanWhile_lt (he : Edge s n) {pred : UInt8 → Bool} (h10 : pred 10 = false) {p : Nat} (hp : p < n) :
    scanWhile s pred p < n :=
  he.first_lt (scanWhile_first s pred p) hp fun j hj => by
    obtain ⟨b, hb, hpb⟩ := not_noPredAt hj
    exact ⟨b, hb, fun e => by rw [e, h10] at hpb; cases hpb⟩

theorem Edge.skipBlankInline_le (he : Edge s n) {p : Nat} (hp : p ≤ n) : skipBlankInline s p ≤ n :=
  (skipBlankInline_first s p).le_of_stop hp (he.stop 32 (by decide))

theorem Edge.skipBlankInline_lt (he : Edge s n) {p : Nat} (hp : p < n) : skipBlankInline s p < n := by
  rw [skipBlankInline_eq]; exact he.scanWhile_lt (by decide) hp

theorem Edge.not_blankAt (he : Edge s n) : ¬ BlankAt s n := fun h =>
  h.elim (he.stop 32 (by decide)) fun h => h.elim (he.stop 10 (by decide)) fun h => he.stop 13 (by decide) h.1

theorem Edge.skipBlank_le (he : Edge s n) {p : Nat} (hp : p ≤ n) : skipBlank s p ≤ n :=
  (skipBlank_first s p).le_of_stop hp he.not_blankAt

theorem Edge.skipEol_none (he : Edge s n) : skipEol s n = none :=
  skipEol_none_of (he.stop 10 (by decide)) (he.stop 13 (by decide))

theorem Edge.skipEol_le (he : Edge s n) {p q : Nat} (hp : p ≤ n) (h : skipEol s p = some q) : q ≤ n := by
  have hpn : p < n := by
    by_cases e : p = n
    · subst e; rw [he.skipEol_none] at h; cases h
    · omega
  rcases skipEol_cases h with ⟨rfl, _⟩ | ⟨rfl, h13, _⟩
  · exact hpn
  · exact he.step hpn h13 (by decide)

theorem Edge.skipBlankBlockGo_le (he : Edge s n) (k : Nat) {p : Nat} (c : Nat) (hp : p ≤ n) : (skipBlankBlockGo s k p c).1 ≤ n := by
  induction k generalizing p c with
  | zero => exact hp
  | succ k ih =>
    rw [skipBlankBlockGo_unfold]
    have h1 := he.skipBlankInline_le hp
    cases hE : skipEol s (skipBlankInline s p) with
    | some p' => exact ih _ (he.skipEol_le h1 hE)
    | none =>
      simp only []
      split
      · exact hp
      · exact h1

theorem Edge.skipBlankBlock_le (he : Edge s n) {p : Nat} (hp : p ≤ n) : (skipBlankBlock s p).1 ≤ n :=
  he.skipBlankBlockGo_le _ 0 hp

theorem Edge.patStart_le (he : Edge s n) {p : Nat} (hp : p < n) :
    (patStart s p).2 ≤ n ∧ ((patStart s p).2 = n → (patStart s p).1 = .lineStart) := by
  have h1 := he.skipBlankInline_lt hp
  unfold patStart
  cases hE : skipEol s (skipBlankInline s p) with
  | none => exact ⟨Nat.le_of_lt h1, fun h => absurd h (Nat.ne_of_lt h1)⟩
  | some q => exact ⟨he.skipBlankBlock_le (he.skipEol_le (Nat.le_of_lt h1) hE), fun _ => rfl⟩

theorem Edge.patPre_lt (he : Edge s n) {st : PatState} {p indent p1 : Nat} (hp : p < n)
    (hpre : patPre s st p = some (indent, p1)) : p1 < n := by
  have := he.skipBlankInline_lt hp
  rcases (patPre_some hpre).2 with rfl | ⟨rfl, _⟩ <;> omega

theorem Edge.patBreak_le (he : Edge s n) {p : Nat} (hp : p ≤ n) : patBreak s p ≤ n := by
  rcases patBreak_cases s p with e | e <;> rw [e]
  · exact hp
  · exact he.skipBlankInline_le hp

theorem Edge.takeByteIf_lt (he : Edge s n) {p : Nat} (hp : p < n) {b : UInt8} (hb : b ≠ 10) : (takeByteIf s p b).1 < n := by
  rcases takeByteIf_cases s p b with ⟨e, hbyte⟩ | ⟨e, _⟩ <;> rw [e]
  · exact he.step hp hbyte hb
  · exact hp

theorem Edge.skipDigits_lt (he : Edge s n) {p : Nat} (hp : p < n) : UN (n - 1) (n - 1) (skipDigits s p) := by
  have := he.scanWhile_lt (pred := isDigit) (by decide) hp
  exact skipDigits_ub s (by omega) (by omega)

theorem Edge.getNumberLiteral_lt (he : Edge s n) {p : Nat} (hp : p < n) : UN (n - 1) (n - 1) (getNumberLiteral s p) := by
  rw [getNumberLiteral_eq]
  refine (he.skipDigits_lt (he.takeByteIf_lt hp (b := 45) (by decide))).bind fun _ p2 _ h2 => ?_
  by_cases h46 : s[p2]? = some 46
  · rw [if_pos h46]
    refine (he.skipDigits_lt (he.step (p := p2) (by omega) h46 (by decide))).bind fun _ p4 _ h4 => ?_
    split
    · exact .ok h4
    · trivial
  · rw [if_neg h46]
    split
    · exact .ok h2
    · trivial

theorem Edge.skipHexGo_lt (he : Edge s n) (len : Nat) {p : Nat} (hp : p < n) : skipHexGo s len p < n := by
  rw [skipHexGo_eq]
  refine he.first_lt (scanWhileGo_first s isHexDigit len p) hp fun j hj => ?_
  obtain ⟨b, hb, hpb⟩ := not_noPredAt fun hs => hj (Or.inl hs)
  exact ⟨b, hb, fun e => by rw [e] at hpb; exact absurd hpb (by decide)⟩

theorem Edge.skipUnicodeEscapeSequence_lt (he : Edge s n) (len : Nat) {p : Nat} (hp : p < n) :
    UN (n - 1) (n - 1) (skipUnicodeEscapeSequence s p len) := by
  have := he.skipHexGo_lt len hp
  unfold skipUnicodeEscapeSequence
  simp only []
  split
  · split
    · exact .err (by omega)
    · trivial
  · exact .ok (by omega)

theorem Edge.scanStringGo_lt (he : Edge s n) (k : Nat) {p : Nat} (hp : p < n) : UN (n - 1) (n - 1) (scanStringGo s k p) := by
  induction k generalizing p with
  | zero => exact .ok (by omega)
  | succ k ih =>
    refine scanStringGo_cases₂ (motive := fun r _ => UN (n - 1) (n - 1) r) s s k k p p rfl (fun _ => rfl) ?_ ?_ ?_ ?_ ?_ ?_
    · exact fun _ => .ok (by omega)
    · intro c h92 h1 hc
      exact ih (he.step (he.step hp h92 (by decide)) h1 (by rcases hc with rfl | rfl <;> decide))
    · intro c len h92 h1 hc
      have hp2 : p + 2 < n := he.step (he.step hp h92 (by decide)) h1 (by rcases hc with ⟨rfl, _⟩ | ⟨rfl, _⟩ <;> decide)
      exact (he.skipUnicodeEscapeSequence_lt len hp2).bind fun _ q _ hq => ih (by omega)
    · exact fun _ _ _ _ _ => .err (by omega)
    · exact fun _ => .err (by omega)
    · exact fun b hb _ _ h10 => ih (he.step hp hb h10)

theorem Edge.scanString_lt (he : Edge s n) {p : Nat} (hp : p < n) : UN (n - 1) (n - 1) (scanString s p) :=
  he.scanStringGo_lt _ hp

theorem Edge.memchr3_lt (he : Edge s n) {p e : Nat} (hp : p < n) (h : memchr3 s p = some e) : p ≤ e ∧ e < n := by
  have hf := memchr3_eq_some.mp h
  have hlt : e < s.size := by rcases hf.stops with h' | h' | h' <;> exact get_lt h'
  exact ⟨hf.le, he.run_lt hf.le hp fun j h1 h2 => not_breakAt_byte (hf.skips j h1 h2) (by omega)⟩

theorem Edge.memchr3_none (he : Edge s n) {p : Nat} (hp : p < n) (hs : p ≤ s.size) (h : memchr3 s p = none) : s.size < n :=
  he.run_lt hs hp fun j h1 h2 => not_breakAt_byte (memchr3_eq_none.mp h j h1) h2

theorem Edge.getTextSlice_ok (he : Edge s n) {p : Nat} (hp : p < n) {start stop : Nat} {nb : Bool} {term : Termination}
    {q : Nat} (hr : getTextSlice s p = .ok (start, stop, nb, term) q) :
    start = p ∧ stop ≤ n ∧ q ≤ n ∧ (q = n → term = .lineFeed) := by
  by_cases hs : p > s.size
  · unfold getTextSlice at hr
    rw [if_pos hs] at hr
    cases hr
    exact ⟨rfl, Nat.le_of_lt hp, Nat.le_of_lt hp, fun e => by omega⟩
  obtain ⟨rfl, e, hpe, hes, hcl, hc⟩ := FluentProofs.Ser.getTextSlice_slice (Nat.le_of_not_lt hs) hr
  have hen : e < n := he.run_lt hpe hp fun j h1 h2 =>
    have hj := Nat.lt_of_lt_of_le h2 hes
    ⟨s[j], getElem?_pos s j hj, fun c => (hcl j h1 h2).1 (by rw [getElem?_pos s j hj, c])⟩
  have hle := Nat.le_of_lt hen
  have hne : e = n → term = .lineFeed := fun c => absurd c (Nat.ne_of_lt hen)
  rcases hc with ⟨_, _, rfl, rfl, _⟩ | ⟨_, _, rfl, rfl, _⟩ | ⟨rfl, _, _, rfl, rfl, _⟩ | ⟨_, _, _, _, rfl, rfl, _⟩
  · exact ⟨rfl, hle, hle, hne⟩
  · exact ⟨rfl, hle, hle, hne⟩
  · exact ⟨rfl, hen, hen, fun _ => rfl⟩
  · exact ⟨rfl, Nat.le_trans (Nat.sub_le _ 1) hle, hle, hne⟩

theorem Edge.getTextSlice_err (he : Edge s n) {p : Nat} (hp : p < n) {e : PErr} {q : Nat}
    (hr : getTextSlice s p = .err e q) : q < n := by
  unfold getTextSlice at hr
  split at hr
  · cases hr
  · cases hm : memchr3 s p with
    | none => rw [hm] at hr; cases hr
    | some e' =>
      rw [hm] at hr
      simp only [] at hr
      split at hr
      · cases hr; exact (he.memchr3_lt hp hm).2
      · split at hr <;> cases hr
      · cases hr
      · cases hr

theorem Edge.getIdentifierUnchecked_lt (he : Edge s n) {p : Nat} (hp : p < n) :
    UN (n - 1) (n - 1) (getIdentifierUnchecked s p) := by
  have hlt := he.scanWhile_lt (pred := isIdentByte) (by decide) hp
  exact getIdentifierUnchecked_ub s p (n - 1) (by omega)

theorem Edge.getIdentifierUnchecked_ok (he : Edge s n) {p : Nat} (hp : p < n) {sp : Span} {q : Nat}
    (hr : getIdentifierUnchecked s p = .ok sp q) : q < n ∧ sp.stop = q := by
  have hq : q ≤ n - 1 := by have := he.getIdentifierUnchecked_lt hp; rwa [hr] at this
  exact ⟨by omega, getIdentifierUnchecked_stop hr⟩

theorem Edge.identStart_lt (he : Edge s n) {p : Nat} (hp : p < n) (h : isIdentifierStart s p = true) : p + 1 < n := by
  obtain ⟨b, hb, ha⟩ := (isIdentifierStart_iff s p).mp h
  exact he.step hp hb fun e => by rw [e] at ha; exact absurd ha (by decide)

theorem Edge.getIdentifier_ok (he : Edge s n) {p : Nat} (hp : p < n) {sp : Span} {q : Nat}
    (hr : getIdentifier s p = .ok sp q) : q < n ∧ sp.stop = q := by
  unfold getIdentifier at hr
  split at hr
  · cases hr
  · rename_i hc
    exact he.getIdentifierUnchecked_ok (he.identStart_lt hp (by simpa using hc)) hr

theorem Edge.getIdentifier_lt (he : Edge s n) {p : Nat} (hp : p < n) : UN (n - 1) (n - 1) (getIdentifier s p) := by
  unfold getIdentifier
  split
  · exact .err (by omega)
  · rename_i hc
    exact he.getIdentifierUnchecked_lt (he.identStart_lt hp (by simpa using hc))

theorem Edge.getAttributeAccessor_lt (he : Edge s n) {p : Nat} (hp : p < n) : UN (n - 1) (n - 1) (getAttributeAccessor s p) := by
  rw [getAttributeAccessor_eq]
  by_cases hb : s[p]? = some 46
  · rw [if_pos hb]
    exact (he.getIdentifier_lt (he.step hp hb (by decide))).bind fun id q _ hq => .ok hq
  · rw [if_neg hb]
    exact .ok (by omega)

theorem Edge.isEol_false (he : Edge s n) (hlt : n < s.size) : isEol s n = false := by
  cases h : isEol s n with
  | false => rfl
  | true =>
    rcases isEol_cases h with h | h | ⟨h, _⟩
    · exact absurd (Array.getElem?_eq_none_iff.mp h) (by omega)
    · exact absurd h (he.stop 10 (by decide))
    · exact absurd h (he.stop 13 (by decide))

theorem Edge.patPre_none (he : Edge s n) (hlt : n < s.size) {st : PatState} (hrl : st.role = .lineStart) :
    patPre s st n = none ∧ patBreak s n = n := by
  have e1 : skipBlankInline s n = n := skipBlankInline_of_ne (he.stop 32 (by decide))
  simp [patPre, patBreak, hrl, e1, getElem?_pos s n hlt, he.isEol_false hlt]

theorem Edge.commentLineEnd_lt (he : Edge s n) {p : Nat} (hp : p < n) : commentLineEndGo s (s.size - p) p < n :=
  he.first_lt (commentLineEnd_first s p) hp fun _ hj => not_isEol_byte hj

theorem Edge.getCommentLevel_lt (he : Edge s n) {p : Nat} (hp : p < n) :
    ∃ l, getCommentLevel s p = (l, p + l) ∧ p + l < n := by
  obtain ⟨l, hl, _, hbytes, _⟩ := getCommentLevel_spec s p
  refine ⟨l, hl, he.run_lt (Nat.le_add_right p l) hp fun j h1 h2 => ⟨35, ?_, by decide⟩⟩
  have := hbytes (j - p) (by omega)
  rwa [show p + (j - p) = j by omega] at this

theorem Edge.commentLine_le {p l : Nat} {sp : Span} {p' : Nat} (he : Edge s n) (hL : CommentLine s p l sp p') (hp : p < n) :
    p + l < n ∧ sp.stop < n ∧ p' ≤ n := by
  have hpl : p + l < n := by
    obtain ⟨l', hl', hlt⟩ := he.getCommentLevel_lt hp
    rw [hL.level] at hl'; cases hl'; exact hlt
  have h2 : sp.start < n := by
    rcases hL.start with ⟨_, e⟩ | ⟨h32, e⟩ <;> rw [e]
    · exact hpl
    · exact he.step hpl h32 (by decide)
  have h3 := he.commentLineEnd_lt h2
  rw [← hL.stop_eq] at h3
  refine ⟨hpl, h3, ?_⟩
  rcases hL.next_cases with ⟨hq, _, _, _⟩ | ⟨e, _⟩
  · exact he.skipEol_le (Nat.le_of_lt h3) hq
  · omega

/-- where junk recovery starts to look for the next entry: behind the last line feed between the entry start and the
error, or at the error if they are on one line -/
def junkFrom (s : Src) (es q : Nat) : Nat :=
  match rposNewline s es (min q s.size) with
  | some nl => nl + 1
  | none => q

theorem skipToNextEntryStart_eq_some {es q q1 : Nat} :
    skipToNextEntryStart s es q = some q1 ↔ es ≤ min q s.size ∧ First (EndsAtEntryStart s) (junkFrom s es q) q1 := by
  unfold skipToNextEntryStart junkFrom
  simp only []
  by_cases hle : es ≤ min q s.size
  · rw [if_pos hle, Option.some.injEq]
    exact ⟨fun e => ⟨hle, e ▸ skipToNextEntryStartGo_first s _⟩, fun ⟨_, hf⟩ => (skipToNextEntryStartGo_first s _).unique hf⟩
  · rw [if_neg hle]
    exact ⟨nofun, fun c => absurd c.1 hle⟩

theorem skipToNextEntryStart_eq_none {es q : Nat} : skipToNextEntryStart s es q = none ↔ ¬ es ≤ min q s.size := by
  unfold skipToNextEntryStart
  simp only []
  split
  · exact ⟨nofun, fun c => absurd ‹_› c⟩
  · exact ⟨fun _ => ‹_›, fun _ => rfl⟩

theorem junkFrom_cases (s : Src) (es q : Nat) :
    (rposNewline s es (min q s.size) = none ∧ junkFrom s es q = q) ∨
    ∃ nl, rposNewline s es (min q s.size) = some nl ∧ junkFrom s es q = nl + 1 ∧ es ≤ nl ∧ nl < min q s.size ∧
      s[nl]? = some 10 := by
  unfold junkFrom
  cases h : rposNewline s es (min q s.size) with
  | none => exact Or.inl ⟨rfl, rfl⟩
  | some nl => obtain ⟨h1, h2, h3, _⟩ := rposNewline_eq_some.mp h; exact Or.inr ⟨nl, rfl, rfl, h1, h2, h3⟩

theorem junkFrom_le (s : Src) (es q : Nat) : junkFrom s es q ≤ q := by
  rcases junkFrom_cases s es q with ⟨_, e⟩ | ⟨nl, _, e, _, h2, _⟩ <;> rw [e]
  · exact Nat.le_refl q
  · exact Nat.le_trans h2 (Nat.min_le_left q s.size)

theorem skipToNextEntryStart_le_of_start {es q q1 : Nat} (hn : EndsAtEntryStart s n) (hfrom : junkFrom s es q ≤ n)
    (h : skipToNextEntryStart s es q = some q1) : q1 ≤ n :=
  (skipToNextEntryStart_eq_some.mp h).2.le_of_stop hfrom hn

end

structure Win (d n : Nat) (s₁ s₂ : Src) : Prop where
  edge : Edge s₁ n
  get : ∀ i, i < n → s₂[i + d]? = s₁[i]?
  stop₂ : ∀ c, leafByte c = true → s₂[n + d]? ≠ some c
  /-- the seam is a char boundary of `s₂` (nothing to ask for `d = 0`) -/
  bnd : isBoundary s₂ d = true
  /-- the bytes in front of the block end a line (for junk recovery, which looks one byte back) -/
  nl : d = 0 ∨ s₂[d - 1]? = some 10

section
variable {d n : Nat} {s₁ s₂ : Src}

theorem Shift.win (h : Shift d s₁ s₂) (hn : s₁.size < n) : Win d n s₁ s₂ where
  edge := edge_of_size hn
  get i _ := h.get i
  stop₂ c _ hc := by have := get_lt hc; have := h.size; omega
  bnd := h.bnd
  nl := h.nl

/-- the edge used for a scanner started at `p` -/
theorem Shift.winAt (h : Shift d s₁ s₂) (p : Nat) : Win d (p + s₁.size + 1) s₁ s₂ := h.win (by omega)

theorem Loc.win (h : Loc n s₁ s₂) : Win 0 n s₁ s₂ where
  edge := edge_of_ls h.ls h.at₁
  get := h.get
  stop₂ := h.at₂
  bnd := bnd_zero s₂
  nl := Or.inl rfl

theorem Win.byte_iff (h : Win d n s₁ s₂) {j : Nat} (hj : j ≤ n) {c : UInt8} (hc : leafByte c = true) :
    s₂[j + d]? = some c ↔ s₁[j]? = some c := by
  by_cases hjn : j = n
  · subst hjn
    exact ⟨fun e => absurd e (h.stop₂ c hc), fun e => absurd e (h.edge.stop c hc)⟩
  · rw [h.get j (by omega)]

theorem Win.lt_of_byte (h : Win d n s₁ s₂) {j : Nat} (hj : j ≤ n) {c : UInt8} (hb : s₁[j]? = some c) (hc : leafByte c = true) :
    j < n := by
  by_cases hjn : j = n
  · subst hjn; exact absurd hb (h.edge.stop c hc)
  · omega

theorem Win.blankAt_iff (h : Win d n s₁ s₂) {j : Nat} (hj : j ≤ n) : BlankAt s₂ (j + d) ↔ BlankAt s₁ j := by
  unfold BlankAt
  rw [h.byte_iff hj (c := 32) (by decide), h.byte_iff hj (c := 10) (by decide), h.byte_iff hj (c := 13) (by decide)]
  refine or_congr_right (or_congr_right ⟨fun ⟨h13, h10⟩ => ⟨h13, ?_⟩, fun ⟨h13, h10⟩ => ⟨h13, ?_⟩⟩)
  all_goals
    have hlt := h.edge.step (h.lt_of_byte hj h13 (by decide)) h13 (by decide)
    have := h.get (j + 1) hlt
    rw [Nat.add_right_comm] at this
  · rw [← this]; exact h10
  · rw [this]; exact h10

theorem Win.lt_iff (h : Win d n s₁ s₂) {i : Nat} (hi : i < n) : i + d < s₂.size ↔ i < s₁.size := by
  have := h.get i hi
  constructor
  · intro hlt; rw [getElem?_pos s₂ (i + d) hlt] at this; exact get_lt this.symm
  · intro hlt; rw [getElem?_pos s₁ i hlt] at this; exact get_lt this

theorem Win.le_iff (h : Win d n s₁ s₂) {i : Nat} (hi : i ≤ n) : i + d ≤ s₂.size ↔ i ≤ s₁.size := by
  cases i with
  | zero => exact ⟨fun _ => Nat.zero_le _, fun _ => by rw [Nat.zero_add]; exact Bnd.le h.bnd⟩
  | succ j =>
    rw [Nat.add_right_comm]
    exact h.lt_iff (i := j) hi

theorem Win.size_iff (h : Win d n s₁ s₂) {i : Nat} (hi : i < n) : i + d = s₂.size ↔ i = s₁.size := by
  have h1 := h.le_iff (Nat.le_of_lt hi)
  have h2 := h.lt_iff hi
  omega

theorem Win.size (h : Win d n s₁ s₂) (hn : s₁.size < n) : s₂.size = s₁.size + d := by
  have h1 := h.le_iff (i := s₁.size) (Nat.le_of_lt hn)
  have h2 := h.lt_iff hn
  omega

theorem Win.min_size (h : Win d n s₁ s₂) {q : Nat} (hq : q ≤ n) : min (q + d) s₂.size = min q s₁.size + d := by
  by_cases hs : q ≤ s₁.size
  · rw [Nat.min_eq_left hs, Nat.min_eq_left ((h.le_iff hq).mpr hs)]
  · have hlt := Nat.lt_of_not_le hs
    rw [Nat.min_eq_right (Nat.le_of_lt hlt), h.size (Nat.lt_of_lt_of_le hlt hq),
      Nat.min_eq_right (Nat.add_le_add_right (Nat.le_of_lt hlt) d)]

theorem Win.pair_iff (h : Win d n s₁ s₂) {j : Nat} (hj : j < n) {a b : UInt8} (ha : a ≠ 10) :
    (s₂[j + d]? = some a ∧ s₂[j + d + 1]? = some b) ↔ (s₁[j]? = some a ∧ s₁[j + 1]? = some b) := by
  rw [h.get j hj, Nat.add_right_comm]
  exact and_congr_right fun h1 => by rw [h.get _ (h.edge.step hj h1 ha)]

theorem Win.breakAt_iff (h : Win d n s₁ s₂) {j : Nat} (hj : j < n) : BreakAt s₂ (j + d) ↔ BreakAt s₁ j := by
  unfold BreakAt; rw [h.get j hj]

theorem skipBlankInline_win (h : Win d n s₁ s₂) {p : Nat} (hp : p ≤ n) :
    skipBlankInline s₂ (p + d) = skipBlankInline s₁ p + d := by
  have hq := h.edge.skipBlankInline_le hp
  exact (skipBlankInline_first s₂ (p + d)).unique ((skipBlankInline_first s₁ p).shift d fun j _ h2 =>
    not_congr (h.byte_iff (Nat.le_trans h2 hq) (by decide)).symm)

theorem skipBlank_win (h : Win d n s₁ s₂) {p : Nat} (hp : p ≤ n) : skipBlank s₂ (p + d) = skipBlank s₁ p + d := by
  have hq := h.edge.skipBlank_le hp
  exact (skipBlank_first s₂ (p + d)).unique ((skipBlank_first s₁ p).shift d fun j _ h2 =>
    not_congr (h.blankAt_iff (Nat.le_trans h2 hq)).symm)

theorem scanWhile_win (h : Win d n s₁ s₂) (pred : UInt8 → Bool) (h10 : pred 10 = false) {p : Nat} (hp : p < n) :
    scanWhile s₂ pred (p + d) = scanWhile s₁ pred p + d := by
  have hq := h.edge.scanWhile_lt h10 hp
  refine (scanWhile_first s₂ pred (p + d)).unique ((scanWhile_first s₁ pred p).shift d fun j _ h2 => ?_)
  unfold NoPredAt
  rw [h.get j (by omega)]

theorem skipEol_win (h : Win d n s₁ s₂) {p : Nat} (hp : p ≤ n) : skipEol s₂ (p + d) = (skipEol s₁ p).map (· + d) := by
  by_cases hpn : p = n
  · subst hpn
    rw [h.edge.skipEol_none, skipEol_none_of (h.stop₂ 10 (by decide)) (h.stop₂ 13 (by decide))]
    rfl
  · have hlt : p < n := by omega
    have e10 : s₂[p + d]? = some 10 ↔ s₁[p]? = some 10 := by rw [h.get p hlt]
    simp only [skipEol_eq, e10, h.pair_iff hlt (a := 13) (b := 10) (by decide)]
    split
    · exact congrArg some (Nat.add_right_comm p d 1)
    · split
      · exact congrArg some (Nat.add_right_comm p d 2)
      · rfl

theorem skipBlankBlockGo_win (h : Win d n s₁ s₂) (k : Nat) {p : Nat} (c : Nat) (hp : p ≤ n) :
    skipBlankBlockGo s₂ k (p + d) c = ((skipBlankBlockGo s₁ k p c).1 + d, (skipBlankBlockGo s₁ k p c).2) := by
  induction k generalizing p c with
  | zero => rfl
  | succ k ih =>
    have h1 := h.edge.skipBlankInline_le hp
    rw [skipBlankBlockGo_unfold, skipBlankBlockGo_unfold, skipBlankInline_win h hp, skipEol_win h h1]
    cases hE : skipEol s₁ (skipBlankInline s₁ p) with
    | some p' => exact ih _ (h.edge.skipEol_le h1 hE)
    | none =>
      simp only [Option.map_none]
      by_cases hlt : skipBlankInline s₁ p < n
      · simp only [h.lt_iff hlt]
        split <;> rfl
      · -- the spaces end at the edge: there are none, and the cursor is the edge whether or not the sources go on
        have hpn : p = n := by
          by_cases e : p = n
          · exact e
          · have := h.edge.skipBlankInline_lt (p := p) (by omega); omega
        have e : skipBlankInline s₁ p = p := by have := (skipBlankInline_after s₁ p).le; omega
        rw [e]
        split <;> split <;> rfl

theorem skipBlankBlock_win (h : Win d n s₁ s₂) {p : Nat} (hp : p ≤ n) :
    skipBlankBlock s₂ (p + d) = ((skipBlankBlock s₁ p).1 + d, (skipBlankBlock s₁ p).2) := by
  rw [skipBlankBlock_eq s₂ (k := s₁.size + s₂.size + 1) (Nat.succ_pos _) (by omega),
    skipBlankBlock_eq s₁ (k := s₁.size + s₂.size + 1) (Nat.succ_pos _) (by omega)]
  exact skipBlankBlockGo_win h _ 0 hp

theorem isBoundary_win (h : Win d n s₁ s₂) {i : Nat} (hi : i ≤ n) : isBoundary s₂ (i + d) = isBoundary s₁ i := by
  by_cases h0 : i = 0
  · subst h0; rw [Nat.zero_add, h.bnd]; exact (bnd_zero s₁).symm
  by_cases hin : i = n
  · subst hin
    rw [isBoundary_of_stop h.edge.stop, isBoundary_of_stop h.stop₂, decide_eq_decide]
    exact h.le_iff hi
  · have hlt : i < n := Nat.lt_of_le_of_ne hi hin
    have e1 : (i + d == 0) = (i == 0) := by
      rw [beq_eq_false_iff_ne.mpr h0, beq_eq_false_iff_ne.mpr fun e => h0 (Nat.eq_zero_of_add_eq_zero_right e)]
    have e2 : (i + d == s₂.size) = (i == s₁.size) := by rw [Bool.eq_iff_iff, beq_iff_eq, beq_iff_eq, h.size_iff hlt]
    simp only [isBoundary, h.get i hlt, e1, e2]

theorem slice_win (h : Win d n s₁ s₂) (a : Nat) {b : Nat} (hb : b ≤ n) :
    slice s₂ (a + d) (b + d) = (slice s₁ a b).map (shSpan d) := by
  unfold slice
  by_cases hab : a ≤ b
  · simp only [isBoundary_win h (Nat.le_trans hab hb), isBoundary_win h hb, h.le_iff hb, Nat.add_le_add_iff_right]
    split <;> rfl
  · rw [if_neg fun c => hab (Nat.le_of_add_le_add_right c.1), if_neg fun c => hab c.1]
    rfl

theorem isCurrentByte_win (h : Win d n s₁ s₂) {p : Nat} (hp : p < n) (b : UInt8) :
    isCurrentByte s₂ (p + d) b = isCurrentByte s₁ p b := by
  simp only [isCurrentByte, h.get p hp]

theorem takeByteIf_win (h : Win d n s₁ s₂) {p : Nat} (hp : p < n) (b : UInt8) :
    takeByteIf s₂ (p + d) b = ((takeByteIf s₁ p b).1 + d, (takeByteIf s₁ p b).2) := by
  simp only [takeByteIf, isCurrentByte_win h hp]
  split
  · simp only [Nat.add_right_comm p d 1]
  · rfl

theorem expectByte_win (h : Win d n s₁ s₂) {p : Nat} (hp : p < n) (b : UInt8) :
    expectByte s₂ (p + d) b = shR id d (expectByte s₁ p b) := by
  simp only [expectByte, isCurrentByte_win h hp]
  split
  · simp only [shR_ok, id, Nat.add_right_comm p d 1]
  · simp only [shR_err, shErr_mkErr, shEK]

theorem skipDigits_win (h : Win d n s₁ s₂) {p : Nat} (hp : p < n) : skipDigits s₂ (p + d) = shR id d (skipDigits s₁ p) := by
  simp only [skipDigits, scanWhile_win h isDigit (by decide) hp]
  by_cases hc : scanWhile s₁ isDigit p = p
  · simp only [hc, beq_self_eq_true, if_true, shR_err, shErr_mkErr, shEK]
  · have hc' : ¬ scanWhile s₁ isDigit p + d = p + d := by omega
    simp only [beq_iff_eq, hc, hc', if_false, shR_ok, id]

theorem getNumberLiteral_win (h : Win d n s₁ s₂) {p : Nat} (hp : p < n) :
    getNumberLiteral s₂ (p + d) = shR (shSpan d) d (getNumberLiteral s₁ p) := by
  have he := h.edge
  have hp1 := he.takeByteIf_lt hp (b := 45) (by decide)
  rw [getNumberLiteral_eq, getNumberLiteral_eq, takeByteIf_win h hp, skipDigits_win h hp1]
  refine shR_bind fun _ p2 hr => ?_
  have hp2 : p2 < n := by have := he.skipDigits_lt hp1; rw [hr] at this; have : p2 ≤ n - 1 := this; omega
  rw [h.get p2 hp2]
  have fin : ∀ q, q < n → (match slice s₂ (p + d) (q + d) with
      | some sp => R.ok sp (q + d)
      | none => .panic "get_number_literal slice") =
      shR (shSpan d) d (match slice s₁ p q with
        | some sp => R.ok sp q
        | none => .panic "get_number_literal slice") := by
    intro q hq
    rw [slice_win h p (Nat.le_of_lt hq)]
    cases slice s₁ p q <;> rfl
  by_cases h46 : s₁[p2]? = some 46
  · have hp3 := he.step hp2 h46 (by decide)
    rw [if_pos h46, if_pos h46, Nat.add_right_comm p2 d 1, skipDigits_win h hp3]
    refine shR_bind fun _ p4 hr4 => fin p4 ?_
    have := he.skipDigits_lt hp3; rw [hr4] at this; have : p4 ≤ n - 1 := this; omega
  · rw [if_neg h46, if_neg h46]
    exact fin p2 hp2

theorem skipHexGo_win (h : Win d n s₁ s₂) (len : Nat) {p : Nat} (hp : p < n) :
    skipHexGo s₂ len (p + d) = skipHexGo s₁ len p + d := by
  have hq := h.edge.skipHexGo_lt len hp
  rw [skipHexGo_eq, skipHexGo_eq] at *
  refine (scanWhileGo_first s₂ isHexDigit len (p + d)).unique ((scanWhileGo_first s₁ isHexDigit len p).shift d fun j _ h2 => ?_)
  unfold NoPredAt
  rw [h.get j (by omega)]
  exact or_congr_right (by omega)

theorem nextBoundary_win (h : Win d n s₁ s₂) {i : Nat} (hi : i ≤ n) (hs : i ≤ s₁.size) :
    nextBoundary s₂ (i + d) = nextBoundary s₁ i + d ∧ nextBoundary s₁ i ≤ n := by
  have hf := nextBoundary_first s₁ hs
  have hn : isBoundary s₁ n = true ∨ s₁.size < n := by
    by_cases hsz : n ≤ s₁.size
    · exact Or.inl (by rw [isBoundary_of_stop h.edge.stop]; exact decide_eq_true hsz)
    · exact Or.inr (by omega)
  have hq : nextBoundary s₁ i ≤ n := by
    rcases hn with hn | hn
    · exact hf.le_of_stop hi hn
    · have := hf.le_of_stop hs (bnd_size s₁); omega
  exact ⟨(nextBoundary_first s₂ ((h.le_iff hi).mpr hs)).unique (hf.shift d fun j _ h2 => by
    rw [isBoundary_win h (Nat.le_trans h2 hq)]), hq⟩

theorem skipUnicodeEscapeSequence_win (h : Win d n s₁ s₂) (len : Nat) {p : Nat} (hp : p < n) :
    skipUnicodeEscapeSequence s₂ (p + d) len = shR id d (skipUnicodeEscapeSequence s₁ p len) := by
  have hx := h.edge.skipHexGo_lt len hp
  have e2 : (skipHexGo s₁ len p + d ≥ s₂.size) = (skipHexGo s₁ len p ≥ s₁.size) :=
    propext (by rw [ge_iff_le, ge_iff_le, ← Nat.not_lt, h.lt_iff hx, Nat.not_lt])
  simp only [skipUnicodeEscapeSequence, skipHexGo_win h len hp, Nat.add_sub_add_right, e2]
  split
  · by_cases hsz : skipHexGo s₁ len p ≥ s₁.size
    · rw [if_pos hsz, if_pos hsz, slice_win h p (Nat.le_of_lt hx)]
      cases slice s₁ p (skipHexGo s₁ len p) with
      | none => rfl
      | some seq => simp only [Option.map_some, shR_err, shErr_mkErr, shEK]
    · have hnb := nextBoundary_win h (i := skipHexGo s₁ len p + 1) hx (Nat.lt_of_not_le hsz)
      rw [if_neg hsz, if_neg hsz, Nat.add_right_comm _ d 1, hnb.1, slice_win h p hnb.2]
      cases slice s₁ p (nextBoundary s₁ (skipHexGo s₁ len p + 1)) with
      | none => rfl
      | some seq => simp only [Option.map_some, shR_err, shErr_mkErr, shEK]
  · rfl

theorem scanStringGo_win (h : Win d n s₁ s₂) (k : Nat) {p : Nat} (hp : p < n) :
    scanStringGo s₂ k (p + d) = shR id d (scanStringGo s₁ k p) := by
  have he := h.edge
  induction k generalizing p with
  | zero => rfl
  | succ k ih =>
    refine scanStringGo_cases₂ (motive := fun r₁ r₂ => r₂ = shR id d r₁) s₁ s₂ k k p (p + d) (h.get p hp)
      (fun h92 => by rw [Nat.add_right_comm p d 1]; exact h.get _ (he.step hp h92 (by decide))) ?_ ?_ ?_ ?_ ?_ ?_
    · exact fun _ => rfl
    · intro c h92 h1 hc
      rw [Nat.add_right_comm p d 2]
      exact ih (he.step (he.step hp h92 (by decide)) h1 (by rcases hc with rfl | rfl <;> decide))
    · intro c len h92 h1 hc
      have hp2 : p + 2 < n := he.step (he.step hp h92 (by decide)) h1 (by rcases hc with ⟨rfl, _⟩ | ⟨rfl, _⟩ <;> decide)
      rw [Nat.add_right_comm p d 2, skipUnicodeEscapeSequence_win h len hp2]
      refine shR_bind fun _ q hr => ih ?_
      have := he.skipUnicodeEscapeSequence_lt len hp2; rw [hr] at this; have : q ≤ n - 1 := this; omega
    · exact fun _ _ _ _ _ => by simp only [shR_err, shErr_mkErr, shEK]
    · exact fun _ => by simp only [shR_err, shErr_mkErr, shEK]
    · exact fun b hb _ _ h10 => by rw [Nat.add_right_comm p d 1]; exact ih (he.step hp hb h10)

theorem scanString_win (h : Win d n s₁ s₂) {p : Nat} (hp : p < n) : scanString s₂ (p + d) = shR id d (scanString s₁ p) := by
  rw [scanString_eq s₂ (k := s₁.size + s₂.size) (by omega), scanString_eq s₁ (k := s₁.size + s₂.size) (by omega)]
  exact scanStringGo_win h _ hp

theorem memchr3_win (h : Win d n s₁ s₂) {p : Nat} (hp : p < n) (hs : p ≤ s₁.size) :
    memchr3 s₂ (p + d) = (memchr3 s₁ p).map (· + d) := by
  cases hm : memchr3 s₁ p with
  | some e =>
    have he := h.edge.memchr3_lt hp hm
    exact memchr3_eq_some.mpr ((memchr3_eq_some.mp hm).shift d fun j _ h2 =>
      (h.breakAt_iff (Nat.lt_of_le_of_lt h2 he.2)).symm)
  | none =>
    have hsz := h.edge.memchr3_none hp hs hm
    refine memchr3_eq_none.mpr fun j h1 hj => ?_
    obtain ⟨i, rfl⟩ : ∃ i, j = i + d := ⟨j - d, by omega⟩
    have hlt : i + d < s₂.size := by rcases hj with h' | h' | h' <;> exact get_lt h'
    rw [h.size hsz, Nat.add_lt_add_iff_right] at hlt
    exact memchr3_eq_none.mp hm i (Nat.le_of_add_le_add_right h1) ((h.breakAt_iff (Nat.lt_trans hlt hsz)).mp hj)

def shTS (d : Nat) (v : Nat × Nat × Bool × Termination) : Nat × Nat × Bool × Termination :=
  (v.1 + d, v.2.1 + d, v.2.2.1, v.2.2.2)

theorem getTextSlice_win (h : Win d n s₁ s₂) {p : Nat} (hp : p < n) :
    getTextSlice s₂ (p + d) = shR (shTS d) d (getTextSlice s₁ p) := by
  have hple := Nat.le_of_lt hp
  have nb : ∀ b, b ≤ n → nonBlank s₂ (p + d) (b + d) = nonBlank s₁ p b := fun b hb =>
    nonBlank_congr d fun j _ h2 => h.get j (Nat.lt_of_lt_of_le h2 hb)
  have egt : p + d > s₂.size ↔ p > s₁.size := by
    rw [gt_iff_lt, gt_iff_lt, ← Nat.not_le, ← Nat.not_le, h.le_iff hple]
  unfold getTextSlice
  by_cases hs : p > s₁.size
  · rw [if_pos hs, if_pos (egt.mpr hs)]; rfl
  have hps := Nat.le_of_not_lt hs
  rw [if_neg hs, if_neg (mt egt.mp hs), memchr3_win h hp hps]
  cases hm : memchr3 s₁ p with
  | none =>
    have hsz := h.edge.memchr3_none hp hps hm
    simp only [Option.map_none, h.size hsz, nb _ (Nat.le_of_lt hsz)]
    rfl
  | some e =>
    obtain ⟨hpe, hen⟩ := h.edge.memchr3_lt hp hm
    have hle := Nat.le_of_lt hen
    simp only [Option.map_some, h.get e hen]
    split
    · simp only [shR_err, shErr_mkErr, shEK]
    · by_cases hgt : e > p
      · have h1 : 1 ≤ e := Nat.lt_of_le_of_lt (Nat.zero_le p) hgt
        have hlt : e - 1 < n := Nat.lt_of_le_of_lt (Nat.sub_le e 1) hen
        simp only [Nat.sub_add_comm h1, gt_iff_lt, Nat.add_lt_add_iff_right, h.get (e - 1) hlt, nb (e - 1) (Nat.le_of_lt hlt),
          nb e hle, Nat.add_right_comm e d 1]
        split <;> rfl
      · simp only [gt_iff_lt, Nat.add_lt_add_iff_right, hgt, false_and, if_false, Nat.add_right_comm e d 1, nb e hle]
        rfl
    · simp only [nb e hle]; rfl
    · rfl

theorem isIdentifierStart_win (h : Win d n s₁ s₂) {p : Nat} (hp : p < n) :
    isIdentifierStart s₂ (p + d) = isIdentifierStart s₁ p := by
  simp only [isIdentifierStart, h.get p hp]

theorem isNumberStart_win (h : Win d n s₁ s₂) {p : Nat} (hp : p < n) : isNumberStart s₂ (p + d) = isNumberStart s₁ p := by
  simp only [isNumberStart, h.get p hp]

/-- the cursor is one past the first byte (so that `ptr - 1` is the same in both), unless nothing is moved -/
theorem getIdentifierUnchecked_win (h : Win d n s₁ s₂) {p : Nat} (hp : p < n) (h0 : 0 < p ∨ d = 0) :
    getIdentifierUnchecked s₂ (p + d) = shR (shSpan d) d (getIdentifierUnchecked s₁ p) := by
  have hq := h.edge.scanWhile_lt (pred := isIdentByte) (by decide) hp
  unfold getIdentifierUnchecked
  simp only [scanWhile_win h isIdentByte (by decide) hp]
  by_cases hp0 : 0 < p
  · have e1 : usub (p + d) 1 = some (p - 1 + d) := by
      unfold usub; rw [if_pos (show 1 ≤ p + d from Nat.le_trans hp0 (Nat.le_add_right p d)), Nat.sub_add_comm hp0]
    have e2 : usub p 1 = some (p - 1) := by unfold usub; rw [if_pos (show 1 ≤ p from hp0)]
    simp only [e1, e2, slice_win h (p - 1) (Nat.le_of_lt hq)]
    cases slice s₁ (p - 1) (scanWhile s₁ isIdentByte p) <;> rfl
  · obtain rfl : d = 0 := h0.resolve_left hp0
    obtain rfl : p = 0 := Nat.eq_zero_of_not_pos hp0
    rfl

theorem getIdentifier_win (h : Win d n s₁ s₂) {p : Nat} (hp : p < n) :
    getIdentifier s₂ (p + d) = shR (shSpan d) d (getIdentifier s₁ p) := by
  unfold getIdentifier
  rw [isIdentifierStart_win h hp]
  by_cases hc : isIdentifierStart s₁ p = true
  · rw [hc, Nat.add_right_comm p d 1]
    exact getIdentifierUnchecked_win h (h.edge.identStart_lt hp hc) (Or.inl (Nat.succ_pos p))
  · rw [Bool.not_eq_true] at hc
    simp only [hc, Bool.not_false, if_true, shR_err, shErr_mkErr, shEK]

theorem getAttributeAccessor_win (h : Win d n s₁ s₂) {p : Nat} (hp : p < n) :
    getAttributeAccessor s₂ (p + d) = shR (Option.map (shSpan d)) d (getAttributeAccessor s₁ p) := by
  rw [getAttributeAccessor_eq, getAttributeAccessor_eq, h.get p hp]
  by_cases hb : s₁[p]? = some 46
  · rw [if_pos hb, if_pos hb, Nat.add_right_comm p d 1, getIdentifier_win h (h.edge.step hp hb (by decide))]
    exact shR_bind fun _ _ _ => rfl
  · rw [if_neg hb, if_neg hb]
    rfl

theorem spanBytes_win (h : Win d n s₁ s₂) {sp : Span} (hsp : sp.stop ≤ n) :
    spanBytes s₂ (shSpan d sp) = spanBytes s₁ sp := by
  simp only [spanBytes, shSpan]
  congr 1
  apply Array.ext_getElem?
  intro i
  rw [Array.getElem?_extract, Array.getElem?_extract, h.min_size hsp, Nat.add_sub_add_right]
  split
  · rename_i hi
    rw [Nat.add_right_comm]
    exact h.get _ (Nat.lt_of_lt_of_le (Nat.lt_of_lt_of_le (Nat.add_lt_of_lt_sub' hi) (Nat.min_le_left _ _)) hsp)
  · rfl

theorem isCallee_win (h : Win d n s₁ s₂) {sp : Span} (hsp : sp.stop ≤ n) : isCallee s₂ (shSpan d sp) = isCallee s₁ sp := by
  simp only [isCallee, spanBytes_win h hsp]

theorem trimEnd_win (h : Win d n s₁ s₂) {sp : Span} (hsp : sp.stop ≤ n) :
    trimEnd s₂ (shSpan d sp) = shSpan d (trimEnd s₁ sp) := by
  simp only [trimEnd, shSpan, show sp.stop + d - (sp.start + d) = sp.stop - sp.start from by omega]
  rw [trimEndGo_congr d sp.start _ fun j _ h2 => h.get j (by omega)]

theorem survivesOf_win (h : Win d n s₁ s₂) (start : Nat) {stop : Nat} (nb : Bool) (hs : stop ≤ n) :
    survivesOf s₂ (start + d) (stop + d) nb = survivesOf s₁ start stop nb := by
  simp only [survivesOf, slice_win h start hs]
  split
  · cases hsl : slice s₁ start stop with
    | none => rfl
    | some sp =>
      obtain ⟨rfl, _⟩ := slice_eq_some hsl
      simp only [Option.map_some, trimEnd_win h (sp := ⟨start, stop⟩) hs]
      simp only [shSpan]
      congr 1
      rw [Bool.eq_iff_iff]; simp only [bne_iff_ne, ne_eq]; omega
  · rfl

theorem isEol_win (h : Win d n s₁ s₂) {p : Nat} (hp : p < n) : isEol s₂ (p + d) = isEol s₁ p := by
  unfold isEol
  rw [h.get p hp]
  split
  · rfl
  · rename_i h13
    rw [Nat.add_right_comm p d 1, h.get _ (h.edge.step hp h13 (by decide))]
  · rfl
  · rfl

/-- the head of a line that starts inside the window reads alike on both sources -/
theorem LineHead.win (h : Win d n s₁ s₂) {p k : Nat} {o : Option UInt8} (H : LineHead s₁ p k o) (hp : p < n) :
    LineHead s₂ (p + d) k o := by
  have hk : p + k < n := H.sbi ▸ h.edge.skipBlankInline_lt hp
  exact H.copy fun j hj => by rw [Nat.add_right_comm, h.get _ (by omega)]

theorem patPre_win (h : Win d n s₁ s₂) (st : PatState) {p : Nat} (hp : p < n) :
    patPre s₂ (shSt d st) (p + d) = (patPre s₁ st p).map (fun ip => (ip.1, ip.2 + d)) := by
  by_cases hr : st.role = .lineStart
  · obtain ⟨k, o, H⟩ := lineHead s₁ p
    rw [patPre_lineStart hr H, patPre_lineStart (st := shSt d st) hr (H.win h hp), isEol_win h hp]
    cases o with
    | none => rfl
    | some b => simp only [apply_ite (Option.map _), Option.map_some, Option.map_none, Nat.add_right_comm]
  · rw [patPre_other _ hr, patPre_other (st := shSt d st) _ hr]; rfl

theorem patBreak_win (h : Win d n s₁ s₂) {p : Nat} (hp : p < n) : patBreak s₂ (p + d) = patBreak s₁ p + d := by
  obtain ⟨k, o, H⟩ := lineHead s₁ p
  rw [patBreak_eq H, patBreak_eq (H.win h hp)]
  cases o with
  | none => exact Nat.add_right_comm p d k
  | some b => simp only [apply_ite (· + d), Nat.add_right_comm]

theorem commentLineEnd_win (h : Win d n s₁ s₂) {p : Nat} (hp : p < n) :
    commentLineEndGo s₂ (s₂.size - (p + d)) (p + d) = commentLineEndGo s₁ (s₁.size - p) p + d := by
  have hq := h.edge.commentLineEnd_lt hp
  exact (commentLineEnd_first s₂ (p + d)).unique ((commentLineEnd_first s₁ p).shift d fun j _ h2 => by
    rw [isEol_win h (Nat.lt_of_le_of_lt h2 hq)])

theorem getCommentLevel_win (h : Win d n s₁ s₂) {p : Nat} (hp : p < n) :
    getCommentLevel s₂ (p + d) = ((getCommentLevel s₁ p).1, (getCommentLevel s₁ p).2 + d) := by
  unfold getCommentLevel
  rw [isCurrentByte_win h hp]
  by_cases h0 : isCurrentByte s₁ p 35 = true
  · have hp1 := h.edge.step hp ((isCurrentByte_iff _ _ _).mp h0) (by decide)
    rw [if_pos h0, if_pos h0, Nat.add_right_comm p d 1, isCurrentByte_win h hp1]
    by_cases h1 : isCurrentByte s₁ (p + 1) 35 = true
    · have hp2 : p + 2 < n := h.edge.step hp1 ((isCurrentByte_iff _ _ _).mp h1) (by decide)
      rw [if_pos h1, if_pos h1, Nat.add_right_comm p d 2, isCurrentByte_win h hp2]
      split
      · simp only [Nat.add_right_comm p d 3]
      · rfl
    · rw [if_neg h1, if_neg h1]
  · rw [if_neg h0, if_neg h0]

def CStep.shift (d : Nat) : CStep → CStep
  | .line l sp p' => .line l (shSpan d sp) (p' + d)
  | .stop lv q => .stop lv (q + d)
  | .bad q => .bad (q + d)
  | .panic m => .panic m

theorem CStep.shift_zero (c : CStep) : c.shift 0 = c := by cases c <;> rfl

theorem commentTextStep_win (h : Win d n s₁ s₂) (l : Nat) {p2 : Nat} (hp : p2 < n) :
    commentTextStep s₂ l (p2 + d) = (commentTextStep s₁ l p2).shift d := by
  have hq := h.edge.commentLineEnd_lt hp
  unfold commentTextStep
  rw [commentLineEnd_win h hp, slice_win h p2 (Nat.le_of_lt hq), skipEol_win h (Nat.le_of_lt hq)]
  cases slice s₁ p2 (commentLineEndGo s₁ (s₁.size - p2) p2) with
  | none => rfl
  | some sp => cases skipEol s₁ (commentLineEndGo s₁ (s₁.size - p2) p2) <;> rfl

/-- A round below the edge does the same in both sources.  The loop looks *before* the cursor (`ptr -= 1` on a line that is
not a comment), so with bytes in front (`d ≠ 0`) at `p = 0` the byte at the cursor has to be a `#`, as it is when
`get_entry` calls `get_comment`. -/
theorem commentStep_win (h : Win d n s₁ s₂) (level : Nat) (first : Bool) {p : Nat} (hp : p < n)
    (hp0 : d = 0 ∨ 0 < p ∨ s₁[p]? = some 35) :
    commentStep s₂ level first (p + d) = (commentStep s₁ level first p).shift d := by
  obtain ⟨l, hl, hpl⟩ := h.edge.getCommentLevel_lt hp
  have hl0 : l = 0 → s₁[p]? ≠ some 35 := by
    obtain ⟨l', hl', _, _, h0⟩ := getCommentLevel_spec s₁ p
    rw [hl] at hl'; cases hl'; exact h0
  unfold commentStep
  rw [getCommentLevel_win h hp, hl]
  simp only []
  by_cases hlt : p < s₁.size
  · rw [if_pos hlt, if_pos ((h.lt_iff hp).mpr hlt)]
    by_cases h0 : l = 0
    · rw [if_pos h0, if_pos h0]
      unfold usub
      by_cases hp1 : 1 ≤ p
      · rw [if_pos hp1, if_pos (show 1 ≤ p + d by omega)]
        exact congrArg (CStep.stop level) (by omega)
      · obtain rfl : d = 0 := by rcases hp0 with h | h | h; exact h; omega; exact absurd h (hl0 h0)
        rw [Nat.add_zero, if_neg hp1]; rfl
    · rw [if_neg h0, if_neg h0]
      by_cases hd : level ≠ 0 ∧ l ≠ level
      · rw [if_pos hd, if_pos hd]; rfl
      · rw [if_neg hd, if_neg hd, Nat.add_right_comm p d l, isEol_win h hpl, h.get _ hpl]
        by_cases he : isEol s₁ (p + l) = true
        · rw [if_pos he, if_pos he]; exact commentTextStep_win h l hpl
        · rw [if_neg he, if_neg he]
          by_cases h32 : s₁[p + l]? = some 32
          · rw [if_pos h32, if_pos h32, Nat.add_right_comm (p + l) d 1]
            exact commentTextStep_win h l (h.edge.step hpl h32 (by decide))
          · rw [if_neg h32, if_neg h32]; cases first <;> rfl
  · rw [if_neg hlt, if_neg (fun c => hlt ((h.lt_iff hp).mp c))]; rfl

theorem rposNewline_win (h : Win d n s₁ s₂) (a : Nat) {b : Nat} (hb : b ≤ n) :
    rposNewline s₂ (a + d) (b + d) = (rposNewline s₁ a b).map (· + d) := by
  have back : ∀ j, a + d ≤ j → j < b + d → ∃ i, j = i + d ∧ a ≤ i ∧ i < b := fun j h1 h2 => ⟨j - d, by omega⟩
  cases hr : rposNewline s₁ a b with
  | none =>
    refine rposNewline_eq_none.mpr fun j h1 h2 => ?_
    obtain ⟨i, rfl, i1, i2⟩ := back j h1 h2
    rw [h.get i (Nat.lt_of_lt_of_le i2 hb)]
    exact rposNewline_eq_none.mp hr i i1 i2
  | some nl =>
    obtain ⟨h1, h2, h3, h4⟩ := rposNewline_eq_some.mp hr
    refine (rposNewline_eq_some (nl := nl + d)).mpr ⟨Nat.add_le_add_right h1 d, Nat.add_lt_add_right h2 d,
      by rw [h.get nl (Nat.lt_of_lt_of_le h2 hb)]; exact h3, fun j j1 j2 => ?_⟩
    obtain ⟨i, rfl, _, i2⟩ := back j (Nat.le_of_lt (Nat.lt_of_le_of_lt (Nat.add_le_add_right h1 d) j1)) j2
    rw [h.get i (Nat.lt_of_lt_of_le i2 hb)]
    exact h4 i (Nat.lt_of_add_lt_add_right j1) i2

theorem Win.entryStart_iff (h : Win d n s₁ s₂) {j : Nat} (hj : j < n) : EndsAtEntryStart s₂ (j + d) ↔ EndsAtEntryStart s₁ j := by
  have e1 : s₂.size ≤ j + d ↔ s₁.size ≤ j := by rw [← Nat.not_lt, h.lt_iff hj, Nat.not_lt]
  have e2 : (j + d = 0 ∨ s₂[j + d - 1]? = some 10) ↔ (j = 0 ∨ s₁[j - 1]? = some 10) := by
    cases j with
    | zero => rw [Nat.zero_add]; exact ⟨fun _ => Or.inl rfl, fun _ => h.nl⟩
    | succ i =>
      rw [Nat.add_right_comm, Nat.add_sub_cancel, Nat.add_sub_cancel, h.get i (Nat.lt_of_succ_lt hj)]
      exact ⟨fun c => Or.inr (c.resolve_left (Nat.succ_ne_zero _)), fun c => Or.inr (c.resolve_left (Nat.succ_ne_zero _))⟩
  unfold EndsAtEntryStart
  rw [e1, h.get j hj, e2]

theorem Win.first_entryStart (h : Win d n s₁ s₂) (hn₁ : EndsAtEntryStart s₁ n) (hn₂ : EndsAtEntryStart s₂ (n + d))
    {p q : Nat} (hp : p ≤ n) (hf : First (EndsAtEntryStart s₁) p q) : First (EndsAtEntryStart s₂) (p + d) (q + d) := by
  have hq := hf.le_of_stop hp hn₁
  refine hf.shift d fun j _ h2 => ?_
  by_cases hjn : j = n
  · subst hjn; exact ⟨fun _ => hn₂, fun _ => hn₁⟩
  · exact (h.entryStart_iff (by omega)).symm

theorem junkFrom_win (h : Win d n s₁ s₂) (es : Nat) {q : Nat} (hq : q ≤ n) :
    junkFrom s₂ (es + d) (q + d) = junkFrom s₁ es q + d := by
  unfold junkFrom
  rw [h.min_size hq, rposNewline_win h es (Nat.le_trans (Nat.min_le_left _ _) hq)]
  cases rposNewline s₁ es (min q s₁.size) with
  | none => rfl
  | some nl => exact Nat.add_right_comm nl d 1

theorem skipToNextEntryStart_win (h : Win d n s₁ s₂) (hn₁ : EndsAtEntryStart s₁ n) (hn₂ : EndsAtEntryStart s₂ (n + d))
    (es : Nat) {q : Nat} (hq : q ≤ n) :
    skipToNextEntryStart s₂ (es + d) (q + d) = (skipToNextEntryStart s₁ es q).map (· + d) := by
  have em := h.min_size hq
  have ej := junkFrom_win h es hq
  cases hs : skipToNextEntryStart s₁ es q with
  | none =>
    rw [skipToNextEntryStart_eq_none] at hs
    exact skipToNextEntryStart_eq_none.mpr (by omega)
  | some q1 =>
    obtain ⟨hle, hf⟩ := skipToNextEntryStart_eq_some.mp hs
    refine (skipToNextEntryStart_eq_some (q1 := q1 + d)).mpr ⟨by omega, ?_⟩
    rw [ej]
    exact h.first_entryStart hn₁ hn₂ (Nat.le_trans (junkFrom_le s₁ es q) hq) hf

end

end FluentProofs.Parser

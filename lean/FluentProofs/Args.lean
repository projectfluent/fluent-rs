import FluentModel.Args
/-!
# Lemmas for C11: `FluentArgs` is a map

About the vector of `FluentModel.Args`, for any strict total order `lt` on keys (`StrictTotal`; `BytesOrder` shows that
`bytesLt` is one): `setL` keeps it `Sorted`; `getL` after `setL` obeys the map law, and after a fold of `setL` returns
the value set last (of any vector, sorted or not); the keys are those that were set, each once; two sorted vectors with the
same lookups are equal (insertion order leaves no trace).
-/
namespace FluentModel.Args

variable {κ V : Type}

/-- Strict total order, as a plain structure (no Mathlib). -/
structure StrictTotal (lt : κ → κ → Bool) : Prop where
  irrefl : ∀ a, lt a a = false
  trans : ∀ a b c, lt a b = true → lt b c = true → lt a c = true
  tri : ∀ a b, lt a b = false → lt b a = false → a = b

theorem StrictTotal.asymm {lt : κ → κ → Bool} (ho : StrictTotal lt) {a b : κ} (h : lt a b = true) : lt b a = false := by
  cases hc : lt b a with
  | false => rfl
  | true =>
    have := ho.trans _ _ _ h hc
    rw [ho.irrefl] at this; exact absurd this (by simp)

/-- keys strictly increasing -/
def Sorted (lt : κ → κ → Bool) : List (κ × V) → Prop
  | [] => True
  | [_] => True
  | (k₁, _) :: (k₂, v₂) :: rest => lt k₁ k₂ = true ∧ Sorted lt ((k₂, v₂) :: rest)

/-- every key of `l` is above `k` -/
def AllAbove (lt : κ → κ → Bool) (k : κ) (l : List (κ × V)) : Prop :=
  ∀ p ∈ l, lt k p.1 = true

theorem sorted_tail {lt : κ → κ → Bool} {p : κ × V} {l : List (κ × V)}
    (h : Sorted lt (p :: l)) : Sorted lt l := by
  cases l with
  | nil => trivial
  | cons q r => obtain ⟨k, v⟩ := p; obtain ⟨k', v'⟩ := q; exact h.2

theorem sorted_cons_iff {lt : κ → κ → Bool} (ho : StrictTotal lt) (k : κ) (v : V)
    (l : List (κ × V)) : Sorted lt ((k, v) :: l) ↔ (AllAbove lt k l ∧ Sorted lt l) := by
  induction l generalizing k v with
  | nil => simp [Sorted, AllAbove]
  | cons q r ih =>
    obtain ⟨k', v'⟩ := q
    constructor
    · intro h
      refine ⟨?_, h.2⟩
      intro p hp
      rcases List.mem_cons.1 hp with rfl | hp
      · exact h.1
      · exact ho.trans _ _ _ h.1 (((ih k' v').1 h.2).1 p hp)
    · intro h
      exact ⟨h.1 (k', v') (List.mem_cons_self), h.2⟩

theorem allAbove_setL {lt : κ → κ → Bool} (l : List (κ × V)) (k₀ k : κ) (v : V)
    (h : AllAbove lt k₀ l) (hk : lt k₀ k = true) : AllAbove lt k₀ (setL lt l k v) := by
  induction l with
  | nil =>
    intro p hp
    simp [setL] at hp; subst hp; exact hk
  | cons q r ih =>
    obtain ⟨k', v'⟩ := q
    have hq : lt k₀ k' = true := h (k', v') List.mem_cons_self
    have hr : AllAbove lt k₀ r := fun p hp => h p (List.mem_cons_of_mem _ hp)
    intro p hp
    unfold setL at hp
    split at hp
    · rcases List.mem_cons.1 hp with rfl | hp
      · exact hq
      · exact ih hr p hp
    · split at hp
      · rcases List.mem_cons.1 hp with rfl | hp
        · exact hk
        · exact h p hp
      · rcases List.mem_cons.1 hp with rfl | hp
        · exact hk
        · exact hr p hp

theorem sorted_setL {lt : κ → κ → Bool} (ho : StrictTotal lt) (l : List (κ × V)) (k : κ) (v : V)
    (h : Sorted lt l) : Sorted lt (setL lt l k v) := by
  induction l with
  | nil => simp [setL, Sorted]
  | cons q r ih =>
    obtain ⟨k', v'⟩ := q
    have h' := (sorted_cons_iff ho k' v' r).1 h
    unfold setL
    split
    · rename_i hlt
      exact (sorted_cons_iff ho _ _ _).2 ⟨allAbove_setL r k' k v h'.1 hlt, ih h'.2⟩
    · split
      · rename_i hlt
        exact ⟨hlt, h⟩
      · rename_i h1 h2
        have : k' = k := ho.tri _ _ (by simpa using h1) (by simpa using h2)
        subst this
        exact (sorted_cons_iff ho _ _ _).2 h'

theorem getL_none_of_allAbove {lt : κ → κ → Bool} (ho : StrictTotal lt) (l : List (κ × V)) (k₀ k : κ)
    (h : AllAbove lt k₀ l) (hk : lt k₀ k = false) : getL lt l k = none := by
  cases l with
  | nil => rfl
  | cons q r =>
    obtain ⟨k', v'⟩ := q
    have hq : lt k₀ k' = true := h (k', v') List.mem_cons_self
    unfold getL
    have h1 : lt k' k = false := by
      cases hc : lt k' k with
      | false => rfl
      | true => rw [ho.trans _ _ _ hq hc] at hk; exact absurd hk (by simp)
    simp only [h1]
    -- k ≤ k₀ < k'
    have h2 : lt k k' = true := by
      cases hc : lt k k' with
      | true => rfl
      | false =>
        have : k' = k := ho.tri _ _ h1 hc
        subst this; rw [hq] at hk; exact absurd hk (by simp)
    simp [h2]

theorem getL_setL {lt : κ → κ → Bool} [DecidableEq κ] (ho : StrictTotal lt) (l : List (κ × V))
    (k : κ) (v : V) (k' : κ) :
    getL lt (setL lt l k v) k' = if k' = k then some v else getL lt l k' := by
  induction l with
  | nil =>
    by_cases hk : k' = k
    · subst hk; simp [setL, getL, ho.irrefl]
    · simp only [setL, getL, hk, if_false]
      cases h1 : lt k k' <;> cases h2 : lt k' k <;> simp
      exact hk (ho.tri _ _ h2 h1)
  | cons q r ih =>
    obtain ⟨k₁, v₁⟩ := q
    unfold setL
    split
    · rename_i hlt      -- k₁ < k
      rw [getL]
      by_cases hk : k' = k
      · subst hk; simp only [hlt, if_true]; rw [ih]; simp
      · simp only [hk, if_false]
        rw [ih]; simp only [hk, if_false]
        conv => rhs; rw [getL]
    · split
      · rename_i hnlt hlt   -- k < k₁
        by_cases hk : k' = k
        · subst hk; simp [getL, ho.irrefl]
        · simp only [hk, if_false]
          rw [getL]
          cases h1 : lt k k' with
          | true => simp
          | false =>
            simp only [Bool.false_eq_true, if_false]
            cases h2 : lt k' k with
            | false => exact absurd (ho.tri _ _ h2 h1) hk
            | true =>
              simp only [if_true]
              -- k' < k < k₁ : lookup in the old list finds nothing
              have h3 : lt k' k₁ = true := ho.trans _ _ _ h2 hlt
              have h4 : lt k₁ k' = false := ho.asymm h3
              simp [getL, h3, h4]
      · rename_i h1 h2
        have : k₁ = k := ho.tri _ _ (by simpa using h1) (by simpa using h2)
        subst this
        by_cases hk : k' = k₁
        · subst hk; simp [getL, ho.irrefl]
        · simp only [hk, if_false]
          rw [getL, getL]
          cases h3 : lt k₁ k' with
          | true => simp
          | false =>
            cases h4 : lt k' k₁ with
            | true => simp
            | false => exact absurd (ho.tri _ _ h4 h3) hk

theorem sorted_fromPairs {lt : κ → κ → Bool} (ho : StrictTotal lt) (a : List (κ × V))
    (ps : List (κ × V)) (h : Sorted lt a) :
    Sorted lt (ps.foldl (fun a kv => setL lt a kv.1 kv.2) a) := by
  induction ps generalizing a with
  | nil => exact h
  | cons p ps ih => exact ih _ (sorted_setL ho a p.1 p.2 h)

theorem getL_foldl {lt : κ → κ → Bool} [DecidableEq κ] (ho : StrictTotal lt) (a : List (κ × V))
    (ps : List (κ × V)) (k : κ) :
    getL lt (ps.foldl (fun a kv => setL lt a kv.1 kv.2) a) k =
      match ps.reverse.find? (fun p => p.1 = k) with
      | some p => some p.2
      | none => getL lt a k := by
  induction ps generalizing a with
  | nil => simp
  | cons p ps ih =>
    simp only [List.foldl_cons, List.reverse_cons]
    rw [ih, List.find?_append]
    cases hf : ps.reverse.find? (fun p => p.1 = k) with
    | some q => simp
    | none =>
      simp only [Option.none_or, List.find?_cons, List.find?_nil]
      rw [getL_setL ho a p.1 p.2 k]
      by_cases hk : k = p.1
      · subst hk; simp
      · have : ¬ p.1 = k := fun e => hk e.symm
        simp [hk, this]

theorem keys_cons (p : κ × V) (l : List (κ × V)) : keys (p :: l) = p.1 :: keys l := rfl

theorem mem_keys_setL {lt : κ → κ → Bool} (ho : StrictTotal lt) (l : List (κ × V)) (k : κ) (v : V) (k' : κ) :
    k' ∈ keys (setL lt l k v) ↔ (k' = k ∨ k' ∈ keys l) := by
  induction l with
  | nil => simp [setL, keys]
  | cons q r ih =>
    obtain ⟨k₁, v₁⟩ := q
    unfold setL
    split
    · rw [keys_cons, keys_cons, List.mem_cons, List.mem_cons, ih]
      exact or_left_comm
    · split
      · rw [keys_cons, List.mem_cons]
      · rename_i h1 h2
        obtain rfl : k₁ = k := ho.tri _ _ (by simpa using h1) (by simpa using h2)
        rw [keys_cons, keys_cons, List.mem_cons]
        exact or_self_left.symm
theorem mem_keys_foldl {lt : κ → κ → Bool} (ho : StrictTotal lt) (a : List (κ × V))
    (ps : List (κ × V)) (k : κ) :
    k ∈ keys (ps.foldl (fun a kv => setL lt a kv.1 kv.2) a) ↔ (k ∈ keys ps ∨ k ∈ keys a) := by
  induction ps generalizing a with
  | nil => simp [keys]
  | cons p ps ih =>
    simp only [List.foldl_cons]
    rw [ih, mem_keys_setL ho]
    simp only [keys, List.map_cons, List.mem_cons]
    constructor
    · intro h; rcases h with h | h | h
      · exact Or.inl (Or.inr h)
      · exact Or.inl (Or.inl h)
      · exact Or.inr h
    · intro h; rcases h with (h | h) | h
      · exact Or.inr (Or.inl h)
      · exact Or.inl h
      · exact Or.inr (Or.inr h)

theorem sorted_keys_pairwise {lt : κ → κ → Bool} (ho : StrictTotal lt) (l : List (κ × V))
    (h : Sorted lt l) : (keys l).Pairwise (fun a b => lt a b = true) := by
  induction l with
  | nil => simp [keys]
  | cons q r ih =>
    obtain ⟨k₁, v₁⟩ := q
    have h' := (sorted_cons_iff ho k₁ v₁ r).1 h
    simp only [keys, List.map_cons, List.pairwise_cons]
    refine ⟨?_, ih h'.2⟩
    intro b hb
    obtain ⟨p, hp, rfl⟩ := List.mem_map.1 hb
    exact h'.1 p hp

theorem sorted_keys_nodup {lt : κ → κ → Bool} (ho : StrictTotal lt) (l : List (κ × V))
    (h : Sorted lt l) : (keys l).Nodup := by
  have := sorted_keys_pairwise ho l h
  refine List.Pairwise.imp ?_ this
  intro a b hab e
  subst e
  rw [ho.irrefl] at hab; exact absurd hab (by simp)

theorem sorted_ext {lt : κ → κ → Bool} (ho : StrictTotal lt) (a b : List (κ × V))
    (ha : Sorted lt a) (hb : Sorted lt b) (h : ∀ k, getL lt a k = getL lt b k) : a = b := by
  induction a generalizing b with
  | nil =>
    cases b with
    | nil => rfl
    | cons q r =>
      obtain ⟨k, v⟩ := q
      have := h k
      simp [getL, ho.irrefl] at this
  | cons p as ih =>
    obtain ⟨k₁, v₁⟩ := p
    cases b with
    | nil =>
      have := h k₁
      simp [getL, ho.irrefl] at this
    | cons q bs =>
      obtain ⟨k₂, v₂⟩ := q
      have ha' := (sorted_cons_iff ho k₁ v₁ as).1 ha
      have hb' := (sorted_cons_iff ho k₂ v₂ bs).1 hb
      have e1 := h k₁
      have e2 := h k₂
      simp only [getL, ho.irrefl] at e1 e2
      have hk : k₁ = k₂ := by
        cases h12 : lt k₁ k₂ with
        | true =>
          have h21 : lt k₂ k₁ = false := ho.asymm h12
          simp [h12, h21] at e1
        | false =>
          cases h21 : lt k₂ k₁ with
          | false => exact (ho.tri _ _ h21 h12).symm
          | true => simp [h12, h21] at e2
      subst hk
      simp [ho.irrefl] at e1
      subst e1
      congr 1
      apply ih bs ha'.2 hb'.2
      intro k
      have := h k
      simp only [getL] at this
      cases h1 : lt k₁ k with
      | true => simpa [h1] using this
      | false =>
        rw [getL_none_of_allAbove ho as k₁ k ha'.1 h1, getL_none_of_allAbove ho bs k₁ k hb'.1 h1]

end FluentModel.Args
